import PeptVerif.Generated.ScoreCorePy
import PeptVerif.Props.C17
/-!
# C17 — the mechanically translated pieces of score.py equal the hand-written model

GENERATED by harness/translate_scorecore.py: this file is assembled from the hand-written proof scripts in
harness/c17gen_template.lean, one block per piece of `score.py` that the translator could read on this run
(`Generated/ScoreCorePy.lean`, namespace `GenScore`, regenerated from /repo's current source). Each block proves the
generated definitions equal to the hand model (`rfl` after a case split, or one rewriting lemma) and restates the property
theorems of `Props/C17.lean` for the generated definitions. An edit of the source (`<` for `<=`, another bound formula,
`min` for `max`, a key tuple that loses a component, another de-duplication) changes the generated definition and breaks the
equality theorem that names it. A piece outside the translator's subset has no block here (a comment is left in its
place) and its hand model is tied by correspondence only.
-/
namespace GenScore
open Score
variable {α : Type}

-- BEGIN window
/-! ## window bounds and peak tests of `get_matched_indices` -/

/-- the lower bound as read from the source = `Score.lo` -/
theorem window_lower_bound_eq [Num α] (t : Tol) (tol x : α) : window_lower_bound t tol x = lo t tol x := by
  cases t <;> rfl

/-- the upper bound as read from the source = `Score.hi` -/
theorem window_upper_bound_eq [Num α] (t : Tol) (tol x : α) : window_upper_bound t tol x = hi t tol x := by
  cases t <;> rfl

/-- `ys[i] < mz1_start` as read from the source (operator included) = `Score.below` -/
theorem window_lower_test_eq [Num α] (t : Tol) (tol : α) : window_lower_test t tol = below t tol := by
  funext y x; cases t <;> rfl

/-- `ys[j] <= mz1_end` as read from the source (operator included) = `Score.within` -/
theorem window_upper_test_eq [Num α] (t : Tol) (tol : α) : window_upper_test t tol = within t tol := by
  funext y x; cases t <;> rfl

/-- `th_monotone` for the bound read from the source -/
theorem gen_th_monotone (tol a b : Rat) (h : a ≤ b) : window_lower_bound .th tol a ≤ window_lower_bound .th tol b := by
  rw [window_lower_bound_eq, window_lower_bound_eq]; exact th_monotone tol a b h

/-- `ppm_monotone` for the bound read from the source -/
theorem gen_ppm_monotone (tol a b : Rat) (htol : tol ≤ 1000000) (h : a ≤ b) :
    window_lower_bound .ppm tol a ≤ window_lower_bound .ppm tol b := by
  rw [window_lower_bound_eq, window_lower_bound_eq]; exact ppm_monotone tol a b htol h

/-- `getMatchedIndices_correct_th` with the peak tests read from the source driving the (hand-modelled) sweep -/
theorem gen_sweep_correct_th (tol : Rat) (xs ys : List Rat) (hxs : xs.Pairwise (· ≤ ·)) (hys : ys.Pairwise (· ≤ ·)) :
    (sweep (window_lower_test .th tol) (window_upper_test .th tol) ys 0 xs).map idxList = bruteForce .th tol xs ys := by
  rw [window_lower_test_eq, window_upper_test_eq]; exact getMatchedIndices_correct_th tol xs ys hxs hys

/-- `getMatchedIndices_correct_ppm` likewise -/
theorem gen_sweep_correct_ppm (tol : Rat) (htol : tol ≤ 1000000) (xs ys : List Rat) (hxs : xs.Pairwise (· ≤ ·))
    (hys : ys.Pairwise (· ≤ ·)) :
    (sweep (window_lower_test .ppm tol) (window_upper_test .ppm tol) ys 0 xs).map idxList = bruteForce .ppm tol xs ys := by
  rw [window_lower_test_eq, window_upper_test_eq]; exact getMatchedIndices_correct_ppm tol htol xs ys hxs hys

-- END window
-- BEGIN modes
/-! ## the three mode blocks of `match_spectra` -/

/-- block `mode == 'all'` as read from the source = `Score.pickAll` -/
theorem mode_all_eq : mode_all = pickAll := rfl

/-- block `mode == 'closest'` as read from the source = `Score.pickClosest` -/
theorem mode_closest_eq [Num α] : @mode_closest α _ = pickClosest := rfl

/-- block `mode == 'largest'` as read from the source = `Score.pickLargest` -/
theorem mode_largest_eq [Num α] : @mode_largest α _ = pickLargest := rfl

/-- `closest_mem_argmin` for the block read from the source -/
theorem gen_closest_mem_argmin (ys : List Rat) (x : Rat) (s e : Nat) (hse : s < e) (he : e ≤ ys.length) :
    ∃ j, mode_closest ys x s e = some j ∧ s ≤ j ∧ ∃ hj : j < e,
      ∀ k (hk : k < e), s ≤ k → |x - ys[j]'(by omega)| ≤ |x - ys[k]'(by omega)| := by
  rw [mode_closest_eq]
  exact pickClosest_argmin ys x s e hse he

/-- `largest_mem_argmax` for the block read from the source -/
theorem gen_largest_mem_argmax (ints : List Rat) (s e : Nat) (hse : s < e) (he : e ≤ ints.length) :
    ∃ j, mode_largest ints s e = some j ∧ s ≤ j ∧ ∃ hj : j < e,
      ∀ k (hk : k < e), s ≤ k → ints[k]'(by omega) ≤ ints[j]'(by omega) := by
  rw [mode_largest_eq]
  exact pickLargest_argmax ints s e hse he

-- END modes
-- BEGIN covkey
/-! ## label, de-duplication key and span of `get_match_coverage` -/

/-- the label f-string as read from the source = `Score.covLabel` -/
theorem coverage_label_eq : coverage_label = covLabel := rfl

/-- the key tuple as read from the source (every component, in order) = `Score.covKey` -/
theorem coverage_key_eq : coverage_key = covKey := rfl

/-- `range(frag.start, frag.end)` as read from the source = the span the hand model increments -/
theorem coverage_span_eq (m : FragMatch) :
    ((covInOf m).start, (covInOf m).stop) = ((coverage_span m.fragment).1.toNat, (coverage_span m.fragment).2.toNat) := rfl

/-- `fragment_coverage_counts_fragments` with the key read from the source: `cov[label][i]` is the number of distinct
keys among the matches of that label whose span contains `i` -/
theorem gen_coverage_counts_fragments (ms : List FragMatch) (m0 : FragMatch) (rest : List FragMatch)
    (hms : ms = m0 :: rest) (cov' : List ((Nat × String) × List Nat)) (h : getMatchCoverageF ms = .ok cov')
    (l : Nat × String) (i : Nat) (hi : i < m0.fragment.parent.seq.length) :
    rowVal cov' l i
      = (((ms.filter fun m => decide (hits l i (covInOf m))).map fun m => coverage_key m.fragment).toFinset).card := by
  rw [coverage_key_eq]; exact fragment_coverage_counts_fragments ms m0 rest hms cov' h l i hi

-- END covkey
-- BEGIN share
/-! ## `get_matched_intensity_percentage` -/

/-- the whole body as read from the source (dict keyed by m/z holding the matches, sum of their intensities, zero guard,
quotient) = `Score.matchedIntensityPercentage` -/
theorem matched_intensity_share_eq [Num α] (ms : List (α × α)) (ints : List α) :
    matched_intensity_share ms ints = matchedIntensityPercentage ms ints := by
  unfold matched_intensity_share matchedIntensityPercentage
  simp only [values_of_pairs]

/-- `intensity_fraction_eq` for the definition read from the source -/
theorem gen_intensity_fraction_eq (ps ms : List (Rat × Rat)) (hnd : (ps.map (·.1)).Nodup) (hsub : ∀ m ∈ ms, m ∈ ps)
    (htot : (ps.map (·.2)).sum ≠ 0) :
    matched_intensity_share ms (ps.map (·.2)) = ((matchedPeaks ps ms).map (·.2)).sum / (ps.map (·.2)).sum := by
  rw [matched_intensity_share_eq]; exact intensity_fraction_eq ps ms hnd hsub htot

/-- `intensity_fraction_unit_interval` for the definition read from the source -/
theorem gen_intensity_fraction_unit_interval (ps ms : List (Rat × Rat)) (hnd : (ps.map (·.1)).Nodup)
    (hsub : ∀ m ∈ ms, m ∈ ps) (hnn : ∀ p ∈ ps, 0 ≤ p.2) :
    0 ≤ matched_intensity_share ms (ps.map (·.2)) ∧ matched_intensity_share ms (ps.map (·.2)) ≤ 1 := by
  rw [matched_intensity_share_eq]; exact intensity_fraction_unit_interval ps ms hnd hsub hnn

-- END share
