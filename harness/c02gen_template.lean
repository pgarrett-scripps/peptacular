import PeptVerif.Generated.MassCorePy
import PeptVerif.Lemmas.Label
/-!
# C02 / C03 / C05 - the mechanically translated arithmetic core equals the hand-written model

GENERATED by harness/translate_masscore.py: this file is assembled from the hand-written proof scripts in
harness/c02gen_template.lean, one block per function of `mass_calc.py` / `chem_util.py` / `util.py` that the translator could read
on this run (`Generated/MassCorePy.lean`, namespace `GenMass`, regenerated from /repo's current source).  Through these
equalities every theorem of `Props/C02.lean`, `Props/C03.lean` and `Props/C05.lean` about `Mass.adjustMass`, `Mass.adjustMz`,
`Chem.chemMass`, `Chem.merge` and `Mass.adductMassP` holds for the definition read off the source; an edit of the source
(`if precision:` for `is not None`, a dropped average branch, `charge` for `charge - 1`, NEUTRON for PROTON, rounding moved before
a sum) changes the generated definition and breaks the theorem that names the function.  A function outside the translator's
subset has no theorem here (see the comment left in its place) and is tied by correspondence only.
-/
open Pept Pept.Chem Pept.Mass Pept.Label
namespace GenMass

-- BEGIN adjust_mz
/-- `adjust_mz` as read from the source = hand model -/
theorem adjust_mz_eq : adjust_mz = Mass.adjustMz := by
  funext b c p
  cases c <;> cases p <;> rfl

-- END adjust_mz
-- BEGIN adjust_mass
/-- `adjust_mass` as read from the source = hand model (the charge-carrier term, both offset tables per mode, the isotope and
loss terms, rounding last; `_parse_charge_adducts_mass` is the hand model on both sides) -/
theorem adjust_mass_eq : adjust_mass = Mass.adjustMass := by
  funext b c ion mono iso loss ad p
  -- the source picks the table by mode with an `if`; the hand model passes the mode on
  have e : ∀ F : Bool → Key → Option Rat,
      (if mono = true then tbl (F true ion) else tbl (F false ion)) = tbl (F mono ion) := by
    intro F; cases mono <;> rfl
  unfold adjust_mass Mass.adjustMass Mass.chargeTerm ionP ionN
  simp only [e]
  generalize (decide (ion = 112) || decide (ion = 110)) = pn
  generalize fragmentIonAdjMass mono ion = fi
  generalize fragmentAdjMass mono ion = fa
  cases ad with
  | none => cases c <;> cases p <;> cases pn <;> cases fi <;> cases fa <;> rfl
  | some v =>
    dsimp only
    generalize chargeAdductsMass mono v = ca
    cases c <;> cases p <;> cases ca <;> cases fa <;> rfl

-- END adjust_mass
-- BEGIN _parse_adduct_mass
/-- `_parse_adduct_mass` as read from the source = hand model (electron branch unrounded; `count * element - charge * electron`
with the average table first and the isotopic table as fallback in average mode; `parse_ion_elements` is the hand model on both
sides) -/
theorem _parse_adduct_mass_eq (s : List Nat) (p : Option Int) (mono : Bool) :
    _parse_adduct_mass s p mono = Mass.adductMassP mono s p := by
  unfold _parse_adduct_mass Mass.adductMassP adductElemMass kE
  cases parseIonElements s with
  | error e => rfl
  | ok r =>
    obtain ⟨cnt, sym, ch⟩ := r
    rw [ExceptList.ok_bind, ExceptList.ok_bind]
    dsimp only
    -- the two look-ups become variables before `tbl` or a `bind` on them is opened
    generalize lookup sym isotopicMasses = li
    generalize lookup sym averageMasses = la
    by_cases he : sym = 101
    · simp only [he, if_true]; simp [pure, Except.pure]
    · simp only [he, if_false]
      cases mono <;> cases li <;> cases la <;> cases p <;> simp [tbl, bind, pure, Except.pure, Except.bind, roundOpt]

-- END _parse_adduct_mass
-- BEGIN chem_mass
/-- the loop body of `chem_mass` as read from the source = one step of the hand model (`AVERAGE_ATOMIC_MASSES[element]` cannot
raise where the hand model answers: every non-isotope key of the isotopic table has an average mass, `avg_of_iso`) -/
theorem chem_mass_loop1_eq : chem_mass_loop1 = chemStep := by
  delta chem_mass_loop1 chemStep
  rw [elemMass_lit]
  funext mono m ⟨e, k⟩
  have hav := avg_of_iso e
  rw [isotopic_lit_ok, average_lit_ok] at hav
  rw [isotopic_lit_ok, average_lit_ok]
  unfold elemMassLit
  simp only
  cases hi : lookup e Gen.isotopicLit with
  | none =>
    simp only [Option.isNone_none, if_true, kE, kPp, kNn]
    by_cases h1 : e = 101
    · simp [h1]
    · by_cases h2 : e = 112
      · simp [h2]
      · by_cases h3 : e = 110
        · simp [h3]
        · simp [h1, h2, h3]
  | some mi =>
    simp only [Option.isNone_some, Bool.false_eq_true, if_false]
    cases mono with
    | true => rfl
    | false =>
      simp only [Bool.false_eq_true, if_false]
      have hk : (isDigitCode (keyHead e) || decide (e = 68) || decide (e = 84)) = isIsotopeKey e := rfl
      rw [hk]
      cases hiso : isIsotopeKey e with
      | true => rfl
      | false =>
        simp only [Bool.false_eq_true, if_false]
        obtain ⟨a, ha⟩ := hav mi hi hiso
        rw [ha]; rfl

/-- `chem_mass` (dict argument) as read from the source = hand model -/
theorem chem_mass_eq (c : Comp) (mono : Bool) (p : Option Int) : chem_mass c mono p = Chem.chemMass mono c p := by
  unfold chem_mass Chem.chemMass
  rw [chem_mass_loop1_eq]
  cases p <;> rfl

-- END chem_mass
-- BEGIN merge_dicts
/-- `merge_dicts` as read from the source = hand model, for a first dict with distinct keys (any Python dict): copying `d1` item by
item (`d[k] = v`) and adding `d2` (`d[k] = d.get(k, 0) + v`), then dropping the zero counts -/
theorem merge_dicts_eq (d1 d2 : Comp) (h : NodupKeys d1) : merge_dicts d1 d2 = Chem.merge d1 d2 := by
  unfold merge_dicts Chem.merge addAll dropZeros
  have h1 : merge_dicts_loop1 = fun d x => setKey d x.1 x.2 := rfl
  have h2 : merge_dicts_loop2 = fun d x => addKey d x.1 x.2 := by
    funext d x; exact setKey_getD d x.1 x.2
  simp only [h1, h2, setKey_eq, addKey_eq]
  rw [AssocList.foldl_alter_nil _ (fun _ => rfl) d1 h, AssocList.foldl_alter_nil _ (fun _ => Rat.zero_add _) d1 h]

-- END merge_dicts
