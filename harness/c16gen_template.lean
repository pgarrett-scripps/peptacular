import PeptVerif.Generated.CoverageCorePy
import PeptVerif.Props.C16
/-!
# C16 — the mechanically translated pieces of `coverage` / `percent_coverage` equal the hand-written model

GENERATED by harness/translate_covcore.py from the scripts in harness/c16gen_template.lean, one block per piece that
the translator could read on this run (`Generated/CoverageCorePy.lean`, namespace `GenCov`, regenerated from /repo's
current source). An edit of the source (another slice bound, `+ 2`, `[1] * (L - 1)`, `accumulate=True` in
`percent_coverage`, another quotient) changes the generated definition and breaks the equality theorem that names it;
a piece outside the subset has no block and is tied by correspondence only.
-/
namespace GenCov
open Pept Pept.Search

-- BEGIN mark
/-! ## the two slice assignments of `coverage` -/

/-- the marking statement as read from the source = `Search.mark` (`markAdd` / `markSet`) -/
theorem coverage_mark_eq : coverage_mark = mark := by
  funext acc L cov i
  unfold coverage_mark mark markAdd markSet
  rw [Nat.add_sub_cancel_left]

/-- the initial array as read from the source -/
theorem coverage_init_eq (n : Nat) : coverage_init n = List.replicate n 0 := rfl

/-- `coverage` is the double loop over the generated marking statement, starting from the generated initial array -/
theorem coverage_eq_gen (t : Annotation) (subs : List Annotation) (acc ign : Bool) :
    coverage t subs acc ign
      = subs.foldl (fun cov q => (findSubsequenceIndices t q ign).foldl (coverage_mark acc q.seq.length) cov)
          (coverage_init t.seq.length) := by
  rw [coverage_mark_eq, coverage_init_eq]; rfl

/-- `coverage_iff` for the loop over the statement read from the source -/
theorem gen_coverage_iff (t : Annotation) (subs : List Annotation) (ign : Bool) (j : Nat) (hj : j < t.seq.length) :
    (subs.foldl (fun cov q => (findSubsequenceIndices t q ign).foldl (coverage_mark false q.seq.length) cov)
        (coverage_init t.seq.length))[j]? =
      some (if ∃ q ∈ subs, ∃ i ∈ findSubsequenceIndices t q ign, i ≤ j ∧ j < i + q.seq.length then 1 else 0) := by
  rw [← coverage_eq_gen]; exact coverage_iff t subs ign j hj

/-- `coverage_accumulate_count` likewise -/
theorem gen_coverage_accumulate_count (t : Annotation) (subs : List Annotation) (ign : Bool) (j : Nat)
    (hj : j < t.seq.length) :
    (subs.foldl (fun cov q => (findSubsequenceIndices t q ign).foldl (coverage_mark true q.seq.length) cov)
        (coverage_init t.seq.length))[j]? =
      some ((subs.map fun q => ((findSubsequenceIndices t q ign).filter
          (fun i => decide (i ≤ j ∧ j < i + q.seq.length))).length).sum) := by
  rw [← coverage_eq_gen]; exact coverage_accumulate_count t subs ign j hj

-- END mark
-- BEGIN percent
/-! ## `percent_coverage` -/

/-- `percent_coverage` calls `coverage` with the literal flag read from the source and applies the quotient read from
the source -/
theorem percent_coverage_eq_gen (t : Annotation) (subs : List Annotation) (ign : Bool) :
    percentCoverage t subs ign = percent_of (coverage t subs percent_accumulate_flag ign) := by
  unfold percentCoverage percent_of percent_accumulate_flag
  rw [Nat.cast_zero]

/-- `percent_coverage_unit` for the definitions read from the source: in `[0, 1]` -/
theorem gen_percent_unit (t : Annotation) (subs : List Annotation) (ign : Bool) :
    0 ≤ percent_of (coverage t subs percent_accumulate_flag ign) ∧
      percent_of (coverage t subs percent_accumulate_flag ign) ≤ 1 := by
  rw [← percent_coverage_eq_gen]; exact (percent_coverage_unit t subs ign).2

-- END percent
