import PeptVerif.Generated.Effects.Core
import PeptVerif.Lemmas.EffectsFast
/-! GENERATED by harness/translate_effects.py - do not edit.  Source module: peptacular.proforma.proforma_parser (146 functions).
`ok` is the kernel check of these functions against the global summary / verdict tables: every table is closed
under its program, the summary the program induces is within the summary table, and the write / sharing sets
read off the table are the claimed verdict.  The kernel evaluates it in the form `entryOKFast`
(Lemmas/EffectsFast.lean); 8 is the stride of its lookups, any stride gives the same value. -/
namespace Gen.M_proforma_proforma_parser
open Effects
set_option maxRecDepth 100000
/-- peptacular.proforma.proforma_parser.MultiProFormaAnnotation.serialize -/
def prog_174 : List Stmt := [
  .param 0 0,
  .param 1 1,
  .elem 4 0,
  .shallow 5 [4],
  .alias 9 [3],
  .elem 10 5,
  .elem 11 10,
  .alias 8 [11],
  .elem 12 10,
  .alias 6 [12],
  .call 13 171 [some 6, none, none],
  .call 13 254 [some 6, none],
  .call 13 174 [some 6, none],
  .alias 14 [9, 13],
  .alias 9 [14],
  .elem 15 0,
  .elem 16 0,
  .elem 17 16,
  .alias 7 [17],
  .alias 9 [9]]

def table_174 : Pts := [
  { top := [.root 0], kids := [.inner 0], deep := [.inner 0] },
  { top := [.root 1], kids := [.inner 1], deep := [.inner 1] },
  {},
  {},
  { top := [.inner 0], kids := [.inner 0], deep := [.inner 0] },
  { top := [.loc 5], kids := [.inner 0], deep := [.inner 0] },
  { top := [.inner 0], kids := [.inner 0], deep := [.inner 0] },
  { top := [.inner 0], kids := [.inner 0], deep := [.inner 0] },
  { top := [.inner 0], kids := [.inner 0], deep := [.inner 0] },
  {},
  { top := [.inner 0], kids := [.inner 0], deep := [.inner 0] },
  { top := [.inner 0], kids := [.inner 0], deep := [.inner 0] },
  { top := [.inner 0], kids := [.inner 0], deep := [.inner 0] },
  {},
  {},
  { top := [.inner 0], kids := [.inner 0], deep := [.inner 0] },
  { top := [.inner 0], kids := [.inner 0], deep := [.inner 0] },
  { top := [.inner 0], kids := [.inner 0], deep := [.inner 0] }]

/-- peptacular.proforma.proforma_parser.ProFormaAnnotation.__eq__ -/
def prog_175 : List Stmt := [
  .param 0 0,
  .param 1 1,
  .elem 3 1,
  .elem 4 0,
  .asRec 5 4 1,
  .elem 6 1,
  .call 7 173 [some 5, some 6],
  .elem 8 0,
  .asRec 9 8 1,
  .elem 10 1,
  .call 11 173 [some 9, some 10],
  .elem 12 0,
  .asRec 13 12 1,
  .elem 14 1,
  .call 15 173 [some 13, some 14],
  .elem 16 0,
  .asRec 17 16 1,
  .elem 18 1,
  .call 19 173 [some 17, some 18],
  .elem 20 0,
  .asRec 21 20 1,
  .elem 22 1,
  .call 23 173 [some 21, some 22],
  .elem 24 0,
  .asRec 25 24 1,
  .elem 26 1,
  .call 27 173 [some 25, some 26],
  .elem 28 0,
  .asRec 29 28 1,
  .elem 30 1,
  .call 31 173 [some 29, some 30],
  .call 32 214 [some 0],
  .call 33 214 [some 1],
  .alias 34 [32, 33],
  .call 35 214 [some 0],
  .elem 36 0,
  .shallow 37 [36],
  .leaf 38 37,
  .shallow 39 [38],
  .leaf 40 39,
  .shallow 41 [],
  .alias 42 [40, 41],
  .alias 43 [42],
  .call 44 214 [some 1],
  .elem 45 1,
  .shallow 46 [45],
  .shallow 47 [46],
  .shallow 48 [],
  .alias 49 [47, 48],
  .alias 50 [49],
  .shallow 51 [43, 50],
  .elem 53 51,
  .alias 52 [53],
  .call 54 210 [some 0, some 52],
  .asRec 55 54 1,
  .call 56 210 [some 1, some 52],
  .call 57 173 [some 55, some 56],
  .elem 58 0,
  .asRec 59 58 1,
  .elem 60 1,
  .call 61 172 [some 59, some 60],
  .elem 62 1]

def table_175 : Pts := [
  { top := [.root 0], kids := [.inner 0], deep := [.inner 0] },
  { top := [.root 1], kids := [.inner 1], deep := [.inner 1] },
  {},
  { top := [.inner 1], kids := [.inner 1], deep := [.inner 1] },
  { top := [.inner 0], kids := [.inner 0], deep := [.inner 0] },
  { top := [.inner 0], kids := [.recd 0], deep := [.recd 0] },
  { top := [.inner 1], kids := [.inner 1], deep := [.inner 1] },
  {},
  { top := [.inner 0], kids := [.inner 0], deep := [.inner 0] },
  { top := [.inner 0], kids := [.recd 0], deep := [.recd 0] },
  { top := [.inner 1], kids := [.inner 1], deep := [.inner 1] },
  {},
  { top := [.inner 0], kids := [.inner 0], deep := [.inner 0] },
  { top := [.inner 0], kids := [.recd 0], deep := [.recd 0] },
  { top := [.inner 1], kids := [.inner 1], deep := [.inner 1] },
  {},
  { top := [.inner 0], kids := [.inner 0], deep := [.inner 0] },
  { top := [.inner 0], kids := [.recd 0], deep := [.recd 0] },
  { top := [.inner 1], kids := [.inner 1], deep := [.inner 1] },
  {},
  { top := [.inner 0], kids := [.inner 0], deep := [.inner 0] },
  { top := [.inner 0], kids := [.recd 0], deep := [.recd 0] },
  { top := [.inner 1], kids := [.inner 1], deep := [.inner 1] },
  {},
  { top := [.inner 0], kids := [.inner 0], deep := [.inner 0] },
  { top := [.inner 0], kids := [.recd 0], deep := [.recd 0] },
  { top := [.inner 1], kids := [.inner 1], deep := [.inner 1] },
  {},
  { top := [.inner 0], kids := [.inner 0], deep := [.inner 0] },
  { top := [.inner 0], kids := [.recd 0], deep := [.recd 0] },
  { top := [.inner 1], kids := [.inner 1], deep := [.inner 1] },
  {},
  {},
  {},
  {},
  {},
  { top := [.inner 0], kids := [.inner 0], deep := [.inner 0] },
  { top := [.loc 37], kids := [.inner 0], deep := [.inner 0] },
  { top := [.loc 37], kids := [], deep := [] },
  { top := [.loc 39], kids := [], deep := [] },
  { top := [.loc 39], kids := [], deep := [] },
  { top := [.loc 41], kids := [], deep := [] },
  { top := [.loc 39, .loc 41], kids := [], deep := [] },
  { top := [.loc 39, .loc 41], kids := [], deep := [] },
  {},
  { top := [.inner 1], kids := [.inner 1], deep := [.inner 1] },
  { top := [.loc 46], kids := [.inner 1], deep := [.inner 1] },
  { top := [.loc 47], kids := [.inner 1], deep := [.inner 1] },
  { top := [.loc 48], kids := [], deep := [] },
  { top := [.loc 47, .loc 48], kids := [.inner 1], deep := [.inner 1] },
  { top := [.loc 47, .loc 48], kids := [.inner 1], deep := [.inner 1] },
  { top := [.loc 51], kids := [.inner 1], deep := [.inner 1] },
  { top := [.inner 1], kids := [.inner 1], deep := [.inner 1] },
  { top := [.inner 1], kids := [.inner 1], deep := [.inner 1] },
  { top := [.inner 0], kids := [.recd 0], deep := [.recd 0] },
  { top := [.inner 0], kids := [.recd 0], deep := [.recd 0] },
  { top := [.inner 1], kids := [.recd 1], deep := [.recd 1] },
  {},
  { top := [.inner 0], kids := [.inner 0], deep := [.inner 0] },
  { top := [.inner 0], kids := [.recd 0], deep := [.recd 0] },
  { top := [.inner 1], kids := [.inner 1], deep := [.inner 1] },
  {},
  { top := [.inner 1], kids := [.inner 1], deep := [.inner 1] }]

/-- peptacular.proforma.proforma_parser.ProFormaAnnotation.__len__ -/
def prog_176 : List Stmt := [
  .param 0 0]

def table_176 : Pts := [
  { top := [.root 0], kids := [.inner 0], deep := [.inner 0] }]

/-- peptacular.proforma.proforma_parser.ProFormaAnnotation.__repr__ -/
def prog_177 : List Stmt := [
  .param 0 0,
  .call 3 208 [some 0],
  .shallow 4 [3],
  .alias 6 [2],
  .elem 8 4,
  .elem 9 8,
  .alias 7 [9],
  .alias 6 [6],
  .alias 11 [10]]

def table_177 : Pts := [
  { top := [.root 0], kids := [.inner 0], deep := [.inner 0] },
  {},
  {},
  { top := [.loc 3], kids := [.loc 3], deep := [] },
  { top := [.loc 4], kids := [.loc 3], deep := [] },
  {},
  {},
  {},
  { top := [.loc 3], kids := [], deep := [] },
  {},
  {},
  {}]

/-- peptacular.proforma.proforma_parser.ProFormaAnnotation.add_charge -/
def prog_178 : List Stmt := [
  .param 0 0,
  .param 1 1,
  .call 3 191 [some 0, none]]

def table_178 : Pts := [
  { top := [.root 0], kids := [.inner 0], deep := [.inner 0] },
  { top := [.root 1], kids := [.inner 1], deep := [.inner 1] },
  {},
  {}]

/-- peptacular.proforma.proforma_parser.ProFormaAnnotation.add_charge_adducts -/
def prog_179 : List Stmt := [
  .param 0 0,
  .param 1 1,
  .param 2 2,
  .call 4 193 [some 0, none],
  .call 5 159 [some 1],
  .asRec 6 5 1,
  .alias 7 [6],
  .asRec 8 7 1,
  .call 9 193 [some 0, some 8],
  .call 10 212 [some 0],
  .elem 11 0,
  .asRec 12 11 1,
  .asRec 13 7 1,
  .fresh 14,
  .asRec 15 14 1,
  .store 12 15,
  .asRec 16 7 1,
  .call 17 193 [some 0, some 16]]

def table_179 : Pts := [
  { top := [.root 0], kids := [.inner 0, .loc 4, .loc 9, .loc 17], deep := [.inner 0, .loc 14] },
  { top := [.root 1], kids := [.inner 1], deep := [.inner 1] },
  { top := [.root 2], kids := [.inner 2], deep := [.inner 2] },
  {},
  {},
  { top := [.loc 5], kids := [.recTop 1, .loc 5, .recd 1], deep := [.recd 1, .recTop 1] },
  { top := [.loc 5], kids := [.recTop 1, .loc 5, .recd 1], deep := [.recd 1, .recTop 1] },
  { top := [.loc 5], kids := [.recTop 1, .loc 5, .recd 1], deep := [.recd 1, .recTop 1] },
  { top := [.loc 5], kids := [.recTop 1, .loc 5, .recd 1], deep := [.recd 1, .recTop 1] },
  {},
  {},
  { top := [.inner 0, .loc 4, .loc 9, .loc 17], kids := [.inner 0, .loc 14], deep := [.inner 0, .loc 14] },
  { top := [.inner 0, .loc 4, .loc 9, .loc 17], kids := [.recd 0, .loc 14], deep := [.recd 0, .loc 14] },
  { top := [.loc 5], kids := [.recTop 1, .loc 5, .recd 1], deep := [.recd 1, .recTop 1] },
  { top := [.loc 14], kids := [], deep := [] },
  { top := [.loc 14], kids := [], deep := [] },
  { top := [.loc 5], kids := [.recTop 1, .loc 5, .recd 1], deep := [.recd 1, .recTop 1] },
  {}]

/-- peptacular.proforma.proforma_parser.ProFormaAnnotation.add_cterm_mods -/
def prog_180 : List Stmt := [
  .param 0 0,
  .param 1 1,
  .param 2 2,
  .call 4 207 [some 0, none],
  .call 5 159 [some 1],
  .asRec 6 5 1,
  .alias 7 [6],
  .asRec 8 7 1,
  .call 9 207 [some 0, some 8],
  .call 10 213 [some 0],
  .elem 11 0,
  .asRec 12 11 1,
  .asRec 13 7 1,
  .fresh 14,
  .asRec 15 14 1,
  .store 12 15,
  .asRec 16 7 1,
  .call 17 207 [some 0, some 16]]

def table_180 : Pts := [
  { top := [.root 0], kids := [.inner 0, .loc 4, .loc 9, .loc 17], deep := [.inner 0, .loc 14] },
  { top := [.root 1], kids := [.inner 1], deep := [.inner 1] },
  { top := [.root 2], kids := [.inner 2], deep := [.inner 2] },
  {},
  {},
  { top := [.loc 5], kids := [.recTop 1, .loc 5, .recd 1], deep := [.recd 1, .recTop 1] },
  { top := [.loc 5], kids := [.recTop 1, .loc 5, .recd 1], deep := [.recd 1, .recTop 1] },
  { top := [.loc 5], kids := [.recTop 1, .loc 5, .recd 1], deep := [.recd 1, .recTop 1] },
  { top := [.loc 5], kids := [.recTop 1, .loc 5, .recd 1], deep := [.recd 1, .recTop 1] },
  {},
  {},
  { top := [.inner 0, .loc 4, .loc 9, .loc 17], kids := [.inner 0, .loc 14], deep := [.inner 0, .loc 14] },
  { top := [.inner 0, .loc 4, .loc 9, .loc 17], kids := [.recd 0, .loc 14], deep := [.recd 0, .loc 14] },
  { top := [.loc 5], kids := [.recTop 1, .loc 5, .recd 1], deep := [.recd 1, .recTop 1] },
  { top := [.loc 14], kids := [], deep := [] },
  { top := [.loc 14], kids := [], deep := [] },
  { top := [.loc 5], kids := [.recTop 1, .loc 5, .recd 1], deep := [.recd 1, .recTop 1] },
  {}]

/-- peptacular.proforma.proforma_parser.ProFormaAnnotation.add_internal_mod -/
def prog_181 : List Stmt := [
  .param 0 0,
  .param 1 1,
  .param 2 2,
  .param 3 3,
  .call 5 214 [some 0],
  .pack 6 [],
  .store 0 6,
  .elem 7 0,
  .write 7,
  .elem 8 7,
  .call 9 159 [some 2],
  .asRec 10 9 1,
  .alias 11 [10],
  .call 12 214 [some 0],
  .pack 13 [],
  .store 0 13,
  .asRec 14 11 1,
  .fresh 15,
  .asRec 16 15 1,
  .elem 17 0,
  .store 17 16,
  .elem 18 0,
  .elem 19 0,
  .elem 20 19,
  .asRec 21 11 1,
  .fresh 22,
  .asRec 23 22 1,
  .store 20 23,
  .asRec 24 11 1,
  .fresh 25,
  .asRec 26 25 1,
  .elem 27 0,
  .store 27 26]

def table_181 : Pts := [
  { top := [.root 0], kids := [.inner 0, .loc 6, .loc 13], deep := [.inner 0, .loc 15, .loc 22, .loc 25] },
  { top := [.root 1], kids := [.inner 1], deep := [.inner 1] },
  { top := [.root 2], kids := [.inner 2], deep := [.inner 2] },
  { top := [.root 3], kids := [.inner 3], deep := [.inner 3] },
  {},
  {},
  { top := [.loc 6], kids := [.loc 15, .loc 25], deep := [.loc 22] },
  { top := [.inner 0, .loc 6, .loc 13], kids := [.inner 0, .loc 15, .loc 22, .loc 25], deep := [.inner 0, .loc 15, .loc 22, .loc 25] },
  { top := [.inner 0, .loc 15, .loc 22, .loc 25], kids := [.inner 0, .loc 15, .loc 22, .loc 25], deep := [.inner 0, .loc 15, .loc 22, .loc 25] },
  { top := [.loc 9], kids := [.recTop 2, .loc 9, .recd 2], deep := [.recd 2, .recTop 2] },
  { top := [.loc 9], kids := [.recTop 2, .loc 9, .recd 2], deep := [.recd 2, .recTop 2] },
  { top := [.loc 9], kids := [.recTop 2, .loc 9, .recd 2], deep := [.recd 2, .recTop 2] },
  {},
  { top := [.loc 13], kids := [.loc 15, .loc 25], deep := [.loc 22] },
  { top := [.loc 9], kids := [.recTop 2, .loc 9, .recd 2], deep := [.recd 2, .recTop 2] },
  { top := [.loc 15], kids := [.loc 22], deep := [.loc 22] },
  { top := [.loc 15], kids := [.loc 22], deep := [.loc 22] },
  { top := [.inner 0, .loc 6, .loc 13], kids := [.inner 0, .loc 15, .loc 22, .loc 25], deep := [.inner 0, .loc 15, .loc 22, .loc 25] },
  { top := [.inner 0, .loc 6, .loc 13], kids := [.inner 0, .loc 15, .loc 22, .loc 25], deep := [.inner 0, .loc 15, .loc 22, .loc 25] },
  { top := [.inner 0, .loc 6, .loc 13], kids := [.inner 0, .loc 15, .loc 22, .loc 25], deep := [.inner 0, .loc 15, .loc 22, .loc 25] },
  { top := [.inner 0, .loc 15, .loc 22, .loc 25], kids := [.inner 0, .loc 15, .loc 22, .loc 25], deep := [.inner 0, .loc 15, .loc 22, .loc 25] },
  { top := [.loc 9], kids := [.recTop 2, .loc 9, .recd 2], deep := [.recd 2, .recTop 2] },
  { top := [.loc 22], kids := [.loc 22], deep := [.loc 22] },
  { top := [.loc 22], kids := [.loc 22], deep := [.loc 22] },
  { top := [.loc 9], kids := [.recTop 2, .loc 9, .recd 2], deep := [.recd 2, .recTop 2] },
  { top := [.loc 25], kids := [.loc 22], deep := [.loc 22] },
  { top := [.loc 25], kids := [.loc 22], deep := [.loc 22] },
  { top := [.inner 0, .loc 6, .loc 13], kids := [.inner 0, .loc 15, .loc 22, .loc 25], deep := [.inner 0, .loc 15, .loc 22, .loc 25] }]

/-- peptacular.proforma.proforma_parser.ProFormaAnnotation.add_internal_mods -/
def prog_182 : List Stmt := [
  .param 0 0,
  .param 1 1,
  .param 2 2,
  .call 4 225 [some 0, none],
  .call 5 155 [some 1],
  .asRec 6 5 2,
  .alias 7 [6],
  .asRec 8 7 2,
  .call 9 225 [some 0, some 8],
  .call 10 214 [some 0],
  .asRec 11 7 2,
  .fresh 12,
  .asRec 13 12 2,
  .call 14 225 [some 0, some 13],
  .asRec 15 7 2,
  .shallow 16 [15],
  .elem 19 16,
  .elem 20 19,
  .asRec 21 20 1,
  .alias 18 [21],
  .elem 22 0,
  .elem 23 0,
  .elem 24 23,
  .asRec 25 18 1,
  .fresh 26,
  .asRec 27 26 1,
  .store 24 27,
  .asRec 28 18 1,
  .fresh 29,
  .asRec 30 29 1,
  .elem 31 0,
  .store 31 30]

def table_182 : Pts := [
  { top := [.root 0], kids := [.inner 0, .loc 4, .loc 9, .loc 14], deep := [.inner 0, .loc 26, .loc 29] },
  { top := [.root 1], kids := [.inner 1], deep := [.inner 1] },
  { top := [.root 2], kids := [.inner 2], deep := [.inner 2] },
  {},
  {},
  { top := [.loc 5], kids := [.loc 5], deep := [.recd 1, .loc 5] },
  { top := [.loc 5], kids := [.loc 5], deep := [.recd 1, .loc 5] },
  { top := [.loc 5], kids := [.loc 5], deep := [.recd 1, .loc 5] },
  { top := [.loc 5], kids := [.loc 5], deep := [.recd 1, .loc 5] },
  {},
  {},
  { top := [.loc 5], kids := [.loc 5], deep := [.recd 1, .loc 5] },
  { top := [.loc 12], kids := [], deep := [] },
  { top := [.loc 12], kids := [], deep := [] },
  {},
  { top := [.loc 5], kids := [.loc 5], deep := [.recd 1, .loc 5] },
  { top := [.loc 16], kids := [.loc 5], deep := [.recd 1, .loc 5] },
  {},
  { top := [.recd 1, .loc 5], kids := [.recd 1, .loc 5], deep := [.recd 1, .loc 5] },
  { top := [.loc 5], kids := [.recd 1, .loc 5], deep := [.recd 1, .loc 5] },
  { top := [.recd 1, .loc 5], kids := [.recd 1, .loc 5], deep := [.recd 1, .loc 5] },
  { top := [.recd 1, .loc 5], kids := [.recd 1, .loc 5], deep := [.recd 1, .loc 5] },
  { top := [.inner 0, .loc 4, .loc 9, .loc 14], kids := [.inner 0, .loc 26, .loc 29], deep := [.inner 0, .loc 26, .loc 29] },
  { top := [.inner 0, .loc 4, .loc 9, .loc 14], kids := [.inner 0, .loc 26, .loc 29], deep := [.inner 0, .loc 26, .loc 29] },
  { top := [.inner 0, .loc 26, .loc 29], kids := [.inner 0, .loc 26, .loc 29], deep := [.inner 0, .loc 26, .loc 29] },
  { top := [.recd 1, .loc 5], kids := [.recd 1, .loc 5], deep := [.recd 1, .loc 5] },
  { top := [.loc 26], kids := [.loc 26], deep := [.loc 26] },
  { top := [.loc 26], kids := [.loc 26], deep := [.loc 26] },
  { top := [.recd 1, .loc 5], kids := [.recd 1, .loc 5], deep := [.recd 1, .loc 5] },
  { top := [.loc 29], kids := [.loc 26], deep := [.loc 26] },
  { top := [.loc 29], kids := [.loc 26], deep := [.loc 26] },
  { top := [.inner 0, .loc 4, .loc 9, .loc 14], kids := [.inner 0, .loc 26, .loc 29], deep := [.inner 0, .loc 26, .loc 29] }]

/-- peptacular.proforma.proforma_parser.ProFormaAnnotation.add_intervals -/
def prog_183 : List Stmt := [
  .param 0 0,
  .param 1 1,
  .param 2 2,
  .call 4 227 [some 0, none],
  .call 5 157 [some 1],
  .asRec 6 5 1,
  .alias 7 [6],
  .asRec 8 7 1,
  .call 9 227 [some 0, some 8],
  .call 10 216 [some 0],
  .elem 11 0,
  .asRec 12 11 1,
  .asRec 13 7 1,
  .fresh 14,
  .asRec 15 14 1,
  .store 12 15,
  .asRec 16 7 1,
  .call 17 227 [some 0, some 16]]

def table_183 : Pts := [
  { top := [.root 0], kids := [.inner 0, .loc 4, .loc 9, .loc 17], deep := [.inner 0, .loc 14] },
  { top := [.root 1], kids := [.inner 1], deep := [.inner 1] },
  { top := [.root 2], kids := [.inner 2], deep := [.inner 2] },
  {},
  {},
  { top := [.loc 5], kids := [.recTop 1, .loc 5, .recd 1], deep := [.recd 1, .loc 5] },
  { top := [.loc 5], kids := [.recTop 1, .loc 5, .recd 1], deep := [.recd 1, .loc 5] },
  { top := [.loc 5], kids := [.recTop 1, .loc 5, .recd 1], deep := [.recd 1, .loc 5] },
  { top := [.loc 5], kids := [.recTop 1, .loc 5, .recd 1], deep := [.recd 1, .loc 5] },
  {},
  {},
  { top := [.inner 0, .loc 4, .loc 9, .loc 17], kids := [.inner 0, .loc 14], deep := [.inner 0, .loc 14] },
  { top := [.inner 0, .loc 4, .loc 9, .loc 17], kids := [.recd 0, .loc 14], deep := [.recd 0, .loc 14] },
  { top := [.loc 5], kids := [.recTop 1, .loc 5, .recd 1], deep := [.recd 1, .loc 5] },
  { top := [.loc 14], kids := [], deep := [] },
  { top := [.loc 14], kids := [], deep := [] },
  { top := [.loc 5], kids := [.recTop 1, .loc 5, .recd 1], deep := [.recd 1, .loc 5] },
  {}]

/-- peptacular.proforma.proforma_parser.ProFormaAnnotation.add_isotope_mods -/
def prog_184 : List Stmt := [
  .param 0 0,
  .param 1 1,
  .param 2 2,
  .call 4 230 [some 0, none],
  .call 5 159 [some 1],
  .asRec 6 5 1,
  .alias 7 [6],
  .asRec 8 7 1,
  .call 9 230 [some 0, some 8],
  .call 10 217 [some 0],
  .elem 11 0,
  .asRec 12 11 1,
  .asRec 13 7 1,
  .fresh 14,
  .asRec 15 14 1,
  .store 12 15,
  .asRec 16 7 1,
  .call 17 230 [some 0, some 16]]

def table_184 : Pts := [
  { top := [.root 0], kids := [.inner 0, .loc 4, .loc 9, .loc 17], deep := [.inner 0, .loc 14] },
  { top := [.root 1], kids := [.inner 1], deep := [.inner 1] },
  { top := [.root 2], kids := [.inner 2], deep := [.inner 2] },
  {},
  {},
  { top := [.loc 5], kids := [.recTop 1, .loc 5, .recd 1], deep := [.recd 1, .recTop 1] },
  { top := [.loc 5], kids := [.recTop 1, .loc 5, .recd 1], deep := [.recd 1, .recTop 1] },
  { top := [.loc 5], kids := [.recTop 1, .loc 5, .recd 1], deep := [.recd 1, .recTop 1] },
  { top := [.loc 5], kids := [.recTop 1, .loc 5, .recd 1], deep := [.recd 1, .recTop 1] },
  {},
  {},
  { top := [.inner 0, .loc 4, .loc 9, .loc 17], kids := [.inner 0, .loc 14], deep := [.inner 0, .loc 14] },
  { top := [.inner 0, .loc 4, .loc 9, .loc 17], kids := [.recd 0, .loc 14], deep := [.recd 0, .loc 14] },
  { top := [.loc 5], kids := [.recTop 1, .loc 5, .recd 1], deep := [.recd 1, .recTop 1] },
  { top := [.loc 14], kids := [], deep := [] },
  { top := [.loc 14], kids := [], deep := [] },
  { top := [.loc 5], kids := [.recTop 1, .loc 5, .recd 1], deep := [.recd 1, .recTop 1] },
  {}]

/-- peptacular.proforma.proforma_parser.ProFormaAnnotation.add_labile_mods -/
def prog_185 : List Stmt := [
  .param 0 0,
  .param 1 1,
  .param 2 2,
  .asRec 4 1 1,
  .call 5 232 [some 0, none],
  .asRec 6 1 1,
  .asRec 7 1 0,
  .pack 8 [7],
  .alias 9 [8],
  .alias 10 [9, 1],
  .call 11 232 [some 0, some 10],
  .call 12 218 [some 0],
  .elem 13 0,
  .asRec 14 13 1,
  .fresh 15,
  .store 14 15,
  .call 16 232 [some 0, some 10]]

def table_185 : Pts := [
  { top := [.root 0], kids := [.inner 0, .loc 5, .loc 11, .loc 16], deep := [.inner 0, .loc 15] },
  { top := [.root 1], kids := [.inner 1], deep := [.inner 1] },
  { top := [.root 2], kids := [.inner 2], deep := [.inner 2] },
  {},
  { top := [.root 1], kids := [.recd 1], deep := [.recd 1] },
  {},
  { top := [.root 1], kids := [.recd 1], deep := [.recd 1] },
  { top := [.recTop 1], kids := [.recd 1], deep := [.recd 1] },
  { top := [.loc 8], kids := [.recTop 1], deep := [.recd 1] },
  { top := [.loc 8], kids := [.recTop 1], deep := [.recd 1] },
  { top := [.loc 8, .root 1], kids := [.recTop 1, .inner 1], deep := [.recd 1, .inner 1] },
  {},
  {},
  { top := [.inner 0, .loc 5, .loc 11, .loc 16], kids := [.inner 0, .loc 15], deep := [.inner 0, .loc 15] },
  { top := [.inner 0, .loc 5, .loc 11, .loc 16], kids := [.recd 0, .loc 15], deep := [.recd 0, .loc 15] },
  { top := [.loc 15], kids := [], deep := [] },
  {}]

/-- peptacular.proforma.proforma_parser.ProFormaAnnotation.add_mod_dict -/
def prog_186 : List Stmt := [
  .param 0 0,
  .param 1 1,
  .param 2 2,
  .elem 4 1,
  .call 5 184 [some 0, some 4, none],
  .elem 6 1,
  .call 7 188 [some 0, some 6, none],
  .elem 8 1,
  .call 9 185 [some 0, some 8, none],
  .elem 10 1,
  .call 11 189 [some 0, some 10, none],
  .elem 12 1,
  .call 13 187 [some 0, some 12, none],
  .elem 14 1,
  .call 15 180 [some 0, some 14, none],
  .elem 16 1,
  .call 17 183 [some 0, some 16, none],
  .elem 18 1,
  .call 19 191 [some 0, some 18],
  .elem 20 1,
  .call 21 179 [some 0, some 20, none],
  .pack 22 [],
  .alias 23 [22],
  .shallow 24 [1],
  .elem 27 24,
  .elem 28 27,
  .alias 26 [28],
  .store 23 26,
  .call 29 182 [some 0, some 23, none]]

def table_186 : Pts := [
  { top := [.root 0], kids := [.inner 0, .loc 5, .loc 7, .loc 9, .loc 11, .loc 13, .loc 15, .loc 17, .loc 21, .loc 29], deep := [.inner 0, .loc 5, .loc 7, .loc 9, .loc 11, .loc 13, .loc 15, .loc 17, .loc 21, .loc 29] },
  { top := [.root 1], kids := [.inner 1], deep := [.inner 1] },
  { top := [.root 2], kids := [.inner 2], deep := [.inner 2] },
  {},
  { top := [.inner 1], kids := [.inner 1], deep := [.inner 1] },
  {},
  { top := [.inner 1], kids := [.inner 1], deep := [.inner 1] },
  {},
  { top := [.inner 1], kids := [.inner 1], deep := [.inner 1] },
  {},
  { top := [.inner 1], kids := [.inner 1], deep := [.inner 1] },
  {},
  { top := [.inner 1], kids := [.inner 1], deep := [.inner 1] },
  {},
  { top := [.inner 1], kids := [.inner 1], deep := [.inner 1] },
  {},
  { top := [.inner 1], kids := [.inner 1], deep := [.inner 1] },
  {},
  { top := [.inner 1], kids := [.inner 1], deep := [.inner 1] },
  {},
  { top := [.inner 1], kids := [.inner 1], deep := [.inner 1] },
  {},
  { top := [.loc 22], kids := [.inner 1], deep := [.inner 1] },
  { top := [.loc 22], kids := [.inner 1], deep := [.inner 1] },
  { top := [.loc 24], kids := [.inner 1], deep := [.inner 1] },
  {},
  { top := [.inner 1], kids := [.inner 1], deep := [.inner 1] },
  { top := [.inner 1], kids := [.inner 1], deep := [.inner 1] },
  { top := [.inner 1], kids := [.inner 1], deep := [.inner 1] },
  {}]

/-- peptacular.proforma.proforma_parser.ProFormaAnnotation.add_nterm_mods -/
def prog_187 : List Stmt := [
  .param 0 0,
  .param 1 1,
  .param 2 2,
  .call 4 235 [some 0, none],
  .call 5 159 [some 1],
  .asRec 6 5 1,
  .alias 7 [6],
  .asRec 8 7 1,
  .call 9 235 [some 0, some 8],
  .call 10 220 [some 0],
  .elem 11 0,
  .asRec 12 11 1,
  .asRec 13 7 1,
  .fresh 14,
  .asRec 15 14 1,
  .store 12 15,
  .asRec 16 7 1,
  .call 17 235 [some 0, some 16]]

def table_187 : Pts := [
  { top := [.root 0], kids := [.inner 0, .loc 4, .loc 9, .loc 17], deep := [.inner 0, .loc 14] },
  { top := [.root 1], kids := [.inner 1], deep := [.inner 1] },
  { top := [.root 2], kids := [.inner 2], deep := [.inner 2] },
  {},
  {},
  { top := [.loc 5], kids := [.recTop 1, .loc 5, .recd 1], deep := [.recd 1, .recTop 1] },
  { top := [.loc 5], kids := [.recTop 1, .loc 5, .recd 1], deep := [.recd 1, .recTop 1] },
  { top := [.loc 5], kids := [.recTop 1, .loc 5, .recd 1], deep := [.recd 1, .recTop 1] },
  { top := [.loc 5], kids := [.recTop 1, .loc 5, .recd 1], deep := [.recd 1, .recTop 1] },
  {},
  {},
  { top := [.inner 0, .loc 4, .loc 9, .loc 17], kids := [.inner 0, .loc 14], deep := [.inner 0, .loc 14] },
  { top := [.inner 0, .loc 4, .loc 9, .loc 17], kids := [.recd 0, .loc 14], deep := [.recd 0, .loc 14] },
  { top := [.loc 5], kids := [.recTop 1, .loc 5, .recd 1], deep := [.recd 1, .recTop 1] },
  { top := [.loc 14], kids := [], deep := [] },
  { top := [.loc 14], kids := [], deep := [] },
  { top := [.loc 5], kids := [.recTop 1, .loc 5, .recd 1], deep := [.recd 1, .recTop 1] },
  {}]

/-- peptacular.proforma.proforma_parser.ProFormaAnnotation.add_static_mods -/
def prog_188 : List Stmt := [
  .param 0 0,
  .param 1 1,
  .param 2 2,
  .call 4 268 [some 0, none],
  .call 5 159 [some 1],
  .asRec 6 5 1,
  .alias 7 [6],
  .asRec 8 7 1,
  .call 9 268 [some 0, some 8],
  .call 10 222 [some 0],
  .elem 11 0,
  .asRec 12 11 1,
  .asRec 13 7 1,
  .fresh 14,
  .asRec 15 14 1,
  .store 12 15,
  .asRec 16 7 1,
  .call 17 268 [some 0, some 16]]

def table_188 : Pts := [
  { top := [.root 0], kids := [.inner 0, .loc 4, .loc 9, .loc 17], deep := [.inner 0, .loc 14] },
  { top := [.root 1], kids := [.inner 1], deep := [.inner 1] },
  { top := [.root 2], kids := [.inner 2], deep := [.inner 2] },
  {},
  {},
  { top := [.loc 5], kids := [.recTop 1, .loc 5, .recd 1], deep := [.recd 1, .recTop 1] },
  { top := [.loc 5], kids := [.recTop 1, .loc 5, .recd 1], deep := [.recd 1, .recTop 1] },
  { top := [.loc 5], kids := [.recTop 1, .loc 5, .recd 1], deep := [.recd 1, .recTop 1] },
  { top := [.loc 5], kids := [.recTop 1, .loc 5, .recd 1], deep := [.recd 1, .recTop 1] },
  {},
  {},
  { top := [.inner 0, .loc 4, .loc 9, .loc 17], kids := [.inner 0, .loc 14], deep := [.inner 0, .loc 14] },
  { top := [.inner 0, .loc 4, .loc 9, .loc 17], kids := [.recd 0, .loc 14], deep := [.recd 0, .loc 14] },
  { top := [.loc 5], kids := [.recTop 1, .loc 5, .recd 1], deep := [.recd 1, .recTop 1] },
  { top := [.loc 14], kids := [], deep := [] },
  { top := [.loc 14], kids := [], deep := [] },
  { top := [.loc 5], kids := [.recTop 1, .loc 5, .recd 1], deep := [.recd 1, .recTop 1] },
  {}]

/-- peptacular.proforma.proforma_parser.ProFormaAnnotation.add_unknown_mods -/
def prog_189 : List Stmt := [
  .param 0 0,
  .param 1 1,
  .param 2 2,
  .call 4 272 [some 0, none],
  .call 5 159 [some 1],
  .asRec 6 5 1,
  .alias 7 [6],
  .asRec 8 7 1,
  .call 9 272 [some 0, some 8],
  .call 10 223 [some 0],
  .elem 11 0,
  .asRec 12 11 1,
  .asRec 13 7 1,
  .fresh 14,
  .asRec 15 14 1,
  .store 12 15,
  .asRec 16 7 1,
  .call 17 272 [some 0, some 16]]

def table_189 : Pts := [
  { top := [.root 0], kids := [.inner 0, .loc 4, .loc 9, .loc 17], deep := [.inner 0, .loc 14] },
  { top := [.root 1], kids := [.inner 1], deep := [.inner 1] },
  { top := [.root 2], kids := [.inner 2], deep := [.inner 2] },
  {},
  {},
  { top := [.loc 5], kids := [.recTop 1, .loc 5, .recd 1], deep := [.recd 1, .recTop 1] },
  { top := [.loc 5], kids := [.recTop 1, .loc 5, .recd 1], deep := [.recd 1, .recTop 1] },
  { top := [.loc 5], kids := [.recTop 1, .loc 5, .recd 1], deep := [.recd 1, .recTop 1] },
  { top := [.loc 5], kids := [.recTop 1, .loc 5, .recd 1], deep := [.recd 1, .recTop 1] },
  {},
  {},
  { top := [.inner 0, .loc 4, .loc 9, .loc 17], kids := [.inner 0, .loc 14], deep := [.inner 0, .loc 14] },
  { top := [.inner 0, .loc 4, .loc 9, .loc 17], kids := [.recd 0, .loc 14], deep := [.recd 0, .loc 14] },
  { top := [.loc 5], kids := [.recTop 1, .loc 5, .recd 1], deep := [.recd 1, .recTop 1] },
  { top := [.loc 14], kids := [], deep := [] },
  { top := [.loc 14], kids := [], deep := [] },
  { top := [.loc 5], kids := [.recTop 1, .loc 5, .recd 1], deep := [.recd 1, .recTop 1] },
  {}]

/-- peptacular.proforma.proforma_parser.ProFormaAnnotation.charge -/
def prog_190 : List Stmt := [
  .param 0 0]

def table_190 : Pts := [
  { top := [.root 0], kids := [.inner 0], deep := [.inner 0] }]

/-- peptacular.proforma.proforma_parser.ProFormaAnnotation.charge.setter -/
def prog_191 : List Stmt := [
  .param 0 0,
  .param 1 1,
  .write 0]

def table_191 : Pts := [
  { top := [.root 0], kids := [.inner 0], deep := [.inner 0] },
  { top := [.root 1], kids := [.inner 1], deep := [.inner 1] }]

/-- peptacular.proforma.proforma_parser.ProFormaAnnotation.charge_adducts -/
def prog_192 : List Stmt := [
  .param 0 0,
  .elem 2 0,
  .asRec 3 2 1,
  .alias 1 [3]]

def table_192 : Pts := [
  { top := [.root 0], kids := [.inner 0], deep := [.inner 0] },
  { top := [.inner 0], kids := [.recd 0], deep := [.recd 0] },
  { top := [.inner 0], kids := [.inner 0], deep := [.inner 0] },
  { top := [.inner 0], kids := [.recd 0], deep := [.recd 0] }]

/-- peptacular.proforma.proforma_parser.ProFormaAnnotation.charge_adducts.setter -/
def prog_193 : List Stmt := [
  .param 0 0,
  .param 1 1,
  .write 0,
  .call 3 159 [some 1],
  .asRec 4 3 1,
  .alias 5 [4],
  .asRec 6 5 1,
  .fresh 7,
  .asRec 8 7 1,
  .store 0 8,
  .alias 9 [1, 5]]

def table_193 : Pts := [
  { top := [.root 0], kids := [.inner 0, .loc 7], deep := [.inner 0] },
  { top := [.root 1], kids := [.inner 1], deep := [.inner 1] },
  {},
  { top := [.loc 3], kids := [.recTop 1, .loc 3, .recd 1], deep := [.recd 1, .recTop 1] },
  { top := [.loc 3], kids := [.recTop 1, .loc 3, .recd 1], deep := [.recd 1, .recTop 1] },
  { top := [.loc 3], kids := [.recTop 1, .loc 3, .recd 1], deep := [.recd 1, .recTop 1] },
  { top := [.loc 3], kids := [.recTop 1, .loc 3, .recd 1], deep := [.recd 1, .recTop 1] },
  { top := [.loc 7], kids := [], deep := [] },
  { top := [.loc 7], kids := [], deep := [] },
  { top := [.root 1, .loc 3], kids := [.inner 1, .recTop 1, .loc 3, .recd 1], deep := [.inner 1, .recd 1, .recTop 1] }]

/-- peptacular.proforma.proforma_parser.ProFormaAnnotation.clear_empty_mods -/
def prog_194 : List Stmt := [
  .param 0 0,
  .call 2 217 [some 0],
  .elem 3 0,
  .asRec 4 3 1,
  .alias 5 [2],
  .write 0,
  .call 6 222 [some 0],
  .elem 7 0,
  .asRec 8 7 1,
  .alias 9 [6],
  .call 10 218 [some 0],
  .elem 11 0,
  .asRec 12 11 1,
  .alias 13 [10],
  .call 14 223 [some 0],
  .elem 15 0,
  .asRec 16 15 1,
  .alias 17 [14],
  .call 18 220 [some 0],
  .elem 19 0,
  .asRec 20 19 1,
  .alias 21 [18],
  .call 22 213 [some 0],
  .elem 23 0,
  .asRec 24 23 1,
  .alias 25 [22],
  .call 26 212 [some 0],
  .elem 27 0,
  .asRec 28 27 1,
  .alias 29 [26],
  .call 30 214 [some 0],
  .pack 31 [],
  .alias 32 [31],
  .elem 33 0,
  .shallow 34 [33],
  .elem 37 34,
  .elem 38 37,
  .alias 36 [38],
  .write 32,
  .alias 39 [35],
  .elem 40 32,
  .alias 39 [40],
  .elem 41 0,
  .write 41,
  .elem 42 41,
  .elem 43 0,
  .call 44 225 [some 0, none],
  .call 45 216 [some 0],
  .elem 46 0,
  .asRec 47 46 1,
  .elem 49 47,
  .asRec 50 49 0,
  .alias 48 [50],
  .asRec 51 48 0,
  .elem 52 51,
  .asRec 53 52 1,
  .asRec 54 48 0,
  .elem 55 54,
  .asRec 56 55 1,
  .asRec 57 48 0,
  .write 57,
  .elem 58 0,
  .asRec 59 58 1,
  .call 60 227 [some 0, none]]

def table_194 : Pts := [
  { top := [.root 0], kids := [.inner 0, .loc 44, .loc 60], deep := [.inner 0] },
  {},
  {},
  { top := [.inner 0, .loc 44, .loc 60], kids := [.inner 0], deep := [.inner 0] },
  { top := [.inner 0, .loc 44, .loc 60], kids := [.recd 0], deep := [.recd 0] },
  {},
  {},
  { top := [.inner 0, .loc 44, .loc 60], kids := [.inner 0], deep := [.inner 0] },
  { top := [.inner 0, .loc 44, .loc 60], kids := [.recd 0], deep := [.recd 0] },
  {},
  {},
  { top := [.inner 0, .loc 44, .loc 60], kids := [.inner 0], deep := [.inner 0] },
  { top := [.inner 0, .loc 44, .loc 60], kids := [.recd 0], deep := [.recd 0] },
  {},
  {},
  { top := [.inner 0, .loc 44, .loc 60], kids := [.inner 0], deep := [.inner 0] },
  { top := [.inner 0, .loc 44, .loc 60], kids := [.recd 0], deep := [.recd 0] },
  {},
  {},
  { top := [.inner 0, .loc 44, .loc 60], kids := [.inner 0], deep := [.inner 0] },
  { top := [.inner 0, .loc 44, .loc 60], kids := [.recd 0], deep := [.recd 0] },
  {},
  {},
  { top := [.inner 0, .loc 44, .loc 60], kids := [.inner 0], deep := [.inner 0] },
  { top := [.inner 0, .loc 44, .loc 60], kids := [.recd 0], deep := [.recd 0] },
  {},
  {},
  { top := [.inner 0, .loc 44, .loc 60], kids := [.inner 0], deep := [.inner 0] },
  { top := [.inner 0, .loc 44, .loc 60], kids := [.recd 0], deep := [.recd 0] },
  {},
  {},
  { top := [.loc 31], kids := [], deep := [] },
  { top := [.loc 31], kids := [], deep := [] },
  { top := [.inner 0, .loc 44, .loc 60], kids := [.inner 0], deep := [.inner 0] },
  { top := [.loc 34], kids := [.inner 0], deep := [.inner 0] },
  {},
  { top := [.inner 0], kids := [.inner 0], deep := [.inner 0] },
  { top := [.inner 0], kids := [.inner 0], deep := [.inner 0] },
  { top := [.inner 0], kids := [.inner 0], deep := [.inner 0] },
  {},
  {},
  { top := [.inner 0, .loc 44, .loc 60], kids := [.inner 0], deep := [.inner 0] },
  { top := [.inner 0], kids := [.inner 0], deep := [.inner 0] },
  { top := [.inner 0, .loc 44, .loc 60], kids := [.inner 0], deep := [.inner 0] },
  {},
  {},
  { top := [.inner 0, .loc 44, .loc 60], kids := [.inner 0], deep := [.inner 0] },
  { top := [.inner 0, .loc 44, .loc 60], kids := [.recd 0], deep := [.recd 0] },
  { top := [.recd 0], kids := [.recd 0], deep := [.recd 0] },
  { top := [.recd 0], kids := [.recd 0], deep := [.recd 0] },
  { top := [.recd 0], kids := [.recd 0], deep := [.recd 0] },
  { top := [.recd 0], kids := [.recd 0], deep := [.recd 0] },
  { top := [.recd 0], kids := [.recd 0], deep := [.recd 0] },
  { top := [.recd 0], kids := [.recd 0], deep := [.recd 0] },
  { top := [.recd 0], kids := [.recd 0], deep := [.recd 0] },
  { top := [.recd 0], kids := [.recd 0], deep := [.recd 0] },
  { top := [.recd 0], kids := [.recd 0], deep := [.recd 0] },
  { top := [.recd 0], kids := [.recd 0], deep := [.recd 0] },
  { top := [.inner 0, .loc 44, .loc 60], kids := [.inner 0], deep := [.inner 0] },
  { top := [.inner 0, .loc 44, .loc 60], kids := [.recd 0], deep := [.recd 0] },
  {}]

/-- peptacular.proforma.proforma_parser.ProFormaAnnotation.combinations -/
def prog_195 : List Stmt := [
  .param 0 0,
  .param 1 1,
  .alias 4 [3, 1],
  .call 5 257 [some 0, none],
  .alias 6 [5],
  .call 7 255 [some 0, none],
  .alias 8 [7],
  .call 9 202 [some 0],
  .alias 10 [9],
  .call 11 245 [some 10],
  .alias 12 [11],
  .elem 13 12,
  .store 10 13,
  .call 14 266 [some 10],
  .elem 15 14,
  .alias 16 [15],
  .call 17 254 [some 16, none],
  .pack 18 [17],
  .leaf 19 18,
  .alias 20 [19],
  .leaf 21 20,
  .shallow 22 [21],
  .elem 23 22,
  .alias 24 [23],
  .call 25 311 [none],
  .pack 26 [25],
  .alias 2 [26]]

def table_195 : Pts := [
  { top := [.root 0], kids := [.inner 0], deep := [.inner 0] },
  { top := [.root 1], kids := [.inner 1], deep := [.inner 1] },
  { top := [.loc 26], kids := [.loc 25], deep := [.loc 25] },
  {},
  { top := [.root 1], kids := [.inner 1], deep := [.inner 1] },
  {},
  {},
  {},
  {},
  { top := [.loc 9], kids := [.loc 11], deep := [.loc 11] },
  { top := [.loc 9], kids := [.loc 11], deep := [.loc 11] },
  { top := [.loc 11], kids := [.loc 11], deep := [.loc 11] },
  { top := [.loc 11], kids := [.loc 11], deep := [.loc 11] },
  { top := [.loc 11], kids := [.loc 11], deep := [.loc 11] },
  { top := [.loc 14], kids := [.loc 14], deep := [.loc 14] },
  { top := [.loc 14], kids := [.loc 14], deep := [.loc 14] },
  { top := [.loc 14], kids := [.loc 14], deep := [.loc 14] },
  {},
  { top := [.loc 18], kids := [], deep := [] },
  { top := [.loc 18], kids := [], deep := [] },
  { top := [.loc 18], kids := [], deep := [] },
  { top := [.loc 18], kids := [], deep := [] },
  { top := [.loc 22], kids := [], deep := [] },
  {},
  {},
  { top := [.loc 25], kids := [.loc 25], deep := [.loc 25] },
  { top := [.loc 26], kids := [.loc 25], deep := [.loc 25] }]

/-- peptacular.proforma.proforma_parser.ProFormaAnnotation.combinations_with_replacement -/
def prog_196 : List Stmt := [
  .param 0 0,
  .param 1 1,
  .alias 4 [3, 1],
  .call 5 257 [some 0, none],
  .alias 6 [5],
  .call 7 255 [some 0, none],
  .alias 8 [7],
  .call 9 202 [some 0],
  .alias 10 [9],
  .call 11 245 [some 10],
  .alias 12 [11],
  .elem 13 12,
  .store 10 13,
  .call 14 266 [some 10],
  .elem 15 14,
  .alias 16 [15],
  .call 17 254 [some 16, none],
  .pack 18 [17],
  .leaf 19 18,
  .alias 20 [19],
  .leaf 21 20,
  .shallow 22 [21],
  .elem 23 22,
  .alias 24 [23],
  .call 25 311 [none],
  .pack 26 [25],
  .alias 2 [26]]

def table_196 : Pts := [
  { top := [.root 0], kids := [.inner 0], deep := [.inner 0] },
  { top := [.root 1], kids := [.inner 1], deep := [.inner 1] },
  { top := [.loc 26], kids := [.loc 25], deep := [.loc 25] },
  {},
  { top := [.root 1], kids := [.inner 1], deep := [.inner 1] },
  {},
  {},
  {},
  {},
  { top := [.loc 9], kids := [.loc 11], deep := [.loc 11] },
  { top := [.loc 9], kids := [.loc 11], deep := [.loc 11] },
  { top := [.loc 11], kids := [.loc 11], deep := [.loc 11] },
  { top := [.loc 11], kids := [.loc 11], deep := [.loc 11] },
  { top := [.loc 11], kids := [.loc 11], deep := [.loc 11] },
  { top := [.loc 14], kids := [.loc 14], deep := [.loc 14] },
  { top := [.loc 14], kids := [.loc 14], deep := [.loc 14] },
  { top := [.loc 14], kids := [.loc 14], deep := [.loc 14] },
  {},
  { top := [.loc 18], kids := [], deep := [] },
  { top := [.loc 18], kids := [], deep := [] },
  { top := [.loc 18], kids := [], deep := [] },
  { top := [.loc 18], kids := [], deep := [] },
  { top := [.loc 22], kids := [], deep := [] },
  {},
  {},
  { top := [.loc 25], kids := [.loc 25], deep := [.loc 25] },
  { top := [.loc 26], kids := [.loc 25], deep := [.loc 25] }]

/-- peptacular.proforma.proforma_parser.ProFormaAnnotation.condense_static_mods[inplace=False] -/
def prog_197 : List Stmt := [
  .param 0 0,
  .param 1 1,
  .fresh 3,
  .alias 4 [3],
  .call 5 247 [some 4],
  .asRec 6 5 1,
  .alias 7 [6],
  .asRec 8 7 1,
  .alias 2 [4],
  .asRec 9 7 1,
  .call 10 315 [some 9],
  .asRec 11 10 2,
  .alias 12 [11],
  .asRec 13 12 2,
  .elem 14 13,
  .alias 15 [14],
  .call 16 187 [some 4, some 15, none],
  .asRec 17 12 2,
  .elem 18 17,
  .alias 19 [18],
  .call 20 180 [some 4, some 19, none],
  .asRec 21 12 2,
  .shallow 22 [21],
  .elem 28 22,
  .elem 29 28,
  .asRec 30 29 1,
  .alias 27 [30],
  .pack 31 [],
  .shallow 32 [],
  .shallow 33 [32],
  .elem 34 33,
  .alias 35 [34],
  .pack 36 [],
  .alias 25 [36],
  .elem 37 25,
  .alias 24 [37],
  .asRec 38 27 1,
  .pack 39 [38],
  .call 40 182 [some 4, some 39, none]]

def table_197 : Pts := [
  { top := [.root 0], kids := [.inner 0], deep := [.inner 0] },
  { top := [.root 1], kids := [.inner 1], deep := [.inner 1] },
  { top := [.loc 3], kids := [.loc 5, .loc 16, .loc 20, .loc 40], deep := [.loc 16, .loc 20, .loc 40] },
  { top := [.loc 3], kids := [.loc 5, .loc 16, .loc 20, .loc 40], deep := [.loc 16, .loc 20, .loc 40] },
  { top := [.loc 3], kids := [.loc 5, .loc 16, .loc 20, .loc 40], deep := [.loc 16, .loc 20, .loc 40] },
  { top := [.loc 5, .loc 16, .loc 20, .loc 40], kids := [.loc 5, .loc 16, .loc 20, .loc 40], deep := [.loc 5, .loc 16, .loc 20, .loc 40] },
  { top := [.loc 5, .loc 16, .loc 20, .loc 40], kids := [.loc 5, .loc 16, .loc 20, .loc 40], deep := [.loc 5, .loc 16, .loc 20, .loc 40] },
  { top := [.loc 5, .loc 16, .loc 20, .loc 40], kids := [.loc 5, .loc 16, .loc 20, .loc 40], deep := [.loc 5, .loc 16, .loc 20, .loc 40] },
  { top := [.loc 5, .loc 16, .loc 20, .loc 40], kids := [.loc 5, .loc 16, .loc 20, .loc 40], deep := [.loc 5, .loc 16, .loc 20, .loc 40] },
  { top := [.loc 5, .loc 16, .loc 20, .loc 40], kids := [.loc 5, .loc 16, .loc 20, .loc 40], deep := [.loc 5, .loc 16, .loc 20, .loc 40] },
  { top := [.loc 10], kids := [.loc 10], deep := [.loc 10] },
  { top := [.loc 10], kids := [.loc 10], deep := [.loc 10] },
  { top := [.loc 10], kids := [.loc 10], deep := [.loc 10] },
  { top := [.loc 10], kids := [.loc 10], deep := [.loc 10] },
  { top := [.loc 10], kids := [.loc 10], deep := [.loc 10] },
  { top := [.loc 10], kids := [.loc 10], deep := [.loc 10] },
  {},
  { top := [.loc 10], kids := [.loc 10], deep := [.loc 10] },
  { top := [.loc 10], kids := [.loc 10], deep := [.loc 10] },
  { top := [.loc 10], kids := [.loc 10], deep := [.loc 10] },
  {},
  { top := [.loc 10], kids := [.loc 10], deep := [.loc 10] },
  { top := [.loc 22], kids := [.loc 10], deep := [.loc 10] },
  {},
  {},
  { top := [.loc 36], kids := [], deep := [] },
  {},
  { top := [.loc 10], kids := [.loc 10], deep := [.loc 10] },
  { top := [.loc 10], kids := [.loc 10], deep := [.loc 10] },
  { top := [.loc 10], kids := [.loc 10], deep := [.loc 10] },
  { top := [.loc 10], kids := [.loc 10], deep := [.loc 10] },
  { top := [.loc 31], kids := [], deep := [] },
  { top := [.loc 32], kids := [], deep := [] },
  { top := [.loc 33], kids := [], deep := [] },
  {},
  {},
  { top := [.loc 36], kids := [], deep := [] },
  {},
  { top := [.loc 10], kids := [.loc 10], deep := [.loc 10] },
  { top := [.loc 39], kids := [.loc 10], deep := [.loc 10] },
  {}]

/-- peptacular.proforma.proforma_parser.ProFormaAnnotation.condense_static_mods[inplace=True] -/
def prog_198 : List Stmt := [
  .param 0 0,
  .param 1 1,
  .alias 3 [0],
  .call 4 247 [some 3],
  .asRec 5 4 1,
  .alias 6 [5],
  .asRec 7 6 1,
  .asRec 8 6 1,
  .call 9 315 [some 8],
  .asRec 10 9 2,
  .alias 11 [10],
  .asRec 12 11 2,
  .elem 13 12,
  .alias 14 [13],
  .call 15 187 [some 3, some 14, none],
  .asRec 16 11 2,
  .elem 17 16,
  .alias 18 [17],
  .call 19 180 [some 3, some 18, none],
  .asRec 20 11 2,
  .shallow 21 [20],
  .elem 27 21,
  .elem 28 27,
  .asRec 29 28 1,
  .alias 26 [29],
  .pack 30 [],
  .shallow 31 [],
  .shallow 32 [31],
  .elem 33 32,
  .alias 34 [33],
  .pack 35 [],
  .alias 24 [35],
  .elem 36 24,
  .alias 23 [36],
  .asRec 37 26 1,
  .pack 38 [37],
  .call 39 182 [some 3, some 38, none]]

def table_198 : Pts := [
  { top := [.root 0], kids := [.inner 0, .loc 4, .loc 15, .loc 19, .loc 39], deep := [.inner 0, .loc 15, .loc 19, .loc 39] },
  { top := [.root 1], kids := [.inner 1], deep := [.inner 1] },
  {},
  { top := [.root 0], kids := [.inner 0, .loc 4, .loc 15, .loc 19, .loc 39], deep := [.inner 0, .loc 15, .loc 19, .loc 39] },
  { top := [.inner 0, .loc 4, .loc 15, .loc 19, .loc 39], kids := [.recd 0, .loc 4, .loc 15, .loc 19, .loc 39], deep := [.recd 0, .loc 4, .loc 15, .loc 19, .loc 39] },
  { top := [.inner 0, .loc 4, .loc 15, .loc 19, .loc 39], kids := [.recd 0, .loc 4, .loc 15, .loc 19, .loc 39], deep := [.recd 0, .loc 4, .loc 15, .loc 19, .loc 39] },
  { top := [.inner 0, .loc 4, .loc 15, .loc 19, .loc 39], kids := [.recd 0, .loc 4, .loc 15, .loc 19, .loc 39], deep := [.recd 0, .loc 4, .loc 15, .loc 19, .loc 39] },
  { top := [.inner 0, .loc 4, .loc 15, .loc 19, .loc 39], kids := [.recd 0, .loc 4, .loc 15, .loc 19, .loc 39], deep := [.recd 0, .loc 4, .loc 15, .loc 19, .loc 39] },
  { top := [.inner 0, .loc 4, .loc 15, .loc 19, .loc 39], kids := [.recd 0, .loc 4, .loc 15, .loc 19, .loc 39], deep := [.recd 0, .loc 4, .loc 15, .loc 19, .loc 39] },
  { top := [.loc 9], kids := [.loc 9], deep := [.loc 9] },
  { top := [.loc 9], kids := [.loc 9], deep := [.loc 9] },
  { top := [.loc 9], kids := [.loc 9], deep := [.loc 9] },
  { top := [.loc 9], kids := [.loc 9], deep := [.loc 9] },
  { top := [.loc 9], kids := [.loc 9], deep := [.loc 9] },
  { top := [.loc 9], kids := [.loc 9], deep := [.loc 9] },
  {},
  { top := [.loc 9], kids := [.loc 9], deep := [.loc 9] },
  { top := [.loc 9], kids := [.loc 9], deep := [.loc 9] },
  { top := [.loc 9], kids := [.loc 9], deep := [.loc 9] },
  {},
  { top := [.loc 9], kids := [.loc 9], deep := [.loc 9] },
  { top := [.loc 21], kids := [.loc 9], deep := [.loc 9] },
  {},
  {},
  { top := [.loc 35], kids := [], deep := [] },
  {},
  { top := [.loc 9], kids := [.loc 9], deep := [.loc 9] },
  { top := [.loc 9], kids := [.loc 9], deep := [.loc 9] },
  { top := [.loc 9], kids := [.loc 9], deep := [.loc 9] },
  { top := [.loc 9], kids := [.loc 9], deep := [.loc 9] },
  { top := [.loc 30], kids := [], deep := [] },
  { top := [.loc 31], kids := [], deep := [] },
  { top := [.loc 32], kids := [], deep := [] },
  {},
  {},
  { top := [.loc 35], kids := [], deep := [] },
  {},
  { top := [.loc 9], kids := [.loc 9], deep := [.loc 9] },
  { top := [.loc 38], kids := [.loc 9], deep := [.loc 9] },
  {}]

/-- peptacular.proforma.proforma_parser.ProFormaAnnotation.contains_mass_ambiguity -/
def prog_199 : List Stmt := [
  .param 0 0,
  .global 3 19,
  .pack 4 [],
  .leaf 5 4]

def table_199 : Pts := [
  { top := [.root 0], kids := [.inner 0], deep := [.inner 0] },
  {},
  {},
  { top := [.glob 19], kids := [.glob 19], deep := [.glob 19] },
  { top := [.loc 4], kids := [], deep := [] },
  { top := [.loc 4], kids := [], deep := [] }]

/-- peptacular.proforma.proforma_parser.ProFormaAnnotation.contains_residue_ambiguity -/
def prog_200 : List Stmt := [
  .param 0 0,
  .global 3 18,
  .pack 4 [],
  .leaf 5 4]

def table_200 : Pts := [
  { top := [.root 0], kids := [.inner 0], deep := [.inner 0] },
  {},
  {},
  { top := [.glob 18], kids := [.glob 18], deep := [.glob 18] },
  { top := [.loc 4], kids := [], deep := [] },
  { top := [.loc 4], kids := [], deep := [] }]

/-- peptacular.proforma.proforma_parser.ProFormaAnnotation.contains_sequence_ambiguity -/
def prog_201 : List Stmt := [
  .param 0 0,
  .elem 2 0,
  .asRec 3 2 1,
  .elem 4 0,
  .asRec 5 4 1]

def table_201 : Pts := [
  { top := [.root 0], kids := [.inner 0], deep := [.inner 0] },
  {},
  { top := [.inner 0], kids := [.inner 0], deep := [.inner 0] },
  { top := [.inner 0], kids := [.recd 0], deep := [.recd 0] },
  { top := [.inner 0], kids := [.inner 0], deep := [.inner 0] },
  { top := [.inner 0], kids := [.recd 0], deep := [.recd 0] }]

/-- peptacular.proforma.proforma_parser.ProFormaAnnotation.copy -/
def prog_202 : List Stmt := [
  .param 0 0,
  .fresh 2,
  .alias 1 [2]]

def table_202 : Pts := [
  { top := [.root 0], kids := [.inner 0], deep := [.inner 0] },
  { top := [.loc 2], kids := [], deep := [] },
  { top := [.loc 2], kids := [], deep := [] }]

/-- peptacular.proforma.proforma_parser.ProFormaAnnotation.count_internal_mods -/
def prog_203 : List Stmt := [
  .param 0 0,
  .call 2 214 [some 0],
  .elem 3 0,
  .shallow 4 [3],
  .elem 5 4,
  .alias 6 [5],
  .pack 7 [],
  .leaf 8 7]

def table_203 : Pts := [
  { top := [.root 0], kids := [.inner 0], deep := [.inner 0] },
  {},
  {},
  { top := [.inner 0], kids := [.inner 0], deep := [.inner 0] },
  { top := [.loc 4], kids := [.inner 0], deep := [.inner 0] },
  { top := [.inner 0], kids := [.inner 0], deep := [.inner 0] },
  { top := [.inner 0], kids := [.inner 0], deep := [.inner 0] },
  { top := [.loc 7], kids := [], deep := [] },
  { top := [.loc 7], kids := [], deep := [] }]

/-- peptacular.proforma.proforma_parser.ProFormaAnnotation.count_modified_residues -/
def prog_204 : List Stmt := [
  .param 0 0,
  .call 2 214 [some 0],
  .elem 3 0]

def table_204 : Pts := [
  { top := [.root 0], kids := [.inner 0], deep := [.inner 0] },
  {},
  {},
  { top := [.inner 0], kids := [.inner 0], deep := [.inner 0] }]

/-- peptacular.proforma.proforma_parser.ProFormaAnnotation.count_residues -/
def prog_205 : List Stmt := [
  .param 0 0,
  .call 2 266 [some 0],
  .elem 3 2,
  .alias 4 [3],
  .call 5 254 [some 4, none],
  .pack 6 [5],
  .leaf 7 6,
  .shallow 8 [7],
  .alias 1 [8]]

def table_205 : Pts := [
  { top := [.root 0], kids := [.inner 0], deep := [.inner 0] },
  { top := [.loc 8], kids := [], deep := [] },
  { top := [.loc 2], kids := [.loc 2], deep := [.loc 2] },
  { top := [.loc 2], kids := [.loc 2], deep := [.loc 2] },
  { top := [.loc 2], kids := [.loc 2], deep := [.loc 2] },
  {},
  { top := [.loc 6], kids := [], deep := [] },
  { top := [.loc 6], kids := [], deep := [] },
  { top := [.loc 8], kids := [], deep := [] }]

/-- peptacular.proforma.proforma_parser.ProFormaAnnotation.cterm_mods -/
def prog_206 : List Stmt := [
  .param 0 0,
  .elem 2 0,
  .asRec 3 2 1,
  .alias 1 [3]]

def table_206 : Pts := [
  { top := [.root 0], kids := [.inner 0], deep := [.inner 0] },
  { top := [.inner 0], kids := [.recd 0], deep := [.recd 0] },
  { top := [.inner 0], kids := [.inner 0], deep := [.inner 0] },
  { top := [.inner 0], kids := [.recd 0], deep := [.recd 0] }]

/-- peptacular.proforma.proforma_parser.ProFormaAnnotation.cterm_mods.setter -/
def prog_207 : List Stmt := [
  .param 0 0,
  .param 1 1,
  .write 0,
  .call 3 159 [some 1],
  .asRec 4 3 1,
  .alias 5 [4],
  .asRec 6 5 1,
  .fresh 7,
  .asRec 8 7 1,
  .store 0 8,
  .alias 9 [1, 5]]

def table_207 : Pts := [
  { top := [.root 0], kids := [.inner 0, .loc 7], deep := [.inner 0] },
  { top := [.root 1], kids := [.inner 1], deep := [.inner 1] },
  {},
  { top := [.loc 3], kids := [.recTop 1, .loc 3, .recd 1], deep := [.recd 1, .recTop 1] },
  { top := [.loc 3], kids := [.recTop 1, .loc 3, .recd 1], deep := [.recd 1, .recTop 1] },
  { top := [.loc 3], kids := [.recTop 1, .loc 3, .recd 1], deep := [.recd 1, .recTop 1] },
  { top := [.loc 3], kids := [.recTop 1, .loc 3, .recd 1], deep := [.recd 1, .recTop 1] },
  { top := [.loc 7], kids := [], deep := [] },
  { top := [.loc 7], kids := [], deep := [] },
  { top := [.root 1, .loc 3], kids := [.inner 1, .recTop 1, .loc 3, .recd 1], deep := [.inner 1, .recd 1, .recTop 1] }]

/-- peptacular.proforma.proforma_parser.ProFormaAnnotation.dict -/
def prog_208 : List Stmt := [
  .param 0 0,
  .fresh 2,
  .elem 3 0,
  .asRec 4 3 1,
  .fresh 5,
  .asRec 6 5 1,
  .elem 7 0,
  .asRec 8 7 1,
  .fresh 9,
  .asRec 10 9 1,
  .elem 11 0,
  .asRec 12 11 1,
  .fresh 13,
  .asRec 14 13 1,
  .elem 15 0,
  .asRec 16 15 1,
  .fresh 17,
  .asRec 18 17 1,
  .elem 19 0,
  .asRec 20 19 1,
  .fresh 21,
  .asRec 22 21 1,
  .elem 23 0,
  .asRec 24 23 1,
  .fresh 25,
  .asRec 26 25 1,
  .elem 27 0,
  .asRec 28 27 1,
  .fresh 29,
  .asRec 30 29 1,
  .elem 31 0,
  .fresh 32,
  .fresh 33,
  .elem 34 0,
  .asRec 35 34 1,
  .fresh 36,
  .asRec 37 36 1,
  .pack 38 [2, 6, 10, 14, 18, 22, 26, 30, 32, 33, 37],
  .alias 1 [38]]

def table_208 : Pts := [
  { top := [.root 0], kids := [.inner 0], deep := [.inner 0] },
  { top := [.loc 38], kids := [.loc 2, .loc 5, .loc 9, .loc 13, .loc 17, .loc 21, .loc 25, .loc 29, .loc 32, .loc 33, .loc 36], deep := [] },
  { top := [.loc 2], kids := [], deep := [] },
  { top := [.inner 0], kids := [.inner 0], deep := [.inner 0] },
  { top := [.inner 0], kids := [.recd 0], deep := [.recd 0] },
  { top := [.loc 5], kids := [], deep := [] },
  { top := [.loc 5], kids := [], deep := [] },
  { top := [.inner 0], kids := [.inner 0], deep := [.inner 0] },
  { top := [.inner 0], kids := [.recd 0], deep := [.recd 0] },
  { top := [.loc 9], kids := [], deep := [] },
  { top := [.loc 9], kids := [], deep := [] },
  { top := [.inner 0], kids := [.inner 0], deep := [.inner 0] },
  { top := [.inner 0], kids := [.recd 0], deep := [.recd 0] },
  { top := [.loc 13], kids := [], deep := [] },
  { top := [.loc 13], kids := [], deep := [] },
  { top := [.inner 0], kids := [.inner 0], deep := [.inner 0] },
  { top := [.inner 0], kids := [.recd 0], deep := [.recd 0] },
  { top := [.loc 17], kids := [], deep := [] },
  { top := [.loc 17], kids := [], deep := [] },
  { top := [.inner 0], kids := [.inner 0], deep := [.inner 0] },
  { top := [.inner 0], kids := [.recd 0], deep := [.recd 0] },
  { top := [.loc 21], kids := [], deep := [] },
  { top := [.loc 21], kids := [], deep := [] },
  { top := [.inner 0], kids := [.inner 0], deep := [.inner 0] },
  { top := [.inner 0], kids := [.recd 0], deep := [.recd 0] },
  { top := [.loc 25], kids := [], deep := [] },
  { top := [.loc 25], kids := [], deep := [] },
  { top := [.inner 0], kids := [.inner 0], deep := [.inner 0] },
  { top := [.inner 0], kids := [.recd 0], deep := [.recd 0] },
  { top := [.loc 29], kids := [], deep := [] },
  { top := [.loc 29], kids := [], deep := [] },
  { top := [.inner 0], kids := [.inner 0], deep := [.inner 0] },
  { top := [.loc 32], kids := [], deep := [] },
  { top := [.loc 33], kids := [], deep := [] },
  { top := [.inner 0], kids := [.inner 0], deep := [.inner 0] },
  { top := [.inner 0], kids := [.recd 0], deep := [.recd 0] },
  { top := [.loc 36], kids := [], deep := [] },
  { top := [.loc 36], kids := [], deep := [] },
  { top := [.loc 38], kids := [.loc 2, .loc 5, .loc 9, .loc 13, .loc 17, .loc 21, .loc 25, .loc 29, .loc 32, .loc 33, .loc 36], deep := [] }]

/-- peptacular.proforma.proforma_parser.ProFormaAnnotation.find_indices -/
def prog_209 : List Stmt := [
  .param 0 0,
  .param 1 1,
  .shallow 3 [],
  .elem 4 3,
  .alias 5 [4],
  .call 6 262 [some 1, none, none, none],
  .call 7 228 [some 0, some 6],
  .pack 8 [],
  .leaf 9 8,
  .alias 2 [9]]

def table_209 : Pts := [
  { top := [.root 0], kids := [.inner 0], deep := [.inner 0] },
  { top := [.root 1], kids := [.inner 1], deep := [.inner 1] },
  { top := [.loc 8], kids := [], deep := [] },
  { top := [.loc 3], kids := [], deep := [] },
  {},
  {},
  { top := [.loc 6], kids := [.loc 6], deep := [.loc 6] },
  {},
  { top := [.loc 8], kids := [], deep := [] },
  { top := [.loc 8], kids := [], deep := [] }]

/-- peptacular.proforma.proforma_parser.ProFormaAnnotation.get_internal_mods_by_index -/
def prog_210 : List Stmt := [
  .param 0 0,
  .param 1 1,
  .call 3 214 [some 0],
  .elem 4 0,
  .elem 5 0,
  .elem 6 5,
  .asRec 7 6 1,
  .alias 2 [7]]

def table_210 : Pts := [
  { top := [.root 0], kids := [.inner 0], deep := [.inner 0] },
  { top := [.root 1], kids := [.inner 1], deep := [.inner 1] },
  { top := [.inner 0], kids := [.recd 0], deep := [.recd 0] },
  {},
  { top := [.inner 0], kids := [.inner 0], deep := [.inner 0] },
  { top := [.inner 0], kids := [.inner 0], deep := [.inner 0] },
  { top := [.inner 0], kids := [.inner 0], deep := [.inner 0] },
  { top := [.inner 0], kids := [.recd 0], deep := [.recd 0] }]

/-- peptacular.proforma.proforma_parser.ProFormaAnnotation.has_charge -/
def prog_211 : List Stmt := [
  .param 0 0]

def table_211 : Pts := [
  { top := [.root 0], kids := [.inner 0], deep := [.inner 0] }]

/-- peptacular.proforma.proforma_parser.ProFormaAnnotation.has_charge_adducts -/
def prog_212 : List Stmt := [
  .param 0 0,
  .elem 2 0,
  .asRec 3 2 1]

def table_212 : Pts := [
  { top := [.root 0], kids := [.inner 0], deep := [.inner 0] },
  {},
  { top := [.inner 0], kids := [.inner 0], deep := [.inner 0] },
  { top := [.inner 0], kids := [.recd 0], deep := [.recd 0] }]

/-- peptacular.proforma.proforma_parser.ProFormaAnnotation.has_cterm_mods -/
def prog_213 : List Stmt := [
  .param 0 0,
  .elem 2 0,
  .asRec 3 2 1]

def table_213 : Pts := [
  { top := [.root 0], kids := [.inner 0], deep := [.inner 0] },
  {},
  { top := [.inner 0], kids := [.inner 0], deep := [.inner 0] },
  { top := [.inner 0], kids := [.recd 0], deep := [.recd 0] }]

/-- peptacular.proforma.proforma_parser.ProFormaAnnotation.has_internal_mods -/
def prog_214 : List Stmt := [
  .param 0 0,
  .elem 2 0]

def table_214 : Pts := [
  { top := [.root 0], kids := [.inner 0], deep := [.inner 0] },
  {},
  { top := [.inner 0], kids := [.inner 0], deep := [.inner 0] }]

/-- peptacular.proforma.proforma_parser.ProFormaAnnotation.has_internal_mods_at_index -/
def prog_215 : List Stmt := [
  .param 0 0,
  .param 1 1,
  .call 3 214 [some 0],
  .elem 4 0]

def table_215 : Pts := [
  { top := [.root 0], kids := [.inner 0], deep := [.inner 0] },
  { top := [.root 1], kids := [.inner 1], deep := [.inner 1] },
  {},
  {},
  { top := [.inner 0], kids := [.inner 0], deep := [.inner 0] }]

/-- peptacular.proforma.proforma_parser.ProFormaAnnotation.has_intervals -/
def prog_216 : List Stmt := [
  .param 0 0,
  .elem 2 0,
  .asRec 3 2 1]

def table_216 : Pts := [
  { top := [.root 0], kids := [.inner 0], deep := [.inner 0] },
  {},
  { top := [.inner 0], kids := [.inner 0], deep := [.inner 0] },
  { top := [.inner 0], kids := [.recd 0], deep := [.recd 0] }]

/-- peptacular.proforma.proforma_parser.ProFormaAnnotation.has_isotope_mods -/
def prog_217 : List Stmt := [
  .param 0 0,
  .elem 2 0,
  .asRec 3 2 1]

def table_217 : Pts := [
  { top := [.root 0], kids := [.inner 0], deep := [.inner 0] },
  {},
  { top := [.inner 0], kids := [.inner 0], deep := [.inner 0] },
  { top := [.inner 0], kids := [.recd 0], deep := [.recd 0] }]

/-- peptacular.proforma.proforma_parser.ProFormaAnnotation.has_labile_mods -/
def prog_218 : List Stmt := [
  .param 0 0,
  .elem 2 0,
  .asRec 3 2 1]

def table_218 : Pts := [
  { top := [.root 0], kids := [.inner 0], deep := [.inner 0] },
  {},
  { top := [.inner 0], kids := [.inner 0], deep := [.inner 0] },
  { top := [.inner 0], kids := [.recd 0], deep := [.recd 0] }]

/-- peptacular.proforma.proforma_parser.ProFormaAnnotation.has_mods -/
def prog_219 : List Stmt := [
  .param 0 0,
  .call 2 217 [some 0],
  .call 3 222 [some 0],
  .call 4 218 [some 0],
  .call 5 223 [some 0],
  .call 6 220 [some 0],
  .call 7 213 [some 0],
  .call 8 214 [some 0],
  .call 9 216 [some 0],
  .call 10 211 [some 0],
  .call 11 212 [some 0],
  .pack 12 [2, 3, 4, 5, 6, 7, 8, 9, 10, 11]]

def table_219 : Pts := [
  { top := [.root 0], kids := [.inner 0], deep := [.inner 0] },
  {},
  {},
  {},
  {},
  {},
  {},
  {},
  {},
  {},
  {},
  {},
  { top := [.loc 12], kids := [], deep := [] }]

/-- peptacular.proforma.proforma_parser.ProFormaAnnotation.has_nterm_mods -/
def prog_220 : List Stmt := [
  .param 0 0,
  .elem 2 0,
  .asRec 3 2 1]

def table_220 : Pts := [
  { top := [.root 0], kids := [.inner 0], deep := [.inner 0] },
  {},
  { top := [.inner 0], kids := [.inner 0], deep := [.inner 0] },
  { top := [.inner 0], kids := [.recd 0], deep := [.recd 0] }]

/-- peptacular.proforma.proforma_parser.ProFormaAnnotation.has_sequence -/
def prog_221 : List Stmt := [
  .param 0 0]

def table_221 : Pts := [
  { top := [.root 0], kids := [.inner 0], deep := [.inner 0] }]

/-- peptacular.proforma.proforma_parser.ProFormaAnnotation.has_static_mods -/
def prog_222 : List Stmt := [
  .param 0 0,
  .elem 2 0,
  .asRec 3 2 1]

def table_222 : Pts := [
  { top := [.root 0], kids := [.inner 0], deep := [.inner 0] },
  {},
  { top := [.inner 0], kids := [.inner 0], deep := [.inner 0] },
  { top := [.inner 0], kids := [.recd 0], deep := [.recd 0] }]

/-- peptacular.proforma.proforma_parser.ProFormaAnnotation.has_unknown_mods -/
def prog_223 : List Stmt := [
  .param 0 0,
  .elem 2 0,
  .asRec 3 2 1]

def table_223 : Pts := [
  { top := [.root 0], kids := [.inner 0], deep := [.inner 0] },
  {},
  { top := [.inner 0], kids := [.inner 0], deep := [.inner 0] },
  { top := [.inner 0], kids := [.recd 0], deep := [.recd 0] }]

/-- peptacular.proforma.proforma_parser.ProFormaAnnotation.internal_mods -/
def prog_224 : List Stmt := [
  .param 0 0,
  .elem 2 0,
  .asRec 3 2 2,
  .alias 1 [3]]

def table_224 : Pts := [
  { top := [.root 0], kids := [.inner 0], deep := [.inner 0] },
  { top := [.inner 0], kids := [.inner 0], deep := [.recd 0] },
  { top := [.inner 0], kids := [.inner 0], deep := [.inner 0] },
  { top := [.inner 0], kids := [.inner 0], deep := [.recd 0] }]

/-- peptacular.proforma.proforma_parser.ProFormaAnnotation.internal_mods.setter -/
def prog_225 : List Stmt := [
  .param 0 0,
  .param 1 1,
  .write 0,
  .call 3 155 [some 1],
  .asRec 4 3 2,
  .alias 5 [4],
  .asRec 6 5 2,
  .fresh 7,
  .asRec 8 7 2,
  .store 0 8,
  .alias 9 [1, 5]]

def table_225 : Pts := [
  { top := [.root 0], kids := [.inner 0, .loc 7], deep := [.inner 0] },
  { top := [.root 1], kids := [.inner 1], deep := [.inner 1] },
  {},
  { top := [.loc 3], kids := [.loc 3], deep := [.recd 1, .loc 3] },
  { top := [.loc 3], kids := [.loc 3], deep := [.recd 1, .loc 3] },
  { top := [.loc 3], kids := [.loc 3], deep := [.recd 1, .loc 3] },
  { top := [.loc 3], kids := [.loc 3], deep := [.recd 1, .loc 3] },
  { top := [.loc 7], kids := [], deep := [] },
  { top := [.loc 7], kids := [], deep := [] },
  { top := [.root 1, .loc 3], kids := [.inner 1, .loc 3], deep := [.inner 1, .recd 1, .loc 3] }]

/-- peptacular.proforma.proforma_parser.ProFormaAnnotation.intervals -/
def prog_226 : List Stmt := [
  .param 0 0,
  .elem 2 0,
  .asRec 3 2 1,
  .alias 1 [3]]

def table_226 : Pts := [
  { top := [.root 0], kids := [.inner 0], deep := [.inner 0] },
  { top := [.inner 0], kids := [.recd 0], deep := [.recd 0] },
  { top := [.inner 0], kids := [.inner 0], deep := [.inner 0] },
  { top := [.inner 0], kids := [.recd 0], deep := [.recd 0] }]

/-- peptacular.proforma.proforma_parser.ProFormaAnnotation.intervals.setter -/
def prog_227 : List Stmt := [
  .param 0 0,
  .param 1 1,
  .write 0,
  .call 3 157 [some 1],
  .asRec 4 3 1,
  .alias 5 [4],
  .asRec 6 5 1,
  .fresh 7,
  .asRec 8 7 1,
  .store 0 8,
  .alias 9 [1, 5]]

def table_227 : Pts := [
  { top := [.root 0], kids := [.inner 0, .loc 7], deep := [.inner 0] },
  { top := [.root 1], kids := [.inner 1], deep := [.inner 1] },
  {},
  { top := [.loc 3], kids := [.recTop 1, .loc 3, .recd 1], deep := [.recd 1, .loc 3] },
  { top := [.loc 3], kids := [.recTop 1, .loc 3, .recd 1], deep := [.recd 1, .loc 3] },
  { top := [.loc 3], kids := [.recTop 1, .loc 3, .recd 1], deep := [.recd 1, .loc 3] },
  { top := [.loc 3], kids := [.recTop 1, .loc 3, .recd 1], deep := [.recd 1, .loc 3] },
  { top := [.loc 7], kids := [], deep := [] },
  { top := [.loc 7], kids := [], deep := [] },
  { top := [.root 1, .loc 3], kids := [.inner 1, .recTop 1, .loc 3, .recd 1], deep := [.inner 1, .recd 1, .loc 3] }]

/-- peptacular.proforma.proforma_parser.ProFormaAnnotation.is_subsequence -/
def prog_228 : List Stmt := [
  .param 0 0,
  .param 1 1,
  .shallow 3 [],
  .elem 4 3,
  .alias 5 [4],
  .pack 6 [],
  .elem 9 6,
  .alias 8 [9],
  .call 10 262 [some 1, some 8, none, none],
  .alias 7 [10]]

def table_228 : Pts := [
  { top := [.root 0], kids := [.inner 0], deep := [.inner 0] },
  { top := [.root 1], kids := [.inner 1], deep := [.inner 1] },
  {},
  { top := [.loc 3], kids := [], deep := [] },
  {},
  {},
  { top := [.loc 6], kids := [], deep := [] },
  { top := [.loc 10], kids := [.loc 10], deep := [.loc 10] },
  {},
  {},
  { top := [.loc 10], kids := [.loc 10], deep := [.loc 10] }]

/-- peptacular.proforma.proforma_parser.ProFormaAnnotation.isotope_mods -/
def prog_229 : List Stmt := [
  .param 0 0,
  .elem 2 0,
  .asRec 3 2 1,
  .alias 1 [3]]

def table_229 : Pts := [
  { top := [.root 0], kids := [.inner 0], deep := [.inner 0] },
  { top := [.inner 0], kids := [.recd 0], deep := [.recd 0] },
  { top := [.inner 0], kids := [.inner 0], deep := [.inner 0] },
  { top := [.inner 0], kids := [.recd 0], deep := [.recd 0] }]

/-- peptacular.proforma.proforma_parser.ProFormaAnnotation.isotope_mods.setter -/
def prog_230 : List Stmt := [
  .param 0 0,
  .param 1 1,
  .write 0,
  .call 3 159 [some 1],
  .asRec 4 3 1,
  .alias 5 [4],
  .asRec 6 5 1,
  .fresh 7,
  .asRec 8 7 1,
  .store 0 8,
  .alias 9 [1, 5]]

def table_230 : Pts := [
  { top := [.root 0], kids := [.inner 0, .loc 7], deep := [.inner 0] },
  { top := [.root 1], kids := [.inner 1], deep := [.inner 1] },
  {},
  { top := [.loc 3], kids := [.recTop 1, .loc 3, .recd 1], deep := [.recd 1, .recTop 1] },
  { top := [.loc 3], kids := [.recTop 1, .loc 3, .recd 1], deep := [.recd 1, .recTop 1] },
  { top := [.loc 3], kids := [.recTop 1, .loc 3, .recd 1], deep := [.recd 1, .recTop 1] },
  { top := [.loc 3], kids := [.recTop 1, .loc 3, .recd 1], deep := [.recd 1, .recTop 1] },
  { top := [.loc 7], kids := [], deep := [] },
  { top := [.loc 7], kids := [], deep := [] },
  { top := [.root 1, .loc 3], kids := [.inner 1, .recTop 1, .loc 3, .recd 1], deep := [.inner 1, .recd 1, .recTop 1] }]

/-- peptacular.proforma.proforma_parser.ProFormaAnnotation.labile_mods -/
def prog_231 : List Stmt := [
  .param 0 0,
  .elem 2 0,
  .asRec 3 2 1,
  .alias 1 [3]]

def table_231 : Pts := [
  { top := [.root 0], kids := [.inner 0], deep := [.inner 0] },
  { top := [.inner 0], kids := [.recd 0], deep := [.recd 0] },
  { top := [.inner 0], kids := [.inner 0], deep := [.inner 0] },
  { top := [.inner 0], kids := [.recd 0], deep := [.recd 0] }]

/-- peptacular.proforma.proforma_parser.ProFormaAnnotation.labile_mods.setter -/
def prog_232 : List Stmt := [
  .param 0 0,
  .param 1 1,
  .write 0,
  .call 3 159 [some 1],
  .asRec 4 3 1,
  .alias 5 [4],
  .asRec 6 5 1,
  .fresh 7,
  .asRec 8 7 1,
  .store 0 8,
  .alias 9 [1, 5]]

def table_232 : Pts := [
  { top := [.root 0], kids := [.inner 0, .loc 7], deep := [.inner 0] },
  { top := [.root 1], kids := [.inner 1], deep := [.inner 1] },
  {},
  { top := [.loc 3], kids := [.recTop 1, .loc 3, .recd 1], deep := [.recd 1, .recTop 1] },
  { top := [.loc 3], kids := [.recTop 1, .loc 3, .recd 1], deep := [.recd 1, .recTop 1] },
  { top := [.loc 3], kids := [.recTop 1, .loc 3, .recd 1], deep := [.recd 1, .recTop 1] },
  { top := [.loc 3], kids := [.recTop 1, .loc 3, .recd 1], deep := [.recd 1, .recTop 1] },
  { top := [.loc 7], kids := [], deep := [] },
  { top := [.loc 7], kids := [], deep := [] },
  { top := [.root 1, .loc 3], kids := [.inner 1, .recTop 1, .loc 3, .recd 1], deep := [.inner 1, .recd 1, .recTop 1] }]

/-- peptacular.proforma.proforma_parser.ProFormaAnnotation.mod_dict -/
def prog_233 : List Stmt := [
  .param 0 0,
  .elem 2 0,
  .asRec 3 2 1,
  .elem 4 0,
  .asRec 5 4 1,
  .elem 6 0,
  .asRec 7 6 1,
  .elem 8 0,
  .asRec 9 8 1,
  .elem 10 0,
  .asRec 11 10 1,
  .elem 12 0,
  .asRec 13 12 1,
  .elem 14 0,
  .asRec 15 14 1,
  .elem 16 0,
  .asRec 17 16 1,
  .pack 18 [3, 5, 7, 9, 11, 13, 15, 17],
  .shallow 19 [18],
  .elem 20 19,
  .elem 22 20,
  .alias 23 [22],
  .pack 24 [23],
  .elem 25 24,
  .pack 26 [25],
  .alias 27 [26],
  .elem 28 0,
  .elem 29 0,
  .shallow 30 [29],
  .elem 33 30,
  .elem 34 33,
  .alias 32 [34],
  .store 27 32,
  .fresh 35,
  .alias 1 [35]]

def table_233 : Pts := [
  { top := [.root 0], kids := [.inner 0], deep := [.inner 0] },
  { top := [.loc 35], kids := [], deep := [] },
  { top := [.inner 0], kids := [.inner 0], deep := [.inner 0] },
  { top := [.inner 0], kids := [.recd 0], deep := [.recd 0] },
  { top := [.inner 0], kids := [.inner 0], deep := [.inner 0] },
  { top := [.inner 0], kids := [.recd 0], deep := [.recd 0] },
  { top := [.inner 0], kids := [.inner 0], deep := [.inner 0] },
  { top := [.inner 0], kids := [.recd 0], deep := [.recd 0] },
  { top := [.inner 0], kids := [.inner 0], deep := [.inner 0] },
  { top := [.inner 0], kids := [.recd 0], deep := [.recd 0] },
  { top := [.inner 0], kids := [.inner 0], deep := [.inner 0] },
  { top := [.inner 0], kids := [.recd 0], deep := [.recd 0] },
  { top := [.inner 0], kids := [.inner 0], deep := [.inner 0] },
  { top := [.inner 0], kids := [.recd 0], deep := [.recd 0] },
  { top := [.inner 0], kids := [.inner 0], deep := [.inner 0] },
  { top := [.inner 0], kids := [.recd 0], deep := [.recd 0] },
  { top := [.inner 0], kids := [.inner 0], deep := [.inner 0] },
  { top := [.inner 0], kids := [.recd 0], deep := [.recd 0] },
  { top := [.loc 18], kids := [.inner 0], deep := [.recd 0] },
  { top := [.loc 19], kids := [.inner 0], deep := [.recd 0] },
  { top := [.inner 0], kids := [.recd 0], deep := [.recd 0] },
  {},
  { top := [.recd 0], kids := [.recd 0], deep := [.recd 0] },
  { top := [.recd 0], kids := [.recd 0], deep := [.recd 0] },
  { top := [.loc 24], kids := [.recd 0], deep := [.recd 0] },
  { top := [.recd 0], kids := [.recd 0], deep := [.recd 0] },
  { top := [.loc 26], kids := [.recd 0, .inner 0], deep := [.recd 0, .inner 0] },
  { top := [.loc 26], kids := [.recd 0, .inner 0], deep := [.recd 0, .inner 0] },
  { top := [.inner 0], kids := [.inner 0], deep := [.inner 0] },
  { top := [.inner 0], kids := [.inner 0], deep := [.inner 0] },
  { top := [.loc 30], kids := [.inner 0], deep := [.inner 0] },
  {},
  { top := [.inner 0], kids := [.inner 0], deep := [.inner 0] },
  { top := [.inner 0], kids := [.inner 0], deep := [.inner 0] },
  { top := [.inner 0], kids := [.inner 0], deep := [.inner 0] },
  { top := [.loc 35], kids := [], deep := [] }]

/-- peptacular.proforma.proforma_parser.ProFormaAnnotation.nterm_mods -/
def prog_234 : List Stmt := [
  .param 0 0,
  .elem 2 0,
  .asRec 3 2 1,
  .alias 1 [3]]

def table_234 : Pts := [
  { top := [.root 0], kids := [.inner 0], deep := [.inner 0] },
  { top := [.inner 0], kids := [.recd 0], deep := [.recd 0] },
  { top := [.inner 0], kids := [.inner 0], deep := [.inner 0] },
  { top := [.inner 0], kids := [.recd 0], deep := [.recd 0] }]

/-- peptacular.proforma.proforma_parser.ProFormaAnnotation.nterm_mods.setter -/
def prog_235 : List Stmt := [
  .param 0 0,
  .param 1 1,
  .write 0,
  .call 3 159 [some 1],
  .asRec 4 3 1,
  .alias 5 [4],
  .asRec 6 5 1,
  .fresh 7,
  .asRec 8 7 1,
  .store 0 8,
  .alias 9 [1, 5]]

def table_235 : Pts := [
  { top := [.root 0], kids := [.inner 0, .loc 7], deep := [.inner 0] },
  { top := [.root 1], kids := [.inner 1], deep := [.inner 1] },
  {},
  { top := [.loc 3], kids := [.recTop 1, .loc 3, .recd 1], deep := [.recd 1, .recTop 1] },
  { top := [.loc 3], kids := [.recTop 1, .loc 3, .recd 1], deep := [.recd 1, .recTop 1] },
  { top := [.loc 3], kids := [.recTop 1, .loc 3, .recd 1], deep := [.recd 1, .recTop 1] },
  { top := [.loc 3], kids := [.recTop 1, .loc 3, .recd 1], deep := [.recd 1, .recTop 1] },
  { top := [.loc 7], kids := [], deep := [] },
  { top := [.loc 7], kids := [], deep := [] },
  { top := [.root 1, .loc 3], kids := [.inner 1, .recTop 1, .loc 3, .recd 1], deep := [.inner 1, .recd 1, .recTop 1] }]

/-- peptacular.proforma.proforma_parser.ProFormaAnnotation.permutations -/
def prog_236 : List Stmt := [
  .param 0 0,
  .param 1 1,
  .alias 4 [3, 1],
  .call 5 257 [some 0, none],
  .alias 6 [5],
  .call 7 255 [some 0, none],
  .alias 8 [7],
  .call 9 202 [some 0],
  .alias 10 [9],
  .call 11 245 [some 10],
  .alias 12 [11],
  .elem 13 12,
  .store 10 13,
  .call 14 266 [some 10],
  .elem 15 14,
  .alias 16 [15],
  .call 17 254 [some 16, none],
  .pack 18 [17],
  .leaf 19 18,
  .alias 20 [19],
  .leaf 21 20,
  .shallow 22 [21],
  .elem 23 22,
  .alias 24 [23],
  .call 25 311 [none],
  .pack 26 [25],
  .alias 2 [26]]

def table_236 : Pts := [
  { top := [.root 0], kids := [.inner 0], deep := [.inner 0] },
  { top := [.root 1], kids := [.inner 1], deep := [.inner 1] },
  { top := [.loc 26], kids := [.loc 25], deep := [.loc 25] },
  {},
  { top := [.root 1], kids := [.inner 1], deep := [.inner 1] },
  {},
  {},
  {},
  {},
  { top := [.loc 9], kids := [.loc 11], deep := [.loc 11] },
  { top := [.loc 9], kids := [.loc 11], deep := [.loc 11] },
  { top := [.loc 11], kids := [.loc 11], deep := [.loc 11] },
  { top := [.loc 11], kids := [.loc 11], deep := [.loc 11] },
  { top := [.loc 11], kids := [.loc 11], deep := [.loc 11] },
  { top := [.loc 14], kids := [.loc 14], deep := [.loc 14] },
  { top := [.loc 14], kids := [.loc 14], deep := [.loc 14] },
  { top := [.loc 14], kids := [.loc 14], deep := [.loc 14] },
  {},
  { top := [.loc 18], kids := [], deep := [] },
  { top := [.loc 18], kids := [], deep := [] },
  { top := [.loc 18], kids := [], deep := [] },
  { top := [.loc 18], kids := [], deep := [] },
  { top := [.loc 22], kids := [], deep := [] },
  {},
  {},
  { top := [.loc 25], kids := [.loc 25], deep := [.loc 25] },
  { top := [.loc 26], kids := [.loc 25], deep := [.loc 25] }]

/-- peptacular.proforma.proforma_parser.ProFormaAnnotation.pop_charge -/
def prog_237 : List Stmt := [
  .param 0 0,
  .call 3 191 [some 0, none]]

def table_237 : Pts := [
  { top := [.root 0], kids := [.inner 0], deep := [.inner 0] },
  {},
  {},
  {}]

/-- peptacular.proforma.proforma_parser.ProFormaAnnotation.pop_charge_adducts -/
def prog_238 : List Stmt := [
  .param 0 0,
  .elem 2 0,
  .asRec 3 2 1,
  .alias 4 [3],
  .call 5 193 [some 0, none],
  .asRec 6 4 1]

def table_238 : Pts := [
  { top := [.root 0], kids := [.inner 0, .loc 5], deep := [.inner 0] },
  {},
  { top := [.inner 0, .loc 5], kids := [.inner 0], deep := [.inner 0] },
  { top := [.inner 0, .loc 5], kids := [.recd 0], deep := [.recd 0] },
  { top := [.inner 0, .loc 5], kids := [.recd 0], deep := [.recd 0] },
  {},
  { top := [.inner 0, .loc 5], kids := [.recd 0], deep := [.recd 0] }]

/-- peptacular.proforma.proforma_parser.ProFormaAnnotation.pop_cterm_mods -/
def prog_239 : List Stmt := [
  .param 0 0,
  .elem 2 0,
  .asRec 3 2 1,
  .alias 4 [3],
  .call 5 207 [some 0, none],
  .asRec 6 4 1,
  .alias 1 [6]]

def table_239 : Pts := [
  { top := [.root 0], kids := [.inner 0, .loc 5], deep := [.inner 0] },
  { top := [.inner 0, .loc 5], kids := [.recd 0], deep := [.recd 0] },
  { top := [.inner 0, .loc 5], kids := [.inner 0], deep := [.inner 0] },
  { top := [.inner 0, .loc 5], kids := [.recd 0], deep := [.recd 0] },
  { top := [.inner 0, .loc 5], kids := [.recd 0], deep := [.recd 0] },
  {},
  { top := [.inner 0, .loc 5], kids := [.recd 0], deep := [.recd 0] }]

/-- peptacular.proforma.proforma_parser.ProFormaAnnotation.pop_internal_mod -/
def prog_240 : List Stmt := [
  .param 0 0,
  .param 1 1,
  .call 3 214 [some 0],
  .elem 4 0,
  .elem 5 0,
  .write 5,
  .elem 6 5,
  .asRec 7 6 1,
  .alias 2 [7]]

def table_240 : Pts := [
  { top := [.root 0], kids := [.inner 0], deep := [.inner 0] },
  { top := [.root 1], kids := [.inner 1], deep := [.inner 1] },
  { top := [.inner 0], kids := [.recd 0], deep := [.recd 0] },
  {},
  { top := [.inner 0], kids := [.inner 0], deep := [.inner 0] },
  { top := [.inner 0], kids := [.inner 0], deep := [.inner 0] },
  { top := [.inner 0], kids := [.inner 0], deep := [.inner 0] },
  { top := [.inner 0], kids := [.recd 0], deep := [.recd 0] }]

/-- peptacular.proforma.proforma_parser.ProFormaAnnotation.pop_internal_mods -/
def prog_241 : List Stmt := [
  .param 0 0,
  .elem 2 0,
  .alias 3 [2],
  .call 4 225 [some 0, none],
  .asRec 5 3 2,
  .alias 1 [5]]

def table_241 : Pts := [
  { top := [.root 0], kids := [.inner 0, .loc 4], deep := [.inner 0] },
  { top := [.inner 0, .loc 4], kids := [.inner 0], deep := [.recd 0] },
  { top := [.inner 0, .loc 4], kids := [.inner 0], deep := [.inner 0] },
  { top := [.inner 0, .loc 4], kids := [.inner 0], deep := [.inner 0] },
  {},
  { top := [.inner 0, .loc 4], kids := [.inner 0], deep := [.recd 0] }]

/-- peptacular.proforma.proforma_parser.ProFormaAnnotation.pop_intervals -/
def prog_242 : List Stmt := [
  .param 0 0,
  .elem 2 0,
  .asRec 3 2 1,
  .alias 4 [3],
  .call 5 227 [some 0, none],
  .asRec 6 4 1,
  .alias 1 [6]]

def table_242 : Pts := [
  { top := [.root 0], kids := [.inner 0, .loc 5], deep := [.inner 0] },
  { top := [.inner 0, .loc 5], kids := [.recd 0], deep := [.recd 0] },
  { top := [.inner 0, .loc 5], kids := [.inner 0], deep := [.inner 0] },
  { top := [.inner 0, .loc 5], kids := [.recd 0], deep := [.recd 0] },
  { top := [.inner 0, .loc 5], kids := [.recd 0], deep := [.recd 0] },
  {},
  { top := [.inner 0, .loc 5], kids := [.recd 0], deep := [.recd 0] }]

/-- peptacular.proforma.proforma_parser.ProFormaAnnotation.pop_isotope_mods -/
def prog_243 : List Stmt := [
  .param 0 0,
  .elem 2 0,
  .asRec 3 2 1,
  .alias 4 [3],
  .call 5 230 [some 0, none],
  .asRec 6 4 1,
  .alias 1 [6]]

def table_243 : Pts := [
  { top := [.root 0], kids := [.inner 0, .loc 5], deep := [.inner 0] },
  { top := [.inner 0, .loc 5], kids := [.recd 0], deep := [.recd 0] },
  { top := [.inner 0, .loc 5], kids := [.inner 0], deep := [.inner 0] },
  { top := [.inner 0, .loc 5], kids := [.recd 0], deep := [.recd 0] },
  { top := [.inner 0, .loc 5], kids := [.recd 0], deep := [.recd 0] },
  {},
  { top := [.inner 0, .loc 5], kids := [.recd 0], deep := [.recd 0] }]

/-- peptacular.proforma.proforma_parser.ProFormaAnnotation.pop_labile_mods -/
def prog_244 : List Stmt := [
  .param 0 0,
  .elem 2 0,
  .asRec 3 2 1,
  .alias 4 [3],
  .call 5 232 [some 0, none],
  .asRec 6 4 1,
  .alias 1 [6]]

def table_244 : Pts := [
  { top := [.root 0], kids := [.inner 0, .loc 5], deep := [.inner 0] },
  { top := [.inner 0, .loc 5], kids := [.recd 0], deep := [.recd 0] },
  { top := [.inner 0, .loc 5], kids := [.inner 0], deep := [.inner 0] },
  { top := [.inner 0, .loc 5], kids := [.recd 0], deep := [.recd 0] },
  { top := [.inner 0, .loc 5], kids := [.recd 0], deep := [.recd 0] },
  {},
  { top := [.inner 0, .loc 5], kids := [.recd 0], deep := [.recd 0] }]

/-- peptacular.proforma.proforma_parser.ProFormaAnnotation.pop_mods -/
def prog_245 : List Stmt := [
  .param 0 0,
  .pack 2 [],
  .alias 3 [2],
  .call 4 217 [some 0],
  .call 5 243 [some 0],
  .asRec 6 5 1,
  .store 3 6,
  .call 7 222 [some 0],
  .call 8 247 [some 0],
  .asRec 9 8 1,
  .store 3 9,
  .call 10 218 [some 0],
  .call 11 244 [some 0],
  .asRec 12 11 1,
  .store 3 12,
  .call 13 223 [some 0],
  .call 14 248 [some 0],
  .asRec 15 14 1,
  .store 3 15,
  .call 16 220 [some 0],
  .call 17 246 [some 0],
  .asRec 18 17 1,
  .store 3 18,
  .call 19 213 [some 0],
  .call 20 239 [some 0],
  .asRec 21 20 1,
  .store 3 21,
  .call 22 212 [some 0],
  .call 23 238 [some 0],
  .store 3 23,
  .call 24 211 [some 0],
  .call 25 237 [some 0],
  .store 3 25,
  .call 26 214 [some 0],
  .call 27 241 [some 0],
  .asRec 28 27 2,
  .store 3 28,
  .call 29 216 [some 0],
  .call 30 242 [some 0],
  .asRec 31 30 1,
  .store 3 31,
  .alias 1 [3]]

def table_245 : Pts := [
  { top := [.root 0], kids := [.inner 0, .loc 5, .loc 8, .loc 11, .loc 14, .loc 17, .loc 20, .loc 23, .loc 27, .loc 30], deep := [.inner 0] },
  { top := [.loc 2], kids := [.inner 0, .loc 5, .loc 8, .loc 11, .loc 14, .loc 17, .loc 20, .loc 23, .loc 27, .loc 30], deep := [.recd 0, .loc 5, .loc 8, .loc 11, .loc 14, .loc 17, .inner 0, .loc 20, .loc 23, .loc 27, .loc 30] },
  { top := [.loc 2], kids := [.inner 0, .loc 5, .loc 8, .loc 11, .loc 14, .loc 17, .loc 20, .loc 23, .loc 27, .loc 30], deep := [.recd 0, .loc 5, .loc 8, .loc 11, .loc 14, .loc 17, .inner 0, .loc 20, .loc 23, .loc 27, .loc 30] },
  { top := [.loc 2], kids := [.inner 0, .loc 5, .loc 8, .loc 11, .loc 14, .loc 17, .loc 20, .loc 23, .loc 27, .loc 30], deep := [.recd 0, .loc 5, .loc 8, .loc 11, .loc 14, .loc 17, .inner 0, .loc 20, .loc 23, .loc 27, .loc 30] },
  {},
  { top := [.inner 0, .loc 5, .loc 8, .loc 11, .loc 14, .loc 17, .loc 20, .loc 23, .loc 27, .loc 30], kids := [.recd 0, .loc 5, .loc 8, .loc 11, .loc 14, .loc 17, .loc 20, .loc 23, .loc 27, .loc 30], deep := [.recd 0, .loc 5, .loc 8, .loc 11, .loc 14, .loc 17, .loc 20, .loc 23, .loc 27, .loc 30] },
  { top := [.inner 0, .loc 5, .loc 8, .loc 11, .loc 14, .loc 17, .loc 20, .loc 23, .loc 27, .loc 30], kids := [.recd 0, .loc 5, .loc 8, .loc 11, .loc 14, .loc 17, .loc 20, .loc 23, .loc 27, .loc 30], deep := [.recd 0, .loc 5, .loc 8, .loc 11, .loc 14, .loc 17, .loc 20, .loc 23, .loc 27, .loc 30] },
  {},
  { top := [.inner 0, .loc 5, .loc 8, .loc 11, .loc 14, .loc 17, .loc 20, .loc 23, .loc 27, .loc 30], kids := [.recd 0, .loc 5, .loc 8, .loc 11, .loc 14, .loc 17, .loc 20, .loc 23, .loc 27, .loc 30], deep := [.recd 0, .loc 5, .loc 8, .loc 11, .loc 14, .loc 17, .loc 20, .loc 23, .loc 27, .loc 30] },
  { top := [.inner 0, .loc 5, .loc 8, .loc 11, .loc 14, .loc 17, .loc 20, .loc 23, .loc 27, .loc 30], kids := [.recd 0, .loc 5, .loc 8, .loc 11, .loc 14, .loc 17, .loc 20, .loc 23, .loc 27, .loc 30], deep := [.recd 0, .loc 5, .loc 8, .loc 11, .loc 14, .loc 17, .loc 20, .loc 23, .loc 27, .loc 30] },
  {},
  { top := [.inner 0, .loc 5, .loc 8, .loc 11, .loc 14, .loc 17, .loc 20, .loc 23, .loc 27, .loc 30], kids := [.recd 0, .loc 5, .loc 8, .loc 11, .loc 14, .loc 17, .loc 20, .loc 23, .loc 27, .loc 30], deep := [.recd 0, .loc 5, .loc 8, .loc 11, .loc 14, .loc 17, .loc 20, .loc 23, .loc 27, .loc 30] },
  { top := [.inner 0, .loc 5, .loc 8, .loc 11, .loc 14, .loc 17, .loc 20, .loc 23, .loc 27, .loc 30], kids := [.recd 0, .loc 5, .loc 8, .loc 11, .loc 14, .loc 17, .loc 20, .loc 23, .loc 27, .loc 30], deep := [.recd 0, .loc 5, .loc 8, .loc 11, .loc 14, .loc 17, .loc 20, .loc 23, .loc 27, .loc 30] },
  {},
  { top := [.inner 0, .loc 5, .loc 8, .loc 11, .loc 14, .loc 17, .loc 20, .loc 23, .loc 27, .loc 30], kids := [.recd 0, .loc 5, .loc 8, .loc 11, .loc 14, .loc 17, .loc 20, .loc 23, .loc 27, .loc 30], deep := [.recd 0, .loc 5, .loc 8, .loc 11, .loc 14, .loc 17, .loc 20, .loc 23, .loc 27, .loc 30] },
  { top := [.inner 0, .loc 5, .loc 8, .loc 11, .loc 14, .loc 17, .loc 20, .loc 23, .loc 27, .loc 30], kids := [.recd 0, .loc 5, .loc 8, .loc 11, .loc 14, .loc 17, .loc 20, .loc 23, .loc 27, .loc 30], deep := [.recd 0, .loc 5, .loc 8, .loc 11, .loc 14, .loc 17, .loc 20, .loc 23, .loc 27, .loc 30] },
  {},
  { top := [.inner 0, .loc 5, .loc 8, .loc 11, .loc 14, .loc 17, .loc 20, .loc 23, .loc 27, .loc 30], kids := [.recd 0, .loc 5, .loc 8, .loc 11, .loc 14, .loc 17, .loc 20, .loc 23, .loc 27, .loc 30], deep := [.recd 0, .loc 5, .loc 8, .loc 11, .loc 14, .loc 17, .loc 20, .loc 23, .loc 27, .loc 30] },
  { top := [.inner 0, .loc 5, .loc 8, .loc 11, .loc 14, .loc 17, .loc 20, .loc 23, .loc 27, .loc 30], kids := [.recd 0, .loc 5, .loc 8, .loc 11, .loc 14, .loc 17, .loc 20, .loc 23, .loc 27, .loc 30], deep := [.recd 0, .loc 5, .loc 8, .loc 11, .loc 14, .loc 17, .loc 20, .loc 23, .loc 27, .loc 30] },
  {},
  { top := [.inner 0, .loc 5, .loc 8, .loc 11, .loc 14, .loc 17, .loc 20, .loc 23, .loc 27, .loc 30], kids := [.recd 0, .loc 5, .loc 8, .loc 11, .loc 14, .loc 17, .loc 20, .loc 23, .loc 27, .loc 30], deep := [.recd 0, .loc 5, .loc 8, .loc 11, .loc 14, .loc 17, .loc 20, .loc 23, .loc 27, .loc 30] },
  { top := [.inner 0, .loc 5, .loc 8, .loc 11, .loc 14, .loc 17, .loc 20, .loc 23, .loc 27, .loc 30], kids := [.recd 0, .loc 5, .loc 8, .loc 11, .loc 14, .loc 17, .loc 20, .loc 23, .loc 27, .loc 30], deep := [.recd 0, .loc 5, .loc 8, .loc 11, .loc 14, .loc 17, .loc 20, .loc 23, .loc 27, .loc 30] },
  {},
  {},
  {},
  {},
  {},
  { top := [.inner 0, .loc 5, .loc 8, .loc 11, .loc 14, .loc 17, .loc 20, .loc 23, .loc 27, .loc 30], kids := [.inner 0, .loc 5, .loc 8, .loc 11, .loc 14, .loc 17, .loc 20, .loc 23, .loc 27, .loc 30], deep := [.recd 0, .loc 5, .loc 8, .loc 11, .loc 14, .loc 17, .loc 20, .loc 23, .loc 27, .loc 30] },
  { top := [.inner 0, .loc 5, .loc 8, .loc 11, .loc 14, .loc 17, .loc 20, .loc 23, .loc 27, .loc 30], kids := [.inner 0, .loc 5, .loc 8, .loc 11, .loc 14, .loc 17, .loc 20, .loc 23, .loc 27, .loc 30], deep := [.recd 0, .loc 5, .loc 8, .loc 11, .loc 14, .loc 17, .loc 20, .loc 23, .loc 27, .loc 30] },
  {},
  { top := [.inner 0, .loc 5, .loc 8, .loc 11, .loc 14, .loc 17, .loc 20, .loc 23, .loc 27, .loc 30], kids := [.recd 0, .loc 5, .loc 8, .loc 11, .loc 14, .loc 17, .loc 20, .loc 23, .loc 27, .loc 30], deep := [.recd 0, .loc 5, .loc 8, .loc 11, .loc 14, .loc 17, .loc 20, .loc 23, .loc 27, .loc 30] },
  { top := [.inner 0, .loc 5, .loc 8, .loc 11, .loc 14, .loc 17, .loc 20, .loc 23, .loc 27, .loc 30], kids := [.recd 0, .loc 5, .loc 8, .loc 11, .loc 14, .loc 17, .loc 20, .loc 23, .loc 27, .loc 30], deep := [.recd 0, .loc 5, .loc 8, .loc 11, .loc 14, .loc 17, .loc 20, .loc 23, .loc 27, .loc 30] }]

/-- peptacular.proforma.proforma_parser.ProFormaAnnotation.pop_nterm_mods -/
def prog_246 : List Stmt := [
  .param 0 0,
  .elem 2 0,
  .asRec 3 2 1,
  .alias 4 [3],
  .call 5 235 [some 0, none],
  .asRec 6 4 1,
  .alias 1 [6]]

def table_246 : Pts := [
  { top := [.root 0], kids := [.inner 0, .loc 5], deep := [.inner 0] },
  { top := [.inner 0, .loc 5], kids := [.recd 0], deep := [.recd 0] },
  { top := [.inner 0, .loc 5], kids := [.inner 0], deep := [.inner 0] },
  { top := [.inner 0, .loc 5], kids := [.recd 0], deep := [.recd 0] },
  { top := [.inner 0, .loc 5], kids := [.recd 0], deep := [.recd 0] },
  {},
  { top := [.inner 0, .loc 5], kids := [.recd 0], deep := [.recd 0] }]

/-- peptacular.proforma.proforma_parser.ProFormaAnnotation.pop_static_mods -/
def prog_247 : List Stmt := [
  .param 0 0,
  .elem 2 0,
  .asRec 3 2 1,
  .alias 4 [3],
  .call 5 268 [some 0, none],
  .asRec 6 4 1,
  .alias 1 [6]]

def table_247 : Pts := [
  { top := [.root 0], kids := [.inner 0, .loc 5], deep := [.inner 0] },
  { top := [.inner 0, .loc 5], kids := [.recd 0], deep := [.recd 0] },
  { top := [.inner 0, .loc 5], kids := [.inner 0], deep := [.inner 0] },
  { top := [.inner 0, .loc 5], kids := [.recd 0], deep := [.recd 0] },
  { top := [.inner 0, .loc 5], kids := [.recd 0], deep := [.recd 0] },
  {},
  { top := [.inner 0, .loc 5], kids := [.recd 0], deep := [.recd 0] }]

/-- peptacular.proforma.proforma_parser.ProFormaAnnotation.pop_unknown_mods -/
def prog_248 : List Stmt := [
  .param 0 0,
  .elem 2 0,
  .asRec 3 2 1,
  .alias 4 [3],
  .call 5 272 [some 0, none],
  .asRec 6 4 1,
  .alias 1 [6]]

def table_248 : Pts := [
  { top := [.root 0], kids := [.inner 0, .loc 5], deep := [.inner 0] },
  { top := [.inner 0, .loc 5], kids := [.recd 0], deep := [.recd 0] },
  { top := [.inner 0, .loc 5], kids := [.inner 0], deep := [.inner 0] },
  { top := [.inner 0, .loc 5], kids := [.recd 0], deep := [.recd 0] },
  { top := [.inner 0, .loc 5], kids := [.recd 0], deep := [.recd 0] },
  {},
  { top := [.inner 0, .loc 5], kids := [.recd 0], deep := [.recd 0] }]

/-- peptacular.proforma.proforma_parser.ProFormaAnnotation.product -/
def prog_249 : List Stmt := [
  .param 0 0,
  .param 1 1,
  .alias 4 [3, 1],
  .call 5 257 [some 0, none],
  .alias 6 [5],
  .call 7 255 [some 0, none],
  .alias 8 [7],
  .call 9 202 [some 0],
  .alias 10 [9],
  .call 11 245 [some 10],
  .alias 12 [11],
  .elem 13 12,
  .store 10 13,
  .call 14 266 [some 10],
  .elem 15 14,
  .alias 16 [15],
  .call 17 254 [some 16, none],
  .pack 18 [17],
  .leaf 19 18,
  .alias 20 [19],
  .leaf 21 20,
  .shallow 22 [21],
  .elem 23 22,
  .alias 24 [23],
  .call 25 311 [none],
  .pack 26 [25],
  .alias 2 [26]]

def table_249 : Pts := [
  { top := [.root 0], kids := [.inner 0], deep := [.inner 0] },
  { top := [.root 1], kids := [.inner 1], deep := [.inner 1] },
  { top := [.loc 26], kids := [.loc 25], deep := [.loc 25] },
  {},
  { top := [.root 1], kids := [.inner 1], deep := [.inner 1] },
  {},
  {},
  {},
  {},
  { top := [.loc 9], kids := [.loc 11], deep := [.loc 11] },
  { top := [.loc 9], kids := [.loc 11], deep := [.loc 11] },
  { top := [.loc 11], kids := [.loc 11], deep := [.loc 11] },
  { top := [.loc 11], kids := [.loc 11], deep := [.loc 11] },
  { top := [.loc 11], kids := [.loc 11], deep := [.loc 11] },
  { top := [.loc 14], kids := [.loc 14], deep := [.loc 14] },
  { top := [.loc 14], kids := [.loc 14], deep := [.loc 14] },
  { top := [.loc 14], kids := [.loc 14], deep := [.loc 14] },
  {},
  { top := [.loc 18], kids := [], deep := [] },
  { top := [.loc 18], kids := [], deep := [] },
  { top := [.loc 18], kids := [], deep := [] },
  { top := [.loc 18], kids := [], deep := [] },
  { top := [.loc 22], kids := [], deep := [] },
  {},
  {},
  { top := [.loc 25], kids := [.loc 25], deep := [.loc 25] },
  { top := [.loc 26], kids := [.loc 25], deep := [.loc 25] }]

/-- peptacular.proforma.proforma_parser.ProFormaAnnotation.reverse[inplace=False] -/
def prog_250 : List Stmt := [
  .param 0 0,
  .param 1 1,
  .param 2 2,
  .pack 5 [],
  .alias 6 [5],
  .elem 7 0,
  .elem 8 0,
  .shallow 9 [8],
  .elem 13 9,
  .elem 14 13,
  .alias 10 [14],
  .fresh 15,
  .store 6 15,
  .alias 17 [16, 6],
  .elem 19 0,
  .asRec 20 19 1,
  .pack 21 [],
  .alias 22 [21],
  .elem 23 0,
  .asRec 24 23 1,
  .shallow 25 [24],
  .asRec 26 25 1,
  .elem 30 26,
  .asRec 31 30 0,
  .alias 27 [31],
  .asRec 32 27 0,
  .asRec 33 27 0,
  .asRec 34 27 0,
  .asRec 35 27 0,
  .pack 36 [],
  .asRec 37 27 0,
  .asRec 38 27 0,
  .elem 39 38,
  .asRec 40 39 1,
  .fresh 41,
  .asRec 42 41 1,
  .pack 43 [42],
  .asRec 44 43 0,
  .store 22 44,
  .alias 45 [22, 18],
  .elem 46 0,
  .asRec 47 46 1,
  .alias 48 [47],
  .elem 49 0,
  .asRec 50 49 1,
  .alias 51 [50],
  .elem 52 0,
  .asRec 53 52 1,
  .alias 54 [53],
  .elem 55 0,
  .asRec 56 55 1,
  .alias 57 [56],
  .alias 58 [51, 57],
  .alias 59 [48, 54],
  .fresh 60,
  .alias 61 [60],
  .write 61,
  .store 61 17,
  .asRec 62 59 1,
  .fresh 63,
  .asRec 64 63 1,
  .store 61 64,
  .asRec 65 58 1,
  .fresh 66,
  .asRec 67 66 1,
  .store 61 67,
  .store 61 45,
  .alias 3 [61]]

def table_250 : Pts := [
  { top := [.root 0], kids := [.inner 0], deep := [.inner 0] },
  { top := [.root 1], kids := [.inner 1], deep := [.inner 1] },
  { top := [.root 2], kids := [.inner 2], deep := [.inner 2] },
  { top := [.loc 60], kids := [.loc 5, .loc 63, .loc 66, .loc 21], deep := [.loc 15, .loc 43, .loc 41] },
  {},
  { top := [.loc 5], kids := [.loc 15], deep := [] },
  { top := [.loc 5], kids := [.loc 15], deep := [] },
  { top := [.inner 0], kids := [.inner 0], deep := [.inner 0] },
  { top := [.inner 0], kids := [.inner 0], deep := [.inner 0] },
  { top := [.loc 9], kids := [.inner 0], deep := [.inner 0] },
  { top := [.inner 0], kids := [.inner 0], deep := [.inner 0] },
  {},
  {},
  { top := [.inner 0], kids := [.inner 0], deep := [.inner 0] },
  { top := [.inner 0], kids := [.inner 0], deep := [.inner 0] },
  { top := [.loc 15], kids := [], deep := [] },
  {},
  { top := [.loc 5], kids := [.loc 15], deep := [] },
  {},
  { top := [.inner 0], kids := [.inner 0], deep := [.inner 0] },
  { top := [.inner 0], kids := [.recd 0], deep := [.recd 0] },
  { top := [.loc 21], kids := [.loc 43], deep := [.loc 41] },
  { top := [.loc 21], kids := [.loc 43], deep := [.loc 41] },
  { top := [.inner 0], kids := [.inner 0], deep := [.inner 0] },
  { top := [.inner 0], kids := [.recd 0], deep := [.recd 0] },
  { top := [.loc 25], kids := [.recd 0], deep := [.recd 0] },
  { top := [.loc 25], kids := [.recd 0], deep := [.recd 0] },
  { top := [.recd 0], kids := [.recd 0], deep := [.recd 0] },
  {},
  {},
  { top := [.recd 0], kids := [.recd 0], deep := [.recd 0] },
  { top := [.recd 0], kids := [.recd 0], deep := [.recd 0] },
  { top := [.recd 0], kids := [.recd 0], deep := [.recd 0] },
  { top := [.recd 0], kids := [.recd 0], deep := [.recd 0] },
  { top := [.recd 0], kids := [.recd 0], deep := [.recd 0] },
  { top := [.recd 0], kids := [.recd 0], deep := [.recd 0] },
  { top := [.loc 36], kids := [], deep := [] },
  { top := [.recd 0], kids := [.recd 0], deep := [.recd 0] },
  { top := [.recd 0], kids := [.recd 0], deep := [.recd 0] },
  { top := [.recd 0], kids := [.recd 0], deep := [.recd 0] },
  { top := [.recd 0], kids := [.recd 0], deep := [.recd 0] },
  { top := [.loc 41], kids := [], deep := [] },
  { top := [.loc 41], kids := [], deep := [] },
  { top := [.loc 43], kids := [.loc 41], deep := [] },
  { top := [.loc 43], kids := [.loc 41], deep := [] },
  { top := [.loc 21], kids := [.loc 43], deep := [.loc 41] },
  { top := [.inner 0], kids := [.inner 0], deep := [.inner 0] },
  { top := [.inner 0], kids := [.recd 0], deep := [.recd 0] },
  { top := [.inner 0], kids := [.recd 0], deep := [.recd 0] },
  { top := [.inner 0], kids := [.inner 0], deep := [.inner 0] },
  { top := [.inner 0], kids := [.recd 0], deep := [.recd 0] },
  { top := [.inner 0], kids := [.recd 0], deep := [.recd 0] },
  { top := [.inner 0], kids := [.inner 0], deep := [.inner 0] },
  { top := [.inner 0], kids := [.recd 0], deep := [.recd 0] },
  { top := [.inner 0], kids := [.recd 0], deep := [.recd 0] },
  { top := [.inner 0], kids := [.inner 0], deep := [.inner 0] },
  { top := [.inner 0], kids := [.recd 0], deep := [.recd 0] },
  { top := [.inner 0], kids := [.recd 0], deep := [.recd 0] },
  { top := [.inner 0], kids := [.recd 0], deep := [.recd 0] },
  { top := [.inner 0], kids := [.recd 0], deep := [.recd 0] },
  { top := [.loc 60], kids := [.loc 5, .loc 63, .loc 66, .loc 21], deep := [.loc 15, .loc 43, .loc 41] },
  { top := [.loc 60], kids := [.loc 5, .loc 63, .loc 66, .loc 21], deep := [.loc 15, .loc 43, .loc 41] },
  { top := [.inner 0], kids := [.recd 0], deep := [.recd 0] },
  { top := [.loc 63], kids := [], deep := [] },
  { top := [.loc 63], kids := [], deep := [] },
  { top := [.inner 0], kids := [.recd 0], deep := [.recd 0] },
  { top := [.loc 66], kids := [], deep := [] },
  { top := [.loc 66], kids := [], deep := [] }]

/-- peptacular.proforma.proforma_parser.ProFormaAnnotation.reverse[inplace=True] -/
def prog_251 : List Stmt := [
  .param 0 0,
  .param 1 1,
  .param 2 2,
  .pack 5 [],
  .alias 6 [5],
  .elem 7 0,
  .elem 8 0,
  .shallow 9 [8],
  .elem 13 9,
  .elem 14 13,
  .alias 10 [14],
  .fresh 15,
  .store 6 15,
  .alias 17 [16, 6],
  .elem 19 0,
  .asRec 20 19 1,
  .pack 21 [],
  .alias 22 [21],
  .elem 23 0,
  .asRec 24 23 1,
  .shallow 25 [24],
  .asRec 26 25 1,
  .elem 30 26,
  .asRec 31 30 0,
  .alias 27 [31],
  .asRec 32 27 0,
  .asRec 33 27 0,
  .asRec 34 27 0,
  .asRec 35 27 0,
  .pack 36 [],
  .asRec 37 27 0,
  .asRec 38 27 0,
  .elem 39 38,
  .asRec 40 39 1,
  .fresh 41,
  .asRec 42 41 1,
  .pack 43 [42],
  .asRec 44 43 0,
  .store 22 44,
  .alias 45 [22, 18],
  .elem 46 0,
  .asRec 47 46 1,
  .alias 48 [47],
  .elem 49 0,
  .asRec 50 49 1,
  .alias 51 [50],
  .elem 52 0,
  .asRec 53 52 1,
  .alias 54 [53],
  .elem 55 0,
  .asRec 56 55 1,
  .alias 57 [56],
  .alias 58 [51, 57],
  .alias 59 [48, 54],
  .write 0,
  .store 0 17,
  .asRec 60 59 1,
  .store 0 60,
  .asRec 61 58 1,
  .store 0 61,
  .store 0 45]

def table_251 : Pts := [
  { top := [.root 0], kids := [.inner 0, .loc 5, .loc 21], deep := [.inner 0, .loc 15, .recd 0, .loc 43, .loc 41] },
  { top := [.root 1], kids := [.inner 1], deep := [.inner 1] },
  { top := [.root 2], kids := [.inner 2], deep := [.inner 2] },
  {},
  {},
  { top := [.loc 5], kids := [.loc 15], deep := [] },
  { top := [.loc 5], kids := [.loc 15], deep := [] },
  { top := [.inner 0, .loc 5, .loc 21], kids := [.inner 0, .loc 15, .recd 0, .loc 43, .loc 41], deep := [.inner 0, .loc 15, .recd 0, .loc 43, .loc 41] },
  { top := [.inner 0, .loc 5, .loc 21], kids := [.inner 0, .loc 15, .recd 0, .loc 43, .loc 41], deep := [.inner 0, .loc 15, .recd 0, .loc 43, .loc 41] },
  { top := [.loc 9], kids := [.inner 0, .loc 15, .recd 0, .loc 43, .loc 41], deep := [.inner 0, .loc 15, .recd 0, .loc 43, .loc 41] },
  { top := [.inner 0, .loc 15, .recd 0, .loc 43, .loc 41], kids := [.inner 0, .loc 15, .recd 0, .loc 43, .loc 41], deep := [.inner 0, .loc 15, .recd 0, .loc 43, .loc 41] },
  {},
  {},
  { top := [.inner 0, .loc 15, .recd 0, .loc 43, .loc 41], kids := [.inner 0, .loc 15, .recd 0, .loc 43, .loc 41], deep := [.inner 0, .loc 15, .recd 0, .loc 43, .loc 41] },
  { top := [.inner 0, .loc 15, .recd 0, .loc 43, .loc 41], kids := [.inner 0, .loc 15, .recd 0, .loc 43, .loc 41], deep := [.inner 0, .loc 15, .recd 0, .loc 43, .loc 41] },
  { top := [.loc 15], kids := [], deep := [] },
  {},
  { top := [.loc 5], kids := [.loc 15], deep := [] },
  {},
  { top := [.inner 0, .loc 5, .loc 21], kids := [.inner 0, .loc 15, .recd 0, .loc 43, .loc 41], deep := [.inner 0, .loc 15, .recd 0, .loc 43, .loc 41] },
  { top := [.inner 0, .loc 5, .loc 21], kids := [.recd 0, .loc 15, .loc 43, .loc 41], deep := [.recd 0, .loc 15, .loc 43, .loc 41] },
  { top := [.loc 21], kids := [.loc 43], deep := [.loc 41] },
  { top := [.loc 21], kids := [.loc 43], deep := [.loc 41] },
  { top := [.inner 0, .loc 5, .loc 21], kids := [.inner 0, .loc 15, .recd 0, .loc 43, .loc 41], deep := [.inner 0, .loc 15, .recd 0, .loc 43, .loc 41] },
  { top := [.inner 0, .loc 5, .loc 21], kids := [.recd 0, .loc 15, .loc 43, .loc 41], deep := [.recd 0, .loc 15, .loc 43, .loc 41] },
  { top := [.loc 25], kids := [.recd 0, .loc 15, .loc 43, .loc 41], deep := [.recd 0, .loc 15, .loc 43, .loc 41] },
  { top := [.loc 25], kids := [.recd 0, .loc 15, .loc 43, .loc 41], deep := [.recd 0, .loc 15, .loc 43, .loc 41] },
  { top := [.recd 0, .loc 15, .loc 43, .loc 41], kids := [.recd 0, .loc 15, .loc 43, .loc 41], deep := [.recd 0, .loc 15, .loc 43, .loc 41] },
  {},
  {},
  { top := [.recd 0, .loc 15, .loc 43, .loc 41], kids := [.recd 0, .loc 15, .loc 43, .loc 41], deep := [.recd 0, .loc 15, .loc 43, .loc 41] },
  { top := [.recd 0, .loc 15, .loc 43, .loc 41], kids := [.recd 0, .loc 15, .loc 43, .loc 41], deep := [.recd 0, .loc 15, .loc 43, .loc 41] },
  { top := [.recd 0, .loc 15, .loc 43, .loc 41], kids := [.recd 0, .loc 15, .loc 43, .loc 41], deep := [.recd 0, .loc 15, .loc 43, .loc 41] },
  { top := [.recd 0, .loc 15, .loc 43, .loc 41], kids := [.recd 0, .loc 15, .loc 43, .loc 41], deep := [.recd 0, .loc 15, .loc 43, .loc 41] },
  { top := [.recd 0, .loc 15, .loc 43, .loc 41], kids := [.recd 0, .loc 15, .loc 43, .loc 41], deep := [.recd 0, .loc 15, .loc 43, .loc 41] },
  { top := [.recd 0, .loc 15, .loc 43, .loc 41], kids := [.recd 0, .loc 15, .loc 43, .loc 41], deep := [.recd 0, .loc 15, .loc 43, .loc 41] },
  { top := [.loc 36], kids := [], deep := [] },
  { top := [.recd 0, .loc 15, .loc 43, .loc 41], kids := [.recd 0, .loc 15, .loc 43, .loc 41], deep := [.recd 0, .loc 15, .loc 43, .loc 41] },
  { top := [.recd 0, .loc 15, .loc 43, .loc 41], kids := [.recd 0, .loc 15, .loc 43, .loc 41], deep := [.recd 0, .loc 15, .loc 43, .loc 41] },
  { top := [.recd 0, .loc 15, .loc 43, .loc 41], kids := [.recd 0, .loc 15, .loc 43, .loc 41], deep := [.recd 0, .loc 15, .loc 43, .loc 41] },
  { top := [.recd 0, .loc 15, .loc 43, .loc 41], kids := [.recd 0, .loc 15, .loc 43, .loc 41], deep := [.recd 0, .loc 15, .loc 43, .loc 41] },
  { top := [.loc 41], kids := [], deep := [] },
  { top := [.loc 41], kids := [], deep := [] },
  { top := [.loc 43], kids := [.loc 41], deep := [] },
  { top := [.loc 43], kids := [.loc 41], deep := [] },
  { top := [.loc 21], kids := [.loc 43], deep := [.loc 41] },
  { top := [.inner 0, .loc 5, .loc 21], kids := [.inner 0, .loc 15, .recd 0, .loc 43, .loc 41], deep := [.inner 0, .loc 15, .recd 0, .loc 43, .loc 41] },
  { top := [.inner 0, .loc 5, .loc 21], kids := [.recd 0, .loc 15, .loc 43, .loc 41], deep := [.recd 0, .loc 15, .loc 43, .loc 41] },
  { top := [.inner 0, .loc 5, .loc 21], kids := [.recd 0, .loc 15, .loc 43, .loc 41], deep := [.recd 0, .loc 15, .loc 43, .loc 41] },
  { top := [.inner 0, .loc 5, .loc 21], kids := [.inner 0, .loc 15, .recd 0, .loc 43, .loc 41], deep := [.inner 0, .loc 15, .recd 0, .loc 43, .loc 41] },
  { top := [.inner 0, .loc 5, .loc 21], kids := [.recd 0, .loc 15, .loc 43, .loc 41], deep := [.recd 0, .loc 15, .loc 43, .loc 41] },
  { top := [.inner 0, .loc 5, .loc 21], kids := [.recd 0, .loc 15, .loc 43, .loc 41], deep := [.recd 0, .loc 15, .loc 43, .loc 41] },
  { top := [.inner 0, .loc 5, .loc 21], kids := [.inner 0, .loc 15, .recd 0, .loc 43, .loc 41], deep := [.inner 0, .loc 15, .recd 0, .loc 43, .loc 41] },
  { top := [.inner 0, .loc 5, .loc 21], kids := [.recd 0, .loc 15, .loc 43, .loc 41], deep := [.recd 0, .loc 15, .loc 43, .loc 41] },
  { top := [.inner 0, .loc 5, .loc 21], kids := [.recd 0, .loc 15, .loc 43, .loc 41], deep := [.recd 0, .loc 15, .loc 43, .loc 41] },
  { top := [.inner 0, .loc 5, .loc 21], kids := [.inner 0, .loc 15, .recd 0, .loc 43, .loc 41], deep := [.inner 0, .loc 15, .recd 0, .loc 43, .loc 41] },
  { top := [.inner 0, .loc 5, .loc 21], kids := [.recd 0, .loc 15, .loc 43, .loc 41], deep := [.recd 0, .loc 15, .loc 43, .loc 41] },
  { top := [.inner 0, .loc 5, .loc 21], kids := [.recd 0, .loc 15, .loc 43, .loc 41], deep := [.recd 0, .loc 15, .loc 43, .loc 41] },
  { top := [.inner 0, .loc 5, .loc 21], kids := [.recd 0, .loc 15, .loc 43, .loc 41], deep := [.recd 0, .loc 15, .loc 43, .loc 41] },
  { top := [.inner 0, .loc 5, .loc 21], kids := [.recd 0, .loc 15, .loc 43, .loc 41], deep := [.recd 0, .loc 15, .loc 43, .loc 41] },
  { top := [.inner 0, .loc 5, .loc 21], kids := [.recd 0, .loc 15, .loc 43, .loc 41], deep := [.recd 0, .loc 15, .loc 43, .loc 41] },
  { top := [.inner 0, .loc 5, .loc 21], kids := [.recd 0, .loc 15, .loc 43, .loc 41], deep := [.recd 0, .loc 15, .loc 43, .loc 41] }]

/-- peptacular.proforma.proforma_parser.ProFormaAnnotation.sequence -/
def prog_252 : List Stmt := [
  .param 0 0]

def table_252 : Pts := [
  { top := [.root 0], kids := [.inner 0], deep := [.inner 0] }]

/-- peptacular.proforma.proforma_parser.ProFormaAnnotation.sequence.setter -/
def prog_253 : List Stmt := [
  .param 0 0,
  .param 1 1,
  .write 0]

def table_253 : Pts := [
  { top := [.root 0], kids := [.inner 0], deep := [.inner 0] },
  { top := [.root 1], kids := [.inner 1], deep := [.inner 1] }]

/-- peptacular.proforma.proforma_parser.ProFormaAnnotation.serialize -/
def prog_254 : List Stmt := [
  .param 0 0,
  .param 1 1,
  .call 3 305 [some 0, none]]

def table_254 : Pts := [
  { top := [.root 0], kids := [.inner 0], deep := [.inner 0] },
  { top := [.root 1], kids := [.inner 1], deep := [.inner 1] },
  {},
  {}]

/-- peptacular.proforma.proforma_parser.ProFormaAnnotation.serialize_end -/
def prog_255 : List Stmt := [
  .param 0 0,
  .param 1 1,
  .call 3 306 [some 0, none]]

def table_255 : Pts := [
  { top := [.root 0], kids := [.inner 0], deep := [.inner 0] },
  { top := [.root 1], kids := [.inner 1], deep := [.inner 1] },
  {},
  {}]

/-- peptacular.proforma.proforma_parser.ProFormaAnnotation.serialize_middle -/
def prog_256 : List Stmt := [
  .param 0 0,
  .param 1 1,
  .call 3 307 [some 0, none]]

def table_256 : Pts := [
  { top := [.root 0], kids := [.inner 0], deep := [.inner 0] },
  { top := [.root 1], kids := [.inner 1], deep := [.inner 1] },
  {},
  {}]

/-- peptacular.proforma.proforma_parser.ProFormaAnnotation.serialize_start -/
def prog_257 : List Stmt := [
  .param 0 0,
  .param 1 1,
  .call 3 308 [some 0, none]]

def table_257 : Pts := [
  { top := [.root 0], kids := [.inner 0], deep := [.inner 0] },
  { top := [.root 1], kids := [.inner 1], deep := [.inner 1] },
  {},
  {}]

/-- peptacular.proforma.proforma_parser.ProFormaAnnotation.shift[inplace=False] -/
def prog_258 : List Stmt := [
  .param 0 0,
  .param 1 1,
  .param 2 2,
  .call 8 214 [some 0],
  .pack 9 [],
  .alias 10 [9],
  .elem 11 0,
  .shallow 12 [11],
  .elem 16 12,
  .elem 17 16,
  .alias 14 [17],
  .fresh 18,
  .store 10 18,
  .alias 20 [19, 10],
  .alias 21 [20, 7],
  .call 23 216 [some 0],
  .pack 24 [],
  .alias 25 [24],
  .elem 26 0,
  .asRec 27 26 1,
  .elem 31 27,
  .asRec 32 31 0,
  .alias 28 [32],
  .asRec 33 28 0,
  .asRec 34 28 0,
  .asRec 35 28 0,
  .pack 36 [],
  .asRec 37 28 0,
  .asRec 38 28 0,
  .elem 39 38,
  .asRec 40 39 1,
  .fresh 41,
  .asRec 42 41 1,
  .pack 43 [42],
  .asRec 44 43 0,
  .store 25 44,
  .elem 46 45,
  .write 25,
  .alias 48 [47, 25],
  .alias 49 [48, 22],
  .fresh 50,
  .alias 51 [50],
  .write 51,
  .store 51 21,
  .store 51 49,
  .alias 3 [51]]

def table_258 : Pts := [
  { top := [.root 0], kids := [.inner 0], deep := [.inner 0] },
  { top := [.root 1], kids := [.inner 1], deep := [.inner 1] },
  { top := [.root 2], kids := [.inner 2], deep := [.inner 2] },
  { top := [.loc 50], kids := [.loc 9, .loc 24], deep := [.loc 18, .loc 43, .loc 41] },
  {},
  {},
  {},
  {},
  {},
  { top := [.loc 9], kids := [.loc 18], deep := [] },
  { top := [.loc 9], kids := [.loc 18], deep := [] },
  { top := [.inner 0], kids := [.inner 0], deep := [.inner 0] },
  { top := [.loc 12], kids := [.inner 0], deep := [.inner 0] },
  {},
  { top := [.inner 0], kids := [.inner 0], deep := [.inner 0] },
  {},
  { top := [.inner 0], kids := [.inner 0], deep := [.inner 0] },
  { top := [.inner 0], kids := [.inner 0], deep := [.inner 0] },
  { top := [.loc 18], kids := [], deep := [] },
  {},
  { top := [.loc 9], kids := [.loc 18], deep := [] },
  { top := [.loc 9], kids := [.loc 18], deep := [] },
  {},
  {},
  { top := [.loc 24], kids := [.loc 43], deep := [.loc 41] },
  { top := [.loc 24], kids := [.loc 43], deep := [.loc 41] },
  { top := [.inner 0], kids := [.inner 0], deep := [.inner 0] },
  { top := [.inner 0], kids := [.recd 0], deep := [.recd 0] },
  { top := [.recd 0], kids := [.recd 0], deep := [.recd 0] },
  {},
  {},
  { top := [.recd 0], kids := [.recd 0], deep := [.recd 0] },
  { top := [.recd 0], kids := [.recd 0], deep := [.recd 0] },
  { top := [.recd 0], kids := [.recd 0], deep := [.recd 0] },
  { top := [.recd 0], kids := [.recd 0], deep := [.recd 0] },
  { top := [.recd 0], kids := [.recd 0], deep := [.recd 0] },
  { top := [.loc 36], kids := [], deep := [] },
  { top := [.recd 0], kids := [.recd 0], deep := [.recd 0] },
  { top := [.recd 0], kids := [.recd 0], deep := [.recd 0] },
  { top := [.recd 0], kids := [.recd 0], deep := [.recd 0] },
  { top := [.recd 0], kids := [.recd 0], deep := [.recd 0] },
  { top := [.loc 41], kids := [], deep := [] },
  { top := [.loc 41], kids := [], deep := [] },
  { top := [.loc 43], kids := [.loc 41], deep := [] },
  { top := [.loc 43], kids := [.loc 41], deep := [] },
  {},
  {},
  {},
  { top := [.loc 24], kids := [.loc 43], deep := [.loc 41] },
  { top := [.loc 24], kids := [.loc 43], deep := [.loc 41] },
  { top := [.loc 50], kids := [.loc 9, .loc 24], deep := [.loc 18, .loc 43, .loc 41] },
  { top := [.loc 50], kids := [.loc 9, .loc 24], deep := [.loc 18, .loc 43, .loc 41] }]

/-- peptacular.proforma.proforma_parser.ProFormaAnnotation.shift[inplace=True] -/
def prog_259 : List Stmt := [
  .param 0 0,
  .param 1 1,
  .param 2 2,
  .call 8 214 [some 0],
  .pack 9 [],
  .alias 10 [9],
  .elem 11 0,
  .shallow 12 [11],
  .elem 16 12,
  .elem 17 16,
  .alias 14 [17],
  .fresh 18,
  .store 10 18,
  .alias 20 [19, 10],
  .alias 21 [20, 7],
  .call 23 216 [some 0],
  .pack 24 [],
  .alias 25 [24],
  .elem 26 0,
  .asRec 27 26 1,
  .elem 31 27,
  .asRec 32 31 0,
  .alias 28 [32],
  .asRec 33 28 0,
  .asRec 34 28 0,
  .asRec 35 28 0,
  .pack 36 [],
  .asRec 37 28 0,
  .asRec 38 28 0,
  .elem 39 38,
  .asRec 40 39 1,
  .fresh 41,
  .asRec 42 41 1,
  .pack 43 [42],
  .asRec 44 43 0,
  .store 25 44,
  .elem 46 45,
  .write 25,
  .alias 48 [47, 25],
  .alias 49 [48, 22],
  .write 0,
  .store 0 21,
  .store 0 49]

def table_259 : Pts := [
  { top := [.root 0], kids := [.inner 0, .loc 9, .loc 24], deep := [.inner 0, .loc 18, .loc 43, .loc 41] },
  { top := [.root 1], kids := [.inner 1], deep := [.inner 1] },
  { top := [.root 2], kids := [.inner 2], deep := [.inner 2] },
  {},
  {},
  {},
  {},
  {},
  {},
  { top := [.loc 9], kids := [.loc 18], deep := [] },
  { top := [.loc 9], kids := [.loc 18], deep := [] },
  { top := [.inner 0, .loc 9, .loc 24], kids := [.inner 0, .loc 18, .loc 43, .loc 41], deep := [.inner 0, .loc 18, .loc 43, .loc 41] },
  { top := [.loc 12], kids := [.inner 0, .loc 18, .loc 43, .loc 41], deep := [.inner 0, .loc 18, .loc 43, .loc 41] },
  {},
  { top := [.inner 0, .loc 18, .loc 43, .loc 41], kids := [.inner 0, .loc 18, .loc 43, .loc 41], deep := [.inner 0, .loc 18, .loc 43, .loc 41] },
  {},
  { top := [.inner 0, .loc 18, .loc 43, .loc 41], kids := [.inner 0, .loc 18, .loc 43, .loc 41], deep := [.inner 0, .loc 18, .loc 43, .loc 41] },
  { top := [.inner 0, .loc 18, .loc 43, .loc 41], kids := [.inner 0, .loc 18, .loc 43, .loc 41], deep := [.inner 0, .loc 18, .loc 43, .loc 41] },
  { top := [.loc 18], kids := [], deep := [] },
  {},
  { top := [.loc 9], kids := [.loc 18], deep := [] },
  { top := [.loc 9], kids := [.loc 18], deep := [] },
  {},
  {},
  { top := [.loc 24], kids := [.loc 43], deep := [.loc 41] },
  { top := [.loc 24], kids := [.loc 43], deep := [.loc 41] },
  { top := [.inner 0, .loc 9, .loc 24], kids := [.inner 0, .loc 18, .loc 43, .loc 41], deep := [.inner 0, .loc 18, .loc 43, .loc 41] },
  { top := [.inner 0, .loc 9, .loc 24], kids := [.recd 0, .loc 18, .loc 43, .loc 41], deep := [.recd 0, .loc 18, .loc 43, .loc 41] },
  { top := [.recd 0, .loc 18, .loc 43, .loc 41], kids := [.recd 0, .loc 18, .loc 43, .loc 41], deep := [.recd 0, .loc 18, .loc 43, .loc 41] },
  {},
  {},
  { top := [.recd 0, .loc 18, .loc 43, .loc 41], kids := [.recd 0, .loc 18, .loc 43, .loc 41], deep := [.recd 0, .loc 18, .loc 43, .loc 41] },
  { top := [.recd 0, .loc 18, .loc 43, .loc 41], kids := [.recd 0, .loc 18, .loc 43, .loc 41], deep := [.recd 0, .loc 18, .loc 43, .loc 41] },
  { top := [.recd 0, .loc 18, .loc 43, .loc 41], kids := [.recd 0, .loc 18, .loc 43, .loc 41], deep := [.recd 0, .loc 18, .loc 43, .loc 41] },
  { top := [.recd 0, .loc 18, .loc 43, .loc 41], kids := [.recd 0, .loc 18, .loc 43, .loc 41], deep := [.recd 0, .loc 18, .loc 43, .loc 41] },
  { top := [.recd 0, .loc 18, .loc 43, .loc 41], kids := [.recd 0, .loc 18, .loc 43, .loc 41], deep := [.recd 0, .loc 18, .loc 43, .loc 41] },
  { top := [.loc 36], kids := [], deep := [] },
  { top := [.recd 0, .loc 18, .loc 43, .loc 41], kids := [.recd 0, .loc 18, .loc 43, .loc 41], deep := [.recd 0, .loc 18, .loc 43, .loc 41] },
  { top := [.recd 0, .loc 18, .loc 43, .loc 41], kids := [.recd 0, .loc 18, .loc 43, .loc 41], deep := [.recd 0, .loc 18, .loc 43, .loc 41] },
  { top := [.recd 0, .loc 18, .loc 43, .loc 41], kids := [.recd 0, .loc 18, .loc 43, .loc 41], deep := [.recd 0, .loc 18, .loc 43, .loc 41] },
  { top := [.recd 0, .loc 18, .loc 43, .loc 41], kids := [.recd 0, .loc 18, .loc 43, .loc 41], deep := [.recd 0, .loc 18, .loc 43, .loc 41] },
  { top := [.loc 41], kids := [], deep := [] },
  { top := [.loc 41], kids := [], deep := [] },
  { top := [.loc 43], kids := [.loc 41], deep := [] },
  { top := [.loc 43], kids := [.loc 41], deep := [] },
  {},
  {},
  {},
  { top := [.loc 24], kids := [.loc 43], deep := [.loc 41] },
  { top := [.loc 24], kids := [.loc 43], deep := [.loc 41] }]

/-- peptacular.proforma.proforma_parser.ProFormaAnnotation.shuffle[inplace=False] -/
def prog_260 : List Stmt := [
  .param 0 0,
  .param 1 1,
  .param 2 2,
  .fresh 4,
  .global 5 0,
  .alias 6 [4, 5],
  .alias 7 [6],
  .shallow 8 [],
  .alias 9 [8],
  .shallow 10 [],
  .leaf 11 10,
  .alias 12 [11],
  .leaf 13 12,
  .shallow 14 [9, 13],
  .shallow 15 [14],
  .alias 16 [15],
  .call 17 260 [some 7, some 16, none],
  .write 7,
  .write 16,
  .shallow 18 [16],
  .alias 19 [17, 18],
  .elem 20 16,
  .shallow 21 [20],
  .elem 22 21,
  .alias 23 [22],
  .elem 24 21,
  .alias 25 [24],
  .elem 27 0,
  .pack 28 [],
  .alias 29 [28],
  .shallow 30 [25],
  .elem 31 30,
  .elem 32 31,
  .alias 33 [32],
  .elem 34 31,
  .alias 35 [34],
  .pack 36 [33],
  .alias 37 [36],
  .elem 38 0,
  .shallow 39 [38],
  .elem 43 39,
  .elem 44 43,
  .alias 40 [44],
  .elem 45 37,
  .alias 41 [45],
  .fresh 46,
  .store 29 46,
  .alias 48 [47, 29],
  .alias 49 [48, 26],
  .fresh 51,
  .alias 52 [51],
  .write 52,
  .store 52 49,
  .alias 3 [52]]

def table_260 : Pts := [
  { top := [.root 0], kids := [.inner 0], deep := [.inner 0] },
  { top := [.root 1], kids := [.inner 1], deep := [.inner 1] },
  { top := [.root 2], kids := [.inner 2], deep := [.inner 2] },
  { top := [.loc 51], kids := [.loc 28], deep := [.loc 46] },
  { top := [.loc 4], kids := [], deep := [] },
  { top := [.glob 0], kids := [.glob 0], deep := [.glob 0] },
  { top := [.loc 4, .glob 0], kids := [.glob 0], deep := [.glob 0] },
  { top := [.loc 4, .glob 0], kids := [.glob 0], deep := [.glob 0] },
  { top := [.loc 8], kids := [], deep := [] },
  { top := [.loc 8], kids := [], deep := [] },
  { top := [.loc 10], kids := [], deep := [] },
  { top := [.loc 10], kids := [], deep := [] },
  { top := [.loc 10], kids := [], deep := [] },
  { top := [.loc 10], kids := [], deep := [] },
  { top := [.loc 14], kids := [], deep := [] },
  { top := [.loc 15], kids := [], deep := [] },
  { top := [.loc 15], kids := [], deep := [] },
  { top := [.loc 17], kids := [.loc 17], deep := [.loc 17] },
  { top := [.loc 18], kids := [], deep := [] },
  { top := [.loc 17, .loc 18], kids := [.loc 17], deep := [.loc 17] },
  {},
  { top := [.loc 21], kids := [], deep := [] },
  {},
  {},
  {},
  {},
  {},
  { top := [.inner 0], kids := [.inner 0], deep := [.inner 0] },
  { top := [.loc 28], kids := [.loc 46], deep := [] },
  { top := [.loc 28], kids := [.loc 46], deep := [] },
  { top := [.loc 30], kids := [], deep := [] },
  {},
  {},
  {},
  {},
  {},
  { top := [.loc 36], kids := [], deep := [] },
  { top := [.loc 36], kids := [], deep := [] },
  { top := [.inner 0], kids := [.inner 0], deep := [.inner 0] },
  { top := [.loc 39], kids := [.inner 0], deep := [.inner 0] },
  { top := [.inner 0], kids := [.inner 0], deep := [.inner 0] },
  {},
  {},
  { top := [.inner 0], kids := [.inner 0], deep := [.inner 0] },
  { top := [.inner 0], kids := [.inner 0], deep := [.inner 0] },
  {},
  { top := [.loc 46], kids := [], deep := [] },
  {},
  { top := [.loc 28], kids := [.loc 46], deep := [] },
  { top := [.loc 28], kids := [.loc 46], deep := [] },
  {},
  { top := [.loc 51], kids := [.loc 28], deep := [.loc 46] },
  { top := [.loc 51], kids := [.loc 28], deep := [.loc 46] }]

/-- peptacular.proforma.proforma_parser.ProFormaAnnotation.shuffle[inplace=True] -/
def prog_261 : List Stmt := [
  .param 0 0,
  .param 1 1,
  .param 2 2,
  .fresh 4,
  .global 5 0,
  .alias 6 [4, 5],
  .alias 7 [6],
  .shallow 8 [],
  .alias 9 [8],
  .shallow 10 [],
  .leaf 11 10,
  .alias 12 [11],
  .leaf 13 12,
  .shallow 14 [9, 13],
  .shallow 15 [14],
  .alias 16 [15],
  .call 17 260 [some 7, some 16, none],
  .write 7,
  .write 16,
  .shallow 18 [16],
  .alias 19 [17, 18],
  .elem 20 16,
  .shallow 21 [20],
  .elem 22 21,
  .alias 23 [22],
  .elem 24 21,
  .alias 25 [24],
  .elem 27 0,
  .pack 28 [],
  .alias 29 [28],
  .shallow 30 [25],
  .elem 31 30,
  .elem 32 31,
  .alias 33 [32],
  .elem 34 31,
  .alias 35 [34],
  .pack 36 [33],
  .alias 37 [36],
  .elem 38 0,
  .shallow 39 [38],
  .elem 43 39,
  .elem 44 43,
  .alias 40 [44],
  .elem 45 37,
  .alias 41 [45],
  .fresh 46,
  .store 29 46,
  .alias 48 [47, 29],
  .alias 49 [48, 26],
  .write 0,
  .store 0 49]

def table_261 : Pts := [
  { top := [.root 0], kids := [.inner 0, .loc 28], deep := [.inner 0, .loc 46] },
  { top := [.root 1], kids := [.inner 1], deep := [.inner 1] },
  { top := [.root 2], kids := [.inner 2], deep := [.inner 2] },
  {},
  { top := [.loc 4], kids := [], deep := [] },
  { top := [.glob 0], kids := [.glob 0], deep := [.glob 0] },
  { top := [.loc 4, .glob 0], kids := [.glob 0], deep := [.glob 0] },
  { top := [.loc 4, .glob 0], kids := [.glob 0], deep := [.glob 0] },
  { top := [.loc 8], kids := [], deep := [] },
  { top := [.loc 8], kids := [], deep := [] },
  { top := [.loc 10], kids := [], deep := [] },
  { top := [.loc 10], kids := [], deep := [] },
  { top := [.loc 10], kids := [], deep := [] },
  { top := [.loc 10], kids := [], deep := [] },
  { top := [.loc 14], kids := [], deep := [] },
  { top := [.loc 15], kids := [], deep := [] },
  { top := [.loc 15], kids := [], deep := [] },
  { top := [.loc 17], kids := [.loc 17], deep := [.loc 17] },
  { top := [.loc 18], kids := [], deep := [] },
  { top := [.loc 17, .loc 18], kids := [.loc 17], deep := [.loc 17] },
  {},
  { top := [.loc 21], kids := [], deep := [] },
  {},
  {},
  {},
  {},
  {},
  { top := [.inner 0, .loc 28], kids := [.inner 0, .loc 46], deep := [.inner 0, .loc 46] },
  { top := [.loc 28], kids := [.loc 46], deep := [] },
  { top := [.loc 28], kids := [.loc 46], deep := [] },
  { top := [.loc 30], kids := [], deep := [] },
  {},
  {},
  {},
  {},
  {},
  { top := [.loc 36], kids := [], deep := [] },
  { top := [.loc 36], kids := [], deep := [] },
  { top := [.inner 0, .loc 28], kids := [.inner 0, .loc 46], deep := [.inner 0, .loc 46] },
  { top := [.loc 39], kids := [.inner 0, .loc 46], deep := [.inner 0, .loc 46] },
  { top := [.inner 0, .loc 46], kids := [.inner 0, .loc 46], deep := [.inner 0, .loc 46] },
  {},
  {},
  { top := [.inner 0, .loc 46], kids := [.inner 0, .loc 46], deep := [.inner 0, .loc 46] },
  { top := [.inner 0, .loc 46], kids := [.inner 0, .loc 46], deep := [.inner 0, .loc 46] },
  {},
  { top := [.loc 46], kids := [], deep := [] },
  {},
  { top := [.loc 28], kids := [.loc 46], deep := [] },
  { top := [.loc 28], kids := [.loc 46], deep := [] }]

/-- peptacular.proforma.proforma_parser.ProFormaAnnotation.slice[inplace=False] -/
def prog_262 : List Stmt := [
  .param 0 0,
  .param 1 1,
  .param 2 2,
  .param 3 3,
  .alias 6 [5, 1],
  .alias 8 [7, 2],
  .call 10 219 [some 0],
  .pack 11 [],
  .alias 4 [11],
  .call 13 214 [some 0],
  .pack 14 [],
  .alias 15 [14],
  .elem 16 0,
  .shallow 17 [16],
  .elem 20 17,
  .elem 21 20,
  .alias 19 [21],
  .fresh 22,
  .store 15 22,
  .alias 23 [15, 12],
  .call 25 216 [some 0],
  .pack 26 [],
  .alias 27 [26],
  .elem 28 0,
  .asRec 29 28 1,
  .elem 33 29,
  .asRec 34 33 0,
  .alias 30 [34],
  .asRec 35 30 0,
  .asRec 36 30 0,
  .asRec 37 30 0,
  .alias 32 [38],
  .asRec 39 30 0,
  .alias 31 [40],
  .asRec 41 30 0,
  .asRec 42 30 0,
  .elem 43 42,
  .asRec 44 43 1,
  .fresh 45,
  .asRec 46 45 1,
  .pack 47 [32, 31, 46],
  .asRec 48 47 0,
  .store 27 48,
  .alias 50 [49, 27],
  .alias 51 [50, 24],
  .fresh 52,
  .alias 53 [52],
  .write 53,
  .store 53 23,
  .store 53 51,
  .alias 4 [53]]

def table_262 : Pts := [
  { top := [.root 0], kids := [.inner 0], deep := [.inner 0] },
  { top := [.root 1], kids := [.inner 1], deep := [.inner 1] },
  { top := [.root 2], kids := [.inner 2], deep := [.inner 2] },
  { top := [.root 3], kids := [.inner 3], deep := [.inner 3] },
  { top := [.loc 11, .loc 52], kids := [.loc 14, .loc 26], deep := [.loc 22, .loc 47, .loc 45] },
  {},
  { top := [.root 1], kids := [.inner 1], deep := [.inner 1] },
  {},
  { top := [.root 2], kids := [.inner 2], deep := [.inner 2] },
  {},
  {},
  { top := [.loc 11], kids := [], deep := [] },
  {},
  {},
  { top := [.loc 14], kids := [.loc 22], deep := [] },
  { top := [.loc 14], kids := [.loc 22], deep := [] },
  { top := [.inner 0], kids := [.inner 0], deep := [.inner 0] },
  { top := [.loc 17], kids := [.inner 0], deep := [.inner 0] },
  {},
  { top := [.inner 0], kids := [.inner 0], deep := [.inner 0] },
  { top := [.inner 0], kids := [.inner 0], deep := [.inner 0] },
  { top := [.inner 0], kids := [.inner 0], deep := [.inner 0] },
  { top := [.loc 22], kids := [], deep := [] },
  { top := [.loc 14], kids := [.loc 22], deep := [] },
  {},
  {},
  { top := [.loc 26], kids := [.loc 47], deep := [.loc 45] },
  { top := [.loc 26], kids := [.loc 47], deep := [.loc 45] },
  { top := [.inner 0], kids := [.inner 0], deep := [.inner 0] },
  { top := [.inner 0], kids := [.recd 0], deep := [.recd 0] },
  { top := [.recd 0], kids := [.recd 0], deep := [.recd 0] },
  {},
  {},
  { top := [.recd 0], kids := [.recd 0], deep := [.recd 0] },
  { top := [.recd 0], kids := [.recd 0], deep := [.recd 0] },
  { top := [.recd 0], kids := [.recd 0], deep := [.recd 0] },
  { top := [.recd 0], kids := [.recd 0], deep := [.recd 0] },
  { top := [.recd 0], kids := [.recd 0], deep := [.recd 0] },
  {},
  { top := [.recd 0], kids := [.recd 0], deep := [.recd 0] },
  {},
  { top := [.recd 0], kids := [.recd 0], deep := [.recd 0] },
  { top := [.recd 0], kids := [.recd 0], deep := [.recd 0] },
  { top := [.recd 0], kids := [.recd 0], deep := [.recd 0] },
  { top := [.recd 0], kids := [.recd 0], deep := [.recd 0] },
  { top := [.loc 45], kids := [], deep := [] },
  { top := [.loc 45], kids := [], deep := [] },
  { top := [.loc 47], kids := [.loc 45], deep := [] },
  { top := [.loc 47], kids := [.loc 45], deep := [] },
  {},
  { top := [.loc 26], kids := [.loc 47], deep := [.loc 45] },
  { top := [.loc 26], kids := [.loc 47], deep := [.loc 45] },
  { top := [.loc 52], kids := [.loc 14, .loc 26], deep := [.loc 22, .loc 47, .loc 45] },
  { top := [.loc 52], kids := [.loc 14, .loc 26], deep := [.loc 22, .loc 47, .loc 45] }]

/-- peptacular.proforma.proforma_parser.ProFormaAnnotation.slice[inplace=True] -/
def prog_263 : List Stmt := [
  .param 0 0,
  .param 1 1,
  .param 2 2,
  .param 3 3,
  .alias 6 [5, 1],
  .alias 8 [7, 2],
  .call 10 219 [some 0],
  .write 0,
  .call 12 214 [some 0],
  .pack 13 [],
  .alias 14 [13],
  .elem 15 0,
  .shallow 16 [15],
  .elem 19 16,
  .elem 20 19,
  .alias 18 [20],
  .fresh 21,
  .store 14 21,
  .alias 22 [14, 11],
  .call 24 216 [some 0],
  .pack 25 [],
  .alias 26 [25],
  .elem 27 0,
  .asRec 28 27 1,
  .elem 32 28,
  .asRec 33 32 0,
  .alias 29 [33],
  .asRec 34 29 0,
  .asRec 35 29 0,
  .asRec 36 29 0,
  .alias 31 [37],
  .asRec 38 29 0,
  .alias 30 [39],
  .asRec 40 29 0,
  .asRec 41 29 0,
  .elem 42 41,
  .asRec 43 42 1,
  .fresh 44,
  .asRec 45 44 1,
  .pack 46 [31, 30, 45],
  .asRec 47 46 0,
  .store 26 47,
  .alias 49 [48, 26],
  .alias 50 [49, 23],
  .store 0 22,
  .store 0 50]

def table_263 : Pts := [
  { top := [.root 0], kids := [.inner 0, .loc 13, .loc 25], deep := [.inner 0, .loc 21, .loc 46, .loc 44] },
  { top := [.root 1], kids := [.inner 1], deep := [.inner 1] },
  { top := [.root 2], kids := [.inner 2], deep := [.inner 2] },
  { top := [.root 3], kids := [.inner 3], deep := [.inner 3] },
  {},
  {},
  { top := [.root 1], kids := [.inner 1], deep := [.inner 1] },
  {},
  { top := [.root 2], kids := [.inner 2], deep := [.inner 2] },
  {},
  {},
  {},
  {},
  { top := [.loc 13], kids := [.loc 21], deep := [] },
  { top := [.loc 13], kids := [.loc 21], deep := [] },
  { top := [.inner 0, .loc 13, .loc 25], kids := [.inner 0, .loc 21, .loc 46, .loc 44], deep := [.inner 0, .loc 21, .loc 46, .loc 44] },
  { top := [.loc 16], kids := [.inner 0, .loc 21, .loc 46, .loc 44], deep := [.inner 0, .loc 21, .loc 46, .loc 44] },
  {},
  { top := [.inner 0, .loc 21, .loc 46, .loc 44], kids := [.inner 0, .loc 21, .loc 46, .loc 44], deep := [.inner 0, .loc 21, .loc 46, .loc 44] },
  { top := [.inner 0, .loc 21, .loc 46, .loc 44], kids := [.inner 0, .loc 21, .loc 46, .loc 44], deep := [.inner 0, .loc 21, .loc 46, .loc 44] },
  { top := [.inner 0, .loc 21, .loc 46, .loc 44], kids := [.inner 0, .loc 21, .loc 46, .loc 44], deep := [.inner 0, .loc 21, .loc 46, .loc 44] },
  { top := [.loc 21], kids := [], deep := [] },
  { top := [.loc 13], kids := [.loc 21], deep := [] },
  {},
  {},
  { top := [.loc 25], kids := [.loc 46], deep := [.loc 44] },
  { top := [.loc 25], kids := [.loc 46], deep := [.loc 44] },
  { top := [.inner 0, .loc 13, .loc 25], kids := [.inner 0, .loc 21, .loc 46, .loc 44], deep := [.inner 0, .loc 21, .loc 46, .loc 44] },
  { top := [.inner 0, .loc 13, .loc 25], kids := [.recd 0, .loc 21, .loc 46, .loc 44], deep := [.recd 0, .loc 21, .loc 46, .loc 44] },
  { top := [.recd 0, .loc 21, .loc 46, .loc 44], kids := [.recd 0, .loc 21, .loc 46, .loc 44], deep := [.recd 0, .loc 21, .loc 46, .loc 44] },
  {},
  {},
  { top := [.recd 0, .loc 21, .loc 46, .loc 44], kids := [.recd 0, .loc 21, .loc 46, .loc 44], deep := [.recd 0, .loc 21, .loc 46, .loc 44] },
  { top := [.recd 0, .loc 21, .loc 46, .loc 44], kids := [.recd 0, .loc 21, .loc 46, .loc 44], deep := [.recd 0, .loc 21, .loc 46, .loc 44] },
  { top := [.recd 0, .loc 21, .loc 46, .loc 44], kids := [.recd 0, .loc 21, .loc 46, .loc 44], deep := [.recd 0, .loc 21, .loc 46, .loc 44] },
  { top := [.recd 0, .loc 21, .loc 46, .loc 44], kids := [.recd 0, .loc 21, .loc 46, .loc 44], deep := [.recd 0, .loc 21, .loc 46, .loc 44] },
  { top := [.recd 0, .loc 21, .loc 46, .loc 44], kids := [.recd 0, .loc 21, .loc 46, .loc 44], deep := [.recd 0, .loc 21, .loc 46, .loc 44] },
  {},
  { top := [.recd 0, .loc 21, .loc 46, .loc 44], kids := [.recd 0, .loc 21, .loc 46, .loc 44], deep := [.recd 0, .loc 21, .loc 46, .loc 44] },
  {},
  { top := [.recd 0, .loc 21, .loc 46, .loc 44], kids := [.recd 0, .loc 21, .loc 46, .loc 44], deep := [.recd 0, .loc 21, .loc 46, .loc 44] },
  { top := [.recd 0, .loc 21, .loc 46, .loc 44], kids := [.recd 0, .loc 21, .loc 46, .loc 44], deep := [.recd 0, .loc 21, .loc 46, .loc 44] },
  { top := [.recd 0, .loc 21, .loc 46, .loc 44], kids := [.recd 0, .loc 21, .loc 46, .loc 44], deep := [.recd 0, .loc 21, .loc 46, .loc 44] },
  { top := [.recd 0, .loc 21, .loc 46, .loc 44], kids := [.recd 0, .loc 21, .loc 46, .loc 44], deep := [.recd 0, .loc 21, .loc 46, .loc 44] },
  { top := [.loc 44], kids := [], deep := [] },
  { top := [.loc 44], kids := [], deep := [] },
  { top := [.loc 46], kids := [.loc 44], deep := [] },
  { top := [.loc 46], kids := [.loc 44], deep := [] },
  {},
  { top := [.loc 25], kids := [.loc 46], deep := [.loc 44] },
  { top := [.loc 25], kids := [.loc 46], deep := [.loc 44] }]

/-- peptacular.proforma.proforma_parser.ProFormaAnnotation.sort_residues[inplace=False] -/
def prog_264 : List Stmt := [
  .param 0 0,
  .param 1 1,
  .shallow 4 [],
  .leaf 5 4,
  .shallow 6 [5],
  .elem 7 6,
  .elem 8 7,
  .alias 9 [8],
  .elem 10 7,
  .alias 11 [10],
  .pack 12 [9],
  .alias 13 [12],
  .pack 14 [],
  .alias 15 [14],
  .elem 16 0,
  .elem 17 0,
  .shallow 18 [17],
  .elem 22 18,
  .elem 23 22,
  .alias 19 [23],
  .elem 24 13,
  .alias 20 [24],
  .fresh 25,
  .store 15 25,
  .alias 27 [26, 15],
  .shallow 28 [],
  .fresh 30,
  .alias 31 [30],
  .call 32 253 [some 31, none],
  .store 31 27,
  .alias 2 [31]]

def table_264 : Pts := [
  { top := [.root 0], kids := [.inner 0], deep := [.inner 0] },
  { top := [.root 1], kids := [.inner 1], deep := [.inner 1] },
  { top := [.loc 30], kids := [.loc 14], deep := [.loc 25] },
  {},
  { top := [.loc 4], kids := [], deep := [] },
  { top := [.loc 4], kids := [], deep := [] },
  { top := [.loc 6], kids := [], deep := [] },
  {},
  {},
  {},
  {},
  {},
  { top := [.loc 12], kids := [], deep := [] },
  { top := [.loc 12], kids := [], deep := [] },
  { top := [.loc 14], kids := [.loc 25], deep := [] },
  { top := [.loc 14], kids := [.loc 25], deep := [] },
  { top := [.inner 0], kids := [.inner 0], deep := [.inner 0] },
  { top := [.inner 0], kids := [.inner 0], deep := [.inner 0] },
  { top := [.loc 18], kids := [.inner 0], deep := [.inner 0] },
  { top := [.inner 0], kids := [.inner 0], deep := [.inner 0] },
  {},
  {},
  { top := [.inner 0], kids := [.inner 0], deep := [.inner 0] },
  { top := [.inner 0], kids := [.inner 0], deep := [.inner 0] },
  {},
  { top := [.loc 25], kids := [], deep := [] },
  {},
  { top := [.loc 14], kids := [.loc 25], deep := [] },
  { top := [.loc 28], kids := [], deep := [] },
  {},
  { top := [.loc 30], kids := [.loc 14], deep := [.loc 25] },
  { top := [.loc 30], kids := [.loc 14], deep := [.loc 25] },
  {}]

/-- peptacular.proforma.proforma_parser.ProFormaAnnotation.sort_residues[inplace=True] -/
def prog_265 : List Stmt := [
  .param 0 0,
  .param 1 1,
  .shallow 4 [],
  .leaf 5 4,
  .shallow 6 [5],
  .elem 7 6,
  .elem 8 7,
  .alias 9 [8],
  .elem 10 7,
  .alias 11 [10],
  .pack 12 [9],
  .alias 13 [12],
  .pack 14 [],
  .alias 15 [14],
  .elem 16 0,
  .elem 17 0,
  .shallow 18 [17],
  .elem 22 18,
  .elem 23 22,
  .alias 19 [23],
  .elem 24 13,
  .alias 20 [24],
  .fresh 25,
  .store 15 25,
  .alias 27 [26, 15],
  .shallow 28 [],
  .call 30 253 [some 0, none],
  .call 31 225 [some 0, some 27]]

def table_265 : Pts := [
  { top := [.root 0], kids := [.inner 0, .loc 31], deep := [.inner 0] },
  { top := [.root 1], kids := [.inner 1], deep := [.inner 1] },
  {},
  {},
  { top := [.loc 4], kids := [], deep := [] },
  { top := [.loc 4], kids := [], deep := [] },
  { top := [.loc 6], kids := [], deep := [] },
  {},
  {},
  {},
  {},
  {},
  { top := [.loc 12], kids := [], deep := [] },
  { top := [.loc 12], kids := [], deep := [] },
  { top := [.loc 14], kids := [.loc 25], deep := [] },
  { top := [.loc 14], kids := [.loc 25], deep := [] },
  { top := [.inner 0, .loc 31], kids := [.inner 0], deep := [.inner 0] },
  { top := [.inner 0, .loc 31], kids := [.inner 0], deep := [.inner 0] },
  { top := [.loc 18], kids := [.inner 0], deep := [.inner 0] },
  { top := [.inner 0], kids := [.inner 0], deep := [.inner 0] },
  {},
  {},
  { top := [.inner 0], kids := [.inner 0], deep := [.inner 0] },
  { top := [.inner 0], kids := [.inner 0], deep := [.inner 0] },
  {},
  { top := [.loc 25], kids := [], deep := [] },
  {},
  { top := [.loc 14], kids := [.loc 25], deep := [] },
  { top := [.loc 28], kids := [], deep := [] },
  {},
  {},
  {}]

/-- peptacular.proforma.proforma_parser.ProFormaAnnotation.split -/
def prog_266 : List Stmt := [
  .param 0 0,
  .elem 2 0,
  .asRec 3 2 1,
  .alias 4 [3],
  .shallow 5 [],
  .elem 9 5,
  .elem 10 9,
  .alias 7 [10],
  .elem 11 9,
  .alias 6 [11],
  .call 12 262 [some 0, some 7, none, none],
  .alias 8 [12],
  .asRec 13 4 1,
  .call 14 244 [some 8],
  .asRec 15 14 1,
  .pack 16 [8],
  .alias 1 [16]]

def table_266 : Pts := [
  { top := [.root 0], kids := [.inner 0], deep := [.inner 0] },
  { top := [.loc 16], kids := [.loc 12], deep := [.loc 12, .loc 14] },
  { top := [.inner 0], kids := [.inner 0], deep := [.inner 0] },
  { top := [.inner 0], kids := [.recd 0], deep := [.recd 0] },
  { top := [.inner 0], kids := [.recd 0], deep := [.recd 0] },
  { top := [.loc 5], kids := [], deep := [] },
  {},
  {},
  { top := [.loc 12], kids := [.loc 12, .loc 14], deep := [.loc 12, .loc 14] },
  {},
  {},
  {},
  { top := [.loc 12], kids := [.loc 12, .loc 14], deep := [.loc 12, .loc 14] },
  { top := [.inner 0], kids := [.recd 0], deep := [.recd 0] },
  { top := [.loc 12, .loc 14], kids := [.loc 12, .loc 14], deep := [.loc 12, .loc 14] },
  { top := [.loc 12, .loc 14], kids := [.loc 12, .loc 14], deep := [.loc 12, .loc 14] },
  { top := [.loc 16], kids := [.loc 12], deep := [.loc 12, .loc 14] }]

/-- peptacular.proforma.proforma_parser.ProFormaAnnotation.static_mods -/
def prog_267 : List Stmt := [
  .param 0 0,
  .elem 2 0,
  .asRec 3 2 1,
  .alias 1 [3]]

def table_267 : Pts := [
  { top := [.root 0], kids := [.inner 0], deep := [.inner 0] },
  { top := [.inner 0], kids := [.recd 0], deep := [.recd 0] },
  { top := [.inner 0], kids := [.inner 0], deep := [.inner 0] },
  { top := [.inner 0], kids := [.recd 0], deep := [.recd 0] }]

/-- peptacular.proforma.proforma_parser.ProFormaAnnotation.static_mods.setter -/
def prog_268 : List Stmt := [
  .param 0 0,
  .param 1 1,
  .write 0,
  .call 3 159 [some 1],
  .asRec 4 3 1,
  .alias 5 [4],
  .asRec 6 5 1,
  .fresh 7,
  .asRec 8 7 1,
  .store 0 8,
  .alias 9 [1, 5]]

def table_268 : Pts := [
  { top := [.root 0], kids := [.inner 0, .loc 7], deep := [.inner 0] },
  { top := [.root 1], kids := [.inner 1], deep := [.inner 1] },
  {},
  { top := [.loc 3], kids := [.recTop 1, .loc 3, .recd 1], deep := [.recd 1, .recTop 1] },
  { top := [.loc 3], kids := [.recTop 1, .loc 3, .recd 1], deep := [.recd 1, .recTop 1] },
  { top := [.loc 3], kids := [.recTop 1, .loc 3, .recd 1], deep := [.recd 1, .recTop 1] },
  { top := [.loc 3], kids := [.recTop 1, .loc 3, .recd 1], deep := [.recd 1, .recTop 1] },
  { top := [.loc 7], kids := [], deep := [] },
  { top := [.loc 7], kids := [], deep := [] },
  { top := [.root 1, .loc 3], kids := [.inner 1, .recTop 1, .loc 3, .recd 1], deep := [.inner 1, .recd 1, .recTop 1] }]

/-- peptacular.proforma.proforma_parser.ProFormaAnnotation.strip[inplace=False] -/
def prog_269 : List Stmt := [
  .param 0 0,
  .param 1 1,
  .pack 3 [],
  .alias 2 [3]]

def table_269 : Pts := [
  { top := [.root 0], kids := [.inner 0], deep := [.inner 0] },
  { top := [.root 1], kids := [.inner 1], deep := [.inner 1] },
  { top := [.loc 3], kids := [], deep := [] },
  { top := [.loc 3], kids := [], deep := [] }]

/-- peptacular.proforma.proforma_parser.ProFormaAnnotation.strip[inplace=True] -/
def prog_270 : List Stmt := [
  .param 0 0,
  .param 1 1,
  .call 3 230 [some 0, none],
  .call 4 268 [some 0, none],
  .call 5 232 [some 0, none],
  .call 6 272 [some 0, none],
  .call 7 235 [some 0, none],
  .call 8 207 [some 0, none],
  .call 9 225 [some 0, none],
  .call 10 227 [some 0, none],
  .call 11 191 [some 0, none],
  .call 12 193 [some 0, none]]

def table_270 : Pts := [
  { top := [.root 0], kids := [.inner 0, .loc 3, .loc 4, .loc 5, .loc 6, .loc 7, .loc 8, .loc 9, .loc 10, .loc 12], deep := [.inner 0] },
  { top := [.root 1], kids := [.inner 1], deep := [.inner 1] },
  {},
  {},
  {},
  {},
  {},
  {},
  {},
  {},
  {},
  {},
  {}]

/-- peptacular.proforma.proforma_parser.ProFormaAnnotation.unknown_mods -/
def prog_271 : List Stmt := [
  .param 0 0,
  .elem 2 0,
  .asRec 3 2 1,
  .alias 1 [3]]

def table_271 : Pts := [
  { top := [.root 0], kids := [.inner 0], deep := [.inner 0] },
  { top := [.inner 0], kids := [.recd 0], deep := [.recd 0] },
  { top := [.inner 0], kids := [.inner 0], deep := [.inner 0] },
  { top := [.inner 0], kids := [.recd 0], deep := [.recd 0] }]

/-- peptacular.proforma.proforma_parser.ProFormaAnnotation.unknown_mods.setter -/
def prog_272 : List Stmt := [
  .param 0 0,
  .param 1 1,
  .write 0,
  .call 3 159 [some 1],
  .asRec 4 3 1,
  .alias 5 [4],
  .asRec 6 5 1,
  .fresh 7,
  .asRec 8 7 1,
  .store 0 8,
  .alias 9 [1, 5]]

def table_272 : Pts := [
  { top := [.root 0], kids := [.inner 0, .loc 7], deep := [.inner 0] },
  { top := [.root 1], kids := [.inner 1], deep := [.inner 1] },
  {},
  { top := [.loc 3], kids := [.recTop 1, .loc 3, .recd 1], deep := [.recd 1, .recTop 1] },
  { top := [.loc 3], kids := [.recTop 1, .loc 3, .recd 1], deep := [.recd 1, .recTop 1] },
  { top := [.loc 3], kids := [.recTop 1, .loc 3, .recd 1], deep := [.recd 1, .recTop 1] },
  { top := [.loc 3], kids := [.recTop 1, .loc 3, .recd 1], deep := [.recd 1, .recTop 1] },
  { top := [.loc 7], kids := [], deep := [] },
  { top := [.loc 7], kids := [], deep := [] },
  { top := [.root 1, .loc 3], kids := [.inner 1, .recTop 1, .loc 3, .recd 1], deep := [.inner 1, .recd 1, .recTop 1] }]

/-- peptacular.proforma.proforma_parser._ProFormaParser.__init__ -/
def prog_273 : List Stmt := [
  .param 0 0,
  .param 1 1,
  .write 0,
  .pack 3 [],
  .store 0 3]

def table_273 : Pts := [
  { top := [.root 0], kids := [.inner 0, .loc 3], deep := [.inner 0] },
  { top := [.root 1], kids := [.inner 1], deep := [.inner 1] },
  {},
  { top := [.loc 3], kids := [], deep := [] }]

/-- peptacular.proforma.proforma_parser._ProFormaParser._add_charge_adducts -/
def prog_274 : List Stmt := [
  .param 0 0,
  .param 1 1,
  .elem 3 0,
  .pack 4 [],
  .store 0 4,
  .asRec 5 1 1,
  .elem 6 0,
  .asRec 7 1 1,
  .store 6 7,
  .elem 8 0,
  .asRec 9 1 1,
  .store 8 9]

def table_274 : Pts := [
  { top := [.root 0], kids := [.inner 0, .loc 4], deep := [.inner 0, .root 1, .recd 1] },
  { top := [.root 1], kids := [.inner 1], deep := [.inner 1] },
  {},
  { top := [.inner 0, .loc 4], kids := [.inner 0, .root 1, .recd 1], deep := [.inner 0, .recd 1, .root 1] },
  { top := [.loc 4], kids := [.root 1], deep := [.recd 1] },
  { top := [.root 1], kids := [.recd 1], deep := [.recd 1] },
  { top := [.inner 0, .loc 4], kids := [.inner 0, .root 1, .recd 1], deep := [.inner 0, .recd 1, .root 1] },
  { top := [.root 1], kids := [.recd 1], deep := [.recd 1] },
  { top := [.inner 0, .loc 4], kids := [.inner 0, .root 1, .recd 1], deep := [.inner 0, .root 1, .recd 1] },
  { top := [.root 1], kids := [.recd 1], deep := [.recd 1] }]

/-- peptacular.proforma.proforma_parser._ProFormaParser._add_cterm_mod -/
def prog_275 : List Stmt := [
  .param 0 0,
  .param 1 1,
  .elem 3 0,
  .pack 4 [],
  .store 0 4,
  .asRec 5 1 1,
  .elem 6 0,
  .asRec 7 1 1,
  .store 6 7,
  .elem 8 0,
  .asRec 9 1 1,
  .store 8 9]

def table_275 : Pts := [
  { top := [.root 0], kids := [.inner 0, .loc 4], deep := [.inner 0, .root 1, .recd 1] },
  { top := [.root 1], kids := [.inner 1], deep := [.inner 1] },
  {},
  { top := [.inner 0, .loc 4], kids := [.inner 0, .root 1, .recd 1], deep := [.inner 0, .recd 1, .root 1] },
  { top := [.loc 4], kids := [.root 1], deep := [.recd 1] },
  { top := [.root 1], kids := [.recd 1], deep := [.recd 1] },
  { top := [.inner 0, .loc 4], kids := [.inner 0, .root 1, .recd 1], deep := [.inner 0, .recd 1, .root 1] },
  { top := [.root 1], kids := [.recd 1], deep := [.recd 1] },
  { top := [.inner 0, .loc 4], kids := [.inner 0, .root 1, .recd 1], deep := [.inner 0, .root 1, .recd 1] },
  { top := [.root 1], kids := [.recd 1], deep := [.recd 1] }]

/-- peptacular.proforma.proforma_parser._ProFormaParser._add_internal_mod -/
def prog_276 : List Stmt := [
  .param 0 0,
  .param 1 1,
  .elem 3 0,
  .pack 4 [],
  .store 0 4,
  .elem 5 0,
  .elem 7 0,
  .pack 8 [],
  .elem 9 0,
  .store 9 8,
  .asRec 10 1 1,
  .elem 11 0,
  .elem 12 11,
  .asRec 13 1 1,
  .store 12 13,
  .elem 14 0,
  .elem 15 14,
  .asRec 16 1 1,
  .store 15 16]

def table_276 : Pts := [
  { top := [.root 0], kids := [.inner 0, .loc 4], deep := [.inner 0, .loc 8, .root 1, .recd 1, .recTop 1] },
  { top := [.root 1], kids := [.inner 1, .root 1], deep := [.inner 1, .recd 1, .root 1, .recTop 1] },
  {},
  { top := [.inner 0, .loc 4], kids := [.inner 0, .loc 8, .root 1, .recd 1, .recTop 1], deep := [.inner 0, .loc 8, .recd 1, .root 1, .recTop 1] },
  { top := [.loc 4], kids := [.loc 8], deep := [.root 1, .recd 1, .recTop 1] },
  { top := [.inner 0, .loc 4], kids := [.inner 0, .loc 8, .root 1, .recd 1, .recTop 1], deep := [.inner 0, .loc 8, .recd 1, .root 1, .recTop 1] },
  {},
  { top := [.inner 0, .loc 4], kids := [.inner 0, .loc 8, .root 1, .recd 1, .recTop 1], deep := [.inner 0, .loc 8, .recd 1, .root 1, .recTop 1] },
  { top := [.loc 8], kids := [.root 1], deep := [.recd 1, .root 1, .recTop 1] },
  { top := [.inner 0, .loc 4], kids := [.inner 0, .loc 8, .root 1, .recd 1, .recTop 1], deep := [.inner 0, .loc 8, .recd 1, .root 1, .recTop 1] },
  { top := [.root 1], kids := [.recd 1, .root 1, .recTop 1], deep := [.recd 1, .root 1, .recTop 1] },
  { top := [.inner 0, .loc 4], kids := [.inner 0, .loc 8, .root 1, .recd 1, .recTop 1], deep := [.inner 0, .loc 8, .recd 1, .root 1, .recTop 1] },
  { top := [.inner 0, .loc 8, .root 1, .recd 1, .recTop 1], kids := [.inner 0, .loc 8, .root 1, .recd 1, .recTop 1], deep := [.inner 0, .loc 8, .recd 1, .root 1, .recTop 1] },
  { top := [.root 1], kids := [.recd 1, .root 1, .recTop 1], deep := [.recd 1, .root 1, .recTop 1] },
  { top := [.inner 0, .loc 4], kids := [.inner 0, .loc 8, .root 1, .recd 1, .recTop 1], deep := [.inner 0, .loc 8, .root 1, .recd 1, .recTop 1] },
  { top := [.inner 0, .loc 8, .root 1, .recd 1, .recTop 1], kids := [.inner 0, .loc 8, .root 1, .recd 1, .recTop 1], deep := [.inner 0, .loc 8, .root 1, .recd 1, .recTop 1] },
  { top := [.root 1], kids := [.recd 1, .root 1, .recTop 1], deep := [.recd 1, .root 1, .recTop 1] }]

/-- peptacular.proforma.proforma_parser._ProFormaParser._add_interval -/
def prog_277 : List Stmt := [
  .param 0 0,
  .param 1 1,
  .elem 3 0,
  .pack 4 [],
  .store 0 4,
  .asRec 5 1 1,
  .elem 6 0,
  .asRec 7 1 1,
  .store 6 7,
  .elem 8 0,
  .asRec 9 1 1,
  .store 8 9]

def table_277 : Pts := [
  { top := [.root 0], kids := [.inner 0, .loc 4], deep := [.inner 0, .root 1, .recd 1] },
  { top := [.root 1], kids := [.inner 1], deep := [.inner 1] },
  {},
  { top := [.inner 0, .loc 4], kids := [.inner 0, .root 1, .recd 1], deep := [.inner 0, .recd 1, .root 1] },
  { top := [.loc 4], kids := [.root 1], deep := [.recd 1] },
  { top := [.root 1], kids := [.recd 1], deep := [.recd 1] },
  { top := [.inner 0, .loc 4], kids := [.inner 0, .root 1, .recd 1], deep := [.inner 0, .recd 1, .root 1] },
  { top := [.root 1], kids := [.recd 1], deep := [.recd 1] },
  { top := [.inner 0, .loc 4], kids := [.inner 0, .root 1, .recd 1], deep := [.inner 0, .root 1, .recd 1] },
  { top := [.root 1], kids := [.recd 1], deep := [.recd 1] }]

/-- peptacular.proforma.proforma_parser._ProFormaParser._add_isotope_mod -/
def prog_278 : List Stmt := [
  .param 0 0,
  .param 1 1,
  .elem 3 0,
  .pack 4 [],
  .store 0 4,
  .asRec 5 1 1,
  .elem 6 0,
  .asRec 7 1 1,
  .store 6 7,
  .elem 8 0,
  .asRec 9 1 1,
  .store 8 9]

def table_278 : Pts := [
  { top := [.root 0], kids := [.inner 0, .loc 4], deep := [.inner 0, .root 1, .recd 1] },
  { top := [.root 1], kids := [.inner 1], deep := [.inner 1] },
  {},
  { top := [.inner 0, .loc 4], kids := [.inner 0, .root 1, .recd 1], deep := [.inner 0, .recd 1, .root 1] },
  { top := [.loc 4], kids := [.root 1], deep := [.recd 1] },
  { top := [.root 1], kids := [.recd 1], deep := [.recd 1] },
  { top := [.inner 0, .loc 4], kids := [.inner 0, .root 1, .recd 1], deep := [.inner 0, .recd 1, .root 1] },
  { top := [.root 1], kids := [.recd 1], deep := [.recd 1] },
  { top := [.inner 0, .loc 4], kids := [.inner 0, .root 1, .recd 1], deep := [.inner 0, .root 1, .recd 1] },
  { top := [.root 1], kids := [.recd 1], deep := [.recd 1] }]

/-- peptacular.proforma.proforma_parser._ProFormaParser._add_labile_mod -/
def prog_279 : List Stmt := [
  .param 0 0,
  .param 1 1,
  .elem 3 0,
  .pack 4 [],
  .store 0 4,
  .asRec 5 1 1,
  .elem 6 0,
  .asRec 7 1 1,
  .store 6 7,
  .elem 8 0,
  .asRec 9 1 1,
  .store 8 9]

def table_279 : Pts := [
  { top := [.root 0], kids := [.inner 0, .loc 4], deep := [.inner 0, .root 1, .recd 1] },
  { top := [.root 1], kids := [.inner 1], deep := [.inner 1] },
  {},
  { top := [.inner 0, .loc 4], kids := [.inner 0, .root 1, .recd 1], deep := [.inner 0, .recd 1, .root 1] },
  { top := [.loc 4], kids := [.root 1], deep := [.recd 1] },
  { top := [.root 1], kids := [.recd 1], deep := [.recd 1] },
  { top := [.inner 0, .loc 4], kids := [.inner 0, .root 1, .recd 1], deep := [.inner 0, .recd 1, .root 1] },
  { top := [.root 1], kids := [.recd 1], deep := [.recd 1] },
  { top := [.inner 0, .loc 4], kids := [.inner 0, .root 1, .recd 1], deep := [.inner 0, .root 1, .recd 1] },
  { top := [.root 1], kids := [.recd 1], deep := [.recd 1] }]

/-- peptacular.proforma.proforma_parser._ProFormaParser._add_nterm_mod -/
def prog_280 : List Stmt := [
  .param 0 0,
  .param 1 1,
  .elem 3 0,
  .pack 4 [],
  .store 0 4,
  .asRec 5 1 1,
  .elem 6 0,
  .asRec 7 1 1,
  .store 6 7,
  .elem 8 0,
  .asRec 9 1 1,
  .store 8 9]

def table_280 : Pts := [
  { top := [.root 0], kids := [.inner 0, .loc 4], deep := [.inner 0, .root 1, .recd 1] },
  { top := [.root 1], kids := [.inner 1], deep := [.inner 1] },
  {},
  { top := [.inner 0, .loc 4], kids := [.inner 0, .root 1, .recd 1], deep := [.inner 0, .recd 1, .root 1] },
  { top := [.loc 4], kids := [.root 1], deep := [.recd 1] },
  { top := [.root 1], kids := [.recd 1], deep := [.recd 1] },
  { top := [.inner 0, .loc 4], kids := [.inner 0, .root 1, .recd 1], deep := [.inner 0, .recd 1, .root 1] },
  { top := [.root 1], kids := [.recd 1], deep := [.recd 1] },
  { top := [.inner 0, .loc 4], kids := [.inner 0, .root 1, .recd 1], deep := [.inner 0, .root 1, .recd 1] },
  { top := [.root 1], kids := [.recd 1], deep := [.recd 1] }]

/-- peptacular.proforma.proforma_parser._ProFormaParser._add_static_mod -/
def prog_281 : List Stmt := [
  .param 0 0,
  .param 1 1,
  .elem 3 0,
  .pack 4 [],
  .store 0 4,
  .asRec 5 1 1,
  .elem 6 0,
  .asRec 7 1 1,
  .store 6 7,
  .elem 8 0,
  .asRec 9 1 1,
  .store 8 9]

def table_281 : Pts := [
  { top := [.root 0], kids := [.inner 0, .loc 4], deep := [.inner 0, .root 1, .recd 1] },
  { top := [.root 1], kids := [.inner 1], deep := [.inner 1] },
  {},
  { top := [.inner 0, .loc 4], kids := [.inner 0, .root 1, .recd 1], deep := [.inner 0, .recd 1, .root 1] },
  { top := [.loc 4], kids := [.root 1], deep := [.recd 1] },
  { top := [.root 1], kids := [.recd 1], deep := [.recd 1] },
  { top := [.inner 0, .loc 4], kids := [.inner 0, .root 1, .recd 1], deep := [.inner 0, .recd 1, .root 1] },
  { top := [.root 1], kids := [.recd 1], deep := [.recd 1] },
  { top := [.inner 0, .loc 4], kids := [.inner 0, .root 1, .recd 1], deep := [.inner 0, .root 1, .recd 1] },
  { top := [.root 1], kids := [.recd 1], deep := [.recd 1] }]

/-- peptacular.proforma.proforma_parser._ProFormaParser._add_unknown_mod -/
def prog_282 : List Stmt := [
  .param 0 0,
  .param 1 1,
  .elem 3 0,
  .pack 4 [],
  .store 0 4,
  .asRec 5 1 1,
  .elem 6 0,
  .asRec 7 1 1,
  .store 6 7,
  .elem 8 0,
  .asRec 9 1 1,
  .store 8 9]

def table_282 : Pts := [
  { top := [.root 0], kids := [.inner 0, .loc 4], deep := [.inner 0, .root 1, .recd 1] },
  { top := [.root 1], kids := [.inner 1], deep := [.inner 1] },
  {},
  { top := [.inner 0, .loc 4], kids := [.inner 0, .root 1, .recd 1], deep := [.inner 0, .recd 1, .root 1] },
  { top := [.loc 4], kids := [.root 1], deep := [.recd 1] },
  { top := [.root 1], kids := [.recd 1], deep := [.recd 1] },
  { top := [.inner 0, .loc 4], kids := [.inner 0, .root 1, .recd 1], deep := [.inner 0, .recd 1, .root 1] },
  { top := [.root 1], kids := [.recd 1], deep := [.recd 1] },
  { top := [.inner 0, .loc 4], kids := [.inner 0, .root 1, .recd 1], deep := [.inner 0, .root 1, .recd 1] },
  { top := [.root 1], kids := [.recd 1], deep := [.recd 1] }]

/-- peptacular.proforma.proforma_parser._ProFormaParser._current -/
def prog_283 : List Stmt := [
  .param 0 0,
  .elem 2 0,
  .elem 3 0,
  .elem 4 2]

def table_283 : Pts := [
  { top := [.root 0], kids := [.inner 0], deep := [.inner 0] },
  {},
  { top := [.inner 0], kids := [.inner 0], deep := [.inner 0] },
  { top := [.inner 0], kids := [.inner 0], deep := [.inner 0] },
  { top := [.inner 0], kids := [.inner 0], deep := [.inner 0] }]

/-- peptacular.proforma.proforma_parser._ProFormaParser._end_of_sequence -/
def prog_284 : List Stmt := [
  .param 0 0,
  .elem 2 0,
  .elem 3 0]

def table_284 : Pts := [
  { top := [.root 0], kids := [.inner 0], deep := [.inner 0] },
  {},
  { top := [.inner 0], kids := [.inner 0], deep := [.inner 0] },
  { top := [.inner 0], kids := [.inner 0], deep := [.inner 0] }]

/-- peptacular.proforma.proforma_parser._ProFormaParser._get_result -/
def prog_285 : List Stmt := [
  .param 0 0,
  .elem 2 0,
  .elem 3 0,
  .elem 4 0,
  .elem 5 0,
  .elem 6 0,
  .elem 7 0,
  .elem 8 0,
  .elem 9 0,
  .elem 10 0,
  .elem 11 0,
  .elem 12 0,
  .pack 13 [2, 3, 4, 5, 6, 7, 8, 9, 10, 11, 12],
  .alias 1 [13]]

def table_285 : Pts := [
  { top := [.root 0], kids := [.inner 0], deep := [.inner 0] },
  { top := [.loc 13], kids := [.inner 0], deep := [.inner 0] },
  { top := [.inner 0], kids := [.inner 0], deep := [.inner 0] },
  { top := [.inner 0], kids := [.inner 0], deep := [.inner 0] },
  { top := [.inner 0], kids := [.inner 0], deep := [.inner 0] },
  { top := [.inner 0], kids := [.inner 0], deep := [.inner 0] },
  { top := [.inner 0], kids := [.inner 0], deep := [.inner 0] },
  { top := [.inner 0], kids := [.inner 0], deep := [.inner 0] },
  { top := [.inner 0], kids := [.inner 0], deep := [.inner 0] },
  { top := [.inner 0], kids := [.inner 0], deep := [.inner 0] },
  { top := [.inner 0], kids := [.inner 0], deep := [.inner 0] },
  { top := [.inner 0], kids := [.inner 0], deep := [.inner 0] },
  { top := [.inner 0], kids := [.inner 0], deep := [.inner 0] },
  { top := [.loc 13], kids := [.inner 0], deep := [.inner 0] }]

/-- peptacular.proforma.proforma_parser._ProFormaParser._parse_char -/
def prog_286 : List Stmt := [
  .param 0 0,
  .call 2 283 [some 0],
  .alias 3 [2],
  .write 0]

def table_286 : Pts := [
  { top := [.root 0], kids := [.inner 0], deep := [.inner 0] },
  {},
  {},
  {}]

/-- peptacular.proforma.proforma_parser._ProFormaParser._parse_integer -/
def prog_287 : List Stmt := [
  .param 0 0,
  .elem 2 0,
  .alias 3 [2],
  .alias 5 [4],
  .call 6 284 [some 0],
  .call 7 293 [some 0],
  .alias 5 [5],
  .write 0,
  .call 8 293 [some 0],
  .pack 9 [],
  .elem 10 0,
  .elem 11 0,
  .shallow 12 [10]]

def table_287 : Pts := [
  { top := [.root 0], kids := [.inner 0], deep := [.inner 0] },
  {},
  { top := [.inner 0], kids := [.inner 0], deep := [.inner 0] },
  { top := [.inner 0], kids := [.inner 0], deep := [.inner 0] },
  {},
  {},
  {},
  {},
  {},
  { top := [.loc 9], kids := [], deep := [] },
  { top := [.inner 0], kids := [.inner 0], deep := [.inner 0] },
  { top := [.inner 0], kids := [.inner 0], deep := [.inner 0] },
  { top := [.loc 12], kids := [.inner 0], deep := [.inner 0] }]

/-- peptacular.proforma.proforma_parser._ProFormaParser._parse_modification -/
def prog_288 : List Stmt := [
  .param 0 0,
  .param 1 1,
  .param 2 2,
  .write 0,
  .elem 4 0,
  .alias 5 [4],
  .alias 7 [6],
  .call 8 284 [some 0],
  .elem 9 0,
  .elem 10 0,
  .elem 11 9,
  .alias 7 [7],
  .elem 12 0,
  .elem 13 0,
  .elem 14 12,
  .elem 15 0,
  .elem 17 0,
  .elem 18 0,
  .elem 19 0,
  .elem 20 0,
  .shallow 21 [19],
  .alias 22 [21],
  .call 24 284 [some 0],
  .call 25 293 [some 0],
  .elem 26 0,
  .alias 27 [26],
  .call 28 284 [some 0],
  .call 29 293 [some 0],
  .elem 30 0,
  .elem 31 0,
  .shallow 32 [30],
  .elem 34 0,
  .elem 35 0,
  .alias 36 [33, 23],
  .pack 37 [22],
  .call 38 169 [some 37],
  .asRec 39 37 0,
  .alias 3 [39]]

def table_288 : Pts := [
  { top := [.root 0], kids := [.inner 0], deep := [.inner 0] },
  { top := [.root 1], kids := [.inner 1], deep := [.inner 1] },
  { top := [.root 2], kids := [.inner 2], deep := [.inner 2] },
  { top := [.loc 37], kids := [.loc 21], deep := [.recd 0] },
  { top := [.inner 0], kids := [.inner 0], deep := [.inner 0] },
  { top := [.inner 0], kids := [.inner 0], deep := [.inner 0] },
  {},
  {},
  {},
  { top := [.inner 0], kids := [.inner 0], deep := [.inner 0] },
  { top := [.inner 0], kids := [.inner 0], deep := [.inner 0] },
  { top := [.inner 0], kids := [.inner 0], deep := [.inner 0] },
  { top := [.inner 0], kids := [.inner 0], deep := [.inner 0] },
  { top := [.inner 0], kids := [.inner 0], deep := [.inner 0] },
  { top := [.inner 0], kids := [.inner 0], deep := [.inner 0] },
  { top := [.inner 0], kids := [.inner 0], deep := [.inner 0] },
  {},
  { top := [.inner 0], kids := [.inner 0], deep := [.inner 0] },
  { top := [.inner 0], kids := [.inner 0], deep := [.inner 0] },
  { top := [.inner 0], kids := [.inner 0], deep := [.inner 0] },
  { top := [.inner 0], kids := [.inner 0], deep := [.inner 0] },
  { top := [.loc 21], kids := [.inner 0], deep := [.inner 0] },
  { top := [.loc 21], kids := [.inner 0], deep := [.inner 0] },
  {},
  {},
  {},
  { top := [.inner 0], kids := [.inner 0], deep := [.inner 0] },
  { top := [.inner 0], kids := [.inner 0], deep := [.inner 0] },
  {},
  {},
  { top := [.inner 0], kids := [.inner 0], deep := [.inner 0] },
  { top := [.inner 0], kids := [.inner 0], deep := [.inner 0] },
  { top := [.loc 32], kids := [.inner 0], deep := [.inner 0] },
  {},
  { top := [.inner 0], kids := [.inner 0], deep := [.inner 0] },
  { top := [.inner 0], kids := [.inner 0], deep := [.inner 0] },
  {},
  { top := [.loc 37], kids := [.loc 21], deep := [.inner 0] },
  {},
  { top := [.loc 37], kids := [.loc 21], deep := [.recd 0] }]

/-- peptacular.proforma.proforma_parser._ProFormaParser._parse_modifications -/
def prog_289 : List Stmt := [
  .param 0 0,
  .param 1 1,
  .param 2 2,
  .pack 4 [],
  .alias 5 [4],
  .call 7 284 [some 0],
  .call 8 283 [some 0],
  .call 9 288 [some 0, some 1, some 2],
  .alias 6 [9],
  .store 5 6,
  .asRec 10 5 1,
  .alias 3 [10]]

def table_289 : Pts := [
  { top := [.root 0], kids := [.inner 0], deep := [.inner 0] },
  { top := [.root 1], kids := [.inner 1], deep := [.inner 1] },
  { top := [.root 2], kids := [.inner 2], deep := [.inner 2] },
  { top := [.loc 4], kids := [.loc 9], deep := [.loc 9, .recd 0] },
  { top := [.loc 4], kids := [.loc 9], deep := [.loc 9, .recd 0] },
  { top := [.loc 4], kids := [.loc 9], deep := [.loc 9, .recd 0] },
  { top := [.loc 9], kids := [.loc 9], deep := [.recd 0] },
  {},
  {},
  { top := [.loc 9], kids := [.loc 9], deep := [.recd 0] },
  { top := [.loc 4], kids := [.loc 9], deep := [.loc 9, .recd 0] }]

/-- peptacular.proforma.proforma_parser._ProFormaParser._parse_sequence_end -/
def prog_290 : List Stmt := [
  .param 0 0,
  .call 3 284 [some 0],
  .call 4 283 [some 0],
  .alias 2 [4],
  .call 5 295 [some 0, none],
  .call 6 284 [some 0],
  .call 7 283 [some 0],
  .call 8 295 [some 0, none],
  .write 0,
  .call 9 287 [some 0],
  .store 0 9,
  .call 10 284 [some 0],
  .call 11 283 [some 0],
  .call 12 289 [some 0, none, none],
  .call 13 274 [some 0, some 12],
  .call 14 295 [some 0, none],
  .elem 15 0,
  .elem 16 0]

def table_290 : Pts := [
  { top := [.root 0], kids := [.inner 0, .loc 13], deep := [.inner 0, .loc 12, .recd 0, .loc 13] },
  {},
  {},
  {},
  {},
  {},
  {},
  {},
  {},
  {},
  {},
  {},
  { top := [.loc 12], kids := [.loc 12], deep := [.loc 12, .recd 0, .loc 13] },
  {},
  {},
  { top := [.inner 0, .loc 13], kids := [.inner 0, .loc 12, .recd 0, .loc 13], deep := [.inner 0, .loc 12, .recd 0, .loc 13] },
  { top := [.inner 0, .loc 13], kids := [.inner 0, .loc 12, .recd 0, .loc 13], deep := [.inner 0, .loc 12, .recd 0, .loc 13] }]

/-- peptacular.proforma.proforma_parser._ProFormaParser._parse_sequence_middle -/
def prog_291 : List Stmt := [
  .param 0 0,
  .alias 5 [2],
  .call 6 284 [some 0],
  .call 7 283 [some 0],
  .alias 4 [7],
  .elem 8 0,
  .call 9 286 [some 0],
  .store 8 9,
  .elem 10 0,
  .elem 11 0,
  .elem 12 0,
  .call 13 289 [some 0, none, none],
  .call 14 276 [some 0, some 13],
  .elem 15 0,
  .elem 16 0,
  .call 17 295 [some 0, none],
  .call 18 289 [some 0, none, none],
  .alias 3 [18],
  .elem 19 0,
  .elem 20 0,
  .call 21 275 [some 0, some 3],
  .pack 22 [],
  .elem 23 0,
  .elem 24 0,
  .elem 25 0,
  .elem 26 0,
  .elem 27 0,
  .pack 28 [],
  .alias 5 [28],
  .call 29 295 [some 0, none],
  .elem 30 0,
  .elem 31 0,
  .elem 32 0,
  .write 5,
  .elem 33 5,
  .elem 34 5,
  .elem 35 0,
  .elem 36 0,
  .call 37 295 [some 0, none],
  .call 38 284 [some 0],
  .call 39 283 [some 0],
  .call 40 289 [some 0, none, none],
  .store 5 40,
  .elem 41 5,
  .elem 42 5,
  .elem 43 5,
  .elem 44 5,
  .pack 45 [41, 42, 43, 44],
  .asRec 46 45 0,
  .call 47 277 [some 0, some 46],
  .elem 48 0,
  .elem 49 0,
  .call 50 295 [some 0, none],
  .elem 51 0,
  .elem 52 0,
  .elem 53 0,
  .elem 54 0]

def table_291 : Pts := [
  { top := [.root 0], kids := [.inner 0, .loc 14, .loc 21, .loc 47], deep := [.inner 0, .loc 14, .loc 13, .recd 0, .loc 18, .loc 45, .loc 40, .loc 21, .loc 47] },
  {},
  {},
  { top := [.loc 18], kids := [.loc 18], deep := [.loc 18, .recd 0, .loc 14, .loc 13, .loc 21, .loc 47, .loc 45, .loc 40] },
  {},
  { top := [.loc 28], kids := [.loc 40], deep := [.loc 40, .recd 0, .loc 14, .loc 21, .loc 13, .loc 18, .loc 47, .loc 45] },
  {},
  {},
  { top := [.inner 0, .loc 14, .loc 21, .loc 47], kids := [.inner 0, .loc 14, .loc 13, .recd 0, .loc 18, .loc 45, .loc 40, .loc 21, .loc 47], deep := [.inner 0, .loc 14, .loc 13, .recd 0, .loc 18, .loc 45, .loc 40, .loc 21, .loc 47] },
  {},
  { top := [.inner 0, .loc 14, .loc 21, .loc 47], kids := [.inner 0, .loc 14, .loc 13, .recd 0, .loc 18, .loc 45, .loc 40, .loc 21, .loc 47], deep := [.inner 0, .loc 14, .loc 13, .recd 0, .loc 18, .loc 45, .loc 40, .loc 21, .loc 47] },
  { top := [.inner 0, .loc 14, .loc 21, .loc 47], kids := [.inner 0, .loc 14, .loc 13, .recd 0, .loc 18, .loc 45, .loc 40, .loc 21, .loc 47], deep := [.inner 0, .loc 14, .loc 13, .recd 0, .loc 18, .loc 45, .loc 40, .loc 21, .loc 47] },
  { top := [.inner 0, .loc 14, .loc 21, .loc 47], kids := [.inner 0, .loc 14, .loc 13, .recd 0, .loc 18, .loc 45, .loc 40, .loc 21, .loc 47], deep := [.inner 0, .loc 14, .loc 13, .recd 0, .loc 18, .loc 45, .loc 40, .loc 21, .loc 47] },
  { top := [.loc 13], kids := [.loc 13], deep := [.loc 13, .recd 0, .loc 14, .loc 21, .loc 47, .loc 18, .loc 45, .loc 40] },
  {},
  { top := [.inner 0, .loc 14, .loc 21, .loc 47], kids := [.inner 0, .loc 14, .loc 13, .recd 0, .loc 18, .loc 45, .loc 40, .loc 21, .loc 47], deep := [.inner 0, .loc 14, .loc 13, .recd 0, .loc 21, .loc 47, .loc 18, .loc 45, .loc 40] },
  { top := [.inner 0, .loc 14, .loc 21, .loc 47], kids := [.inner 0, .loc 14, .loc 13, .recd 0, .loc 18, .loc 45, .loc 40, .loc 21, .loc 47], deep := [.inner 0, .loc 14, .loc 13, .recd 0, .loc 21, .loc 47, .loc 18, .loc 45, .loc 40] },
  {},
  { top := [.loc 18], kids := [.loc 18], deep := [.loc 18, .recd 0, .loc 14, .loc 13, .loc 21, .loc 47, .loc 45, .loc 40] },
  { top := [.inner 0, .loc 14, .loc 21, .loc 47], kids := [.inner 0, .loc 14, .loc 13, .recd 0, .loc 18, .loc 45, .loc 40, .loc 21, .loc 47], deep := [.inner 0, .loc 14, .loc 13, .recd 0, .loc 21, .loc 47, .loc 18, .loc 45, .loc 40] },
  { top := [.inner 0, .loc 14, .loc 21, .loc 47], kids := [.inner 0, .loc 14, .loc 13, .recd 0, .loc 18, .loc 45, .loc 40, .loc 21, .loc 47], deep := [.inner 0, .loc 14, .loc 13, .recd 0, .loc 21, .loc 47, .loc 18, .loc 45, .loc 40] },
  {},
  { top := [.loc 22], kids := [], deep := [] },
  { top := [.inner 0, .loc 14, .loc 21, .loc 47], kids := [.inner 0, .loc 14, .loc 13, .recd 0, .loc 18, .loc 45, .loc 40, .loc 21, .loc 47], deep := [.inner 0, .loc 14, .loc 13, .recd 0, .loc 18, .loc 21, .loc 47, .loc 45, .loc 40] },
  { top := [.inner 0, .loc 14, .loc 21, .loc 47], kids := [.inner 0, .loc 14, .loc 13, .recd 0, .loc 18, .loc 45, .loc 40, .loc 21, .loc 47], deep := [.inner 0, .loc 14, .loc 13, .recd 0, .loc 18, .loc 21, .loc 47, .loc 45, .loc 40] },
  { top := [.inner 0, .loc 14, .loc 21, .loc 47], kids := [.inner 0, .loc 14, .loc 13, .recd 0, .loc 18, .loc 45, .loc 40, .loc 21, .loc 47], deep := [.inner 0, .loc 14, .loc 13, .recd 0, .loc 18, .loc 21, .loc 47, .loc 45, .loc 40] },
  { top := [.inner 0, .loc 14, .loc 21, .loc 47], kids := [.inner 0, .loc 14, .loc 13, .recd 0, .loc 18, .loc 45, .loc 40, .loc 21, .loc 47], deep := [.inner 0, .loc 14, .loc 13, .recd 0, .loc 18, .loc 21, .loc 47, .loc 45, .loc 40] },
  { top := [.inner 0, .loc 14, .loc 21, .loc 47], kids := [.inner 0, .loc 14, .loc 13, .recd 0, .loc 18, .loc 45, .loc 40, .loc 21, .loc 47], deep := [.inner 0, .loc 14, .loc 13, .recd 0, .loc 18, .loc 21, .loc 47, .loc 45, .loc 40] },
  { top := [.loc 28], kids := [.loc 40], deep := [.loc 40, .recd 0, .loc 14, .loc 21, .loc 13, .loc 18, .loc 47, .loc 45] },
  {},
  { top := [.inner 0, .loc 14, .loc 21, .loc 47], kids := [.inner 0, .loc 14, .loc 13, .recd 0, .loc 18, .loc 45, .loc 40, .loc 21, .loc 47], deep := [.inner 0, .loc 14, .loc 13, .recd 0, .loc 18, .loc 21, .loc 47, .loc 45, .loc 40] },
  { top := [.inner 0, .loc 14, .loc 21, .loc 47], kids := [.inner 0, .loc 14, .loc 13, .recd 0, .loc 18, .loc 45, .loc 40, .loc 21, .loc 47], deep := [.inner 0, .loc 14, .loc 13, .recd 0, .loc 18, .loc 21, .loc 47, .loc 45, .loc 40] },
  { top := [.inner 0, .loc 14, .loc 21, .loc 47], kids := [.inner 0, .loc 14, .loc 13, .recd 0, .loc 18, .loc 45, .loc 40, .loc 21, .loc 47], deep := [.inner 0, .loc 14, .loc 13, .recd 0, .loc 18, .loc 21, .loc 47, .loc 45, .loc 40] },
  { top := [.loc 40], kids := [.loc 40, .recd 0, .loc 14, .loc 21, .loc 13, .loc 18, .loc 47, .loc 45], deep := [.loc 40, .recd 0, .loc 14, .loc 21, .loc 13, .loc 18, .loc 47, .loc 45] },
  { top := [.loc 40], kids := [.loc 40, .recd 0, .loc 14, .loc 21, .loc 13, .loc 18, .loc 47, .loc 45], deep := [.loc 40, .recd 0, .loc 14, .loc 21, .loc 13, .loc 18, .loc 47, .loc 45] },
  { top := [.inner 0, .loc 14, .loc 21, .loc 47], kids := [.inner 0, .loc 14, .loc 13, .recd 0, .loc 18, .loc 45, .loc 40, .loc 21, .loc 47], deep := [.inner 0, .loc 14, .loc 13, .recd 0, .loc 18, .loc 21, .loc 47, .loc 45, .loc 40] },
  { top := [.inner 0, .loc 14, .loc 21, .loc 47], kids := [.inner 0, .loc 14, .loc 13, .recd 0, .loc 18, .loc 45, .loc 40, .loc 21, .loc 47], deep := [.inner 0, .loc 14, .loc 13, .recd 0, .loc 18, .loc 21, .loc 47, .loc 45, .loc 40] },
  {},
  {},
  {},
  { top := [.loc 40], kids := [.loc 40], deep := [.loc 40, .recd 0, .loc 14, .loc 21, .loc 13, .loc 18, .loc 47, .loc 45] },
  { top := [.loc 40], kids := [.loc 40, .recd 0, .loc 14, .loc 21, .loc 13, .loc 18, .loc 47, .loc 45], deep := [.loc 40, .recd 0, .loc 14, .loc 21, .loc 13, .loc 18, .loc 47, .loc 45] },
  { top := [.loc 40], kids := [.loc 40, .recd 0, .loc 14, .loc 21, .loc 13, .loc 18, .loc 47, .loc 45], deep := [.loc 40, .recd 0, .loc 14, .loc 21, .loc 13, .loc 18, .loc 47, .loc 45] },
  { top := [.loc 40], kids := [.loc 40, .recd 0, .loc 14, .loc 21, .loc 13, .loc 18, .loc 47, .loc 45], deep := [.loc 40, .recd 0, .loc 14, .loc 21, .loc 13, .loc 18, .loc 47, .loc 45] },
  { top := [.loc 40], kids := [.loc 40, .recd 0, .loc 14, .loc 21, .loc 13, .loc 18, .loc 47, .loc 45], deep := [.loc 40, .recd 0, .loc 14, .loc 21, .loc 13, .loc 18, .loc 47, .loc 45] },
  { top := [.loc 45], kids := [.loc 40], deep := [.loc 40, .recd 0, .loc 14, .loc 21, .loc 13, .loc 18, .loc 47, .loc 45] },
  { top := [.loc 45], kids := [.loc 40], deep := [.loc 40, .recd 0, .loc 14, .loc 21, .loc 13, .loc 18, .loc 47, .loc 45] },
  {},
  { top := [.inner 0, .loc 14, .loc 21, .loc 47], kids := [.inner 0, .loc 14, .loc 13, .recd 0, .loc 18, .loc 45, .loc 40, .loc 21, .loc 47], deep := [.inner 0, .loc 14, .loc 13, .recd 0, .loc 18, .loc 45, .loc 40, .loc 21, .loc 47] },
  { top := [.inner 0, .loc 14, .loc 21, .loc 47], kids := [.inner 0, .loc 14, .loc 13, .recd 0, .loc 18, .loc 45, .loc 40, .loc 21, .loc 47], deep := [.inner 0, .loc 14, .loc 13, .recd 0, .loc 18, .loc 45, .loc 40, .loc 21, .loc 47] },
  {},
  { top := [.inner 0, .loc 14, .loc 21, .loc 47], kids := [.inner 0, .loc 14, .loc 13, .recd 0, .loc 18, .loc 45, .loc 40, .loc 21, .loc 47], deep := [.inner 0, .loc 14, .loc 13, .recd 0, .loc 18, .loc 45, .loc 40, .loc 21, .loc 47] },
  { top := [.inner 0, .loc 14, .loc 21, .loc 47], kids := [.inner 0, .loc 14, .loc 13, .recd 0, .loc 18, .loc 45, .loc 40, .loc 21, .loc 47], deep := [.inner 0, .loc 14, .loc 13, .recd 0, .loc 18, .loc 45, .loc 40, .loc 21, .loc 47] },
  { top := [.inner 0, .loc 14, .loc 21, .loc 47], kids := [.inner 0, .loc 14, .loc 13, .recd 0, .loc 18, .loc 45, .loc 40, .loc 21, .loc 47], deep := [.inner 0, .loc 14, .loc 13, .recd 0, .loc 18, .loc 45, .loc 40, .loc 21, .loc 47] },
  { top := [.inner 0, .loc 14, .loc 21, .loc 47], kids := [.inner 0, .loc 14, .loc 13, .recd 0, .loc 18, .loc 45, .loc 40, .loc 21, .loc 47], deep := [.inner 0, .loc 14, .loc 13, .recd 0, .loc 18, .loc 45, .loc 40, .loc 21, .loc 47] }]

/-- peptacular.proforma.proforma_parser._ProFormaParser._parse_sequence_start -/
def prog_292 : List Stmt := [
  .param 0 0,
  .call 6 284 [some 0],
  .call 7 283 [some 0],
  .alias 2 [7],
  .call 8 289 [some 0, none, none],
  .alias 4 [8],
  .call 9 284 [some 0],
  .elem 10 0,
  .elem 11 0,
  .call 12 286 [some 0],
  .alias 5 [12],
  .call 13 280 [some 0, some 4],
  .call 14 282 [some 0, some 4],
  .elem 15 0,
  .elem 16 0,
  .call 17 289 [some 0, none, none],
  .elem 18 17,
  .alias 3 [18],
  .elem 19 3,
  .elem 20 3,
  .elem 21 0,
  .elem 22 0,
  .elem 23 3,
  .call 24 281 [some 0, some 3],
  .elem 26 0,
  .elem 27 0,
  .call 28 278 [some 0, some 3],
  .elem 30 0,
  .elem 31 0,
  .call 32 288 [some 0, none, none],
  .call 33 279 [some 0, some 32],
  .elem 34 0,
  .elem 35 0]

def table_292 : Pts := [
  { top := [.root 0], kids := [.inner 0, .loc 13, .loc 14, .loc 24, .loc 28, .loc 33], deep := [.inner 0, .loc 8, .recd 0, .loc 17, .loc 13, .loc 14, .loc 32, .loc 24, .loc 28, .loc 33] },
  {},
  {},
  { top := [.loc 17], kids := [.loc 17, .recd 0, .loc 13, .loc 14, .loc 8, .loc 24, .loc 28, .loc 33, .loc 32], deep := [.loc 17, .recd 0, .loc 13, .loc 14, .loc 8, .loc 24, .loc 28, .loc 33, .loc 32] },
  { top := [.loc 8], kids := [.loc 8], deep := [.loc 8, .recd 0, .loc 13, .loc 14, .loc 24, .loc 28, .loc 33, .loc 17, .loc 32] },
  {},
  {},
  {},
  { top := [.loc 8], kids := [.loc 8], deep := [.loc 8, .recd 0, .loc 13, .loc 14, .loc 24, .loc 28, .loc 33, .loc 17, .loc 32] },
  {},
  { top := [.inner 0, .loc 13, .loc 14, .loc 24, .loc 28, .loc 33], kids := [.inner 0, .loc 8, .recd 0, .loc 17, .loc 13, .loc 14, .loc 32, .loc 24, .loc 28, .loc 33], deep := [.inner 0, .loc 8, .recd 0, .loc 17, .loc 13, .loc 14, .loc 32, .loc 24, .loc 28, .loc 33] },
  { top := [.inner 0, .loc 13, .loc 14, .loc 24, .loc 28, .loc 33], kids := [.inner 0, .loc 8, .recd 0, .loc 17, .loc 13, .loc 14, .loc 32, .loc 24, .loc 28, .loc 33], deep := [.inner 0, .loc 8, .recd 0, .loc 17, .loc 13, .loc 14, .loc 32, .loc 24, .loc 28, .loc 33] },
  {},
  {},
  {},
  { top := [.inner 0, .loc 13, .loc 14, .loc 24, .loc 28, .loc 33], kids := [.inner 0, .loc 8, .recd 0, .loc 17, .loc 13, .loc 14, .loc 32, .loc 24, .loc 28, .loc 33], deep := [.inner 0, .loc 8, .recd 0, .loc 17, .loc 13, .loc 14, .loc 32, .loc 24, .loc 28, .loc 33] },
  { top := [.inner 0, .loc 13, .loc 14, .loc 24, .loc 28, .loc 33], kids := [.inner 0, .loc 8, .recd 0, .loc 17, .loc 13, .loc 14, .loc 32, .loc 24, .loc 28, .loc 33], deep := [.inner 0, .loc 8, .recd 0, .loc 17, .loc 13, .loc 14, .loc 32, .loc 24, .loc 28, .loc 33] },
  { top := [.loc 17], kids := [.loc 17], deep := [.loc 17, .recd 0, .loc 13, .loc 14, .loc 8, .loc 24, .loc 28, .loc 33, .loc 32] },
  { top := [.loc 17], kids := [.loc 17, .recd 0, .loc 13, .loc 14, .loc 8, .loc 24, .loc 28, .loc 33, .loc 32], deep := [.loc 17, .recd 0, .loc 13, .loc 14, .loc 8, .loc 24, .loc 28, .loc 33, .loc 32] },
  { top := [.loc 17, .recd 0, .loc 13, .loc 14, .loc 8, .loc 24, .loc 28, .loc 33, .loc 32], kids := [.loc 17, .recd 0, .loc 13, .loc 14, .loc 8, .loc 24, .loc 28, .loc 33, .loc 32], deep := [.loc 17, .recd 0, .loc 13, .loc 14, .loc 8, .loc 24, .loc 28, .loc 33, .loc 32] },
  { top := [.loc 17, .recd 0, .loc 13, .loc 14, .loc 8, .loc 24, .loc 28, .loc 33, .loc 32], kids := [.loc 17, .recd 0, .loc 13, .loc 14, .loc 8, .loc 24, .loc 28, .loc 33, .loc 32], deep := [.loc 17, .recd 0, .loc 13, .loc 14, .loc 8, .loc 24, .loc 28, .loc 33, .loc 32] },
  { top := [.inner 0, .loc 13, .loc 14, .loc 24, .loc 28, .loc 33], kids := [.inner 0, .loc 8, .recd 0, .loc 17, .loc 13, .loc 14, .loc 32, .loc 24, .loc 28, .loc 33], deep := [.inner 0, .loc 8, .recd 0, .loc 17, .loc 13, .loc 14, .loc 32, .loc 24, .loc 28, .loc 33] },
  { top := [.inner 0, .loc 13, .loc 14, .loc 24, .loc 28, .loc 33], kids := [.inner 0, .loc 8, .recd 0, .loc 17, .loc 13, .loc 14, .loc 32, .loc 24, .loc 28, .loc 33], deep := [.inner 0, .loc 8, .recd 0, .loc 17, .loc 13, .loc 14, .loc 32, .loc 24, .loc 28, .loc 33] },
  { top := [.loc 17, .recd 0, .loc 13, .loc 14, .loc 8, .loc 24, .loc 28, .loc 33, .loc 32], kids := [.loc 17, .recd 0, .loc 13, .loc 14, .loc 8, .loc 24, .loc 28, .loc 33, .loc 32], deep := [.loc 17, .recd 0, .loc 13, .loc 14, .loc 8, .loc 24, .loc 28, .loc 33, .loc 32] },
  {},
  {},
  { top := [.inner 0, .loc 13, .loc 14, .loc 24, .loc 28, .loc 33], kids := [.inner 0, .loc 8, .recd 0, .loc 17, .loc 13, .loc 14, .loc 32, .loc 24, .loc 28, .loc 33], deep := [.inner 0, .loc 8, .recd 0, .loc 17, .loc 13, .loc 14, .loc 32, .loc 24, .loc 28, .loc 33] },
  { top := [.inner 0, .loc 13, .loc 14, .loc 24, .loc 28, .loc 33], kids := [.inner 0, .loc 8, .recd 0, .loc 17, .loc 13, .loc 14, .loc 32, .loc 24, .loc 28, .loc 33], deep := [.inner 0, .loc 8, .recd 0, .loc 17, .loc 13, .loc 14, .loc 32, .loc 24, .loc 28, .loc 33] },
  {},
  {},
  { top := [.inner 0, .loc 13, .loc 14, .loc 24, .loc 28, .loc 33], kids := [.inner 0, .loc 8, .recd 0, .loc 17, .loc 13, .loc 14, .loc 32, .loc 24, .loc 28, .loc 33], deep := [.inner 0, .loc 8, .recd 0, .loc 17, .loc 13, .loc 14, .loc 32, .loc 24, .loc 28, .loc 33] },
  { top := [.inner 0, .loc 13, .loc 14, .loc 24, .loc 28, .loc 33], kids := [.inner 0, .loc 8, .recd 0, .loc 17, .loc 13, .loc 14, .loc 32, .loc 24, .loc 28, .loc 33], deep := [.inner 0, .loc 8, .recd 0, .loc 17, .loc 13, .loc 14, .loc 32, .loc 24, .loc 28, .loc 33] },
  { top := [.loc 32], kids := [.loc 32], deep := [.recd 0, .loc 13, .loc 14, .loc 24, .loc 28, .loc 8, .loc 17, .loc 33, .loc 32] },
  {},
  { top := [.inner 0, .loc 13, .loc 14, .loc 24, .loc 28, .loc 33], kids := [.inner 0, .loc 8, .recd 0, .loc 17, .loc 13, .loc 14, .loc 32, .loc 24, .loc 28, .loc 33], deep := [.inner 0, .loc 8, .recd 0, .loc 17, .loc 13, .loc 14, .loc 32, .loc 24, .loc 28, .loc 33] },
  { top := [.inner 0, .loc 13, .loc 14, .loc 24, .loc 28, .loc 33], kids := [.inner 0, .loc 8, .recd 0, .loc 17, .loc 13, .loc 14, .loc 32, .loc 24, .loc 28, .loc 33], deep := [.inner 0, .loc 8, .recd 0, .loc 17, .loc 13, .loc 14, .loc 32, .loc 24, .loc 28, .loc 33] }]

/-- peptacular.proforma.proforma_parser._ProFormaParser._peek -/
def prog_293 : List Stmt := [
  .param 0 0,
  .call 2 284 [some 0],
  .elem 3 0,
  .elem 4 0,
  .elem 5 3,
  .alias 6 [5]]

def table_293 : Pts := [
  { top := [.root 0], kids := [.inner 0], deep := [.inner 0] },
  {},
  {},
  { top := [.inner 0], kids := [.inner 0], deep := [.inner 0] },
  { top := [.inner 0], kids := [.inner 0], deep := [.inner 0] },
  { top := [.inner 0], kids := [.inner 0], deep := [.inner 0] },
  { top := [.inner 0], kids := [.inner 0], deep := [.inner 0] }]

/-- peptacular.proforma.proforma_parser._ProFormaParser._reset_sequence -/
def prog_294 : List Stmt := [
  .param 0 0,
  .pack 2 [],
  .store 0 2,
  .write 0]

def table_294 : Pts := [
  { top := [.root 0], kids := [.inner 0, .loc 2], deep := [.inner 0] },
  {},
  { top := [.loc 2], kids := [], deep := [] }]

/-- peptacular.proforma.proforma_parser._ProFormaParser._skip -/
def prog_295 : List Stmt := [
  .param 0 0,
  .param 1 1,
  .store 0 1]

def table_295 : Pts := [
  { top := [.root 0], kids := [.inner 0, .root 1], deep := [.inner 0, .inner 1] },
  { top := [.root 1], kids := [.inner 1], deep := [.inner 1] }]

/-- peptacular.proforma.proforma_parser._ProFormaParser._unmod_sequence -/
def prog_296 : List Stmt := [
  .param 0 0,
  .elem 2 0]

def table_296 : Pts := [
  { top := [.root 0], kids := [.inner 0], deep := [.inner 0] },
  {},
  { top := [.inner 0], kids := [.inner 0], deep := [.inner 0] }]

/-- peptacular.proforma.proforma_parser._ProFormaParser.parse -/
def prog_297 : List Stmt := [
  .param 0 0,
  .call 2 284 [some 0],
  .call 3 292 [some 0],
  .call 4 291 [some 0],
  .call 5 290 [some 0],
  .call 6 285 [some 0],
  .elem 7 0,
  .pack 8 [6, 7],
  .pack 9 [8],
  .alias 1 [9],
  .call 10 284 [some 0],
  .call 11 294 [some 0]]

def table_297 : Pts := [
  { top := [.root 0], kids := [.inner 0, .loc 3, .loc 4, .loc 5, .loc 11], deep := [.inner 0, .loc 3, .recd 0, .loc 4, .loc 5, .loc 11] },
  { top := [.loc 9], kids := [.loc 8], deep := [.loc 6, .inner 0, .loc 3, .loc 4, .loc 5, .recd 0, .loc 11] },
  {},
  {},
  {},
  {},
  { top := [.loc 6], kids := [.inner 0, .loc 3, .loc 4, .loc 5, .recd 0, .loc 11], deep := [.inner 0, .loc 3, .loc 4, .loc 5, .recd 0, .loc 11] },
  { top := [.inner 0, .loc 3, .loc 4, .loc 5, .loc 11], kids := [.inner 0, .loc 3, .recd 0, .loc 4, .loc 5, .loc 11], deep := [.inner 0, .loc 3, .recd 0, .loc 4, .loc 5, .loc 11] },
  { top := [.loc 8], kids := [.loc 6, .inner 0, .loc 3, .loc 4, .loc 5, .loc 11], deep := [.inner 0, .loc 3, .loc 4, .loc 5, .recd 0, .loc 11] },
  { top := [.loc 9], kids := [.loc 8], deep := [.loc 6, .inner 0, .loc 3, .loc 4, .loc 5, .recd 0, .loc 11] },
  {},
  {}]

/-- peptacular.proforma.proforma_parser._is_unmodified -/
def prog_298 : List Stmt := [
  .param 0 0,
  .pack 3 [],
  .leaf 4 3]

def table_298 : Pts := [
  { top := [.root 0], kids := [.inner 0], deep := [.inner 0] },
  {},
  {},
  { top := [.loc 3], kids := [], deep := [] },
  { top := [.loc 3], kids := [], deep := [] }]

/-- peptacular.proforma.proforma_parser._parse_integer -/
def prog_299 : List Stmt := [
  .param 0 0,
  .alias 4 [3],
  .alias 5 [2],
  .alias 4 [4],
  .alias 5 [5],
  .pack 6 [],
  .pack 7 []]

def table_299 : Pts := [
  { top := [.root 0], kids := [.inner 0], deep := [.inner 0] },
  {},
  {},
  {},
  {},
  {},
  { top := [.loc 6], kids := [], deep := [] },
  { top := [.loc 7], kids := [], deep := [] }]

/-- peptacular.proforma.proforma_parser._parse_modification -/
def prog_300 : List Stmt := [
  .param 0 0,
  .param 1 1,
  .param 2 2,
  .alias 7 [4],
  .alias 8 [5],
  .alias 7 [7],
  .alias 8 [8],
  .call 13 299 [none],
  .elem 14 13,
  .alias 15 [14],
  .elem 16 13,
  .alias 17 [16],
  .alias 18 [8],
  .alias 19 [15, 11],
  .alias 20 [18, 8],
  .pack 21 [],
  .call 22 169 [some 21],
  .asRec 23 21 0,
  .pack 24 [23],
  .alias 3 [24]]

def table_300 : Pts := [
  { top := [.root 0], kids := [.inner 0], deep := [.inner 0] },
  { top := [.root 1], kids := [.inner 1], deep := [.inner 1] },
  { top := [.root 2], kids := [.inner 2], deep := [.inner 2] },
  { top := [.loc 24], kids := [.loc 21], deep := [] },
  {},
  {},
  {},
  {},
  {},
  {},
  {},
  {},
  {},
  {},
  {},
  {},
  {},
  {},
  {},
  {},
  {},
  { top := [.loc 21], kids := [], deep := [] },
  {},
  { top := [.loc 21], kids := [], deep := [] },
  { top := [.loc 24], kids := [.loc 21], deep := [] }]

/-- peptacular.proforma.proforma_parser._parse_modifications -/
def prog_301 : List Stmt := [
  .param 0 0,
  .param 1 1,
  .param 2 2,
  .pack 4 [],
  .alias 5 [4],
  .alias 10 [6],
  .call 11 300 [none, none, none],
  .elem 12 11,
  .alias 8 [12],
  .elem 13 11,
  .alias 9 [13],
  .store 5 8,
  .alias 14 [10, 9],
  .alias 10 [14],
  .alias 10 [10],
  .asRec 15 5 1,
  .alias 3 [15]]

def table_301 : Pts := [
  { top := [.root 0], kids := [.inner 0], deep := [.inner 0] },
  { top := [.root 1], kids := [.inner 1], deep := [.inner 1] },
  { top := [.root 2], kids := [.inner 2], deep := [.inner 2] },
  { top := [.loc 4], kids := [.loc 11], deep := [] },
  { top := [.loc 4], kids := [.loc 11], deep := [] },
  { top := [.loc 4], kids := [.loc 11], deep := [] },
  {},
  {},
  { top := [.loc 11], kids := [], deep := [] },
  { top := [.loc 11], kids := [], deep := [] },
  { top := [.loc 11], kids := [], deep := [] },
  { top := [.loc 11], kids := [.loc 11], deep := [] },
  { top := [.loc 11], kids := [], deep := [] },
  { top := [.loc 11], kids := [], deep := [] },
  { top := [.loc 11], kids := [], deep := [] },
  { top := [.loc 4], kids := [.loc 11], deep := [] }]

/-- peptacular.proforma.proforma_parser._pop_ion_charge -/
def prog_302 : List Stmt := [
  .param 0 0,
  .pack 2 [],
  .alias 6 [3],
  .alias 7 [4],
  .alias 8 [6, 5],
  .alias 6 [8],
  .pack 10 []]

def table_302 : Pts := [
  { top := [.root 0], kids := [.inner 0], deep := [.inner 0] },
  {},
  { top := [.loc 2], kids := [], deep := [] },
  {},
  {},
  {},
  {},
  {},
  {},
  {},
  { top := [.loc 10], kids := [], deep := [] }]

/-- peptacular.proforma.proforma_parser._pop_ion_count -/
def prog_303 : List Stmt := [
  .param 0 0,
  .shallow 4 [],
  .alias 6 [3],
  .alias 8 [2],
  .elem 10 4,
  .elem 11 10,
  .alias 9 [11],
  .elem 12 10,
  .alias 5 [12],
  .alias 13 [8, 5],
  .alias 8 [13],
  .pack 14 []]

def table_303 : Pts := [
  { top := [.root 0], kids := [.inner 0], deep := [.inner 0] },
  {},
  {},
  {},
  { top := [.loc 4], kids := [], deep := [] },
  {},
  {},
  {},
  {},
  {},
  {},
  {},
  {},
  {},
  { top := [.loc 14], kids := [], deep := [] }]

/-- peptacular.proforma.proforma_parser._pop_ion_symbol -/
def prog_304 : List Stmt := [
  .param 0 0,
  .shallow 3 [],
  .alias 6 [2],
  .elem 7 3,
  .elem 8 7,
  .alias 5 [8],
  .elem 9 7,
  .alias 4 [9],
  .pack 10 [],
  .pack 11 [],
  .alias 12 [6, 4],
  .alias 6 [12],
  .pack 13 []]

def table_304 : Pts := [
  { top := [.root 0], kids := [.inner 0], deep := [.inner 0] },
  {},
  {},
  { top := [.loc 3], kids := [], deep := [] },
  {},
  {},
  {},
  {},
  {},
  {},
  { top := [.loc 10], kids := [], deep := [] },
  { top := [.loc 11], kids := [], deep := [] },
  {},
  { top := [.loc 13], kids := [], deep := [] }]

/-- peptacular.proforma.proforma_parser._serialize_annotation -/
def prog_305 : List Stmt := [
  .param 0 0,
  .param 1 1,
  .call 3 308 [some 0, none],
  .call 4 307 [some 0, none],
  .call 5 306 [some 0, none]]

def table_305 : Pts := [
  { top := [.root 0], kids := [.inner 0], deep := [.inner 0] },
  { top := [.root 1], kids := [.inner 1], deep := [.inner 1] },
  {},
  {},
  {},
  {}]

/-- peptacular.proforma.proforma_parser._serialize_annotation_end -/
def prog_306 : List Stmt := [
  .param 0 0,
  .param 1 1,
  .pack 3 [],
  .alias 4 [3],
  .elem 5 0,
  .asRec 6 5 1,
  .write 4,
  .elem 7 0,
  .asRec 8 7 1,
  .elem 10 8,
  .asRec 11 10 0,
  .alias 9 [11],
  .asRec 12 9 0,
  .call 13 171 [some 12, none, none],
  .store 4 13,
  .elem 14 0,
  .asRec 15 14 1,
  .elem 16 0,
  .asRec 17 16 1,
  .alias 18 [9],
  .elem 19 17,
  .asRec 20 19 0,
  .alias 18 [20],
  .asRec 21 18 0,
  .call 22 171 [some 21, none, none],
  .store 4 22,
  .alias 23 [18, 9]]

def table_306 : Pts := [
  { top := [.root 0], kids := [.inner 0], deep := [.inner 0] },
  { top := [.root 1], kids := [.inner 1], deep := [.inner 1] },
  {},
  { top := [.loc 3], kids := [], deep := [] },
  { top := [.loc 3], kids := [], deep := [] },
  { top := [.inner 0], kids := [.inner 0], deep := [.inner 0] },
  { top := [.inner 0], kids := [.recd 0], deep := [.recd 0] },
  { top := [.inner 0], kids := [.inner 0], deep := [.inner 0] },
  { top := [.inner 0], kids := [.recd 0], deep := [.recd 0] },
  { top := [.recd 0], kids := [.recd 0], deep := [.recd 0] },
  { top := [.recd 0], kids := [.recd 0], deep := [.recd 0] },
  { top := [.recd 0], kids := [.recd 0], deep := [.recd 0] },
  { top := [.recd 0], kids := [.recd 0], deep := [.recd 0] },
  {},
  { top := [.inner 0], kids := [.inner 0], deep := [.inner 0] },
  { top := [.inner 0], kids := [.recd 0], deep := [.recd 0] },
  { top := [.inner 0], kids := [.inner 0], deep := [.inner 0] },
  { top := [.inner 0], kids := [.recd 0], deep := [.recd 0] },
  { top := [.recd 0], kids := [.recd 0], deep := [.recd 0] },
  { top := [.recd 0], kids := [.recd 0], deep := [.recd 0] },
  { top := [.recd 0], kids := [.recd 0], deep := [.recd 0] },
  { top := [.recd 0], kids := [.recd 0], deep := [.recd 0] },
  {},
  { top := [.recd 0], kids := [.recd 0], deep := [.recd 0] }]

/-- peptacular.proforma.proforma_parser._serialize_annotation_middle -/
def prog_307 : List Stmt := [
  .param 0 0,
  .param 1 1,
  .pack 3 [],
  .alias 4 [3],
  .shallow 5 [],
  .elem 10 5,
  .elem 11 10,
  .alias 7 [11],
  .elem 12 10,
  .alias 6 [12],
  .elem 13 0,
  .asRec 14 13 1,
  .elem 15 0,
  .asRec 16 15 1,
  .elem 17 16,
  .asRec 18 17 0,
  .alias 8 [18],
  .asRec 19 8 0,
  .write 4,
  .asRec 20 8 0,
  .asRec 21 8 0,
  .asRec 22 8 0,
  .elem 23 22,
  .asRec 24 23 1,
  .asRec 25 8 0,
  .elem 26 25,
  .asRec 27 26 1,
  .elem 28 27,
  .asRec 29 28 0,
  .alias 9 [29],
  .asRec 30 9 0,
  .call 31 171 [some 30, none, none],
  .store 4 31,
  .store 4 6,
  .elem 32 0,
  .elem 33 0,
  .alias 34 [32],
  .elem 35 0,
  .elem 36 35,
  .elem 37 36,
  .alias 9 [37],
  .asRec 38 9 0,
  .call 39 171 [some 38, none, none],
  .store 4 39,
  .elem 41 0,
  .asRec 42 41 1,
  .elem 43 0,
  .asRec 44 43 1,
  .alias 45 [8],
  .alias 46 [9],
  .elem 47 44,
  .asRec 48 47 0,
  .alias 45 [48],
  .asRec 49 45 0,
  .asRec 50 45 0,
  .elem 51 50,
  .asRec 52 51 1,
  .asRec 53 45 0,
  .elem 54 53,
  .asRec 55 54 1,
  .elem 56 55,
  .asRec 57 56 0,
  .alias 46 [57],
  .asRec 58 46 0,
  .call 59 171 [some 58, none, none],
  .store 4 59,
  .alias 60 [45, 8],
  .alias 61 [46, 9]]

def table_307 : Pts := [
  { top := [.root 0], kids := [.inner 0], deep := [.inner 0] },
  { top := [.root 1], kids := [.inner 1], deep := [.inner 1] },
  {},
  { top := [.loc 3], kids := [], deep := [] },
  { top := [.loc 3], kids := [], deep := [] },
  { top := [.loc 5], kids := [], deep := [] },
  {},
  {},
  { top := [.recd 0], kids := [.recd 0], deep := [.recd 0] },
  { top := [.recd 0, .inner 0], kids := [.recd 0, .inner 0], deep := [.recd 0, .inner 0] },
  {},
  {},
  {},
  { top := [.inner 0], kids := [.inner 0], deep := [.inner 0] },
  { top := [.inner 0], kids := [.recd 0], deep := [.recd 0] },
  { top := [.inner 0], kids := [.inner 0], deep := [.inner 0] },
  { top := [.inner 0], kids := [.recd 0], deep := [.recd 0] },
  { top := [.recd 0], kids := [.recd 0], deep := [.recd 0] },
  { top := [.recd 0], kids := [.recd 0], deep := [.recd 0] },
  { top := [.recd 0], kids := [.recd 0], deep := [.recd 0] },
  { top := [.recd 0], kids := [.recd 0], deep := [.recd 0] },
  { top := [.recd 0], kids := [.recd 0], deep := [.recd 0] },
  { top := [.recd 0], kids := [.recd 0], deep := [.recd 0] },
  { top := [.recd 0], kids := [.recd 0], deep := [.recd 0] },
  { top := [.recd 0], kids := [.recd 0], deep := [.recd 0] },
  { top := [.recd 0], kids := [.recd 0], deep := [.recd 0] },
  { top := [.recd 0], kids := [.recd 0], deep := [.recd 0] },
  { top := [.recd 0], kids := [.recd 0], deep := [.recd 0] },
  { top := [.recd 0], kids := [.recd 0], deep := [.recd 0] },
  { top := [.recd 0], kids := [.recd 0], deep := [.recd 0] },
  { top := [.recd 0], kids := [.recd 0], deep := [.recd 0] },
  {},
  { top := [.inner 0], kids := [.inner 0], deep := [.inner 0] },
  { top := [.inner 0], kids := [.inner 0], deep := [.inner 0] },
  { top := [.inner 0], kids := [.inner 0], deep := [.inner 0] },
  { top := [.inner 0], kids := [.inner 0], deep := [.inner 0] },
  { top := [.inner 0], kids := [.inner 0], deep := [.inner 0] },
  { top := [.inner 0], kids := [.inner 0], deep := [.inner 0] },
  { top := [.recd 0], kids := [.recd 0], deep := [.recd 0] },
  {},
  {},
  { top := [.inner 0], kids := [.inner 0], deep := [.inner 0] },
  { top := [.inner 0], kids := [.recd 0], deep := [.recd 0] },
  { top := [.inner 0], kids := [.inner 0], deep := [.inner 0] },
  { top := [.inner 0], kids := [.recd 0], deep := [.recd 0] },
  { top := [.recd 0], kids := [.recd 0], deep := [.recd 0] },
  { top := [.recd 0, .inner 0], kids := [.recd 0, .inner 0], deep := [.recd 0, .inner 0] },
  { top := [.recd 0], kids := [.recd 0], deep := [.recd 0] },
  { top := [.recd 0], kids := [.recd 0], deep := [.recd 0] },
  { top := [.recd 0], kids := [.recd 0], deep := [.recd 0] },
  { top := [.recd 0], kids := [.recd 0], deep := [.recd 0] },
  { top := [.recd 0], kids := [.recd 0], deep := [.recd 0] },
  { top := [.recd 0], kids := [.recd 0], deep := [.recd 0] },
  { top := [.recd 0], kids := [.recd 0], deep := [.recd 0] },
  { top := [.recd 0], kids := [.recd 0], deep := [.recd 0] },
  { top := [.recd 0], kids := [.recd 0], deep := [.recd 0] },
  { top := [.recd 0], kids := [.recd 0], deep := [.recd 0] },
  { top := [.recd 0], kids := [.recd 0], deep := [.recd 0] },
  { top := [.recd 0], kids := [.recd 0], deep := [.recd 0] },
  {},
  { top := [.recd 0], kids := [.recd 0], deep := [.recd 0] },
  { top := [.recd 0, .inner 0], kids := [.recd 0, .inner 0], deep := [.recd 0, .inner 0] }]

/-- peptacular.proforma.proforma_parser._serialize_annotation_start -/
def prog_308 : List Stmt := [
  .param 0 0,
  .param 1 1,
  .pack 3 [],
  .alias 4 [3],
  .call 5 218 [some 0],
  .elem 6 0,
  .asRec 7 6 1,
  .elem 9 7,
  .asRec 10 9 0,
  .alias 8 [10],
  .asRec 11 8 0,
  .call 12 171 [some 11, none, none],
  .store 4 12,
  .call 13 222 [some 0],
  .elem 14 0,
  .asRec 15 14 1,
  .alias 16 [8],
  .elem 17 15,
  .asRec 18 17 0,
  .alias 16 [18],
  .asRec 19 16 0,
  .call 20 171 [some 19, none, none],
  .store 4 20,
  .alias 21 [16, 8],
  .call 22 217 [some 0],
  .elem 23 0,
  .asRec 24 23 1,
  .alias 25 [21],
  .elem 26 24,
  .asRec 27 26 0,
  .alias 25 [27],
  .asRec 28 25 0,
  .call 29 171 [some 28, none, none],
  .store 4 29,
  .alias 30 [25, 21],
  .call 31 223 [some 0],
  .elem 32 0,
  .asRec 33 32 1,
  .alias 34 [30],
  .elem 35 33,
  .asRec 36 35 0,
  .alias 34 [36],
  .asRec 37 34 0,
  .call 38 171 [some 37, none, none],
  .store 4 38,
  .write 4,
  .alias 39 [34, 30],
  .call 40 220 [some 0],
  .elem 41 0,
  .asRec 42 41 1,
  .alias 43 [39],
  .elem 44 42,
  .asRec 45 44 0,
  .alias 43 [45],
  .asRec 46 43 0,
  .call 47 171 [some 46, none, none],
  .store 4 47,
  .alias 48 [43, 39]]

def table_308 : Pts := [
  { top := [.root 0], kids := [.inner 0], deep := [.inner 0] },
  { top := [.root 1], kids := [.inner 1], deep := [.inner 1] },
  {},
  { top := [.loc 3], kids := [], deep := [] },
  { top := [.loc 3], kids := [], deep := [] },
  {},
  { top := [.inner 0], kids := [.inner 0], deep := [.inner 0] },
  { top := [.inner 0], kids := [.recd 0], deep := [.recd 0] },
  { top := [.recd 0], kids := [.recd 0], deep := [.recd 0] },
  { top := [.recd 0], kids := [.recd 0], deep := [.recd 0] },
  { top := [.recd 0], kids := [.recd 0], deep := [.recd 0] },
  { top := [.recd 0], kids := [.recd 0], deep := [.recd 0] },
  {},
  {},
  { top := [.inner 0], kids := [.inner 0], deep := [.inner 0] },
  { top := [.inner 0], kids := [.recd 0], deep := [.recd 0] },
  { top := [.recd 0], kids := [.recd 0], deep := [.recd 0] },
  { top := [.recd 0], kids := [.recd 0], deep := [.recd 0] },
  { top := [.recd 0], kids := [.recd 0], deep := [.recd 0] },
  { top := [.recd 0], kids := [.recd 0], deep := [.recd 0] },
  {},
  { top := [.recd 0], kids := [.recd 0], deep := [.recd 0] },
  {},
  { top := [.inner 0], kids := [.inner 0], deep := [.inner 0] },
  { top := [.inner 0], kids := [.recd 0], deep := [.recd 0] },
  { top := [.recd 0], kids := [.recd 0], deep := [.recd 0] },
  { top := [.recd 0], kids := [.recd 0], deep := [.recd 0] },
  { top := [.recd 0], kids := [.recd 0], deep := [.recd 0] },
  { top := [.recd 0], kids := [.recd 0], deep := [.recd 0] },
  {},
  { top := [.recd 0], kids := [.recd 0], deep := [.recd 0] },
  {},
  { top := [.inner 0], kids := [.inner 0], deep := [.inner 0] },
  { top := [.inner 0], kids := [.recd 0], deep := [.recd 0] },
  { top := [.recd 0], kids := [.recd 0], deep := [.recd 0] },
  { top := [.recd 0], kids := [.recd 0], deep := [.recd 0] },
  { top := [.recd 0], kids := [.recd 0], deep := [.recd 0] },
  { top := [.recd 0], kids := [.recd 0], deep := [.recd 0] },
  {},
  { top := [.recd 0], kids := [.recd 0], deep := [.recd 0] },
  {},
  { top := [.inner 0], kids := [.inner 0], deep := [.inner 0] },
  { top := [.inner 0], kids := [.recd 0], deep := [.recd 0] },
  { top := [.recd 0], kids := [.recd 0], deep := [.recd 0] },
  { top := [.recd 0], kids := [.recd 0], deep := [.recd 0] },
  { top := [.recd 0], kids := [.recd 0], deep := [.recd 0] },
  { top := [.recd 0], kids := [.recd 0], deep := [.recd 0] },
  {},
  { top := [.recd 0], kids := [.recd 0], deep := [.recd 0] }]

/-- peptacular.proforma.proforma_parser.create_annotation -/
def prog_309 : List Stmt := [
  .param 0 0,
  .param 1 1,
  .param 2 2,
  .param 3 3,
  .param 4 4,
  .param 5 5,
  .param 6 6,
  .param 7 7,
  .param 8 8,
  .param 9 9,
  .param 10 10,
  .call 12 159 [some 1],
  .asRec 13 12 1,
  .alias 14 [13],
  .asRec 15 14 1,
  .alias 16 [15],
  .call 17 159 [some 2],
  .asRec 18 17 1,
  .alias 19 [18],
  .asRec 20 19 1,
  .alias 21 [20],
  .call 22 159 [some 3],
  .asRec 23 22 1,
  .alias 24 [23],
  .asRec 25 24 1,
  .alias 26 [25],
  .call 27 159 [some 4],
  .asRec 28 27 1,
  .alias 29 [28],
  .asRec 30 29 1,
  .alias 31 [30],
  .call 32 159 [some 5],
  .asRec 33 32 1,
  .alias 34 [33],
  .asRec 35 34 1,
  .alias 36 [35],
  .call 37 159 [some 6],
  .asRec 38 37 1,
  .alias 39 [38],
  .asRec 40 39 1,
  .alias 41 [40],
  .call 42 155 [some 7],
  .asRec 43 42 2,
  .alias 44 [43],
  .asRec 45 44 2,
  .alias 46 [45],
  .call 47 157 [some 8],
  .asRec 48 47 1,
  .alias 49 [48],
  .asRec 50 49 1,
  .alias 51 [50],
  .call 52 159 [some 10],
  .asRec 53 52 1,
  .alias 54 [53],
  .asRec 55 54 1,
  .alias 56 [55],
  .asRec 57 16 1,
  .asRec 58 21 1,
  .asRec 59 26 1,
  .asRec 60 31 1,
  .asRec 61 36 1,
  .asRec 62 41 1,
  .asRec 63 46 2,
  .asRec 64 51 1,
  .asRec 65 56 1,
  .pack 66 [57, 58, 59, 60, 61, 62, 63, 64, 65],
  .alias 11 [66]]

def table_309 : Pts := [
  { top := [.root 0], kids := [.inner 0], deep := [.inner 0] },
  { top := [.root 1], kids := [.inner 1], deep := [.inner 1] },
  { top := [.root 2], kids := [.inner 2], deep := [.inner 2] },
  { top := [.root 3], kids := [.inner 3], deep := [.inner 3] },
  { top := [.root 4], kids := [.inner 4], deep := [.inner 4] },
  { top := [.root 5], kids := [.inner 5], deep := [.inner 5] },
  { top := [.root 6], kids := [.inner 6], deep := [.inner 6] },
  { top := [.root 7], kids := [.inner 7], deep := [.inner 7] },
  { top := [.root 8], kids := [.inner 8], deep := [.inner 8] },
  { top := [.root 9], kids := [.inner 9], deep := [.inner 9] },
  { top := [.root 10], kids := [.inner 10], deep := [.inner 10] },
  { top := [.loc 66], kids := [.loc 12, .loc 17, .loc 22, .loc 27, .loc 32, .loc 37, .loc 42, .loc 47, .loc 52], deep := [.recTop 1, .loc 12, .recd 1, .recTop 2, .loc 17, .recd 2, .recTop 3, .loc 22, .recd 3, .recTop 4, .loc 27, .recd 4, .recTop 5, .loc 32, .recd 5, .recTop 6, .loc 37, .recd 6, .loc 42, .recd 7, .recTop 8, .loc 47, .recd 8, .recTop 10, .loc 52, .recd 10] },
  { top := [.loc 12], kids := [.recTop 1, .loc 12, .recd 1], deep := [.recd 1, .recTop 1] },
  { top := [.loc 12], kids := [.recTop 1, .loc 12, .recd 1], deep := [.recd 1, .recTop 1] },
  { top := [.loc 12], kids := [.recTop 1, .loc 12, .recd 1], deep := [.recd 1, .recTop 1] },
  { top := [.loc 12], kids := [.recTop 1, .loc 12, .recd 1], deep := [.recd 1, .recTop 1] },
  { top := [.loc 12], kids := [.recTop 1, .loc 12, .recd 1], deep := [.recd 1, .recTop 1] },
  { top := [.loc 17], kids := [.recTop 2, .loc 17, .recd 2], deep := [.recd 2, .recTop 2] },
  { top := [.loc 17], kids := [.recTop 2, .loc 17, .recd 2], deep := [.recd 2, .recTop 2] },
  { top := [.loc 17], kids := [.recTop 2, .loc 17, .recd 2], deep := [.recd 2, .recTop 2] },
  { top := [.loc 17], kids := [.recTop 2, .loc 17, .recd 2], deep := [.recd 2, .recTop 2] },
  { top := [.loc 17], kids := [.recTop 2, .loc 17, .recd 2], deep := [.recd 2, .recTop 2] },
  { top := [.loc 22], kids := [.recTop 3, .loc 22, .recd 3], deep := [.recd 3, .recTop 3] },
  { top := [.loc 22], kids := [.recTop 3, .loc 22, .recd 3], deep := [.recd 3, .recTop 3] },
  { top := [.loc 22], kids := [.recTop 3, .loc 22, .recd 3], deep := [.recd 3, .recTop 3] },
  { top := [.loc 22], kids := [.recTop 3, .loc 22, .recd 3], deep := [.recd 3, .recTop 3] },
  { top := [.loc 22], kids := [.recTop 3, .loc 22, .recd 3], deep := [.recd 3, .recTop 3] },
  { top := [.loc 27], kids := [.recTop 4, .loc 27, .recd 4], deep := [.recd 4, .recTop 4] },
  { top := [.loc 27], kids := [.recTop 4, .loc 27, .recd 4], deep := [.recd 4, .recTop 4] },
  { top := [.loc 27], kids := [.recTop 4, .loc 27, .recd 4], deep := [.recd 4, .recTop 4] },
  { top := [.loc 27], kids := [.recTop 4, .loc 27, .recd 4], deep := [.recd 4, .recTop 4] },
  { top := [.loc 27], kids := [.recTop 4, .loc 27, .recd 4], deep := [.recd 4, .recTop 4] },
  { top := [.loc 32], kids := [.recTop 5, .loc 32, .recd 5], deep := [.recd 5, .recTop 5] },
  { top := [.loc 32], kids := [.recTop 5, .loc 32, .recd 5], deep := [.recd 5, .recTop 5] },
  { top := [.loc 32], kids := [.recTop 5, .loc 32, .recd 5], deep := [.recd 5, .recTop 5] },
  { top := [.loc 32], kids := [.recTop 5, .loc 32, .recd 5], deep := [.recd 5, .recTop 5] },
  { top := [.loc 32], kids := [.recTop 5, .loc 32, .recd 5], deep := [.recd 5, .recTop 5] },
  { top := [.loc 37], kids := [.recTop 6, .loc 37, .recd 6], deep := [.recd 6, .recTop 6] },
  { top := [.loc 37], kids := [.recTop 6, .loc 37, .recd 6], deep := [.recd 6, .recTop 6] },
  { top := [.loc 37], kids := [.recTop 6, .loc 37, .recd 6], deep := [.recd 6, .recTop 6] },
  { top := [.loc 37], kids := [.recTop 6, .loc 37, .recd 6], deep := [.recd 6, .recTop 6] },
  { top := [.loc 37], kids := [.recTop 6, .loc 37, .recd 6], deep := [.recd 6, .recTop 6] },
  { top := [.loc 42], kids := [.loc 42], deep := [.recd 7, .loc 42] },
  { top := [.loc 42], kids := [.loc 42], deep := [.recd 7, .loc 42] },
  { top := [.loc 42], kids := [.loc 42], deep := [.recd 7, .loc 42] },
  { top := [.loc 42], kids := [.loc 42], deep := [.recd 7, .loc 42] },
  { top := [.loc 42], kids := [.loc 42], deep := [.recd 7, .loc 42] },
  { top := [.loc 47], kids := [.recTop 8, .loc 47, .recd 8], deep := [.recd 8, .loc 47] },
  { top := [.loc 47], kids := [.recTop 8, .loc 47, .recd 8], deep := [.recd 8, .loc 47] },
  { top := [.loc 47], kids := [.recTop 8, .loc 47, .recd 8], deep := [.recd 8, .loc 47] },
  { top := [.loc 47], kids := [.recTop 8, .loc 47, .recd 8], deep := [.recd 8, .loc 47] },
  { top := [.loc 47], kids := [.recTop 8, .loc 47, .recd 8], deep := [.recd 8, .loc 47] },
  { top := [.loc 52], kids := [.recTop 10, .loc 52, .recd 10], deep := [.recd 10, .recTop 10] },
  { top := [.loc 52], kids := [.recTop 10, .loc 52, .recd 10], deep := [.recd 10, .recTop 10] },
  { top := [.loc 52], kids := [.recTop 10, .loc 52, .recd 10], deep := [.recd 10, .recTop 10] },
  { top := [.loc 52], kids := [.recTop 10, .loc 52, .recd 10], deep := [.recd 10, .recTop 10] },
  { top := [.loc 52], kids := [.recTop 10, .loc 52, .recd 10], deep := [.recd 10, .recTop 10] },
  { top := [.loc 12], kids := [.recTop 1, .loc 12, .recd 1], deep := [.recd 1, .recTop 1] },
  { top := [.loc 17], kids := [.recTop 2, .loc 17, .recd 2], deep := [.recd 2, .recTop 2] },
  { top := [.loc 22], kids := [.recTop 3, .loc 22, .recd 3], deep := [.recd 3, .recTop 3] },
  { top := [.loc 27], kids := [.recTop 4, .loc 27, .recd 4], deep := [.recd 4, .recTop 4] },
  { top := [.loc 32], kids := [.recTop 5, .loc 32, .recd 5], deep := [.recd 5, .recTop 5] },
  { top := [.loc 37], kids := [.recTop 6, .loc 37, .recd 6], deep := [.recd 6, .recTop 6] },
  { top := [.loc 42], kids := [.loc 42], deep := [.recd 7, .loc 42] },
  { top := [.loc 47], kids := [.recTop 8, .loc 47, .recd 8], deep := [.recd 8, .loc 47] },
  { top := [.loc 52], kids := [.recTop 10, .loc 52, .recd 10], deep := [.recd 10, .recTop 10] },
  { top := [.loc 66], kids := [.loc 12, .loc 17, .loc 22, .loc 27, .loc 32, .loc 37, .loc 42, .loc 47, .loc 52], deep := [.recTop 1, .loc 12, .recd 1, .recTop 2, .loc 17, .recd 2, .recTop 3, .loc 22, .recd 3, .recTop 4, .loc 27, .recd 4, .recTop 5, .loc 32, .recd 5, .recTop 6, .loc 37, .recd 6, .loc 42, .recd 7, .recTop 8, .loc 47, .recd 8, .recTop 10, .loc 52, .recd 10] }]

/-- peptacular.proforma.proforma_parser.create_multi_annotation -/
def prog_310 : List Stmt := [
  .param 0 0,
  .param 1 1,
  .leaf 3 1,
  .leaf 4 1,
  .pack 5 [0, 4],
  .alias 2 [5]]

def table_310 : Pts := [
  { top := [.root 0], kids := [.inner 0], deep := [.inner 0] },
  { top := [.root 1], kids := [.inner 1], deep := [.inner 1] },
  { top := [.loc 5], kids := [.root 0, .root 1], deep := [.inner 0] },
  { top := [.root 1], kids := [], deep := [] },
  { top := [.root 1], kids := [], deep := [] },
  { top := [.loc 5], kids := [.root 0, .root 1], deep := [.inner 0] }]

/-- peptacular.proforma.proforma_parser.parse -/
def prog_311 : List Stmt := [
  .param 0 0,
  .call 2 298 [none],
  .pack 3 [],
  .alias 1 [3],
  .pack 4 [],
  .call 5 273 [some 4, none],
  .call 6 297 [some 4],
  .shallow 7 [6],
  .alias 8 [7],
  .elem 9 8,
  .elem 10 9,
  .alias 11 [10],
  .elem 12 9,
  .alias 13 [12],
  .pack 14 [11],
  .alias 15 [14],
  .elem 16 8,
  .elem 17 16,
  .alias 18 [17],
  .elem 19 16,
  .alias 20 [19],
  .pack 21 [20],
  .alias 22 [21],
  .elem 23 15,
  .alias 1 [23],
  .shallow 24 [22],
  .pack 25 [15, 24],
  .alias 1 [25]]

def table_311 : Pts := [
  { top := [.root 0], kids := [.inner 0], deep := [.inner 0] },
  { top := [.loc 3, .loc 6, .loc 5, .loc 25], kids := [.loc 6, .loc 5, .loc 14, .loc 24], deep := [.loc 6, .loc 5] },
  {},
  { top := [.loc 3], kids := [], deep := [] },
  { top := [.loc 4], kids := [.loc 5, .loc 6], deep := [.loc 6, .loc 5] },
  {},
  { top := [.loc 6], kids := [.loc 6], deep := [.loc 6, .loc 5] },
  { top := [.loc 7], kids := [.loc 6], deep := [.loc 6, .loc 5] },
  { top := [.loc 7], kids := [.loc 6], deep := [.loc 6, .loc 5] },
  { top := [.loc 6], kids := [.loc 6, .loc 5], deep := [.loc 6, .loc 5] },
  { top := [.loc 6, .loc 5], kids := [.loc 6, .loc 5], deep := [.loc 6, .loc 5] },
  { top := [.loc 6, .loc 5], kids := [.loc 6, .loc 5], deep := [.loc 6, .loc 5] },
  { top := [.loc 6, .loc 5], kids := [.loc 6, .loc 5], deep := [.loc 6, .loc 5] },
  { top := [.loc 6, .loc 5], kids := [.loc 6, .loc 5], deep := [.loc 6, .loc 5] },
  { top := [.loc 14], kids := [.loc 6, .loc 5], deep := [.loc 6, .loc 5] },
  { top := [.loc 14], kids := [.loc 6, .loc 5], deep := [.loc 6, .loc 5] },
  { top := [.loc 6], kids := [.loc 6, .loc 5], deep := [.loc 6, .loc 5] },
  { top := [.loc 6, .loc 5], kids := [.loc 6, .loc 5], deep := [.loc 6, .loc 5] },
  { top := [.loc 6, .loc 5], kids := [.loc 6, .loc 5], deep := [.loc 6, .loc 5] },
  { top := [.loc 6, .loc 5], kids := [.loc 6, .loc 5], deep := [.loc 6, .loc 5] },
  { top := [.loc 6, .loc 5], kids := [.loc 6, .loc 5], deep := [.loc 6, .loc 5] },
  { top := [.loc 21], kids := [.loc 6, .loc 5], deep := [.loc 6, .loc 5] },
  { top := [.loc 21], kids := [.loc 6, .loc 5], deep := [.loc 6, .loc 5] },
  { top := [.loc 6, .loc 5], kids := [.loc 6, .loc 5], deep := [.loc 6, .loc 5] },
  { top := [.loc 24], kids := [.loc 6, .loc 5], deep := [.loc 6, .loc 5] },
  { top := [.loc 25], kids := [.loc 14, .loc 24], deep := [.loc 6, .loc 5] }]

/-- peptacular.proforma.proforma_parser.parse_charge_adducts -/
def prog_312 : List Stmt := [
  .param 0 0,
  .asRec 2 0 0,
  .call 3 312 [none],
  .leaf 4 3,
  .alias 1 [4],
  .pack 5 [],
  .alias 6 [5],
  .call 7 266 [some 0],
  .alias 8 [7],
  .elem 14 8,
  .alias 11 [14],
  .asRec 15 11 0,
  .alias 12 [11],
  .alias 16 [15, 11],
  .write 6,
  .leaf 17 6,
  .alias 1 [17]]

def table_312 : Pts := [
  { top := [.root 0], kids := [.inner 0], deep := [.inner 0] },
  { top := [.loc 3, .loc 5], kids := [], deep := [] },
  { top := [.recTop 0], kids := [.recd 0], deep := [.recd 0] },
  { top := [.loc 3], kids := [], deep := [] },
  { top := [.loc 3], kids := [], deep := [] },
  { top := [.loc 5], kids := [], deep := [] },
  { top := [.loc 5], kids := [], deep := [] },
  { top := [.loc 7], kids := [.loc 7], deep := [.loc 7] },
  { top := [.loc 7], kids := [.loc 7], deep := [.loc 7] },
  {},
  {},
  { top := [.loc 7], kids := [.loc 7], deep := [.loc 7] },
  { top := [.loc 7], kids := [.loc 7], deep := [.loc 7] },
  {},
  { top := [.loc 7], kids := [.loc 7], deep := [.loc 7] },
  { top := [.loc 7], kids := [.loc 7], deep := [.loc 7] },
  { top := [.loc 7], kids := [.loc 7], deep := [.loc 7] },
  { top := [.loc 5], kids := [], deep := [] }]

/-- peptacular.proforma.proforma_parser.parse_ion_elements -/
def prog_313 : List Stmt := [
  .param 0 0,
  .call 3 303 [none],
  .alias 4 [3],
  .call 7 304 [some 6],
  .elem 8 7,
  .alias 9 [8],
  .elem 10 7,
  .alias 11 [10],
  .global 12 3,
  .call 13 302 [some 11],
  .elem 14 13,
  .alias 15 [14],
  .elem 16 13,
  .alias 17 [16],
  .pack 18 [5, 9, 15]]

def table_313 : Pts := [
  { top := [.root 0], kids := [.inner 0], deep := [.inner 0] },
  {},
  {},
  {},
  {},
  {},
  {},
  {},
  {},
  {},
  {},
  {},
  { top := [.glob 3], kids := [.glob 3], deep := [.glob 3] },
  {},
  {},
  {},
  {},
  {},
  { top := [.loc 18], kids := [], deep := [] }]

/-- peptacular.proforma.proforma_parser.parse_isotope_mods -/
def prog_314 : List Stmt := [
  .param 0 0,
  .pack 2 [],
  .alias 3 [2],
  .elem 6 0,
  .alias 5 [6],
  .asRec 7 5 0,
  .alias 8 [7, 5],
  .asRec 9 8 0,
  .asRec 10 8 0,
  .asRec 11 8 0,
  .global 12 3,
  .asRec 13 8 0,
  .asRec 14 8 0,
  .shallow 15 [14],
  .alias 4 [15],
  .asRec 16 8 0,
  .store 3 16,
  .write 3,
  .elem 17 3,
  .store 3 17,
  .elem 18 3,
  .store 3 18,
  .leaf 19 3,
  .alias 1 [19]]

def table_314 : Pts := [
  { top := [.root 0], kids := [.inner 0], deep := [.inner 0] },
  { top := [.loc 2], kids := [.recd 0], deep := [.recd 0] },
  { top := [.loc 2], kids := [.recd 0], deep := [.recd 0] },
  { top := [.loc 2], kids := [.recd 0], deep := [.recd 0] },
  { top := [.loc 15], kids := [.recd 0], deep := [.recd 0] },
  { top := [.inner 0], kids := [.inner 0], deep := [.inner 0] },
  { top := [.inner 0], kids := [.inner 0], deep := [.inner 0] },
  { top := [.recd 0], kids := [.recd 0], deep := [.recd 0] },
  { top := [.recd 0, .inner 0], kids := [.recd 0, .inner 0], deep := [.recd 0, .inner 0] },
  { top := [.recd 0], kids := [.recd 0], deep := [.recd 0] },
  { top := [.recd 0], kids := [.recd 0], deep := [.recd 0] },
  { top := [.recd 0], kids := [.recd 0], deep := [.recd 0] },
  { top := [.glob 3], kids := [.glob 3], deep := [.glob 3] },
  { top := [.recd 0], kids := [.recd 0], deep := [.recd 0] },
  { top := [.recd 0], kids := [.recd 0], deep := [.recd 0] },
  { top := [.loc 15], kids := [.recd 0], deep := [.recd 0] },
  { top := [.recd 0], kids := [.recd 0], deep := [.recd 0] },
  { top := [.recd 0], kids := [.recd 0], deep := [.recd 0] },
  { top := [.recd 0], kids := [.recd 0], deep := [.recd 0] },
  { top := [.loc 2], kids := [.recd 0], deep := [.recd 0] }]

/-- peptacular.proforma.proforma_parser.parse_static_mods -/
def prog_315 : List Stmt := [
  .param 0 0,
  .pack 2 [],
  .alias 3 [2],
  .asRec 4 3 2,
  .alias 1 [4],
  .elem 10 0,
  .alias 5 [10],
  .asRec 11 5 0,
  .alias 12 [11, 5],
  .asRec 13 12 0,
  .asRec 14 12 0,
  .asRec 15 12 0,
  .call 16 266 [some 8],
  .alias 8 [16],
  .call 17 301 [some 6, none, none],
  .asRec 18 17 1,
  .alias 9 [18],
  .asRec 19 9 1,
  .asRec 20 12 0,
  .elem 21 8,
  .alias 7 [21],
  .pack 22 [],
  .store 3 22,
  .elem 23 3,
  .asRec 24 9 1,
  .store 23 24,
  .asRec 25 3 2,
  .alias 1 [25]]

def table_315 : Pts := [
  { top := [.root 0], kids := [.inner 0], deep := [.inner 0] },
  { top := [.loc 2], kids := [.loc 22], deep := [.loc 17] },
  { top := [.loc 2], kids := [.loc 22], deep := [.loc 17] },
  { top := [.loc 2], kids := [.loc 22], deep := [.loc 17] },
  { top := [.loc 2], kids := [.loc 22], deep := [.loc 17] },
  { top := [.inner 0], kids := [.inner 0], deep := [.inner 0] },
  {},
  { top := [.loc 16], kids := [.loc 16], deep := [.loc 16] },
  { top := [.loc 16], kids := [.loc 16], deep := [.loc 16] },
  { top := [.loc 17], kids := [.loc 17], deep := [] },
  { top := [.inner 0], kids := [.inner 0], deep := [.inner 0] },
  { top := [.recd 0], kids := [.recd 0], deep := [.recd 0] },
  { top := [.recd 0, .inner 0], kids := [.recd 0, .inner 0], deep := [.recd 0, .inner 0] },
  { top := [.recd 0], kids := [.recd 0], deep := [.recd 0] },
  { top := [.recd 0], kids := [.recd 0], deep := [.recd 0] },
  { top := [.recd 0], kids := [.recd 0], deep := [.recd 0] },
  { top := [.loc 16], kids := [.loc 16], deep := [.loc 16] },
  { top := [.loc 17], kids := [.loc 17], deep := [] },
  { top := [.loc 17], kids := [.loc 17], deep := [] },
  { top := [.loc 17], kids := [.loc 17], deep := [] },
  { top := [.recd 0], kids := [.recd 0], deep := [.recd 0] },
  { top := [.loc 16], kids := [.loc 16], deep := [.loc 16] },
  { top := [.loc 22], kids := [.loc 17], deep := [.loc 17] },
  { top := [.loc 22], kids := [.loc 17], deep := [.loc 17] },
  { top := [.loc 17], kids := [.loc 17], deep := [] },
  { top := [.loc 2], kids := [.loc 22], deep := [.loc 17] }]

/-- peptacular.proforma.proforma_parser.serialize -/
def prog_316 : List Stmt := [
  .param 0 0,
  .param 1 1,
  .call 3 254 [some 0, none]]

def table_316 : Pts := [
  { top := [.root 0], kids := [.inner 0], deep := [.inner 0] },
  { top := [.root 1], kids := [.inner 1], deep := [.inner 1] },
  {},
  {}]

/-- peptacular.proforma.proforma_parser.write_charge_adducts -/
def prog_317 : List Stmt := [
  .param 0 0,
  .pack 2 [],
  .alias 3 [2],
  .leaf 4 0,
  .shallow 5 [4],
  .elem 10 5,
  .write 3,
  .pack 11 [],
  .call 12 169 [some 11],
  .asRec 13 11 0,
  .alias 1 [13]]

def table_317 : Pts := [
  { top := [.root 0], kids := [.inner 0], deep := [.inner 0] },
  { top := [.loc 11], kids := [], deep := [] },
  { top := [.loc 2], kids := [], deep := [] },
  { top := [.loc 2], kids := [], deep := [] },
  { top := [.root 0], kids := [], deep := [] },
  { top := [.loc 5], kids := [], deep := [] },
  {},
  {},
  {},
  {},
  {},
  { top := [.loc 11], kids := [], deep := [] },
  {},
  { top := [.loc 11], kids := [], deep := [] }]

/-- peptacular.proforma.proforma_parser.write_isotope_mods -/
def prog_318 : List Stmt := [
  .param 0 0,
  .leaf 2 0,
  .shallow 3 [2],
  .leaf 4 3,
  .pack 6 [],
  .call 7 169 [some 6],
  .asRec 8 6 0,
  .pack 9 [8],
  .asRec 10 9 1,
  .alias 1 [10]]

def table_318 : Pts := [
  { top := [.root 0], kids := [.inner 0], deep := [.inner 0] },
  { top := [.loc 9], kids := [.loc 6], deep := [] },
  { top := [.root 0], kids := [], deep := [] },
  { top := [.loc 3], kids := [], deep := [] },
  { top := [.loc 3], kids := [], deep := [] },
  {},
  { top := [.loc 6], kids := [], deep := [] },
  {},
  { top := [.loc 6], kids := [], deep := [] },
  { top := [.loc 9], kids := [.loc 6], deep := [] },
  { top := [.loc 9], kids := [.loc 6], deep := [] }]

/-- peptacular.proforma.proforma_parser.write_static_mods -/
def prog_319 : List Stmt := [
  .param 0 0,
  .pack 2 [],
  .alias 3 [2],
  .asRec 4 0 2,
  .shallow 5 [4],
  .elem 9 5,
  .elem 10 9,
  .asRec 11 10 1,
  .alias 6 [11],
  .asRec 12 6 1,
  .shallow 13 [12],
  .asRec 14 13 1,
  .alias 7 [14],
  .asRec 15 7 1,
  .pack 16 [],
  .store 3 16,
  .elem 17 3,
  .write 17,
  .pack 18 [],
  .alias 19 [18],
  .shallow 20 [3],
  .alias 23 [7],
  .elem 26 20,
  .elem 27 26,
  .alias 25 [27],
  .asRec 28 23 1,
  .elem 29 28,
  .asRec 31 29 0,
  .alias 30 [31],
  .asRec 32 30 0,
  .call 33 171 [some 32, none, none],
  .pack 34 [33],
  .leaf 35 34,
  .pack 36 [],
  .call 37 169 [some 36],
  .asRec 38 36 0,
  .store 19 38,
  .asRec 39 19 1,
  .alias 1 [39]]

def table_319 : Pts := [
  { top := [.root 0], kids := [.inner 0], deep := [.inner 0] },
  { top := [.loc 18], kids := [.loc 36], deep := [] },
  { top := [.loc 2], kids := [.loc 16], deep := [] },
  { top := [.loc 2], kids := [.loc 16], deep := [] },
  { top := [.root 0], kids := [.inner 0], deep := [.recd 0] },
  { top := [.loc 5], kids := [.inner 0], deep := [.recd 0] },
  { top := [.recd 0], kids := [.recd 0], deep := [.recd 0] },
  { top := [.loc 13], kids := [.recd 0], deep := [.recd 0] },
  {},
  { top := [.inner 0], kids := [.recd 0], deep := [.recd 0] },
  { top := [.recd 0], kids := [.recd 0], deep := [.recd 0] },
  { top := [.recd 0], kids := [.recd 0], deep := [.recd 0] },
  { top := [.recd 0], kids := [.recd 0], deep := [.recd 0] },
  { top := [.loc 13], kids := [.recd 0], deep := [.recd 0] },
  { top := [.loc 13], kids := [.recd 0], deep := [.recd 0] },
  { top := [.loc 13], kids := [.recd 0], deep := [.recd 0] },
  { top := [.loc 16], kids := [], deep := [] },
  { top := [.loc 16], kids := [], deep := [] },
  { top := [.loc 18], kids := [.loc 36], deep := [] },
  { top := [.loc 18], kids := [.loc 36], deep := [] },
  { top := [.loc 20], kids := [.loc 16], deep := [] },
  {},
  {},
  { top := [.loc 13], kids := [.recd 0], deep := [.recd 0] },
  {},
  {},
  { top := [.loc 16], kids := [], deep := [] },
  {},
  { top := [.loc 13], kids := [.recd 0], deep := [.recd 0] },
  { top := [.recd 0], kids := [.recd 0], deep := [.recd 0] },
  { top := [.recd 0], kids := [.recd 0], deep := [.recd 0] },
  { top := [.recd 0], kids := [.recd 0], deep := [.recd 0] },
  { top := [.recd 0], kids := [.recd 0], deep := [.recd 0] },
  {},
  { top := [.loc 34], kids := [], deep := [] },
  { top := [.loc 34], kids := [], deep := [] },
  { top := [.loc 36], kids := [], deep := [] },
  {},
  { top := [.loc 36], kids := [], deep := [] },
  { top := [.loc 18], kids := [.loc 36], deep := [] }]

def fns_0 : List (Nat × FnInfo) := [
  (174, { prog := prog_174, nparams := 2, ret := 2, fuel := 2, table := table_174 }),
  (175, { prog := prog_175, nparams := 2, ret := 2, fuel := 2, table := table_175 }),
  (176, { prog := prog_176, nparams := 1, ret := 1, fuel := 2, table := table_176 }),
  (177, { prog := prog_177, nparams := 1, ret := 1, fuel := 2, table := table_177 }),
  (178, { prog := prog_178, nparams := 2, ret := 2, fuel := 2, table := table_178 }),
  (179, { prog := prog_179, nparams := 3, ret := 3, fuel := 3, table := table_179 }),
  (180, { prog := prog_180, nparams := 3, ret := 3, fuel := 3, table := table_180 }),
  (181, { prog := prog_181, nparams := 4, ret := 4, fuel := 4, table := table_181 }),
  (182, { prog := prog_182, nparams := 3, ret := 3, fuel := 4, table := table_182 }),
  (183, { prog := prog_183, nparams := 3, ret := 3, fuel := 3, table := table_183 }),
  (184, { prog := prog_184, nparams := 3, ret := 3, fuel := 3, table := table_184 }),
  (185, { prog := prog_185, nparams := 3, ret := 3, fuel := 3, table := table_185 }),
  (186, { prog := prog_186, nparams := 3, ret := 3, fuel := 2, table := table_186 }),
  (187, { prog := prog_187, nparams := 3, ret := 3, fuel := 3, table := table_187 }),
  (188, { prog := prog_188, nparams := 3, ret := 3, fuel := 3, table := table_188 }),
  (189, { prog := prog_189, nparams := 3, ret := 3, fuel := 3, table := table_189 }),
  (190, { prog := prog_190, nparams := 1, ret := 1, fuel := 2, table := table_190 }),
  (191, { prog := prog_191, nparams := 2, ret := 2, fuel := 2, table := table_191 }),
  (192, { prog := prog_192, nparams := 1, ret := 1, fuel := 2, table := table_192 }),
  (193, { prog := prog_193, nparams := 2, ret := 2, fuel := 2, table := table_193 }),
  (194, { prog := prog_194, nparams := 1, ret := 1, fuel := 3, table := table_194 }),
  (195, { prog := prog_195, nparams := 2, ret := 2, fuel := 2, table := table_195 }),
  (196, { prog := prog_196, nparams := 2, ret := 2, fuel := 2, table := table_196 }),
  (197, { prog := prog_197, nparams := 2, ret := 2, fuel := 3, table := table_197 }),
  (198, { prog := prog_198, nparams := 2, ret := 2, fuel := 3, table := table_198 }),
  (199, { prog := prog_199, nparams := 1, ret := 1, fuel := 2, table := table_199 }),
  (200, { prog := prog_200, nparams := 1, ret := 1, fuel := 2, table := table_200 }),
  (201, { prog := prog_201, nparams := 1, ret := 1, fuel := 2, table := table_201 }),
  (202, { prog := prog_202, nparams := 1, ret := 1, fuel := 2, table := table_202 }),
  (203, { prog := prog_203, nparams := 1, ret := 1, fuel := 2, table := table_203 }),
  (204, { prog := prog_204, nparams := 1, ret := 1, fuel := 2, table := table_204 }),
  (205, { prog := prog_205, nparams := 1, ret := 1, fuel := 2, table := table_205 }),
  (206, { prog := prog_206, nparams := 1, ret := 1, fuel := 2, table := table_206 }),
  (207, { prog := prog_207, nparams := 2, ret := 2, fuel := 2, table := table_207 }),
  (208, { prog := prog_208, nparams := 1, ret := 1, fuel := 2, table := table_208 }),
  (209, { prog := prog_209, nparams := 2, ret := 2, fuel := 2, table := table_209 }),
  (210, { prog := prog_210, nparams := 2, ret := 2, fuel := 2, table := table_210 }),
  (211, { prog := prog_211, nparams := 1, ret := 1, fuel := 2, table := table_211 }),
  (212, { prog := prog_212, nparams := 1, ret := 1, fuel := 2, table := table_212 }),
  (213, { prog := prog_213, nparams := 1, ret := 1, fuel := 2, table := table_213 })]

def fns_1 : List (Nat × FnInfo) := [
  (214, { prog := prog_214, nparams := 1, ret := 1, fuel := 2, table := table_214 }),
  (215, { prog := prog_215, nparams := 2, ret := 2, fuel := 2, table := table_215 }),
  (216, { prog := prog_216, nparams := 1, ret := 1, fuel := 2, table := table_216 }),
  (217, { prog := prog_217, nparams := 1, ret := 1, fuel := 2, table := table_217 }),
  (218, { prog := prog_218, nparams := 1, ret := 1, fuel := 2, table := table_218 }),
  (219, { prog := prog_219, nparams := 1, ret := 1, fuel := 2, table := table_219 }),
  (220, { prog := prog_220, nparams := 1, ret := 1, fuel := 2, table := table_220 }),
  (221, { prog := prog_221, nparams := 1, ret := 1, fuel := 2, table := table_221 }),
  (222, { prog := prog_222, nparams := 1, ret := 1, fuel := 2, table := table_222 }),
  (223, { prog := prog_223, nparams := 1, ret := 1, fuel := 2, table := table_223 }),
  (224, { prog := prog_224, nparams := 1, ret := 1, fuel := 2, table := table_224 }),
  (225, { prog := prog_225, nparams := 2, ret := 2, fuel := 2, table := table_225 }),
  (226, { prog := prog_226, nparams := 1, ret := 1, fuel := 2, table := table_226 }),
  (227, { prog := prog_227, nparams := 2, ret := 2, fuel := 2, table := table_227 }),
  (228, { prog := prog_228, nparams := 2, ret := 2, fuel := 2, table := table_228 }),
  (229, { prog := prog_229, nparams := 1, ret := 1, fuel := 2, table := table_229 }),
  (230, { prog := prog_230, nparams := 2, ret := 2, fuel := 2, table := table_230 }),
  (231, { prog := prog_231, nparams := 1, ret := 1, fuel := 2, table := table_231 }),
  (232, { prog := prog_232, nparams := 2, ret := 2, fuel := 2, table := table_232 }),
  (233, { prog := prog_233, nparams := 1, ret := 1, fuel := 2, table := table_233 }),
  (234, { prog := prog_234, nparams := 1, ret := 1, fuel := 2, table := table_234 }),
  (235, { prog := prog_235, nparams := 2, ret := 2, fuel := 2, table := table_235 }),
  (236, { prog := prog_236, nparams := 2, ret := 2, fuel := 2, table := table_236 }),
  (237, { prog := prog_237, nparams := 1, ret := 1, fuel := 2, table := table_237 }),
  (238, { prog := prog_238, nparams := 1, ret := 1, fuel := 3, table := table_238 }),
  (239, { prog := prog_239, nparams := 1, ret := 1, fuel := 3, table := table_239 }),
  (240, { prog := prog_240, nparams := 2, ret := 2, fuel := 2, table := table_240 }),
  (241, { prog := prog_241, nparams := 1, ret := 1, fuel := 3, table := table_241 }),
  (242, { prog := prog_242, nparams := 1, ret := 1, fuel := 3, table := table_242 }),
  (243, { prog := prog_243, nparams := 1, ret := 1, fuel := 3, table := table_243 }),
  (244, { prog := prog_244, nparams := 1, ret := 1, fuel := 3, table := table_244 }),
  (245, { prog := prog_245, nparams := 1, ret := 1, fuel := 3, table := table_245 }),
  (246, { prog := prog_246, nparams := 1, ret := 1, fuel := 3, table := table_246 }),
  (247, { prog := prog_247, nparams := 1, ret := 1, fuel := 3, table := table_247 }),
  (248, { prog := prog_248, nparams := 1, ret := 1, fuel := 3, table := table_248 }),
  (249, { prog := prog_249, nparams := 2, ret := 2, fuel := 2, table := table_249 }),
  (250, { prog := prog_250, nparams := 3, ret := 3, fuel := 2, table := table_250 }),
  (251, { prog := prog_251, nparams := 3, ret := 3, fuel := 3, table := table_251 }),
  (252, { prog := prog_252, nparams := 1, ret := 1, fuel := 2, table := table_252 }),
  (253, { prog := prog_253, nparams := 2, ret := 2, fuel := 2, table := table_253 })]

def fns_2 : List (Nat × FnInfo) := [
  (254, { prog := prog_254, nparams := 2, ret := 2, fuel := 2, table := table_254 }),
  (255, { prog := prog_255, nparams := 2, ret := 2, fuel := 2, table := table_255 }),
  (256, { prog := prog_256, nparams := 2, ret := 2, fuel := 2, table := table_256 }),
  (257, { prog := prog_257, nparams := 2, ret := 2, fuel := 2, table := table_257 }),
  (258, { prog := prog_258, nparams := 3, ret := 3, fuel := 2, table := table_258 }),
  (259, { prog := prog_259, nparams := 3, ret := 3, fuel := 3, table := table_259 }),
  (260, { prog := prog_260, nparams := 3, ret := 3, fuel := 2, table := table_260 }),
  (261, { prog := prog_261, nparams := 3, ret := 3, fuel := 3, table := table_261 }),
  (262, { prog := prog_262, nparams := 4, ret := 4, fuel := 2, table := table_262 }),
  (263, { prog := prog_263, nparams := 4, ret := 4, fuel := 3, table := table_263 }),
  (264, { prog := prog_264, nparams := 2, ret := 2, fuel := 2, table := table_264 }),
  (265, { prog := prog_265, nparams := 2, ret := 2, fuel := 3, table := table_265 }),
  (266, { prog := prog_266, nparams := 1, ret := 1, fuel := 3, table := table_266 }),
  (267, { prog := prog_267, nparams := 1, ret := 1, fuel := 2, table := table_267 }),
  (268, { prog := prog_268, nparams := 2, ret := 2, fuel := 2, table := table_268 }),
  (269, { prog := prog_269, nparams := 2, ret := 2, fuel := 2, table := table_269 }),
  (270, { prog := prog_270, nparams := 2, ret := 2, fuel := 2, table := table_270 }),
  (271, { prog := prog_271, nparams := 1, ret := 1, fuel := 2, table := table_271 }),
  (272, { prog := prog_272, nparams := 2, ret := 2, fuel := 2, table := table_272 }),
  (273, { prog := prog_273, nparams := 2, ret := 2, fuel := 2, table := table_273 }),
  (274, { prog := prog_274, nparams := 2, ret := 2, fuel := 3, table := table_274 }),
  (275, { prog := prog_275, nparams := 2, ret := 2, fuel := 3, table := table_275 }),
  (276, { prog := prog_276, nparams := 2, ret := 2, fuel := 4, table := table_276 }),
  (277, { prog := prog_277, nparams := 2, ret := 2, fuel := 3, table := table_277 }),
  (278, { prog := prog_278, nparams := 2, ret := 2, fuel := 3, table := table_278 }),
  (279, { prog := prog_279, nparams := 2, ret := 2, fuel := 3, table := table_279 }),
  (280, { prog := prog_280, nparams := 2, ret := 2, fuel := 3, table := table_280 }),
  (281, { prog := prog_281, nparams := 2, ret := 2, fuel := 3, table := table_281 }),
  (282, { prog := prog_282, nparams := 2, ret := 2, fuel := 3, table := table_282 }),
  (283, { prog := prog_283, nparams := 1, ret := 1, fuel := 2, table := table_283 }),
  (284, { prog := prog_284, nparams := 1, ret := 1, fuel := 2, table := table_284 }),
  (285, { prog := prog_285, nparams := 1, ret := 1, fuel := 2, table := table_285 }),
  (286, { prog := prog_286, nparams := 1, ret := 1, fuel := 2, table := table_286 }),
  (287, { prog := prog_287, nparams := 1, ret := 1, fuel := 2, table := table_287 }),
  (288, { prog := prog_288, nparams := 3, ret := 3, fuel := 2, table := table_288 }),
  (289, { prog := prog_289, nparams := 3, ret := 3, fuel := 2, table := table_289 }),
  (290, { prog := prog_290, nparams := 1, ret := 1, fuel := 3, table := table_290 }),
  (291, { prog := prog_291, nparams := 1, ret := 1, fuel := 4, table := table_291 }),
  (292, { prog := prog_292, nparams := 1, ret := 1, fuel := 4, table := table_292 }),
  (293, { prog := prog_293, nparams := 1, ret := 1, fuel := 2, table := table_293 })]

def fns_3 : List (Nat × FnInfo) := [
  (294, { prog := prog_294, nparams := 1, ret := 1, fuel := 2, table := table_294 }),
  (295, { prog := prog_295, nparams := 2, ret := 2, fuel := 2, table := table_295 }),
  (296, { prog := prog_296, nparams := 1, ret := 1, fuel := 2, table := table_296 }),
  (297, { prog := prog_297, nparams := 1, ret := 1, fuel := 3, table := table_297 }),
  (298, { prog := prog_298, nparams := 1, ret := 1, fuel := 2, table := table_298 }),
  (299, { prog := prog_299, nparams := 1, ret := 1, fuel := 2, table := table_299 }),
  (300, { prog := prog_300, nparams := 3, ret := 3, fuel := 2, table := table_300 }),
  (301, { prog := prog_301, nparams := 3, ret := 3, fuel := 2, table := table_301 }),
  (302, { prog := prog_302, nparams := 1, ret := 1, fuel := 2, table := table_302 }),
  (303, { prog := prog_303, nparams := 1, ret := 1, fuel := 2, table := table_303 }),
  (304, { prog := prog_304, nparams := 1, ret := 1, fuel := 2, table := table_304 }),
  (305, { prog := prog_305, nparams := 2, ret := 2, fuel := 2, table := table_305 }),
  (306, { prog := prog_306, nparams := 2, ret := 2, fuel := 2, table := table_306 }),
  (307, { prog := prog_307, nparams := 2, ret := 2, fuel := 2, table := table_307 }),
  (308, { prog := prog_308, nparams := 2, ret := 2, fuel := 2, table := table_308 }),
  (309, { prog := prog_309, nparams := 11, ret := 11, fuel := 2, table := table_309 }),
  (310, { prog := prog_310, nparams := 2, ret := 2, fuel := 2, table := table_310 }),
  (311, { prog := prog_311, nparams := 1, ret := 1, fuel := 2, table := table_311 }),
  (312, { prog := prog_312, nparams := 1, ret := 1, fuel := 2, table := table_312 }),
  (313, { prog := prog_313, nparams := 1, ret := 1, fuel := 2, table := table_313 }),
  (314, { prog := prog_314, nparams := 1, ret := 1, fuel := 3, table := table_314 }),
  (315, { prog := prog_315, nparams := 1, ret := 1, fuel := 2, table := table_315 }),
  (316, { prog := prog_316, nparams := 2, ret := 2, fuel := 2, table := table_316 }),
  (317, { prog := prog_317, nparams := 1, ret := 1, fuel := 2, table := table_317 }),
  (318, { prog := prog_318, nparams := 1, ret := 1, fuel := 2, table := table_318 }),
  (319, { prog := prog_319, nparams := 1, ret := 1, fuel := 2, table := table_319 })]

def fns : List (Nat × FnInfo) := fns_0 ++ fns_1 ++ fns_2 ++ fns_3

theorem ok : fns.all (fun p => entryOK Gen.summaries Gen.verdicts p.1 p.2) = true :=
  all_entryOK_of_fast 8 (by decide +kernel)

end Gen.M_proforma_proforma_parser
