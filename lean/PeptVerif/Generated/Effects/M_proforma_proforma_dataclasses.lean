import PeptVerif.Generated.Effects.Core
import PeptVerif.Lemmas.EffectsFast
/-! GENERATED by harness/translate_effects.py - do not edit.  Source module: peptacular.proforma.proforma_dataclasses (12 functions).
`ok` is the kernel check of these functions against the global summary / verdict tables: every table is closed
under its program, the summary the program induces is within the summary table, and the write / sharing sets
read off the table are the claimed verdict.  The kernel evaluates it in the form `entryOKFast`
(Lemmas/EffectsFast.lean); 8 is the stride of its lookups, any stride gives the same value. -/
namespace Gen.M_proforma_proforma_dataclasses
open Effects
set_option maxRecDepth 100000
/-- peptacular.proforma.proforma_dataclasses.Interval.__eq__ -/
def prog_162 : List Stmt := [
  .param 0 0,
  .param 1 1,
  .asRec 3 0 0,
  .elem 4 1,
  .asRec 5 0 0,
  .elem 6 1,
  .asRec 7 0 0,
  .elem 8 1,
  .asRec 9 0 0,
  .elem 10 9,
  .asRec 11 10 1,
  .elem 12 1,
  .call 13 173 [some 11, some 12]]

def table_162 : Pts := [
  { top := [.root 0], kids := [.inner 0], deep := [.inner 0] },
  { top := [.root 1], kids := [.inner 1], deep := [.inner 1] },
  {},
  { top := [.recTop 0], kids := [.recd 0], deep := [.recd 0] },
  { top := [.inner 1], kids := [.inner 1], deep := [.inner 1] },
  { top := [.recTop 0], kids := [.recd 0], deep := [.recd 0] },
  { top := [.inner 1], kids := [.inner 1], deep := [.inner 1] },
  { top := [.recTop 0], kids := [.recd 0], deep := [.recd 0] },
  { top := [.inner 1], kids := [.inner 1], deep := [.inner 1] },
  { top := [.recTop 0], kids := [.recd 0], deep := [.recd 0] },
  { top := [.recd 0], kids := [.recd 0], deep := [.recd 0] },
  { top := [.recd 0], kids := [.recd 0], deep := [.recd 0] },
  { top := [.inner 1], kids := [.inner 1], deep := [.inner 1] },
  {}]

/-- peptacular.proforma.proforma_dataclasses.Interval.__hash__ -/
def prog_163 : List Stmt := [
  .param 0 0,
  .asRec 2 0 0,
  .asRec 3 0 0,
  .asRec 4 0 0,
  .asRec 5 0 0,
  .elem 6 5,
  .asRec 7 6 1,
  .asRec 8 0 0,
  .elem 9 8,
  .asRec 10 9 1,
  .shallow 11 [10],
  .shallow 12 [11],
  .pack 13 []]

def table_163 : Pts := [
  { top := [.root 0], kids := [.inner 0], deep := [.inner 0] },
  {},
  { top := [.recTop 0], kids := [.recd 0], deep := [.recd 0] },
  { top := [.recTop 0], kids := [.recd 0], deep := [.recd 0] },
  { top := [.recTop 0], kids := [.recd 0], deep := [.recd 0] },
  { top := [.recTop 0], kids := [.recd 0], deep := [.recd 0] },
  { top := [.recd 0], kids := [.recd 0], deep := [.recd 0] },
  { top := [.recd 0], kids := [.recd 0], deep := [.recd 0] },
  { top := [.recTop 0], kids := [.recd 0], deep := [.recd 0] },
  { top := [.recd 0], kids := [.recd 0], deep := [.recd 0] },
  { top := [.recd 0], kids := [.recd 0], deep := [.recd 0] },
  { top := [.loc 11], kids := [.recd 0], deep := [.recd 0] },
  { top := [.loc 12], kids := [.recd 0], deep := [.recd 0] },
  { top := [.loc 13], kids := [], deep := [] }]

/-- peptacular.proforma.proforma_dataclasses.Interval.__repr__ -/
def prog_164 : List Stmt := [
  .param 0 0,
  .asRec 2 0 0,
  .asRec 3 0 0,
  .asRec 4 0 0,
  .asRec 5 0 0,
  .elem 6 5,
  .asRec 7 6 1]

def table_164 : Pts := [
  { top := [.root 0], kids := [.inner 0], deep := [.inner 0] },
  {},
  { top := [.recTop 0], kids := [.recd 0], deep := [.recd 0] },
  { top := [.recTop 0], kids := [.recd 0], deep := [.recd 0] },
  { top := [.recTop 0], kids := [.recd 0], deep := [.recd 0] },
  { top := [.recTop 0], kids := [.recd 0], deep := [.recd 0] },
  { top := [.recd 0], kids := [.recd 0], deep := [.recd 0] },
  { top := [.recd 0], kids := [.recd 0], deep := [.recd 0] }]

/-- peptacular.proforma.proforma_dataclasses.Interval.has_mods -/
def prog_165 : List Stmt := [
  .param 0 0,
  .asRec 2 0 0,
  .elem 3 2,
  .asRec 4 3 1]

def table_165 : Pts := [
  { top := [.root 0], kids := [.inner 0], deep := [.inner 0] },
  {},
  { top := [.recTop 0], kids := [.recd 0], deep := [.recd 0] },
  { top := [.recd 0], kids := [.recd 0], deep := [.recd 0] },
  { top := [.recd 0], kids := [.recd 0], deep := [.recd 0] }]

/-- peptacular.proforma.proforma_dataclasses.Mod.__eq__ -/
def prog_166 : List Stmt := [
  .param 0 0,
  .param 1 1,
  .pack 3 [],
  .pack 4 [1],
  .call 5 169 [some 4],
  .asRec 6 4 0,
  .alias 7 [6],
  .alias 8 [7, 1],
  .asRec 9 0 0,
  .asRec 10 8 0,
  .asRec 11 0 0,
  .asRec 12 8 0]

def table_166 : Pts := [
  { top := [.root 0], kids := [.inner 0], deep := [.inner 0] },
  { top := [.root 1], kids := [.inner 1], deep := [.inner 1] },
  {},
  { top := [.loc 3], kids := [], deep := [] },
  { top := [.loc 4], kids := [.root 1], deep := [.inner 1] },
  {},
  { top := [.loc 4], kids := [.recTop 1], deep := [.recd 1] },
  { top := [.loc 4], kids := [.recTop 1], deep := [.recd 1] },
  { top := [.loc 4, .root 1], kids := [.recTop 1, .inner 1], deep := [.recd 1, .inner 1] },
  { top := [.recTop 0], kids := [.recd 0], deep := [.recd 0] },
  { top := [.loc 4, .recTop 1], kids := [.recTop 1, .recd 1], deep := [.recd 1] },
  { top := [.recTop 0], kids := [.recd 0], deep := [.recd 0] },
  { top := [.loc 4, .recTop 1], kids := [.recTop 1, .recd 1], deep := [.recd 1] }]

/-- peptacular.proforma.proforma_dataclasses.Mod.__hash__ -/
def prog_167 : List Stmt := [
  .param 0 0,
  .asRec 2 0 0,
  .asRec 3 0 0,
  .pack 4 []]

def table_167 : Pts := [
  { top := [.root 0], kids := [.inner 0], deep := [.inner 0] },
  {},
  { top := [.recTop 0], kids := [.recd 0], deep := [.recd 0] },
  { top := [.recTop 0], kids := [.recd 0], deep := [.recd 0] },
  { top := [.loc 4], kids := [], deep := [] }]

/-- peptacular.proforma.proforma_dataclasses.Mod.__lt__ -/
def prog_168 : List Stmt := [
  .param 0 0,
  .param 1 1,
  .pack 3 [],
  .pack 4 [1],
  .call 5 169 [some 4],
  .asRec 6 4 0,
  .alias 7 [6],
  .alias 8 [7, 1],
  .asRec 9 0 0,
  .asRec 10 8 0,
  .asRec 11 0 0,
  .asRec 12 8 0,
  .asRec 13 0 0,
  .asRec 14 8 0]

def table_168 : Pts := [
  { top := [.root 0], kids := [.inner 0], deep := [.inner 0] },
  { top := [.root 1], kids := [.inner 1], deep := [.inner 1] },
  {},
  { top := [.loc 3], kids := [], deep := [] },
  { top := [.loc 4], kids := [.root 1], deep := [.inner 1] },
  {},
  { top := [.loc 4], kids := [.recTop 1], deep := [.recd 1] },
  { top := [.loc 4], kids := [.recTop 1], deep := [.recd 1] },
  { top := [.loc 4, .root 1], kids := [.recTop 1, .inner 1], deep := [.recd 1, .inner 1] },
  { top := [.recTop 0], kids := [.recd 0], deep := [.recd 0] },
  { top := [.loc 4, .recTop 1], kids := [.recTop 1, .recd 1], deep := [.recd 1] },
  { top := [.recTop 0], kids := [.recd 0], deep := [.recd 0] },
  { top := [.loc 4, .recTop 1], kids := [.recTop 1, .recd 1], deep := [.recd 1] },
  { top := [.recTop 0], kids := [.recd 0], deep := [.recd 0] },
  { top := [.loc 4, .recTop 1], kids := [.recTop 1, .recd 1], deep := [.recd 1] }]

/-- peptacular.proforma.proforma_dataclasses.Mod.__post_init__ -/
def prog_169 : List Stmt := [
  .param 0 0,
  .asRec 2 0 0,
  .call 3 403 [none],
  .asRec 4 0 0,
  .store 4 3]

def table_169 : Pts := [
  { top := [.root 0], kids := [.inner 0], deep := [.inner 0] },
  {},
  { top := [.recTop 0], kids := [.recd 0], deep := [.recd 0] },
  {},
  { top := [.recTop 0], kids := [.recd 0], deep := [.recd 0] }]

/-- peptacular.proforma.proforma_dataclasses.Mod.__repr__ -/
def prog_170 : List Stmt := [
  .param 0 0,
  .asRec 2 0 0,
  .asRec 3 0 0,
  .asRec 4 0 0,
  .asRec 5 0 0,
  .asRec 6 0 0]

def table_170 : Pts := [
  { top := [.root 0], kids := [.inner 0], deep := [.inner 0] },
  {},
  { top := [.recTop 0], kids := [.recd 0], deep := [.recd 0] },
  { top := [.recTop 0], kids := [.recd 0], deep := [.recd 0] },
  { top := [.recTop 0], kids := [.recd 0], deep := [.recd 0] },
  { top := [.recTop 0], kids := [.recd 0], deep := [.recd 0] },
  { top := [.recTop 0], kids := [.recd 0], deep := [.recd 0] }]

/-- peptacular.proforma.proforma_dataclasses.Mod.serialize -/
def prog_171 : List Stmt := [
  .param 0 0,
  .param 1 1,
  .param 2 2,
  .asRec 4 0 0,
  .pack 5 [],
  .asRec 6 0 0,
  .asRec 7 0 0,
  .asRec 8 0 0,
  .asRec 10 0 0,
  .alias 12 [9, 11],
  .asRec 13 0 0,
  .asRec 14 0 0]

def table_171 : Pts := [
  { top := [.root 0], kids := [.inner 0], deep := [.inner 0] },
  { top := [.root 1], kids := [.inner 1], deep := [.inner 1] },
  { top := [.root 2], kids := [.inner 2], deep := [.inner 2] },
  {},
  { top := [.recTop 0], kids := [.recd 0], deep := [.recd 0] },
  { top := [.loc 5], kids := [], deep := [] },
  { top := [.recTop 0], kids := [.recd 0], deep := [.recd 0] },
  { top := [.recTop 0], kids := [.recd 0], deep := [.recd 0] },
  { top := [.recTop 0], kids := [.recd 0], deep := [.recd 0] },
  {},
  { top := [.recTop 0], kids := [.recd 0], deep := [.recd 0] },
  {},
  {},
  { top := [.recTop 0], kids := [.recd 0], deep := [.recd 0] },
  { top := [.recTop 0], kids := [.recd 0], deep := [.recd 0] }]

/-- peptacular.proforma.proforma_dataclasses.are_intervals_equal -/
def prog_172 : List Stmt := [
  .param 0 0,
  .param 1 1,
  .asRec 3 0 1,
  .asRec 4 1 1,
  .asRec 5 0 1,
  .asRec 6 1 1,
  .asRec 7 0 1,
  .asRec 8 1 1,
  .asRec 9 0 1,
  .asRec 10 1 1,
  .asRec 11 0 1,
  .shallow 12 [11],
  .asRec 13 1 1,
  .shallow 14 [13]]

def table_172 : Pts := [
  { top := [.root 0], kids := [.inner 0], deep := [.inner 0] },
  { top := [.root 1], kids := [.inner 1], deep := [.inner 1] },
  {},
  { top := [.root 0], kids := [.recd 0], deep := [.recd 0] },
  { top := [.root 1], kids := [.recd 1], deep := [.recd 1] },
  { top := [.root 0], kids := [.recd 0], deep := [.recd 0] },
  { top := [.root 1], kids := [.recd 1], deep := [.recd 1] },
  { top := [.root 0], kids := [.recd 0], deep := [.recd 0] },
  { top := [.root 1], kids := [.recd 1], deep := [.recd 1] },
  { top := [.root 0], kids := [.recd 0], deep := [.recd 0] },
  { top := [.root 1], kids := [.recd 1], deep := [.recd 1] },
  { top := [.root 0], kids := [.recd 0], deep := [.recd 0] },
  { top := [.loc 12], kids := [.recd 0], deep := [.recd 0] },
  { top := [.root 1], kids := [.recd 1], deep := [.recd 1] },
  { top := [.loc 14], kids := [.recd 1], deep := [.recd 1] }]

/-- peptacular.proforma.proforma_dataclasses.are_mods_equal -/
def prog_173 : List Stmt := [
  .param 0 0,
  .param 1 1,
  .asRec 3 0 1,
  .asRec 4 1 1,
  .asRec 5 0 1,
  .asRec 6 1 1,
  .asRec 7 0 1,
  .asRec 8 1 1,
  .asRec 9 0 1,
  .shallow 10 [9],
  .asRec 11 1 1,
  .shallow 12 [11]]

def table_173 : Pts := [
  { top := [.root 0], kids := [.inner 0], deep := [.inner 0] },
  { top := [.root 1], kids := [.inner 1], deep := [.inner 1] },
  {},
  { top := [.root 0], kids := [.recd 0], deep := [.recd 0] },
  { top := [.root 1], kids := [.recd 1], deep := [.recd 1] },
  { top := [.root 0], kids := [.recd 0], deep := [.recd 0] },
  { top := [.root 1], kids := [.recd 1], deep := [.recd 1] },
  { top := [.root 0], kids := [.recd 0], deep := [.recd 0] },
  { top := [.root 1], kids := [.recd 1], deep := [.recd 1] },
  { top := [.root 0], kids := [.recd 0], deep := [.recd 0] },
  { top := [.loc 10], kids := [.recd 0], deep := [.recd 0] },
  { top := [.root 1], kids := [.recd 1], deep := [.recd 1] },
  { top := [.loc 12], kids := [.recd 1], deep := [.recd 1] }]

def fns_0 : List (Nat × FnInfo) := [
  (162, { prog := prog_162, nparams := 2, ret := 2, fuel := 2, table := table_162 }),
  (163, { prog := prog_163, nparams := 1, ret := 1, fuel := 2, table := table_163 }),
  (164, { prog := prog_164, nparams := 1, ret := 1, fuel := 2, table := table_164 }),
  (165, { prog := prog_165, nparams := 1, ret := 1, fuel := 2, table := table_165 }),
  (166, { prog := prog_166, nparams := 2, ret := 2, fuel := 2, table := table_166 }),
  (167, { prog := prog_167, nparams := 1, ret := 1, fuel := 2, table := table_167 }),
  (168, { prog := prog_168, nparams := 2, ret := 2, fuel := 2, table := table_168 }),
  (169, { prog := prog_169, nparams := 1, ret := 1, fuel := 2, table := table_169 }),
  (170, { prog := prog_170, nparams := 1, ret := 1, fuel := 2, table := table_170 }),
  (171, { prog := prog_171, nparams := 3, ret := 3, fuel := 2, table := table_171 }),
  (172, { prog := prog_172, nparams := 2, ret := 2, fuel := 2, table := table_172 }),
  (173, { prog := prog_173, nparams := 2, ret := 2, fuel := 2, table := table_173 })]

def fns : List (Nat × FnInfo) := fns_0

theorem ok : fns.all (fun p => entryOK Gen.summaries Gen.verdicts p.1 p.2) = true :=
  all_entryOK_of_fast 8 (by decide +kernel)

end Gen.M_proforma_proforma_dataclasses
