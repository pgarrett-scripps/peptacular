import PeptVerif.Generated.Effects.Core
import PeptVerif.Lemmas.EffectsFast
/-! GENERATED by harness/translate_effects.py - do not edit.  Source module: peptacular.score (28 functions).
`ok` is the kernel check of these functions against the global summary / verdict tables: every table is closed
under its program, the summary the program induces is within the summary table, and the write / sharing sets
read off the table are the claimed verdict.  The kernel evaluates it in the form `entryOKFast`
(Lemmas/EffectsFast.lean); 8 is the stride of its lookups, any stride gives the same value. -/
namespace Gen.M_score
open Effects
set_option maxRecDepth 100000
/-- peptacular.score.FragmentMatch.charge -/
def prog_332 : List Stmt := [
  .param 0 0,
  .asRec 2 0 0,
  .elem 3 2,
  .asRec 4 3 0]

def table_332 : Pts := [
  { top := [.root 0], kids := [.inner 0], deep := [.inner 0] },
  {},
  { top := [.recTop 0], kids := [.recd 0], deep := [.recd 0] },
  { top := [.recd 0], kids := [.recd 0], deep := [.recd 0] },
  { top := [.recd 0], kids := [.recd 0], deep := [.recd 0] }]

/-- peptacular.score.FragmentMatch.end -/
def prog_333 : List Stmt := [
  .param 0 0,
  .asRec 2 0 0,
  .elem 3 2,
  .asRec 4 3 0]

def table_333 : Pts := [
  { top := [.root 0], kids := [.inner 0], deep := [.inner 0] },
  {},
  { top := [.recTop 0], kids := [.recd 0], deep := [.recd 0] },
  { top := [.recd 0], kids := [.recd 0], deep := [.recd 0] },
  { top := [.recd 0], kids := [.recd 0], deep := [.recd 0] }]

/-- peptacular.score.FragmentMatch.error -/
def prog_334 : List Stmt := [
  .param 0 0,
  .asRec 2 0 0,
  .asRec 3 0 0]

def table_334 : Pts := [
  { top := [.root 0], kids := [.inner 0], deep := [.inner 0] },
  {},
  { top := [.recTop 0], kids := [.recd 0], deep := [.recd 0] },
  { top := [.recTop 0], kids := [.recd 0], deep := [.recd 0] }]

/-- peptacular.score.FragmentMatch.error_ppm -/
def prog_335 : List Stmt := [
  .param 0 0,
  .asRec 2 0 0,
  .asRec 3 0 0,
  .elem 4 3,
  .asRec 5 4 0]

def table_335 : Pts := [
  { top := [.root 0], kids := [.inner 0], deep := [.inner 0] },
  {},
  { top := [.recTop 0], kids := [.recd 0], deep := [.recd 0] },
  { top := [.recTop 0], kids := [.recd 0], deep := [.recd 0] },
  { top := [.recd 0], kids := [.recd 0], deep := [.recd 0] },
  { top := [.recd 0], kids := [.recd 0], deep := [.recd 0] }]

/-- peptacular.score.FragmentMatch.internal -/
def prog_336 : List Stmt := [
  .param 0 0,
  .asRec 2 0 0,
  .elem 3 2,
  .asRec 4 3 0]

def table_336 : Pts := [
  { top := [.root 0], kids := [.inner 0], deep := [.inner 0] },
  {},
  { top := [.recTop 0], kids := [.recd 0], deep := [.recd 0] },
  { top := [.recd 0], kids := [.recd 0], deep := [.recd 0] },
  { top := [.recd 0], kids := [.recd 0], deep := [.recd 0] }]

/-- peptacular.score.FragmentMatch.ion_type -/
def prog_337 : List Stmt := [
  .param 0 0,
  .asRec 2 0 0,
  .elem 3 2,
  .asRec 4 3 0]

def table_337 : Pts := [
  { top := [.root 0], kids := [.inner 0], deep := [.inner 0] },
  {},
  { top := [.recTop 0], kids := [.recd 0], deep := [.recd 0] },
  { top := [.recd 0], kids := [.recd 0], deep := [.recd 0] },
  { top := [.recd 0], kids := [.recd 0], deep := [.recd 0] }]

/-- peptacular.score.FragmentMatch.isotope -/
def prog_338 : List Stmt := [
  .param 0 0,
  .asRec 2 0 0,
  .elem 3 2,
  .asRec 4 3 0]

def table_338 : Pts := [
  { top := [.root 0], kids := [.inner 0], deep := [.inner 0] },
  {},
  { top := [.recTop 0], kids := [.recd 0], deep := [.recd 0] },
  { top := [.recd 0], kids := [.recd 0], deep := [.recd 0] },
  { top := [.recd 0], kids := [.recd 0], deep := [.recd 0] }]

/-- peptacular.score.FragmentMatch.label -/
def prog_339 : List Stmt := [
  .param 0 0,
  .asRec 2 0 0,
  .elem 3 2,
  .asRec 4 3 0]

def table_339 : Pts := [
  { top := [.root 0], kids := [.inner 0], deep := [.inner 0] },
  {},
  { top := [.recTop 0], kids := [.recd 0], deep := [.recd 0] },
  { top := [.recd 0], kids := [.recd 0], deep := [.recd 0] },
  { top := [.recd 0], kids := [.recd 0], deep := [.recd 0] }]

/-- peptacular.score.FragmentMatch.loss -/
def prog_340 : List Stmt := [
  .param 0 0,
  .asRec 2 0 0,
  .elem 3 2,
  .asRec 4 3 0]

def table_340 : Pts := [
  { top := [.root 0], kids := [.inner 0], deep := [.inner 0] },
  {},
  { top := [.recTop 0], kids := [.recd 0], deep := [.recd 0] },
  { top := [.recd 0], kids := [.recd 0], deep := [.recd 0] },
  { top := [.recd 0], kids := [.recd 0], deep := [.recd 0] }]

/-- peptacular.score.FragmentMatch.monoisotopic -/
def prog_341 : List Stmt := [
  .param 0 0,
  .asRec 2 0 0,
  .elem 3 2,
  .asRec 4 3 0]

def table_341 : Pts := [
  { top := [.root 0], kids := [.inner 0], deep := [.inner 0] },
  {},
  { top := [.recTop 0], kids := [.recd 0], deep := [.recd 0] },
  { top := [.recd 0], kids := [.recd 0], deep := [.recd 0] },
  { top := [.recd 0], kids := [.recd 0], deep := [.recd 0] }]

/-- peptacular.score.FragmentMatch.number -/
def prog_342 : List Stmt := [
  .param 0 0,
  .asRec 2 0 0,
  .elem 3 2,
  .asRec 4 3 0]

def table_342 : Pts := [
  { top := [.root 0], kids := [.inner 0], deep := [.inner 0] },
  {},
  { top := [.recTop 0], kids := [.recd 0], deep := [.recd 0] },
  { top := [.recd 0], kids := [.recd 0], deep := [.recd 0] },
  { top := [.recd 0], kids := [.recd 0], deep := [.recd 0] }]

/-- peptacular.score.FragmentMatch.parent_sequence -/
def prog_343 : List Stmt := [
  .param 0 0,
  .asRec 2 0 0,
  .elem 3 2,
  .asRec 4 3 0,
  .elem 5 4]

def table_343 : Pts := [
  { top := [.root 0], kids := [.inner 0], deep := [.inner 0] },
  {},
  { top := [.recTop 0], kids := [.recd 0], deep := [.recd 0] },
  { top := [.recd 0], kids := [.recd 0], deep := [.recd 0] },
  { top := [.recd 0], kids := [.recd 0], deep := [.recd 0] },
  { top := [.recd 0], kids := [.recd 0], deep := [.recd 0] }]

/-- peptacular.score.FragmentMatch.sequence -/
def prog_344 : List Stmt := [
  .param 0 0,
  .asRec 2 0 0,
  .elem 3 2,
  .asRec 4 3 0]

def table_344 : Pts := [
  { top := [.root 0], kids := [.inner 0], deep := [.inner 0] },
  {},
  { top := [.recTop 0], kids := [.recd 0], deep := [.recd 0] },
  { top := [.recd 0], kids := [.recd 0], deep := [.recd 0] },
  { top := [.recd 0], kids := [.recd 0], deep := [.recd 0] }]

/-- peptacular.score.FragmentMatch.start -/
def prog_345 : List Stmt := [
  .param 0 0,
  .asRec 2 0 0,
  .elem 3 2,
  .asRec 4 3 0]

def table_345 : Pts := [
  { top := [.root 0], kids := [.inner 0], deep := [.inner 0] },
  {},
  { top := [.recTop 0], kids := [.recd 0], deep := [.recd 0] },
  { top := [.recd 0], kids := [.recd 0], deep := [.recd 0] },
  { top := [.recd 0], kids := [.recd 0], deep := [.recd 0] }]

/-- peptacular.score.FragmentMatch.theo_mz -/
def prog_346 : List Stmt := [
  .param 0 0,
  .asRec 2 0 0,
  .elem 3 2,
  .asRec 4 3 0]

def table_346 : Pts := [
  { top := [.root 0], kids := [.inner 0], deep := [.inner 0] },
  {},
  { top := [.recTop 0], kids := [.recd 0], deep := [.recd 0] },
  { top := [.recd 0], kids := [.recd 0], deep := [.recd 0] },
  { top := [.recd 0], kids := [.recd 0], deep := [.recd 0] }]

/-- peptacular.score._add_isotope_to_label -/
def prog_347 : List Stmt := [
  .param 0 0]

def table_347 : Pts := [
  { top := [.root 0], kids := [.inner 0], deep := [.inner 0] }]

/-- peptacular.score._binomial_probability -/
def prog_348 : List Stmt := [
  .param 0 0,
  .param 1 1,
  .param 2 2,
  .shallow 4 []]

def table_348 : Pts := [
  { top := [.root 0], kids := [.inner 0], deep := [.inner 0] },
  { top := [.root 1], kids := [.inner 1], deep := [.inner 1] },
  { top := [.root 2], kids := [.inner 2], deep := [.inner 2] },
  {},
  { top := [.loc 4], kids := [], deep := [] }]

/-- peptacular.score._estimate_probability_of_random_match -/
def prog_349 : List Stmt := [
  .param 0 0,
  .param 1 1,
  .param 2 2,
  .param 3 3,
  .param 4 4,
  .leaf 6 1,
  .elem 7 6,
  .alias 8 [7],
  .alias 9 [8, 3],
  .leaf 10 1,
  .elem 11 10,
  .alias 12 [11],
  .alias 13 [12, 4],
  .leaf 15 1,
  .leaf 16 1,
  .alias 20 [18, 19],
  .leaf 22 1]

def table_349 : Pts := [
  { top := [.root 0], kids := [.inner 0], deep := [.inner 0] },
  { top := [.root 1], kids := [.inner 1], deep := [.inner 1] },
  { top := [.root 2], kids := [.inner 2], deep := [.inner 2] },
  { top := [.root 3], kids := [.inner 3], deep := [.inner 3] },
  { top := [.root 4], kids := [.inner 4], deep := [.inner 4] },
  {},
  { top := [.root 1], kids := [], deep := [] },
  {},
  {},
  { top := [.root 3], kids := [.inner 3], deep := [.inner 3] },
  { top := [.root 1], kids := [], deep := [] },
  {},
  {},
  { top := [.root 4], kids := [.inner 4], deep := [.inner 4] },
  {},
  { top := [.root 1], kids := [], deep := [] },
  { top := [.root 1], kids := [], deep := [] },
  {},
  {},
  {},
  {},
  {},
  { top := [.root 1], kids := [], deep := [] }]

/-- peptacular.score._get_monoisotopic_label -/
def prog_350 : List Stmt := [
  .param 0 0]

def table_350 : Pts := [
  { top := [.root 0], kids := [.inner 0], deep := [.inner 0] }]

/-- peptacular.score._remove_isotope_from_label -/
def prog_351 : List Stmt := [
  .param 0 0]

def table_351 : Pts := [
  { top := [.root 0], kids := [.inner 0], deep := [.inner 0] }]

/-- peptacular.score.binomial_score -/
def prog_352 : List Stmt := [
  .param 0 0,
  .param 1 1,
  .param 2 2,
  .param 3 3,
  .param 4 4,
  .param 5 5,
  .asRec 7 0 1,
  .asRec 8 0 1,
  .elem 9 8,
  .asRec 10 9 0,
  .alias 11 [7],
  .asRec 12 0 1,
  .elem 13 12,
  .asRec 15 13 0,
  .alias 14 [15],
  .asRec 16 14 0,
  .pack 17 [],
  .alias 18 [17],
  .alias 19 [18, 0],
  .leaf 20 1,
  .call 21 357 [some 19, some 20, none, some 3],
  .leaf 22 21,
  .alias 23 [22],
  .leaf 24 23,
  .pack 26 [],
  .leaf 27 26,
  .alias 28 [27],
  .leaf 29 28,
  .leaf 33 1,
  .call 34 349 [none, some 33, some 3, none, none],
  .alias 35 [34],
  .call 36 348 [none, none, none],
  .alias 37 [36]]

def table_352 : Pts := [
  { top := [.root 0], kids := [.inner 0], deep := [.inner 0] },
  { top := [.root 1], kids := [.inner 1], deep := [.inner 1] },
  { top := [.root 2], kids := [.inner 2], deep := [.inner 2] },
  { top := [.root 3], kids := [.inner 3], deep := [.inner 3] },
  { top := [.root 4], kids := [.inner 4], deep := [.inner 4] },
  { top := [.root 5], kids := [.inner 5], deep := [.inner 5] },
  {},
  { top := [.root 0], kids := [.recd 0], deep := [.recd 0] },
  { top := [.root 0], kids := [.recd 0], deep := [.recd 0] },
  { top := [.recd 0], kids := [.recd 0], deep := [.recd 0] },
  { top := [.recd 0], kids := [.recd 0], deep := [.recd 0] },
  { top := [.root 0], kids := [.recd 0], deep := [.recd 0] },
  { top := [.root 0], kids := [.recd 0], deep := [.recd 0] },
  { top := [.recd 0], kids := [.recd 0], deep := [.recd 0] },
  { top := [.recd 0], kids := [.recd 0], deep := [.recd 0] },
  { top := [.recd 0], kids := [.recd 0], deep := [.recd 0] },
  { top := [.recd 0], kids := [.recd 0], deep := [.recd 0] },
  { top := [.loc 17], kids := [], deep := [] },
  { top := [.loc 17], kids := [], deep := [] },
  { top := [.loc 17, .root 0], kids := [.inner 0], deep := [.inner 0] },
  { top := [.root 1], kids := [], deep := [] },
  { top := [.loc 21], kids := [.loc 21], deep := [] },
  { top := [.loc 21], kids := [], deep := [] },
  { top := [.loc 21], kids := [], deep := [] },
  { top := [.loc 21], kids := [], deep := [] },
  {},
  { top := [.loc 26], kids := [], deep := [] },
  { top := [.loc 26], kids := [], deep := [] },
  { top := [.loc 26], kids := [], deep := [] },
  { top := [.loc 26], kids := [], deep := [] },
  {},
  {},
  {},
  { top := [.root 1], kids := [], deep := [] },
  {},
  {},
  {},
  {}]

/-- peptacular.score.filter_missing_mono_isotope -/
def prog_353 : List Stmt := [
  .param 0 0,
  .asRec 2 0 1,
  .elem 3 2,
  .asRec 5 3 0,
  .alias 4 [5],
  .asRec 6 4 0,
  .asRec 7 4 0,
  .pack 8 [],
  .shallow 9 [8],
  .alias 10 [9],
  .asRec 11 0 1,
  .elem 12 11,
  .asRec 14 12 0,
  .alias 13 [14],
  .asRec 15 13 0,
  .call 16 350 [none],
  .asRec 17 13 0,
  .pack 18 [17],
  .asRec 19 18 1,
  .alias 1 [19]]

def table_353 : Pts := [
  { top := [.root 0], kids := [.inner 0], deep := [.inner 0] },
  { top := [.loc 18], kids := [.recd 0], deep := [.recd 0] },
  { top := [.root 0], kids := [.recd 0], deep := [.recd 0] },
  { top := [.recd 0], kids := [.recd 0], deep := [.recd 0] },
  { top := [.recd 0], kids := [.recd 0], deep := [.recd 0] },
  { top := [.recd 0], kids := [.recd 0], deep := [.recd 0] },
  { top := [.recd 0], kids := [.recd 0], deep := [.recd 0] },
  { top := [.recd 0], kids := [.recd 0], deep := [.recd 0] },
  { top := [.loc 8], kids := [], deep := [] },
  { top := [.loc 9], kids := [], deep := [] },
  { top := [.loc 9], kids := [], deep := [] },
  { top := [.root 0], kids := [.recd 0], deep := [.recd 0] },
  { top := [.recd 0], kids := [.recd 0], deep := [.recd 0] },
  { top := [.recd 0], kids := [.recd 0], deep := [.recd 0] },
  { top := [.recd 0], kids := [.recd 0], deep := [.recd 0] },
  { top := [.recd 0], kids := [.recd 0], deep := [.recd 0] },
  {},
  { top := [.recd 0], kids := [.recd 0], deep := [.recd 0] },
  { top := [.loc 18], kids := [.recd 0], deep := [.recd 0] },
  { top := [.loc 18], kids := [.recd 0], deep := [.recd 0] }]

/-- peptacular.score.filter_skipped_isotopes -/
def prog_354 : List Stmt := [
  .param 0 0,
  .asRec 2 0 1,
  .elem 3 2,
  .asRec 5 3 0,
  .alias 4 [5],
  .asRec 6 4 0,
  .pack 7 [],
  .shallow 8 [7],
  .alias 9 [8],
  .asRec 10 0 1,
  .elem 11 10,
  .asRec 13 11 0,
  .alias 12 [13],
  .asRec 14 12 0,
  .call 15 351 [none],
  .asRec 16 12 0,
  .call 17 347 [none],
  .asRec 18 12 0,
  .pack 19 [18],
  .asRec 20 19 1,
  .alias 1 [20]]

def table_354 : Pts := [
  { top := [.root 0], kids := [.inner 0], deep := [.inner 0] },
  { top := [.loc 19], kids := [.recd 0], deep := [.recd 0] },
  { top := [.root 0], kids := [.recd 0], deep := [.recd 0] },
  { top := [.recd 0], kids := [.recd 0], deep := [.recd 0] },
  { top := [.recd 0], kids := [.recd 0], deep := [.recd 0] },
  { top := [.recd 0], kids := [.recd 0], deep := [.recd 0] },
  { top := [.recd 0], kids := [.recd 0], deep := [.recd 0] },
  { top := [.loc 7], kids := [], deep := [] },
  { top := [.loc 8], kids := [], deep := [] },
  { top := [.loc 8], kids := [], deep := [] },
  { top := [.root 0], kids := [.recd 0], deep := [.recd 0] },
  { top := [.recd 0], kids := [.recd 0], deep := [.recd 0] },
  { top := [.recd 0], kids := [.recd 0], deep := [.recd 0] },
  { top := [.recd 0], kids := [.recd 0], deep := [.recd 0] },
  { top := [.recd 0], kids := [.recd 0], deep := [.recd 0] },
  {},
  { top := [.recd 0], kids := [.recd 0], deep := [.recd 0] },
  {},
  { top := [.recd 0], kids := [.recd 0], deep := [.recd 0] },
  { top := [.loc 19], kids := [.recd 0], deep := [.recd 0] },
  { top := [.loc 19], kids := [.recd 0], deep := [.recd 0] }]

/-- peptacular.score.get_fragment_matches -/
def prog_355 : List Stmt := [
  .param 0 0,
  .param 1 1,
  .param 2 2,
  .param 3 3,
  .param 4 4,
  .param 5 5,
  .pack 7 [],
  .asRec 8 0 1,
  .elem 10 9,
  .shallow 11 [8],
  .asRec 12 11 1,
  .alias 13 [12],
  .asRec 14 13 1,
  .elem 15 14,
  .asRec 17 15 0,
  .alias 16 [17],
  .asRec 18 16 0,
  .pack 19 [],
  .alias 20 [19],
  .leaf 21 1,
  .leaf 22 2,
  .shallow 23 [21, 22],
  .elem 25 24,
  .shallow 26 [23],
  .alias 27 [26],
  .elem 28 27,
  .alias 29 [28],
  .elem 30 29,
  .pack 31 [30],
  .shallow 32 [31],
  .alias 33 [32],
  .elem 34 27,
  .alias 35 [34],
  .elem 36 35,
  .pack 37 [36],
  .shallow 38 [37],
  .alias 39 [38],
  .call 40 359 [some 20, some 33, none, none, none, some 39],
  .leaf 41 40,
  .alias 42 [41],
  .pack 43 [],
  .alias 44 [43],
  .leaf 45 42,
  .shallow 46 [45],
  .elem 50 46,
  .elem 51 50,
  .alias 47 [51],
  .elem 52 50,
  .alias 48 [52],
  .asRec 53 13 1,
  .elem 54 53,
  .asRec 55 54 0,
  .elem 56 33,
  .elem 57 39,
  .pack 58 [55, 56, 57],
  .asRec 59 58 0,
  .store 44 59,
  .elem 60 48,
  .alias 49 [60],
  .asRec 61 13 1,
  .elem 62 61,
  .asRec 63 62 0,
  .elem 64 33,
  .elem 65 39,
  .pack 66 [63, 64, 65],
  .asRec 67 66 0,
  .store 44 67,
  .asRec 68 44 1,
  .alias 6 [68]]

def table_355 : Pts := [
  { top := [.root 0], kids := [.inner 0], deep := [.inner 0] },
  { top := [.root 1], kids := [.inner 1], deep := [.inner 1] },
  { top := [.root 2], kids := [.inner 2], deep := [.inner 2] },
  { top := [.root 3], kids := [.inner 3], deep := [.inner 3] },
  { top := [.root 4], kids := [.inner 4], deep := [.inner 4] },
  { top := [.root 5], kids := [.inner 5], deep := [.inner 5] },
  { top := [.loc 43], kids := [.loc 58, .loc 66], deep := [.recd 0] },
  { top := [.loc 7], kids := [], deep := [] },
  { top := [.root 0], kids := [.recd 0], deep := [.recd 0] },
  {},
  {},
  { top := [.loc 11], kids := [.recd 0], deep := [.recd 0] },
  { top := [.loc 11], kids := [.recd 0], deep := [.recd 0] },
  { top := [.loc 11], kids := [.recd 0], deep := [.recd 0] },
  { top := [.loc 11], kids := [.recd 0], deep := [.recd 0] },
  { top := [.recd 0], kids := [.recd 0], deep := [.recd 0] },
  { top := [.recd 0], kids := [.recd 0], deep := [.recd 0] },
  { top := [.recd 0], kids := [.recd 0], deep := [.recd 0] },
  { top := [.recd 0], kids := [.recd 0], deep := [.recd 0] },
  { top := [.loc 19], kids := [], deep := [] },
  { top := [.loc 19], kids := [], deep := [] },
  { top := [.root 1], kids := [], deep := [] },
  { top := [.root 2], kids := [], deep := [] },
  { top := [.loc 23], kids := [], deep := [] },
  {},
  {},
  { top := [.loc 26], kids := [], deep := [] },
  { top := [.loc 26], kids := [], deep := [] },
  {},
  {},
  {},
  { top := [.loc 31], kids := [], deep := [] },
  { top := [.loc 32], kids := [], deep := [] },
  { top := [.loc 32], kids := [], deep := [] },
  {},
  {},
  {},
  { top := [.loc 37], kids := [], deep := [] },
  { top := [.loc 38], kids := [], deep := [] },
  { top := [.loc 38], kids := [], deep := [] },
  { top := [.loc 40], kids := [.loc 40], deep := [] },
  { top := [.loc 40], kids := [], deep := [] },
  { top := [.loc 40], kids := [], deep := [] },
  { top := [.loc 43], kids := [.loc 58, .loc 66], deep := [.recd 0] },
  { top := [.loc 43], kids := [.loc 58, .loc 66], deep := [.recd 0] },
  { top := [.loc 40], kids := [], deep := [] },
  { top := [.loc 46], kids := [], deep := [] },
  {},
  {},
  {},
  {},
  {},
  {},
  { top := [.loc 11], kids := [.recd 0], deep := [.recd 0] },
  { top := [.recd 0], kids := [.recd 0], deep := [.recd 0] },
  { top := [.recd 0], kids := [.recd 0], deep := [.recd 0] },
  {},
  {},
  { top := [.loc 58], kids := [.recd 0], deep := [.recd 0] },
  { top := [.loc 58], kids := [.recd 0], deep := [.recd 0] },
  {},
  { top := [.loc 11], kids := [.recd 0], deep := [.recd 0] },
  { top := [.recd 0], kids := [.recd 0], deep := [.recd 0] },
  { top := [.recd 0], kids := [.recd 0], deep := [.recd 0] },
  {},
  {},
  { top := [.loc 66], kids := [.recd 0], deep := [.recd 0] },
  { top := [.loc 66], kids := [.recd 0], deep := [.recd 0] },
  { top := [.loc 43], kids := [.loc 58, .loc 66], deep := [.recd 0] }]

/-- peptacular.score.get_match_coverage -/
def prog_356 : List Stmt := [
  .param 0 0,
  .pack 2 [],
  .alias 3 [2],
  .asRec 4 0 1,
  .alias 1 [3],
  .asRec 5 0 1,
  .elem 6 5,
  .asRec 7 6 0,
  .call 8 393 [none],
  .alias 9 [8],
  .shallow 10 [],
  .alias 11 [10],
  .asRec 12 0 1,
  .elem 17 12,
  .asRec 18 17 0,
  .alias 13 [18],
  .asRec 19 13 0,
  .asRec 20 13 0,
  .pack 21 [],
  .write 3,
  .asRec 22 13 0,
  .asRec 23 13 0,
  .asRec 24 13 0,
  .asRec 25 13 0,
  .asRec 26 13 0,
  .asRec 27 13 0,
  .pack 28 [],
  .alias 15 [28],
  .store 11 15,
  .asRec 29 13 0,
  .asRec 30 13 0,
  .elem 31 3,
  .write 31]

def table_356 : Pts := [
  { top := [.root 0], kids := [.inner 0], deep := [.inner 0] },
  { top := [.loc 2], kids := [], deep := [] },
  { top := [.loc 2], kids := [], deep := [] },
  { top := [.loc 2], kids := [], deep := [] },
  { top := [.root 0], kids := [.recd 0], deep := [.recd 0] },
  { top := [.root 0], kids := [.recd 0], deep := [.recd 0] },
  { top := [.recd 0], kids := [.recd 0], deep := [.recd 0] },
  { top := [.recd 0], kids := [.recd 0], deep := [.recd 0] },
  {},
  {},
  { top := [.loc 10], kids := [.loc 28], deep := [] },
  { top := [.loc 10], kids := [.loc 28], deep := [] },
  { top := [.root 0], kids := [.recd 0], deep := [.recd 0] },
  { top := [.recd 0], kids := [.recd 0], deep := [.recd 0] },
  {},
  { top := [.loc 28], kids := [], deep := [] },
  {},
  { top := [.recd 0], kids := [.recd 0], deep := [.recd 0] },
  { top := [.recd 0], kids := [.recd 0], deep := [.recd 0] },
  { top := [.recd 0], kids := [.recd 0], deep := [.recd 0] },
  { top := [.recd 0], kids := [.recd 0], deep := [.recd 0] },
  { top := [.loc 21], kids := [], deep := [] },
  { top := [.recd 0], kids := [.recd 0], deep := [.recd 0] },
  { top := [.recd 0], kids := [.recd 0], deep := [.recd 0] },
  { top := [.recd 0], kids := [.recd 0], deep := [.recd 0] },
  { top := [.recd 0], kids := [.recd 0], deep := [.recd 0] },
  { top := [.recd 0], kids := [.recd 0], deep := [.recd 0] },
  { top := [.recd 0], kids := [.recd 0], deep := [.recd 0] },
  { top := [.loc 28], kids := [], deep := [] },
  { top := [.recd 0], kids := [.recd 0], deep := [.recd 0] },
  { top := [.recd 0], kids := [.recd 0], deep := [.recd 0] },
  {}]

/-- peptacular.score.get_matched_indices -/
def prog_357 : List Stmt := [
  .param 0 0,
  .param 1 1,
  .param 2 2,
  .param 3 3,
  .pack 5 [],
  .pack 6 [],
  .alias 7 [6],
  .leaf 9 0,
  .alias 14 [8],
  .leaf 16 1,
  .write 7,
  .leaf 17 1,
  .leaf 18 1,
  .alias 14 [14],
  .leaf 19 1,
  .leaf 20 1,
  .leaf 21 1,
  .alias 13 [13],
  .pack 22 [],
  .store 7 22,
  .leaf 23 7,
  .alias 4 [23]]

def table_357 : Pts := [
  { top := [.root 0], kids := [.inner 0], deep := [.inner 0] },
  { top := [.root 1], kids := [.inner 1], deep := [.inner 1] },
  { top := [.root 2], kids := [.inner 2], deep := [.inner 2] },
  { top := [.root 3], kids := [.inner 3], deep := [.inner 3] },
  { top := [.loc 6], kids := [.loc 22], deep := [] },
  { top := [.loc 5], kids := [], deep := [] },
  { top := [.loc 6], kids := [.loc 22], deep := [] },
  { top := [.loc 6], kids := [.loc 22], deep := [] },
  {},
  { top := [.root 0], kids := [], deep := [] },
  {},
  {},
  {},
  {},
  {},
  {},
  { top := [.root 1], kids := [], deep := [] },
  { top := [.root 1], kids := [], deep := [] },
  { top := [.root 1], kids := [], deep := [] },
  { top := [.root 1], kids := [], deep := [] },
  { top := [.root 1], kids := [], deep := [] },
  { top := [.root 1], kids := [], deep := [] },
  { top := [.loc 22], kids := [], deep := [] },
  { top := [.loc 6], kids := [.loc 22], deep := [] }]

/-- peptacular.score.get_matched_intensity_percentage -/
def prog_358 : List Stmt := [
  .param 0 0,
  .param 1 1,
  .asRec 3 0 1,
  .elem 4 3,
  .asRec 6 4 0,
  .alias 5 [6],
  .asRec 7 5 0,
  .asRec 8 5 0,
  .pack 9 [8],
  .alias 10 [9],
  .shallow 11 [10],
  .elem 12 11,
  .alias 13 [12],
  .elem 14 13,
  .pack 15 [14],
  .leaf 17 1]

def table_358 : Pts := [
  { top := [.root 0], kids := [.inner 0], deep := [.inner 0] },
  { top := [.root 1], kids := [.inner 1], deep := [.inner 1] },
  {},
  { top := [.root 0], kids := [.recd 0], deep := [.recd 0] },
  { top := [.recd 0], kids := [.recd 0], deep := [.recd 0] },
  { top := [.recd 0], kids := [.recd 0], deep := [.recd 0] },
  { top := [.recd 0], kids := [.recd 0], deep := [.recd 0] },
  { top := [.recd 0], kids := [.recd 0], deep := [.recd 0] },
  { top := [.recd 0], kids := [.recd 0], deep := [.recd 0] },
  { top := [.loc 9], kids := [.recd 0], deep := [.recd 0] },
  { top := [.loc 9], kids := [.recd 0], deep := [.recd 0] },
  { top := [.loc 11], kids := [.recd 0], deep := [.recd 0] },
  { top := [.recd 0], kids := [.recd 0], deep := [.recd 0] },
  { top := [.recd 0], kids := [.recd 0], deep := [.recd 0] },
  { top := [.recd 0], kids := [.recd 0], deep := [.recd 0] },
  { top := [.loc 15], kids := [.recd 0], deep := [.recd 0] },
  {},
  { top := [.root 1], kids := [], deep := [] }]

/-- peptacular.score.match_spectra -/
def prog_359 : List Stmt := [
  .param 0 0,
  .param 1 1,
  .param 2 2,
  .param 3 3,
  .param 4 4,
  .param 5 5,
  .pack 7 [],
  .pack 8 [],
  .pack 9 [],
  .alias 10 [9],
  .leaf 11 0,
  .leaf 12 1,
  .call 13 357 [some 11, some 12, none, none],
  .leaf 14 13,
  .shallow 15 [14],
  .elem 23 15,
  .elem 24 23,
  .alias 16 [24],
  .elem 25 23,
  .alias 18 [25],
  .write 10,
  .elem 26 18,
  .elem 27 18,
  .shallow 28 [],
  .leaf 29 28,
  .store 10 29,
  .elem 30 18,
  .elem 31 18,
  .leaf 33 0,
  .leaf 34 1,
  .pack 35 [],
  .leaf 36 35,
  .alias 22 [36],
  .leaf 37 22,
  .leaf 38 22,
  .elem 39 38,
  .elem 40 18,
  .leaf 41 5,
  .elem 42 18,
  .elem 43 18,
  .shallow 44 [41],
  .leaf 45 44,
  .alias 19 [45],
  .leaf 46 19,
  .leaf 47 19,
  .elem 48 47,
  .elem 49 18,
  .leaf 50 10,
  .alias 6 [50]]

def table_359 : Pts := [
  { top := [.root 0], kids := [.inner 0], deep := [.inner 0] },
  { top := [.root 1], kids := [.inner 1], deep := [.inner 1] },
  { top := [.root 2], kids := [.inner 2], deep := [.inner 2] },
  { top := [.root 3], kids := [.inner 3], deep := [.inner 3] },
  { top := [.root 4], kids := [.inner 4], deep := [.inner 4] },
  { top := [.root 5], kids := [.inner 5], deep := [.inner 5] },
  { top := [.loc 9], kids := [.loc 28], deep := [] },
  { top := [.loc 7], kids := [], deep := [] },
  { top := [.loc 8], kids := [], deep := [] },
  { top := [.loc 9], kids := [.loc 28], deep := [] },
  { top := [.loc 9], kids := [.loc 28], deep := [] },
  { top := [.root 0], kids := [], deep := [] },
  { top := [.root 1], kids := [], deep := [] },
  { top := [.loc 13], kids := [.loc 13], deep := [] },
  { top := [.loc 13], kids := [], deep := [] },
  { top := [.loc 15], kids := [], deep := [] },
  {},
  {},
  {},
  { top := [.loc 44], kids := [], deep := [] },
  {},
  {},
  { top := [.loc 35], kids := [], deep := [] },
  {},
  {},
  {},
  {},
  {},
  { top := [.loc 28], kids := [], deep := [] },
  { top := [.loc 28], kids := [], deep := [] },
  {},
  {},
  {},
  { top := [.root 0], kids := [], deep := [] },
  { top := [.root 1], kids := [], deep := [] },
  { top := [.loc 35], kids := [], deep := [] },
  { top := [.loc 35], kids := [], deep := [] },
  { top := [.loc 35], kids := [], deep := [] },
  { top := [.loc 35], kids := [], deep := [] },
  {},
  {},
  { top := [.root 5], kids := [], deep := [] },
  {},
  {},
  { top := [.loc 44], kids := [], deep := [] },
  { top := [.loc 44], kids := [], deep := [] },
  { top := [.loc 44], kids := [], deep := [] },
  { top := [.loc 44], kids := [], deep := [] },
  {},
  {},
  { top := [.loc 9], kids := [.loc 28], deep := [] }]

def fns_0 : List (Nat × FnInfo) := [
  (332, { prog := prog_332, nparams := 1, ret := 1, fuel := 2, table := table_332 }),
  (333, { prog := prog_333, nparams := 1, ret := 1, fuel := 2, table := table_333 }),
  (334, { prog := prog_334, nparams := 1, ret := 1, fuel := 2, table := table_334 }),
  (335, { prog := prog_335, nparams := 1, ret := 1, fuel := 2, table := table_335 }),
  (336, { prog := prog_336, nparams := 1, ret := 1, fuel := 2, table := table_336 }),
  (337, { prog := prog_337, nparams := 1, ret := 1, fuel := 2, table := table_337 }),
  (338, { prog := prog_338, nparams := 1, ret := 1, fuel := 2, table := table_338 }),
  (339, { prog := prog_339, nparams := 1, ret := 1, fuel := 2, table := table_339 }),
  (340, { prog := prog_340, nparams := 1, ret := 1, fuel := 2, table := table_340 }),
  (341, { prog := prog_341, nparams := 1, ret := 1, fuel := 2, table := table_341 }),
  (342, { prog := prog_342, nparams := 1, ret := 1, fuel := 2, table := table_342 }),
  (343, { prog := prog_343, nparams := 1, ret := 1, fuel := 2, table := table_343 }),
  (344, { prog := prog_344, nparams := 1, ret := 1, fuel := 2, table := table_344 }),
  (345, { prog := prog_345, nparams := 1, ret := 1, fuel := 2, table := table_345 }),
  (346, { prog := prog_346, nparams := 1, ret := 1, fuel := 2, table := table_346 }),
  (347, { prog := prog_347, nparams := 1, ret := 1, fuel := 2, table := table_347 }),
  (348, { prog := prog_348, nparams := 3, ret := 3, fuel := 2, table := table_348 }),
  (349, { prog := prog_349, nparams := 5, ret := 5, fuel := 2, table := table_349 }),
  (350, { prog := prog_350, nparams := 1, ret := 1, fuel := 2, table := table_350 }),
  (351, { prog := prog_351, nparams := 1, ret := 1, fuel := 2, table := table_351 }),
  (352, { prog := prog_352, nparams := 6, ret := 6, fuel := 2, table := table_352 }),
  (353, { prog := prog_353, nparams := 1, ret := 1, fuel := 2, table := table_353 }),
  (354, { prog := prog_354, nparams := 1, ret := 1, fuel := 2, table := table_354 }),
  (355, { prog := prog_355, nparams := 6, ret := 6, fuel := 2, table := table_355 }),
  (356, { prog := prog_356, nparams := 1, ret := 1, fuel := 2, table := table_356 }),
  (357, { prog := prog_357, nparams := 4, ret := 4, fuel := 3, table := table_357 }),
  (358, { prog := prog_358, nparams := 2, ret := 2, fuel := 2, table := table_358 }),
  (359, { prog := prog_359, nparams := 6, ret := 6, fuel := 3, table := table_359 })]

def fns : List (Nat × FnInfo) := fns_0

theorem ok : fns.all (fun p => entryOK Gen.summaries Gen.verdicts p.1 p.2) = true :=
  all_entryOK_of_fast 8 (by decide +kernel)

end Gen.M_score
