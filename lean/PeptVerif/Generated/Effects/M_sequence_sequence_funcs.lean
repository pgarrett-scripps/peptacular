import PeptVerif.Generated.Effects.Core
import PeptVerif.Lemmas.EffectsFast
/-! GENERATED by harness/translate_effects.py - do not edit.  Source module: peptacular.sequence.sequence_funcs (26 functions).
`ok` is the kernel check of these functions against the global summary / verdict tables: every table is closed
under its program, the summary the program induces is within the summary table, and the write / sharing sets
read off the table are the claimed verdict.  The kernel evaluates it in the form `entryOKFast`
(Lemmas/EffectsFast.lean); 8 is the stride of its lookups, any stride gives the same value. -/
namespace Gen.M_sequence_sequence_funcs
open Effects
set_option maxRecDepth 100000
/-- peptacular.sequence.sequence_funcs._count_residue_keys -/
def prog_368 : List Stmt := [
  .param 0 0,
  .call 2 387 [some 0],
  .alias 3 [2],
  .alias 4 [0],
  .alias 5 [3, 4],
  .shallow 8 [6],
  .shallow 9 [8],
  .pack 10 [],
  .alias 11 [10],
  .call 12 197 [some 5, none],
  .call 13 266 [some 12],
  .elem 19 13,
  .alias 14 [19],
  .call 20 214 [some 14],
  .elem 21 14,
  .shallow 22 [21],
  .elem 23 22,
  .elem 25 23,
  .alias 26 [25],
  .alias 6 [26],
  .pack 27 [7],
  .pack 28 [27],
  .call 29 216 [some 14],
  .elem 30 14,
  .asRec 31 30 1,
  .shallow 32 [31],
  .shallow 33 [32],
  .elem 34 14,
  .asRec 35 34 1,
  .alias 6 [35],
  .elem 36 14,
  .asRec 37 36 1,
  .alias 6 [37],
  .elem 38 14,
  .asRec 39 38 1,
  .alias 6 [39],
  .elem 40 14,
  .asRec 41 40 1,
  .alias 6 [41],
  .elem 42 14,
  .asRec 43 42 1,
  .alias 6 [43],
  .elem 44 14,
  .asRec 45 44 1,
  .alias 6 [45],
  .elem 46 14,
  .asRec 47 46 1,
  .alias 6 [47],
  .pack 48 [7, 7, 7, 7, 7, 7, 7, 15, 16],
  .store 11 48,
  .shallow 49 [11],
  .alias 1 [49]]

def table_368 : Pts := [
  { top := [.root 0], kids := [.inner 0], deep := [.inner 0] },
  { top := [.loc 49], kids := [.loc 48], deep := [] },
  { top := [.loc 2], kids := [.loc 2], deep := [.loc 2] },
  { top := [.loc 2], kids := [.loc 2], deep := [.loc 2] },
  { top := [.root 0], kids := [.inner 0], deep := [.inner 0] },
  { top := [.loc 2, .root 0], kids := [.loc 2, .inner 0], deep := [.loc 2, .inner 0] },
  { top := [.loc 13], kids := [.loc 13], deep := [.loc 13] },
  {},
  { top := [.loc 8], kids := [.loc 13], deep := [.loc 13] },
  { top := [.loc 9], kids := [.loc 13], deep := [.loc 13] },
  { top := [.loc 10], kids := [.loc 48], deep := [] },
  { top := [.loc 10], kids := [.loc 48], deep := [] },
  { top := [.loc 12], kids := [.loc 12], deep := [.loc 12] },
  { top := [.loc 13], kids := [.loc 13], deep := [.loc 13] },
  { top := [.loc 13], kids := [.loc 13], deep := [.loc 13] },
  {},
  {},
  {},
  {},
  { top := [.loc 13], kids := [.loc 13], deep := [.loc 13] },
  {},
  { top := [.loc 13], kids := [.loc 13], deep := [.loc 13] },
  { top := [.loc 22], kids := [.loc 13], deep := [.loc 13] },
  { top := [.loc 13], kids := [.loc 13], deep := [.loc 13] },
  {},
  { top := [.loc 13], kids := [.loc 13], deep := [.loc 13] },
  { top := [.loc 13], kids := [.loc 13], deep := [.loc 13] },
  { top := [.loc 27], kids := [], deep := [] },
  { top := [.loc 28], kids := [.loc 27], deep := [] },
  {},
  { top := [.loc 13], kids := [.loc 13], deep := [.loc 13] },
  { top := [.loc 13], kids := [.loc 13], deep := [.loc 13] },
  { top := [.loc 32], kids := [.loc 13], deep := [.loc 13] },
  { top := [.loc 33], kids := [.loc 13], deep := [.loc 13] },
  { top := [.loc 13], kids := [.loc 13], deep := [.loc 13] },
  { top := [.loc 13], kids := [.loc 13], deep := [.loc 13] },
  { top := [.loc 13], kids := [.loc 13], deep := [.loc 13] },
  { top := [.loc 13], kids := [.loc 13], deep := [.loc 13] },
  { top := [.loc 13], kids := [.loc 13], deep := [.loc 13] },
  { top := [.loc 13], kids := [.loc 13], deep := [.loc 13] },
  { top := [.loc 13], kids := [.loc 13], deep := [.loc 13] },
  { top := [.loc 13], kids := [.loc 13], deep := [.loc 13] },
  { top := [.loc 13], kids := [.loc 13], deep := [.loc 13] },
  { top := [.loc 13], kids := [.loc 13], deep := [.loc 13] },
  { top := [.loc 13], kids := [.loc 13], deep := [.loc 13] },
  { top := [.loc 13], kids := [.loc 13], deep := [.loc 13] },
  { top := [.loc 13], kids := [.loc 13], deep := [.loc 13] },
  { top := [.loc 13], kids := [.loc 13], deep := [.loc 13] },
  { top := [.loc 48], kids := [], deep := [] },
  { top := [.loc 49], kids := [.loc 48], deep := [] }]

/-- peptacular.sequence.sequence_funcs.add_mods -/
def prog_369 : List Stmt := [
  .param 0 0,
  .param 1 1,
  .param 2 2,
  .param 3 3,
  .call 5 387 [some 0],
  .alias 6 [5],
  .alias 7 [0],
  .alias 8 [6, 7],
  .pack 9 [],
  .alias 10 [9],
  .elem 12 1,
  .alias 11 [12],
  .elem 13 1,
  .store 10 13,
  .elem 14 1,
  .call 15 157 [some 14],
  .asRec 16 15 1,
  .store 10 16,
  .elem 17 1,
  .call 18 159 [some 17],
  .asRec 19 18 1,
  .store 10 19,
  .call 20 186 [some 8, some 10, none],
  .call 21 316 [some 8, none]]

def table_369 : Pts := [
  { top := [.root 0], kids := [.inner 0, .loc 20], deep := [.inner 0, .loc 20] },
  { top := [.root 1], kids := [.inner 1], deep := [.inner 1] },
  { top := [.root 2], kids := [.inner 2], deep := [.inner 2] },
  { top := [.root 3], kids := [.inner 3], deep := [.inner 3] },
  {},
  { top := [.loc 5], kids := [.loc 5, .loc 20], deep := [.loc 5, .loc 20] },
  { top := [.loc 5], kids := [.loc 5, .loc 20], deep := [.loc 5, .loc 20] },
  { top := [.root 0], kids := [.inner 0, .loc 20], deep := [.inner 0, .loc 20] },
  { top := [.loc 5, .root 0], kids := [.loc 5, .inner 0, .loc 20], deep := [.loc 5, .inner 0, .loc 20] },
  { top := [.loc 9], kids := [.inner 1, .loc 15, .loc 18], deep := [.inner 1, .recd 1, .loc 15, .loc 18] },
  { top := [.loc 9], kids := [.inner 1, .loc 15, .loc 18], deep := [.inner 1, .recd 1, .loc 15, .loc 18] },
  { top := [.inner 1], kids := [.inner 1], deep := [.inner 1] },
  { top := [.inner 1], kids := [.inner 1], deep := [.inner 1] },
  { top := [.inner 1], kids := [.inner 1], deep := [.inner 1] },
  { top := [.inner 1], kids := [.inner 1], deep := [.inner 1] },
  { top := [.loc 15], kids := [.recd 1, .loc 15], deep := [.recd 1, .loc 15] },
  { top := [.loc 15], kids := [.recd 1, .loc 15], deep := [.recd 1, .loc 15] },
  { top := [.inner 1], kids := [.inner 1], deep := [.inner 1] },
  { top := [.loc 18], kids := [.recd 1, .loc 18], deep := [.recd 1] },
  { top := [.loc 18], kids := [.recd 1, .loc 18], deep := [.recd 1] },
  {},
  {}]

/-- peptacular.sequence.sequence_funcs.condense_static_mods -/
def prog_370 : List Stmt := [
  .param 0 0,
  .param 1 1,
  .call 3 387 [some 0],
  .alias 4 [3],
  .alias 5 [0],
  .alias 6 [4, 5],
  .call 7 197 [some 6, none],
  .call 8 254 [some 7, none]]

def table_370 : Pts := [
  { top := [.root 0], kids := [.inner 0], deep := [.inner 0] },
  { top := [.root 1], kids := [.inner 1], deep := [.inner 1] },
  {},
  { top := [.loc 3], kids := [.loc 3], deep := [.loc 3] },
  { top := [.loc 3], kids := [.loc 3], deep := [.loc 3] },
  { top := [.root 0], kids := [.inner 0], deep := [.inner 0] },
  { top := [.loc 3, .root 0], kids := [.loc 3, .inner 0], deep := [.loc 3, .inner 0] },
  { top := [.loc 7], kids := [.loc 7], deep := [.loc 7] },
  {}]

/-- peptacular.sequence.sequence_funcs.convert_casanovo_sequence -/
def prog_371 : List Stmt := [
  .param 0 0,
  .pack 2 [],
  .alias 3 [2],
  .shallow 6 [],
  .alias 9 [4],
  .alias 10 [5],
  .elem 11 6,
  .elem 12 11,
  .alias 7 [12],
  .elem 13 11,
  .alias 8 [13],
  .pack 14 [],
  .write 3,
  .store 3 8]

def table_371 : Pts := [
  { top := [.root 0], kids := [.inner 0], deep := [.inner 0] },
  {},
  { top := [.loc 2], kids := [], deep := [] },
  { top := [.loc 2], kids := [], deep := [] },
  {},
  {},
  { top := [.loc 6], kids := [], deep := [] },
  {},
  {},
  {},
  {},
  {},
  {},
  {},
  { top := [.loc 14], kids := [], deep := [] }]

/-- peptacular.sequence.sequence_funcs.convert_diann_sequence -/
def prog_372 : List Stmt := [
  .param 0 0,
  .shallow 3 [],
  .shallow 4 [],
  .alias 5 [4],
  .alias 6 [5, 2],
  .alias 7 [6, 0],
  .shallow 9 [],
  .shallow 10 [],
  .alias 11 [10],
  .alias 12 [11, 7],
  .alias 13 [8, 12]]

def table_372 : Pts := [
  { top := [.root 0], kids := [.inner 0], deep := [.inner 0] },
  {},
  {},
  { top := [.loc 3], kids := [], deep := [] },
  { top := [.loc 4], kids := [], deep := [] },
  { top := [.loc 4], kids := [], deep := [] },
  { top := [.loc 4], kids := [], deep := [] },
  { top := [.loc 4, .root 0], kids := [.inner 0], deep := [.inner 0] },
  {},
  { top := [.loc 9], kids := [], deep := [] },
  { top := [.loc 10], kids := [], deep := [] },
  { top := [.loc 10], kids := [], deep := [] },
  { top := [.loc 10, .loc 4, .root 0], kids := [.inner 0], deep := [.inner 0] },
  { top := [.loc 10, .loc 4, .root 0], kids := [.inner 0], deep := [.inner 0] }]

/-- peptacular.sequence.sequence_funcs.convert_ip2_sequence -/
def prog_373 : List Stmt := [
  .param 0 0,
  .shallow 2 [],
  .alias 4 [3, 0],
  .shallow 5 [],
  .alias 6 [5],
  .shallow 7 [6],
  .alias 8 [7],
  .shallow 9 [8],
  .alias 10 [9]]

def table_373 : Pts := [
  { top := [.root 0], kids := [.inner 0], deep := [.inner 0] },
  {},
  { top := [.loc 2], kids := [], deep := [] },
  {},
  { top := [.root 0], kids := [.inner 0], deep := [.inner 0] },
  { top := [.loc 5], kids := [], deep := [] },
  { top := [.loc 5], kids := [], deep := [] },
  { top := [.loc 7], kids := [], deep := [] },
  { top := [.loc 7], kids := [], deep := [] },
  { top := [.loc 9], kids := [], deep := [] },
  { top := [.loc 9], kids := [], deep := [] }]

/-- peptacular.sequence.sequence_funcs.count_aa -/
def prog_374 : List Stmt := [
  .param 0 0,
  .call 2 387 [some 0],
  .alias 3 [2],
  .alias 4 [0],
  .alias 5 [3, 4],
  .pack 7 [],
  .alias 8 [7],
  .write 8,
  .leaf 10 8,
  .alias 1 [10]]

def table_374 : Pts := [
  { top := [.root 0], kids := [.inner 0], deep := [.inner 0] },
  { top := [.loc 7], kids := [], deep := [] },
  { top := [.loc 2], kids := [.loc 2], deep := [.loc 2] },
  { top := [.loc 2], kids := [.loc 2], deep := [.loc 2] },
  { top := [.root 0], kids := [.inner 0], deep := [.inner 0] },
  { top := [.loc 2, .root 0], kids := [.loc 2, .inner 0], deep := [.loc 2, .inner 0] },
  {},
  { top := [.loc 7], kids := [], deep := [] },
  { top := [.loc 7], kids := [], deep := [] },
  {},
  { top := [.loc 7], kids := [], deep := [] }]

/-- peptacular.sequence.sequence_funcs.count_residues -/
def prog_375 : List Stmt := [
  .param 0 0,
  .call 2 387 [some 0],
  .alias 3 [2],
  .alias 4 [0],
  .alias 5 [3, 4],
  .call 6 197 [some 5, none],
  .alias 7 [6],
  .call 8 205 [some 7],
  .alias 1 [8]]

def table_375 : Pts := [
  { top := [.root 0], kids := [.inner 0], deep := [.inner 0] },
  { top := [.loc 8], kids := [], deep := [] },
  { top := [.loc 2], kids := [.loc 2], deep := [.loc 2] },
  { top := [.loc 2], kids := [.loc 2], deep := [.loc 2] },
  { top := [.root 0], kids := [.inner 0], deep := [.inner 0] },
  { top := [.loc 2, .root 0], kids := [.loc 2, .inner 0], deep := [.loc 2, .inner 0] },
  { top := [.loc 6], kids := [.loc 6], deep := [.loc 6] },
  { top := [.loc 6], kids := [.loc 6], deep := [.loc 6] },
  { top := [.loc 8], kids := [], deep := [] }]

/-- peptacular.sequence.sequence_funcs.coverage -/
def prog_376 : List Stmt := [
  .param 0 0,
  .param 1 1,
  .param 2 2,
  .param 3 3,
  .call 5 387 [some 0],
  .alias 6 [5],
  .alias 7 [6, 0],
  .pack 8 [],
  .call 9 386 [some 7],
  .elem 15 1,
  .alias 13 [15],
  .call 16 387 [some 13],
  .alias 13 [16],
  .call 17 377 [some 7, some 13, none],
  .leaf 18 17,
  .alias 12 [18],
  .leaf 19 12,
  .call 20 386 [some 13],
  .pack 22 [],
  .leaf 23 22,
  .pack 24 [],
  .call 25 386 [some 13]]

def table_376 : Pts := [
  { top := [.root 0], kids := [.inner 0], deep := [.inner 0] },
  { top := [.root 1], kids := [.inner 1], deep := [.inner 1] },
  { top := [.root 2], kids := [.inner 2], deep := [.inner 2] },
  { top := [.root 3], kids := [.inner 3], deep := [.inner 3] },
  {},
  { top := [.loc 5], kids := [.loc 5], deep := [.loc 5] },
  { top := [.loc 5], kids := [.loc 5], deep := [.loc 5] },
  { top := [.loc 5, .root 0], kids := [.loc 5, .inner 0], deep := [.loc 5, .inner 0] },
  { top := [.loc 8], kids := [], deep := [] },
  {},
  {},
  {},
  { top := [.loc 17], kids := [], deep := [] },
  { top := [.inner 1, .loc 16], kids := [.inner 1, .loc 16], deep := [.inner 1, .loc 16] },
  {},
  { top := [.inner 1], kids := [.inner 1], deep := [.inner 1] },
  { top := [.loc 16], kids := [.loc 16], deep := [.loc 16] },
  { top := [.loc 17], kids := [], deep := [] },
  { top := [.loc 17], kids := [], deep := [] },
  { top := [.loc 17], kids := [], deep := [] },
  {},
  {},
  { top := [.loc 22], kids := [], deep := [] },
  { top := [.loc 22], kids := [], deep := [] },
  { top := [.loc 24], kids := [], deep := [] },
  {}]

/-- peptacular.sequence.sequence_funcs.find_subsequence_indices -/
def prog_377 : List Stmt := [
  .param 0 0,
  .param 1 1,
  .param 2 2,
  .call 4 387 [some 0],
  .alias 5 [4],
  .alias 6 [5, 0],
  .call 7 387 [some 1],
  .alias 8 [7],
  .alias 9 [8, 1],
  .call 10 221 [some 6],
  .pack 11 [],
  .leaf 12 11,
  .alias 3 [12],
  .call 13 221 [some 9],
  .pack 14 [],
  .leaf 15 14,
  .alias 3 [15],
  .call 16 269 [some 6, none],
  .alias 17 [16],
  .call 18 269 [some 9, none],
  .alias 19 [18],
  .alias 20 [17, 6],
  .alias 21 [19, 9],
  .call 22 209 [some 21, some 20],
  .leaf 23 22,
  .alias 3 [23]]

def table_377 : Pts := [
  { top := [.root 0], kids := [.inner 0], deep := [.inner 0] },
  { top := [.root 1], kids := [.inner 1], deep := [.inner 1] },
  { top := [.root 2], kids := [.inner 2], deep := [.inner 2] },
  { top := [.loc 11, .loc 14, .loc 22], kids := [], deep := [] },
  { top := [.loc 4], kids := [.loc 4], deep := [.loc 4] },
  { top := [.loc 4], kids := [.loc 4], deep := [.loc 4] },
  { top := [.loc 4, .root 0], kids := [.loc 4, .inner 0], deep := [.loc 4, .inner 0] },
  { top := [.loc 7], kids := [.loc 7], deep := [.loc 7] },
  { top := [.loc 7], kids := [.loc 7], deep := [.loc 7] },
  { top := [.loc 7, .root 1], kids := [.loc 7, .inner 1], deep := [.loc 7, .inner 1] },
  {},
  { top := [.loc 11], kids := [], deep := [] },
  { top := [.loc 11], kids := [], deep := [] },
  {},
  { top := [.loc 14], kids := [], deep := [] },
  { top := [.loc 14], kids := [], deep := [] },
  { top := [.loc 16], kids := [], deep := [] },
  { top := [.loc 16], kids := [], deep := [] },
  { top := [.loc 18], kids := [], deep := [] },
  { top := [.loc 18], kids := [], deep := [] },
  { top := [.loc 16, .loc 4, .root 0], kids := [.loc 4, .inner 0], deep := [.loc 4, .inner 0] },
  { top := [.loc 18, .loc 7, .root 1], kids := [.loc 7, .inner 1], deep := [.loc 7, .inner 1] },
  { top := [.loc 22], kids := [], deep := [] },
  { top := [.loc 22], kids := [], deep := [] }]

/-- peptacular.sequence.sequence_funcs.get_mods -/
def prog_378 : List Stmt := [
  .param 0 0,
  .call 2 387 [some 0],
  .alias 3 [2],
  .alias 4 [0],
  .alias 5 [3, 4],
  .call 6 233 [some 5],
  .alias 1 [6]]

def table_378 : Pts := [
  { top := [.root 0], kids := [.inner 0], deep := [.inner 0] },
  { top := [.loc 6], kids := [], deep := [] },
  { top := [.loc 2], kids := [.loc 2], deep := [.loc 2] },
  { top := [.loc 2], kids := [.loc 2], deep := [.loc 2] },
  { top := [.root 0], kids := [.inner 0], deep := [.inner 0] },
  { top := [.loc 2, .root 0], kids := [.loc 2, .inner 0], deep := [.loc 2, .inner 0] },
  { top := [.loc 6], kids := [], deep := [] }]

/-- peptacular.sequence.sequence_funcs.is_ambiguous -/
def prog_379 : List Stmt := [
  .param 0 0,
  .call 2 387 [some 0],
  .alias 3 [2],
  .alias 4 [0],
  .alias 5 [3, 4],
  .call 6 201 [some 5]]

def table_379 : Pts := [
  { top := [.root 0], kids := [.inner 0], deep := [.inner 0] },
  {},
  { top := [.loc 2], kids := [.loc 2], deep := [.loc 2] },
  { top := [.loc 2], kids := [.loc 2], deep := [.loc 2] },
  { top := [.root 0], kids := [.inner 0], deep := [.inner 0] },
  { top := [.loc 2, .root 0], kids := [.loc 2, .inner 0], deep := [.loc 2, .inner 0] },
  {}]

/-- peptacular.sequence.sequence_funcs.is_modified -/
def prog_380 : List Stmt := [
  .param 0 0,
  .call 2 387 [some 0],
  .alias 3 [2],
  .alias 4 [0],
  .alias 5 [3, 4],
  .call 6 219 [some 5]]

def table_380 : Pts := [
  { top := [.root 0], kids := [.inner 0], deep := [.inner 0] },
  {},
  { top := [.loc 2], kids := [.loc 2], deep := [.loc 2] },
  { top := [.loc 2], kids := [.loc 2], deep := [.loc 2] },
  { top := [.root 0], kids := [.inner 0], deep := [.inner 0] },
  { top := [.loc 2, .root 0], kids := [.loc 2, .inner 0], deep := [.loc 2, .inner 0] },
  {}]

/-- peptacular.sequence.sequence_funcs.is_sequence_valid -/
def prog_381 : List Stmt := [
  .param 0 0,
  .call 3 387 [some 0],
  .alias 2 [3]]

def table_381 : Pts := [
  { top := [.root 0], kids := [.inner 0], deep := [.inner 0] },
  {},
  { top := [.loc 3], kids := [.loc 3], deep := [.loc 3] },
  { top := [.loc 3], kids := [.loc 3], deep := [.loc 3] }]

/-- peptacular.sequence.sequence_funcs.is_subsequence -/
def prog_382 : List Stmt := [
  .param 0 0,
  .param 1 1,
  .param 2 2,
  .call 4 377 [some 1, some 0, none],
  .leaf 5 4,
  .call 6 368 [some 0],
  .alias 7 [6],
  .call 8 368 [some 1],
  .alias 9 [8],
  .elem 10 7,
  .alias 11 [10],
  .elem 12 7,
  .elem 13 9,
  .pack 14 [],
  .leaf 15 14]

def table_382 : Pts := [
  { top := [.root 0], kids := [.inner 0], deep := [.inner 0] },
  { top := [.root 1], kids := [.inner 1], deep := [.inner 1] },
  { top := [.root 2], kids := [.inner 2], deep := [.inner 2] },
  {},
  { top := [.loc 4], kids := [], deep := [] },
  { top := [.loc 4], kids := [], deep := [] },
  { top := [.loc 6], kids := [.loc 6], deep := [] },
  { top := [.loc 6], kids := [.loc 6], deep := [] },
  { top := [.loc 8], kids := [.loc 8], deep := [] },
  { top := [.loc 8], kids := [.loc 8], deep := [] },
  { top := [.loc 6], kids := [], deep := [] },
  { top := [.loc 6], kids := [], deep := [] },
  { top := [.loc 6], kids := [], deep := [] },
  { top := [.loc 8], kids := [], deep := [] },
  { top := [.loc 14], kids := [], deep := [] },
  { top := [.loc 14], kids := [], deep := [] }]

/-- peptacular.sequence.sequence_funcs.percent_coverage -/
def prog_383 : List Stmt := [
  .param 0 0,
  .param 1 1,
  .param 2 2,
  .call 4 376 [some 0, some 1, none, none],
  .leaf 5 4,
  .alias 6 [5],
  .leaf 7 6,
  .leaf 8 6,
  .leaf 9 6]

def table_383 : Pts := [
  { top := [.root 0], kids := [.inner 0], deep := [.inner 0] },
  { top := [.root 1], kids := [.inner 1], deep := [.inner 1] },
  { top := [.root 2], kids := [.inner 2], deep := [.inner 2] },
  {},
  {},
  {},
  {},
  {},
  {},
  {}]

/-- peptacular.sequence.sequence_funcs.pop_mods -/
def prog_384 : List Stmt := [
  .param 0 0,
  .call 2 387 [some 0],
  .alias 3 [2],
  .alias 4 [0],
  .alias 5 [3, 4],
  .call 6 233 [some 5],
  .pack 7 [6],
  .alias 1 [7]]

def table_384 : Pts := [
  { top := [.root 0], kids := [.inner 0], deep := [.inner 0] },
  { top := [.loc 7], kids := [.loc 6], deep := [] },
  { top := [.loc 2], kids := [.loc 2], deep := [.loc 2] },
  { top := [.loc 2], kids := [.loc 2], deep := [.loc 2] },
  { top := [.root 0], kids := [.inner 0], deep := [.inner 0] },
  { top := [.loc 2, .root 0], kids := [.loc 2, .inner 0], deep := [.loc 2, .inner 0] },
  { top := [.loc 6], kids := [], deep := [] },
  { top := [.loc 7], kids := [.loc 6], deep := [] }]

/-- peptacular.sequence.sequence_funcs.reverse -/
def prog_385 : List Stmt := [
  .param 0 0,
  .param 1 1,
  .param 2 2,
  .call 4 387 [some 0],
  .alias 5 [4],
  .alias 6 [0],
  .alias 7 [5, 6],
  .call 8 250 [some 7, none, none],
  .alias 9 [8],
  .call 10 254 [some 9, none]]

def table_385 : Pts := [
  { top := [.root 0], kids := [.inner 0], deep := [.inner 0] },
  { top := [.root 1], kids := [.inner 1], deep := [.inner 1] },
  { top := [.root 2], kids := [.inner 2], deep := [.inner 2] },
  {},
  { top := [.loc 4], kids := [.loc 4], deep := [.loc 4] },
  { top := [.loc 4], kids := [.loc 4], deep := [.loc 4] },
  { top := [.root 0], kids := [.inner 0], deep := [.inner 0] },
  { top := [.loc 4, .root 0], kids := [.loc 4, .inner 0], deep := [.loc 4, .inner 0] },
  { top := [.loc 8], kids := [.loc 8], deep := [.loc 8] },
  { top := [.loc 8], kids := [.loc 8], deep := [.loc 8] },
  {}]

/-- peptacular.sequence.sequence_funcs.sequence_length -/
def prog_386 : List Stmt := [
  .param 0 0,
  .call 2 387 [some 0],
  .alias 3 [2],
  .alias 4 [0],
  .alias 5 [3, 4]]

def table_386 : Pts := [
  { top := [.root 0], kids := [.inner 0], deep := [.inner 0] },
  {},
  { top := [.loc 2], kids := [.loc 2], deep := [.loc 2] },
  { top := [.loc 2], kids := [.loc 2], deep := [.loc 2] },
  { top := [.root 0], kids := [.inner 0], deep := [.inner 0] },
  { top := [.loc 2, .root 0], kids := [.loc 2, .inner 0], deep := [.loc 2, .inner 0] }]

/-- peptacular.sequence.sequence_funcs.sequence_to_annotation -/
def prog_387 : List Stmt := [
  .param 0 0,
  .call 2 311 [none],
  .alias 3 [2],
  .alias 1 [3]]

def table_387 : Pts := [
  { top := [.root 0], kids := [.inner 0], deep := [.inner 0] },
  { top := [.loc 2], kids := [.loc 2], deep := [.loc 2] },
  { top := [.loc 2], kids := [.loc 2], deep := [.loc 2] },
  { top := [.loc 2], kids := [.loc 2], deep := [.loc 2] }]

/-- peptacular.sequence.sequence_funcs.shift -/
def prog_388 : List Stmt := [
  .param 0 0,
  .param 1 1,
  .param 2 2,
  .call 4 387 [some 0],
  .alias 5 [4],
  .alias 6 [0],
  .alias 7 [5, 6],
  .call 8 258 [some 7, none, none],
  .alias 9 [8],
  .call 10 254 [some 9, none]]

def table_388 : Pts := [
  { top := [.root 0], kids := [.inner 0], deep := [.inner 0] },
  { top := [.root 1], kids := [.inner 1], deep := [.inner 1] },
  { top := [.root 2], kids := [.inner 2], deep := [.inner 2] },
  {},
  { top := [.loc 4], kids := [.loc 4], deep := [.loc 4] },
  { top := [.loc 4], kids := [.loc 4], deep := [.loc 4] },
  { top := [.root 0], kids := [.inner 0], deep := [.inner 0] },
  { top := [.loc 4, .root 0], kids := [.loc 4, .inner 0], deep := [.loc 4, .inner 0] },
  { top := [.loc 8], kids := [.loc 8], deep := [.loc 8] },
  { top := [.loc 8], kids := [.loc 8], deep := [.loc 8] },
  {}]

/-- peptacular.sequence.sequence_funcs.shuffle -/
def prog_389 : List Stmt := [
  .param 0 0,
  .param 1 1,
  .param 2 2,
  .call 4 387 [some 0],
  .alias 5 [4],
  .alias 6 [0],
  .alias 7 [5, 6],
  .call 8 260 [some 7, none, none],
  .alias 9 [8],
  .call 10 254 [some 9, none]]

def table_389 : Pts := [
  { top := [.root 0], kids := [.inner 0], deep := [.inner 0] },
  { top := [.root 1], kids := [.inner 1], deep := [.inner 1] },
  { top := [.root 2], kids := [.inner 2], deep := [.inner 2] },
  {},
  { top := [.loc 4], kids := [.loc 4], deep := [.loc 4] },
  { top := [.loc 4], kids := [.loc 4], deep := [.loc 4] },
  { top := [.root 0], kids := [.inner 0], deep := [.inner 0] },
  { top := [.loc 4, .root 0], kids := [.loc 4, .inner 0], deep := [.loc 4, .inner 0] },
  { top := [.loc 8], kids := [.loc 8], deep := [.loc 8] },
  { top := [.loc 8], kids := [.loc 8], deep := [.loc 8] },
  {}]

/-- peptacular.sequence.sequence_funcs.sort -/
def prog_390 : List Stmt := [
  .param 0 0,
  .param 1 1,
  .call 3 387 [some 0],
  .alias 4 [3],
  .alias 5 [0],
  .alias 6 [4, 5],
  .call 7 264 [some 6, none],
  .alias 8 [7],
  .call 9 254 [some 8, none]]

def table_390 : Pts := [
  { top := [.root 0], kids := [.inner 0], deep := [.inner 0] },
  { top := [.root 1], kids := [.inner 1], deep := [.inner 1] },
  {},
  { top := [.loc 3], kids := [.loc 3], deep := [.loc 3] },
  { top := [.loc 3], kids := [.loc 3], deep := [.loc 3] },
  { top := [.root 0], kids := [.inner 0], deep := [.inner 0] },
  { top := [.loc 3, .root 0], kids := [.loc 3, .inner 0], deep := [.loc 3, .inner 0] },
  { top := [.loc 7], kids := [.loc 7], deep := [.loc 7] },
  { top := [.loc 7], kids := [.loc 7], deep := [.loc 7] },
  {}]

/-- peptacular.sequence.sequence_funcs.span_to_sequence -/
def prog_391 : List Stmt := [
  .param 0 0,
  .param 1 1,
  .param 2 2,
  .call 4 387 [some 0],
  .alias 5 [4],
  .alias 6 [0],
  .alias 7 [5, 6],
  .call 8 262 [some 7, none, none, none],
  .call 9 254 [some 8, none]]

def table_391 : Pts := [
  { top := [.root 0], kids := [.inner 0], deep := [.inner 0] },
  { top := [.root 1], kids := [.inner 1], deep := [.inner 1] },
  { top := [.root 2], kids := [.inner 2], deep := [.inner 2] },
  {},
  { top := [.loc 4], kids := [.loc 4], deep := [.loc 4] },
  { top := [.loc 4], kids := [.loc 4], deep := [.loc 4] },
  { top := [.root 0], kids := [.inner 0], deep := [.inner 0] },
  { top := [.loc 4, .root 0], kids := [.loc 4, .inner 0], deep := [.loc 4, .inner 0] },
  { top := [.loc 8], kids := [.loc 8], deep := [.loc 8] },
  {}]

/-- peptacular.sequence.sequence_funcs.split -/
def prog_392 : List Stmt := [
  .param 0 0,
  .param 1 1,
  .call 3 387 [some 0],
  .alias 4 [3],
  .alias 5 [0],
  .alias 6 [4, 5],
  .call 7 266 [some 6],
  .elem 8 7,
  .alias 9 [8],
  .call 10 254 [some 9, none],
  .pack 11 [10],
  .leaf 12 11,
  .alias 2 [12]]

def table_392 : Pts := [
  { top := [.root 0], kids := [.inner 0], deep := [.inner 0] },
  { top := [.root 1], kids := [.inner 1], deep := [.inner 1] },
  { top := [.loc 11], kids := [], deep := [] },
  { top := [.loc 3], kids := [.loc 3], deep := [.loc 3] },
  { top := [.loc 3], kids := [.loc 3], deep := [.loc 3] },
  { top := [.root 0], kids := [.inner 0], deep := [.inner 0] },
  { top := [.loc 3, .root 0], kids := [.loc 3, .inner 0], deep := [.loc 3, .inner 0] },
  { top := [.loc 7], kids := [.loc 7], deep := [.loc 7] },
  { top := [.loc 7], kids := [.loc 7], deep := [.loc 7] },
  { top := [.loc 7], kids := [.loc 7], deep := [.loc 7] },
  {},
  { top := [.loc 11], kids := [], deep := [] },
  { top := [.loc 11], kids := [], deep := [] }]

/-- peptacular.sequence.sequence_funcs.strip_mods -/
def prog_393 : List Stmt := [
  .param 0 0,
  .call 2 387 [some 0],
  .alias 3 [2],
  .alias 4 [0],
  .alias 5 [3, 4]]

def table_393 : Pts := [
  { top := [.root 0], kids := [.inner 0], deep := [.inner 0] },
  {},
  { top := [.loc 2], kids := [.loc 2], deep := [.loc 2] },
  { top := [.loc 2], kids := [.loc 2], deep := [.loc 2] },
  { top := [.root 0], kids := [.inner 0], deep := [.inner 0] },
  { top := [.loc 2, .root 0], kids := [.loc 2, .inner 0], deep := [.loc 2, .inner 0] }]

def fns_0 : List (Nat × FnInfo) := [
  (368, { prog := prog_368, nparams := 1, ret := 1, fuel := 3, table := table_368 }),
  (369, { prog := prog_369, nparams := 4, ret := 4, fuel := 2, table := table_369 }),
  (370, { prog := prog_370, nparams := 2, ret := 2, fuel := 2, table := table_370 }),
  (371, { prog := prog_371, nparams := 1, ret := 1, fuel := 2, table := table_371 }),
  (372, { prog := prog_372, nparams := 1, ret := 1, fuel := 2, table := table_372 }),
  (373, { prog := prog_373, nparams := 1, ret := 1, fuel := 2, table := table_373 }),
  (374, { prog := prog_374, nparams := 1, ret := 1, fuel := 2, table := table_374 }),
  (375, { prog := prog_375, nparams := 1, ret := 1, fuel := 2, table := table_375 }),
  (376, { prog := prog_376, nparams := 4, ret := 4, fuel := 2, table := table_376 }),
  (377, { prog := prog_377, nparams := 3, ret := 3, fuel := 2, table := table_377 }),
  (378, { prog := prog_378, nparams := 1, ret := 1, fuel := 2, table := table_378 }),
  (379, { prog := prog_379, nparams := 1, ret := 1, fuel := 2, table := table_379 }),
  (380, { prog := prog_380, nparams := 1, ret := 1, fuel := 2, table := table_380 }),
  (381, { prog := prog_381, nparams := 1, ret := 1, fuel := 2, table := table_381 }),
  (382, { prog := prog_382, nparams := 3, ret := 3, fuel := 2, table := table_382 }),
  (383, { prog := prog_383, nparams := 3, ret := 3, fuel := 2, table := table_383 }),
  (384, { prog := prog_384, nparams := 1, ret := 1, fuel := 2, table := table_384 }),
  (385, { prog := prog_385, nparams := 3, ret := 3, fuel := 2, table := table_385 }),
  (386, { prog := prog_386, nparams := 1, ret := 1, fuel := 2, table := table_386 }),
  (387, { prog := prog_387, nparams := 1, ret := 1, fuel := 2, table := table_387 }),
  (388, { prog := prog_388, nparams := 3, ret := 3, fuel := 2, table := table_388 }),
  (389, { prog := prog_389, nparams := 3, ret := 3, fuel := 2, table := table_389 }),
  (390, { prog := prog_390, nparams := 2, ret := 2, fuel := 2, table := table_390 }),
  (391, { prog := prog_391, nparams := 3, ret := 3, fuel := 2, table := table_391 }),
  (392, { prog := prog_392, nparams := 2, ret := 2, fuel := 2, table := table_392 }),
  (393, { prog := prog_393, nparams := 1, ret := 1, fuel := 2, table := table_393 })]

def fns : List (Nat × FnInfo) := fns_0

theorem ok : fns.all (fun p => entryOK Gen.summaries Gen.verdicts p.1 p.2) = true :=
  all_entryOK_of_fast 8 (by decide +kernel)

end Gen.M_sequence_sequence_funcs
