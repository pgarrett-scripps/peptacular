import PeptVerif.Generated.Effects.Core
import PeptVerif.Lemmas.EffectsFast
/-! GENERATED by harness/translate_effects.py - do not edit.  Source module: peptacular.mods.mod_db_setup (47 functions).
`ok` is the kernel check of these functions against the global summary / verdict tables: every table is closed
under its program, the summary the program induces is within the summary table, and the write / sharing sets
read off the table are the claimed verdict.  The kernel evaluates it in the form `entryOKFast`
(Lemmas/EffectsFast.lean); 8 is the stride of its lookups, any stride gives the same value. -/
namespace Gen.M_mods_mod_db_setup
open Effects
set_option maxRecDepth 100000
/-- peptacular.mods.mod_db_setup.EntryDb.__contains__ -/
def prog_107 : List Stmt := [
  .param 0 0,
  .param 1 1,
  .elem 3 0]

def table_107 : Pts := [
  { top := [.root 0], kids := [.inner 0], deep := [.inner 0] },
  { top := [.root 1], kids := [.inner 1], deep := [.inner 1] },
  {},
  { top := [.inner 0], kids := [.inner 0], deep := [.inner 0] }]

/-- peptacular.mods.mod_db_setup.EntryDb.__eq__ -/
def prog_108 : List Stmt := [
  .param 0 0,
  .param 1 1,
  .elem 3 0,
  .elem 4 1,
  .elem 5 0,
  .elem 6 1]

def table_108 : Pts := [
  { top := [.root 0], kids := [.inner 0], deep := [.inner 0] },
  { top := [.root 1], kids := [.inner 1], deep := [.inner 1] },
  {},
  { top := [.inner 0], kids := [.inner 0], deep := [.inner 0] },
  { top := [.inner 1], kids := [.inner 1], deep := [.inner 1] },
  { top := [.inner 0], kids := [.inner 0], deep := [.inner 0] },
  { top := [.inner 1], kids := [.inner 1], deep := [.inner 1] }]

/-- peptacular.mods.mod_db_setup.EntryDb.__getitem__ -/
def prog_109 : List Stmt := [
  .param 0 0,
  .param 1 1,
  .call 3 127 [some 0, none],
  .asRec 4 3 0,
  .alias 2 [4]]

def table_109 : Pts := [
  { top := [.root 0], kids := [.inner 0], deep := [.inner 0] },
  { top := [.root 1], kids := [.inner 1], deep := [.inner 1] },
  { top := [.recd 0], kids := [.recd 0], deep := [.recd 0] },
  { top := [.recd 0], kids := [.recd 0], deep := [.recd 0] },
  { top := [.recd 0], kids := [.recd 0], deep := [.recd 0] }]

/-- peptacular.mods.mod_db_setup.EntryDb.__hash__ -/
def prog_110 : List Stmt := [
  .param 0 0,
  .elem 2 0,
  .elem 3 0,
  .shallow 4 [3],
  .pack 5 [2]]

def table_110 : Pts := [
  { top := [.root 0], kids := [.inner 0], deep := [.inner 0] },
  {},
  { top := [.inner 0], kids := [.inner 0], deep := [.inner 0] },
  { top := [.inner 0], kids := [.inner 0], deep := [.inner 0] },
  { top := [.loc 4], kids := [.inner 0], deep := [.inner 0] },
  { top := [.loc 5], kids := [.inner 0], deep := [.inner 0] }]

/-- peptacular.mods.mod_db_setup.EntryDb.__iter__ -/
def prog_111 : List Stmt := [
  .param 0 0,
  .elem 2 0,
  .shallow 3 [2]]

def table_111 : Pts := [
  { top := [.root 0], kids := [.inner 0], deep := [.inner 0] },
  {},
  { top := [.inner 0], kids := [.inner 0], deep := [.inner 0] },
  { top := [.loc 3], kids := [.inner 0], deep := [.inner 0] }]

/-- peptacular.mods.mod_db_setup.EntryDb.__len__ -/
def prog_112 : List Stmt := [
  .param 0 0,
  .elem 2 0]

def table_112 : Pts := [
  { top := [.root 0], kids := [.inner 0], deep := [.inner 0] },
  {},
  { top := [.inner 0], kids := [.inner 0], deep := [.inner 0] }]

/-- peptacular.mods.mod_db_setup.EntryDb.__ne__ -/
def prog_113 : List Stmt := [
  .param 0 0,
  .param 1 1,
  .call 3 108 [some 0, some 1]]

def table_113 : Pts := [
  { top := [.root 0], kids := [.inner 0], deep := [.inner 0] },
  { top := [.root 1], kids := [.inner 1], deep := [.inner 1] },
  {},
  {}]

/-- peptacular.mods.mod_db_setup.EntryDb.__repr__ -/
def prog_114 : List Stmt := [
  .param 0 0,
  .elem 2 0,
  .elem 3 0]

def table_114 : Pts := [
  { top := [.root 0], kids := [.inner 0], deep := [.inner 0] },
  {},
  { top := [.inner 0], kids := [.inner 0], deep := [.inner 0] },
  { top := [.inner 0], kids := [.inner 0], deep := [.inner 0] }]

/-- peptacular.mods.mod_db_setup.EntryDb.__str__ -/
def prog_115 : List Stmt := [
  .param 0 0,
  .elem 2 0]

def table_115 : Pts := [
  { top := [.root 0], kids := [.inner 0], deep := [.inner 0] },
  {},
  { top := [.inner 0], kids := [.inner 0], deep := [.inner 0] }]

/-- peptacular.mods.mod_db_setup.EntryDb._add_entry_to_id_map -/
def prog_116 : List Stmt := [
  .param 0 0,
  .param 1 1,
  .asRec 3 1 0,
  .elem 4 0,
  .elem 5 0,
  .asRec 6 1 0,
  .elem 7 5,
  .asRec 8 1 0,
  .elem 9 0,
  .asRec 10 1 0,
  .asRec 11 1 0,
  .elem 12 0,
  .asRec 13 1 0,
  .elem 14 12,
  .shallow 15 [],
  .asRec 16 1 0,
  .elem 17 0,
  .asRec 18 1 0,
  .store 17 16]

def table_116 : Pts := [
  { top := [.root 0], kids := [.inner 0], deep := [.inner 0, .recTop 1, .recd 1] },
  { top := [.root 1], kids := [.inner 1], deep := [.inner 1] },
  {},
  { top := [.recTop 1], kids := [.recd 1], deep := [.recd 1] },
  { top := [.inner 0], kids := [.inner 0, .recTop 1, .recd 1], deep := [.inner 0, .recd 1, .recTop 1] },
  { top := [.inner 0], kids := [.inner 0, .recTop 1, .recd 1], deep := [.inner 0, .recd 1, .recTop 1] },
  { top := [.recTop 1], kids := [.recd 1], deep := [.recd 1] },
  { top := [.inner 0, .recTop 1, .recd 1], kids := [.inner 0, .recTop 1, .recd 1], deep := [.inner 0, .recd 1, .recTop 1] },
  { top := [.recTop 1], kids := [.recd 1], deep := [.recd 1] },
  { top := [.inner 0], kids := [.inner 0, .recTop 1, .recd 1], deep := [.inner 0, .recd 1, .recTop 1] },
  { top := [.recTop 1], kids := [.recd 1], deep := [.recd 1] },
  { top := [.recTop 1], kids := [.recd 1], deep := [.recd 1] },
  { top := [.inner 0], kids := [.inner 0, .recTop 1, .recd 1], deep := [.inner 0, .recd 1, .recTop 1] },
  { top := [.recTop 1], kids := [.recd 1], deep := [.recd 1] },
  { top := [.inner 0, .recTop 1, .recd 1], kids := [.inner 0, .recTop 1, .recd 1], deep := [.inner 0, .recd 1, .recTop 1] },
  { top := [.loc 15], kids := [], deep := [] },
  { top := [.recTop 1], kids := [.recd 1], deep := [.recd 1] },
  { top := [.inner 0], kids := [.inner 0, .recTop 1, .recd 1], deep := [.inner 0, .recd 1, .recTop 1] },
  { top := [.recTop 1], kids := [.recd 1], deep := [.recd 1] }]

/-- peptacular.mods.mod_db_setup.EntryDb._add_entry_to_name_map -/
def prog_117 : List Stmt := [
  .param 0 0,
  .param 1 1,
  .asRec 3 1 0,
  .elem 4 0,
  .elem 5 0,
  .asRec 6 1 0,
  .elem 7 5,
  .asRec 8 1 0,
  .elem 9 0,
  .asRec 10 1 0,
  .asRec 11 1 0,
  .elem 12 0,
  .asRec 13 1 0,
  .elem 14 12,
  .shallow 15 [],
  .asRec 16 1 0,
  .elem 17 0,
  .asRec 18 1 0,
  .store 17 16]

def table_117 : Pts := [
  { top := [.root 0], kids := [.inner 0], deep := [.inner 0, .recTop 1, .recd 1] },
  { top := [.root 1], kids := [.inner 1], deep := [.inner 1] },
  {},
  { top := [.recTop 1], kids := [.recd 1], deep := [.recd 1] },
  { top := [.inner 0], kids := [.inner 0, .recTop 1, .recd 1], deep := [.inner 0, .recd 1, .recTop 1] },
  { top := [.inner 0], kids := [.inner 0, .recTop 1, .recd 1], deep := [.inner 0, .recd 1, .recTop 1] },
  { top := [.recTop 1], kids := [.recd 1], deep := [.recd 1] },
  { top := [.inner 0, .recTop 1, .recd 1], kids := [.inner 0, .recTop 1, .recd 1], deep := [.inner 0, .recd 1, .recTop 1] },
  { top := [.recTop 1], kids := [.recd 1], deep := [.recd 1] },
  { top := [.inner 0], kids := [.inner 0, .recTop 1, .recd 1], deep := [.inner 0, .recd 1, .recTop 1] },
  { top := [.recTop 1], kids := [.recd 1], deep := [.recd 1] },
  { top := [.recTop 1], kids := [.recd 1], deep := [.recd 1] },
  { top := [.inner 0], kids := [.inner 0, .recTop 1, .recd 1], deep := [.inner 0, .recd 1, .recTop 1] },
  { top := [.recTop 1], kids := [.recd 1], deep := [.recd 1] },
  { top := [.inner 0, .recTop 1, .recd 1], kids := [.inner 0, .recTop 1, .recd 1], deep := [.inner 0, .recd 1, .recTop 1] },
  { top := [.loc 15], kids := [], deep := [] },
  { top := [.recTop 1], kids := [.recd 1], deep := [.recd 1] },
  { top := [.inner 0], kids := [.inner 0, .recTop 1, .recd 1], deep := [.inner 0, .recd 1, .recTop 1] },
  { top := [.recTop 1], kids := [.recd 1], deep := [.recd 1] }]

/-- peptacular.mods.mod_db_setup.EntryDb._add_entry_to_synonym_map -/
def prog_118 : List Stmt := [
  .param 0 0,
  .param 1 1,
  .elem 3 0,
  .asRec 4 1 0,
  .elem 5 4,
  .elem 7 5,
  .alias 6 [7],
  .elem 8 0,
  .elem 9 0,
  .elem 10 9,
  .asRec 11 1 0,
  .elem 12 0,
  .asRec 13 1 0,
  .elem 14 0,
  .elem 15 14,
  .shallow 16 [],
  .asRec 17 1 0,
  .elem 18 0,
  .store 18 17]

def table_118 : Pts := [
  { top := [.root 0], kids := [.inner 0], deep := [.inner 0, .recTop 1, .recd 1] },
  { top := [.root 1], kids := [.inner 1], deep := [.inner 1] },
  {},
  { top := [.inner 0], kids := [.inner 0, .recTop 1, .recd 1], deep := [.inner 0, .recd 1, .recTop 1] },
  { top := [.recTop 1], kids := [.recd 1], deep := [.recd 1] },
  { top := [.recd 1], kids := [.recd 1], deep := [.recd 1] },
  { top := [.recd 1], kids := [.recd 1], deep := [.recd 1] },
  { top := [.recd 1], kids := [.recd 1], deep := [.recd 1] },
  { top := [.inner 0], kids := [.inner 0, .recTop 1, .recd 1], deep := [.inner 0, .recd 1, .recTop 1] },
  { top := [.inner 0], kids := [.inner 0, .recTop 1, .recd 1], deep := [.inner 0, .recd 1, .recTop 1] },
  { top := [.inner 0, .recTop 1, .recd 1], kids := [.inner 0, .recTop 1, .recd 1], deep := [.inner 0, .recd 1, .recTop 1] },
  { top := [.recTop 1], kids := [.recd 1], deep := [.recd 1] },
  { top := [.inner 0], kids := [.inner 0, .recTop 1, .recd 1], deep := [.inner 0, .recd 1, .recTop 1] },
  { top := [.recTop 1], kids := [.recd 1], deep := [.recd 1] },
  { top := [.inner 0], kids := [.inner 0, .recTop 1, .recd 1], deep := [.inner 0, .recd 1, .recTop 1] },
  { top := [.inner 0, .recTop 1, .recd 1], kids := [.inner 0, .recTop 1, .recd 1], deep := [.inner 0, .recd 1, .recTop 1] },
  { top := [.loc 16], kids := [], deep := [] },
  { top := [.recTop 1], kids := [.recd 1], deep := [.recd 1] },
  { top := [.inner 0], kids := [.inner 0, .recTop 1, .recd 1], deep := [.inner 0, .recd 1, .recTop 1] }]

/-- peptacular.mods.mod_db_setup.EntryDb._get_names_sorted -/
def prog_119 : List Stmt := [
  .param 0 0,
  .elem 2 0,
  .shallow 3 [2],
  .shallow 4 [3],
  .alias 5 [4],
  .elem 6 0,
  .shallow 7 [6],
  .shallow 8 [7],
  .alias 9 [8],
  .shallow 10 [5, 9],
  .shallow 11 [10],
  .shallow 13 [11],
  .leaf 14 13,
  .alias 1 [14]]

def table_119 : Pts := [
  { top := [.root 0], kids := [.inner 0], deep := [.inner 0] },
  { top := [.loc 13], kids := [], deep := [] },
  { top := [.inner 0], kids := [.inner 0], deep := [.inner 0] },
  { top := [.loc 3], kids := [.inner 0], deep := [.inner 0] },
  { top := [.loc 4], kids := [.inner 0], deep := [.inner 0] },
  { top := [.loc 4], kids := [.inner 0], deep := [.inner 0] },
  { top := [.inner 0], kids := [.inner 0], deep := [.inner 0] },
  { top := [.loc 7], kids := [.inner 0], deep := [.inner 0] },
  { top := [.loc 8], kids := [.inner 0], deep := [.inner 0] },
  { top := [.loc 8], kids := [.inner 0], deep := [.inner 0] },
  { top := [.loc 10], kids := [.inner 0], deep := [.inner 0] },
  { top := [.loc 11], kids := [.inner 0], deep := [.inner 0] },
  {},
  { top := [.loc 13], kids := [.inner 0], deep := [.inner 0] },
  { top := [.loc 13], kids := [], deep := [] }]

/-- peptacular.mods.mod_db_setup.EntryDb._setup_avg_list -/
def prog_120 : List Stmt := [
  .param 0 0,
  .param 1 1,
  .asRec 3 1 1,
  .elem 4 3,
  .asRec 6 4 0,
  .alias 5 [6],
  .asRec 7 5 0,
  .asRec 8 5 0,
  .pack 9 [8],
  .alias 10 [9],
  .elem 12 11,
  .shallow 13 [10],
  .store 0 13]

def table_120 : Pts := [
  { top := [.root 0], kids := [.inner 0, .loc 13], deep := [.inner 0, .recd 1] },
  { top := [.root 1], kids := [.inner 1], deep := [.inner 1] },
  {},
  { top := [.root 1], kids := [.recd 1], deep := [.recd 1] },
  { top := [.recd 1], kids := [.recd 1], deep := [.recd 1] },
  { top := [.recd 1], kids := [.recd 1], deep := [.recd 1] },
  { top := [.recd 1], kids := [.recd 1], deep := [.recd 1] },
  { top := [.recd 1], kids := [.recd 1], deep := [.recd 1] },
  { top := [.recd 1], kids := [.recd 1], deep := [.recd 1] },
  { top := [.loc 9], kids := [.recd 1], deep := [.recd 1] },
  { top := [.loc 9], kids := [.recd 1], deep := [.recd 1] },
  {},
  {},
  { top := [.loc 13], kids := [.recd 1], deep := [.recd 1] }]

/-- peptacular.mods.mod_db_setup.EntryDb._setup_id_map -/
def prog_121 : List Stmt := [
  .param 0 0,
  .param 1 1,
  .asRec 3 1 1,
  .elem 5 3,
  .asRec 6 5 0,
  .alias 4 [6],
  .asRec 7 4 0,
  .call 8 116 [some 0, some 7]]

def table_121 : Pts := [
  { top := [.root 0], kids := [.inner 0], deep := [.inner 0, .recd 1] },
  { top := [.root 1], kids := [.inner 1], deep := [.inner 1] },
  {},
  { top := [.root 1], kids := [.recd 1], deep := [.recd 1] },
  { top := [.recd 1], kids := [.recd 1], deep := [.recd 1] },
  { top := [.recd 1], kids := [.recd 1], deep := [.recd 1] },
  { top := [.recd 1], kids := [.recd 1], deep := [.recd 1] },
  { top := [.recd 1], kids := [.recd 1], deep := [.recd 1] },
  {}]

/-- peptacular.mods.mod_db_setup.EntryDb._setup_name_map -/
def prog_122 : List Stmt := [
  .param 0 0,
  .param 1 1,
  .asRec 3 1 1,
  .elem 5 3,
  .asRec 6 5 0,
  .alias 4 [6],
  .asRec 7 4 0,
  .call 8 117 [some 0, some 7]]

def table_122 : Pts := [
  { top := [.root 0], kids := [.inner 0], deep := [.inner 0, .recd 1] },
  { top := [.root 1], kids := [.inner 1], deep := [.inner 1] },
  {},
  { top := [.root 1], kids := [.recd 1], deep := [.recd 1] },
  { top := [.recd 1], kids := [.recd 1], deep := [.recd 1] },
  { top := [.recd 1], kids := [.recd 1], deep := [.recd 1] },
  { top := [.recd 1], kids := [.recd 1], deep := [.recd 1] },
  { top := [.recd 1], kids := [.recd 1], deep := [.recd 1] },
  {}]

/-- peptacular.mods.mod_db_setup.EntryDb._setup_synonym_map -/
def prog_123 : List Stmt := [
  .param 0 0,
  .param 1 1,
  .asRec 3 1 1,
  .elem 5 3,
  .asRec 6 5 0,
  .alias 4 [6],
  .asRec 7 4 0,
  .call 8 118 [some 0, some 7]]

def table_123 : Pts := [
  { top := [.root 0], kids := [.inner 0], deep := [.inner 0, .recd 1] },
  { top := [.root 1], kids := [.inner 1], deep := [.inner 1] },
  {},
  { top := [.root 1], kids := [.recd 1], deep := [.recd 1] },
  { top := [.recd 1], kids := [.recd 1], deep := [.recd 1] },
  { top := [.recd 1], kids := [.recd 1], deep := [.recd 1] },
  { top := [.recd 1], kids := [.recd 1], deep := [.recd 1] },
  { top := [.recd 1], kids := [.recd 1], deep := [.recd 1] },
  {}]

/-- peptacular.mods.mod_db_setup.EntryDb.contains_id -/
def prog_124 : List Stmt := [
  .param 0 0,
  .param 1 1,
  .elem 3 0]

def table_124 : Pts := [
  { top := [.root 0], kids := [.inner 0], deep := [.inner 0] },
  { top := [.root 1], kids := [.inner 1], deep := [.inner 1] },
  {},
  { top := [.inner 0], kids := [.inner 0], deep := [.inner 0] }]

/-- peptacular.mods.mod_db_setup.EntryDb.contains_name -/
def prog_125 : List Stmt := [
  .param 0 0,
  .param 1 1,
  .elem 3 0]

def table_125 : Pts := [
  { top := [.root 0], kids := [.inner 0], deep := [.inner 0] },
  { top := [.root 1], kids := [.inner 1], deep := [.inner 1] },
  {},
  { top := [.inner 0], kids := [.inner 0], deep := [.inner 0] }]

/-- peptacular.mods.mod_db_setup.EntryDb.contains_synonym -/
def prog_126 : List Stmt := [
  .param 0 0,
  .param 1 1,
  .elem 3 0]

def table_126 : Pts := [
  { top := [.root 0], kids := [.inner 0], deep := [.inner 0] },
  { top := [.root 1], kids := [.inner 1], deep := [.inner 1] },
  {},
  { top := [.inner 0], kids := [.inner 0], deep := [.inner 0] }]

/-- peptacular.mods.mod_db_setup.EntryDb.get_entry_by_id -/
def prog_127 : List Stmt := [
  .param 0 0,
  .param 1 1,
  .elem 3 0,
  .elem 4 3,
  .asRec 5 4 0,
  .alias 2 [5]]

def table_127 : Pts := [
  { top := [.root 0], kids := [.inner 0], deep := [.inner 0] },
  { top := [.root 1], kids := [.inner 1], deep := [.inner 1] },
  { top := [.recd 0], kids := [.recd 0], deep := [.recd 0] },
  { top := [.inner 0], kids := [.inner 0], deep := [.inner 0] },
  { top := [.inner 0], kids := [.inner 0], deep := [.inner 0] },
  { top := [.recd 0], kids := [.recd 0], deep := [.recd 0] }]

/-- peptacular.mods.mod_db_setup.EntryDb.get_entry_by_name -/
def prog_128 : List Stmt := [
  .param 0 0,
  .param 1 1,
  .elem 3 0,
  .elem 4 3,
  .asRec 5 4 0,
  .alias 2 [5]]

def table_128 : Pts := [
  { top := [.root 0], kids := [.inner 0], deep := [.inner 0] },
  { top := [.root 1], kids := [.inner 1], deep := [.inner 1] },
  { top := [.recd 0], kids := [.recd 0], deep := [.recd 0] },
  { top := [.inner 0], kids := [.inner 0], deep := [.inner 0] },
  { top := [.inner 0], kids := [.inner 0], deep := [.inner 0] },
  { top := [.recd 0], kids := [.recd 0], deep := [.recd 0] }]

/-- peptacular.mods.mod_db_setup.EntryDb.get_entry_by_synonym -/
def prog_129 : List Stmt := [
  .param 0 0,
  .param 1 1,
  .elem 3 0,
  .elem 4 3,
  .asRec 5 4 0,
  .alias 2 [5]]

def table_129 : Pts := [
  { top := [.root 0], kids := [.inner 0], deep := [.inner 0] },
  { top := [.root 1], kids := [.inner 1], deep := [.inner 1] },
  { top := [.recd 0], kids := [.recd 0], deep := [.recd 0] },
  { top := [.inner 0], kids := [.inner 0], deep := [.inner 0] },
  { top := [.inner 0], kids := [.inner 0], deep := [.inner 0] },
  { top := [.recd 0], kids := [.recd 0], deep := [.recd 0] }]

/-- peptacular.mods.mod_db_setup.EntryDb.reload_from_file -/
def prog_130 : List Stmt := [
  .param 0 0,
  .param 1 1,
  .param 2 2,
  .call 5 148 [some 4],
  .alias 6 [5],
  .elem 7 0,
  .call 8 143 [some 6],
  .asRec 9 8 1,
  .shallow 10 [9],
  .asRec 11 10 1,
  .alias 12 [11],
  .elem 13 0,
  .call 14 141 [some 6],
  .asRec 15 14 1,
  .shallow 16 [15],
  .asRec 17 16 1,
  .alias 18 [17],
  .elem 19 0,
  .call 20 137 [some 6],
  .asRec 21 20 1,
  .shallow 22 [21],
  .asRec 23 22 1,
  .alias 24 [23],
  .elem 25 0,
  .call 26 142 [some 6],
  .asRec 27 26 1,
  .shallow 28 [27],
  .asRec 29 28 1,
  .alias 30 [29],
  .elem 31 0,
  .call 32 144 [some 6],
  .asRec 33 32 1,
  .shallow 34 [33],
  .asRec 35 34 1,
  .alias 36 [35],
  .elem 37 0,
  .call 38 139 [some 6],
  .asRec 39 38 1,
  .shallow 40 [39],
  .asRec 41 40 1,
  .alias 42 [41],
  .elem 43 0,
  .alias 44 [36, 42],
  .alias 45 [30, 44],
  .alias 46 [24, 45],
  .alias 47 [18, 46],
  .alias 48 [12, 47],
  .elem 49 0,
  .elem 50 0,
  .elem 51 0,
  .elem 52 0,
  .elem 53 0,
  .elem 54 0,
  .elem 55 0,
  .elem 56 0,
  .pack 57 [49, 50, 51, 52, 53, 54, 55, 56],
  .alias 58 [57],
  .call 59 132 [some 0],
  .asRec 60 48 1,
  .call 61 133 [some 0, some 60, none],
  .elem 63 58,
  .store 0 63,
  .elem 64 58,
  .store 0 64,
  .elem 65 58,
  .store 0 65,
  .elem 66 58,
  .store 0 66,
  .elem 67 58,
  .store 0 67,
  .elem 68 58,
  .store 0 68,
  .elem 69 58,
  .store 0 69,
  .elem 70 58,
  .store 0 70]

def table_130 : Pts := [
  { top := [.root 0], kids := [.inner 0, .loc 59, .loc 61], deep := [.inner 0, .loc 8, .loc 14, .loc 20, .loc 26, .loc 32, .loc 38, .loc 5] },
  { top := [.root 1], kids := [.inner 1], deep := [.inner 1] },
  { top := [.root 2], kids := [.inner 2], deep := [.inner 2] },
  {},
  {},
  { top := [.loc 5], kids := [.loc 5], deep := [.loc 5] },
  { top := [.loc 5], kids := [.loc 5], deep := [.loc 5] },
  { top := [.inner 0, .loc 59, .loc 61], kids := [.inner 0, .loc 8, .loc 14, .loc 20, .loc 26, .loc 32, .loc 38, .loc 5], deep := [.inner 0, .loc 8, .loc 14, .loc 20, .loc 26, .loc 32, .loc 38, .loc 5] },
  { top := [.loc 8], kids := [.loc 8], deep := [.loc 5, .loc 8] },
  { top := [.loc 8], kids := [.loc 8], deep := [.loc 5, .loc 8] },
  { top := [.loc 10], kids := [.loc 8], deep := [.loc 5, .loc 8] },
  { top := [.loc 10], kids := [.loc 8], deep := [.loc 5, .loc 8] },
  { top := [.loc 10], kids := [.loc 8], deep := [.loc 5, .loc 8] },
  { top := [.inner 0, .loc 59, .loc 61], kids := [.inner 0, .loc 8, .loc 14, .loc 20, .loc 26, .loc 32, .loc 38, .loc 5], deep := [.inner 0, .loc 8, .loc 14, .loc 20, .loc 26, .loc 32, .loc 38, .loc 5] },
  { top := [.loc 14], kids := [.loc 14], deep := [.loc 5, .loc 14] },
  { top := [.loc 14], kids := [.loc 14], deep := [.loc 5, .loc 14] },
  { top := [.loc 16], kids := [.loc 14], deep := [.loc 5, .loc 14] },
  { top := [.loc 16], kids := [.loc 14], deep := [.loc 5, .loc 14] },
  { top := [.loc 16], kids := [.loc 14], deep := [.loc 5, .loc 14] },
  { top := [.inner 0, .loc 59, .loc 61], kids := [.inner 0, .loc 8, .loc 14, .loc 20, .loc 26, .loc 32, .loc 38, .loc 5], deep := [.inner 0, .loc 8, .loc 14, .loc 20, .loc 26, .loc 32, .loc 38, .loc 5] },
  { top := [.loc 20], kids := [.loc 20], deep := [.loc 5, .loc 20] },
  { top := [.loc 20], kids := [.loc 20], deep := [.loc 5, .loc 20] },
  { top := [.loc 22], kids := [.loc 20], deep := [.loc 5, .loc 20] },
  { top := [.loc 22], kids := [.loc 20], deep := [.loc 5, .loc 20] },
  { top := [.loc 22], kids := [.loc 20], deep := [.loc 5, .loc 20] },
  { top := [.inner 0, .loc 59, .loc 61], kids := [.inner 0, .loc 8, .loc 14, .loc 20, .loc 26, .loc 32, .loc 38, .loc 5], deep := [.inner 0, .loc 8, .loc 14, .loc 20, .loc 26, .loc 32, .loc 38, .loc 5] },
  { top := [.loc 26], kids := [.loc 26], deep := [.loc 5, .loc 26] },
  { top := [.loc 26], kids := [.loc 26], deep := [.loc 5, .loc 26] },
  { top := [.loc 28], kids := [.loc 26], deep := [.loc 5, .loc 26] },
  { top := [.loc 28], kids := [.loc 26], deep := [.loc 5, .loc 26] },
  { top := [.loc 28], kids := [.loc 26], deep := [.loc 5, .loc 26] },
  { top := [.inner 0, .loc 59, .loc 61], kids := [.inner 0, .loc 8, .loc 14, .loc 20, .loc 26, .loc 32, .loc 38, .loc 5], deep := [.inner 0, .loc 8, .loc 14, .loc 20, .loc 26, .loc 32, .loc 38, .loc 5] },
  { top := [.loc 32], kids := [.loc 32], deep := [.loc 5, .loc 32] },
  { top := [.loc 32], kids := [.loc 32], deep := [.loc 5, .loc 32] },
  { top := [.loc 34], kids := [.loc 32], deep := [.loc 5, .loc 32] },
  { top := [.loc 34], kids := [.loc 32], deep := [.loc 5, .loc 32] },
  { top := [.loc 34], kids := [.loc 32], deep := [.loc 5, .loc 32] },
  { top := [.inner 0, .loc 59, .loc 61], kids := [.inner 0, .loc 8, .loc 14, .loc 20, .loc 26, .loc 32, .loc 38, .loc 5], deep := [.inner 0, .loc 8, .loc 14, .loc 20, .loc 26, .loc 32, .loc 38, .loc 5] },
  { top := [.loc 38], kids := [.loc 38], deep := [.loc 5, .loc 38] },
  { top := [.loc 38], kids := [.loc 38], deep := [.loc 5, .loc 38] },
  { top := [.loc 40], kids := [.loc 38], deep := [.loc 5, .loc 38] },
  { top := [.loc 40], kids := [.loc 38], deep := [.loc 5, .loc 38] },
  { top := [.loc 40], kids := [.loc 38], deep := [.loc 5, .loc 38] },
  { top := [.inner 0, .loc 59, .loc 61], kids := [.inner 0, .loc 8, .loc 14, .loc 20, .loc 26, .loc 32, .loc 38, .loc 5], deep := [.inner 0, .loc 8, .loc 14, .loc 20, .loc 26, .loc 32, .loc 38, .loc 5] },
  { top := [.loc 34, .loc 40], kids := [.loc 32, .loc 38], deep := [.loc 5, .loc 32, .loc 38] },
  { top := [.loc 28, .loc 34, .loc 40], kids := [.loc 26, .loc 32, .loc 38], deep := [.loc 5, .loc 26, .loc 32, .loc 38] },
  { top := [.loc 22, .loc 28, .loc 34, .loc 40], kids := [.loc 20, .loc 26, .loc 32, .loc 38], deep := [.loc 5, .loc 20, .loc 26, .loc 32, .loc 38] },
  { top := [.loc 16, .loc 22, .loc 28, .loc 34, .loc 40], kids := [.loc 14, .loc 20, .loc 26, .loc 32, .loc 38], deep := [.loc 5, .loc 14, .loc 20, .loc 26, .loc 32, .loc 38] },
  { top := [.loc 10, .loc 16, .loc 22, .loc 28, .loc 34, .loc 40], kids := [.loc 8, .loc 14, .loc 20, .loc 26, .loc 32, .loc 38], deep := [.loc 5, .loc 8, .loc 14, .loc 20, .loc 26, .loc 32, .loc 38] },
  { top := [.inner 0, .loc 59, .loc 61], kids := [.inner 0, .loc 8, .loc 14, .loc 20, .loc 26, .loc 32, .loc 38, .loc 5], deep := [.inner 0, .loc 8, .loc 14, .loc 20, .loc 26, .loc 32, .loc 38, .loc 5] },
  { top := [.inner 0, .loc 59, .loc 61], kids := [.inner 0, .loc 8, .loc 14, .loc 20, .loc 26, .loc 32, .loc 38, .loc 5], deep := [.inner 0, .loc 8, .loc 14, .loc 20, .loc 26, .loc 32, .loc 38, .loc 5] },
  { top := [.inner 0, .loc 59, .loc 61], kids := [.inner 0, .loc 8, .loc 14, .loc 20, .loc 26, .loc 32, .loc 38, .loc 5], deep := [.inner 0, .loc 8, .loc 14, .loc 20, .loc 26, .loc 32, .loc 38, .loc 5] },
  { top := [.inner 0, .loc 59, .loc 61], kids := [.inner 0, .loc 8, .loc 14, .loc 20, .loc 26, .loc 32, .loc 38, .loc 5], deep := [.inner 0, .loc 8, .loc 14, .loc 20, .loc 26, .loc 32, .loc 38, .loc 5] },
  { top := [.inner 0, .loc 59, .loc 61], kids := [.inner 0, .loc 8, .loc 14, .loc 20, .loc 26, .loc 32, .loc 38, .loc 5], deep := [.inner 0, .loc 8, .loc 14, .loc 20, .loc 26, .loc 32, .loc 38, .loc 5] },
  { top := [.inner 0, .loc 59, .loc 61], kids := [.inner 0, .loc 8, .loc 14, .loc 20, .loc 26, .loc 32, .loc 38, .loc 5], deep := [.inner 0, .loc 8, .loc 14, .loc 20, .loc 26, .loc 32, .loc 38, .loc 5] },
  { top := [.inner 0, .loc 59, .loc 61], kids := [.inner 0, .loc 8, .loc 14, .loc 20, .loc 26, .loc 32, .loc 38, .loc 5], deep := [.inner 0, .loc 8, .loc 14, .loc 20, .loc 26, .loc 32, .loc 38, .loc 5] },
  { top := [.inner 0, .loc 59, .loc 61], kids := [.inner 0, .loc 8, .loc 14, .loc 20, .loc 26, .loc 32, .loc 38, .loc 5], deep := [.inner 0, .loc 8, .loc 14, .loc 20, .loc 26, .loc 32, .loc 38, .loc 5] },
  { top := [.loc 57], kids := [.inner 0, .loc 59, .loc 61], deep := [.inner 0, .loc 8, .loc 14, .loc 20, .loc 26, .loc 32, .loc 38, .loc 5] },
  { top := [.loc 57], kids := [.inner 0, .loc 59, .loc 61], deep := [.inner 0, .loc 8, .loc 14, .loc 20, .loc 26, .loc 32, .loc 38, .loc 5] },
  {},
  { top := [.loc 10, .loc 16, .loc 22, .loc 28, .loc 34, .loc 40], kids := [.loc 8, .loc 14, .loc 20, .loc 26, .loc 32, .loc 38], deep := [.loc 5, .loc 8, .loc 14, .loc 20, .loc 26, .loc 32, .loc 38] },
  {},
  {},
  { top := [.inner 0, .loc 59, .loc 61], kids := [.inner 0, .loc 8, .loc 14, .loc 20, .loc 26, .loc 32, .loc 38, .loc 5], deep := [.inner 0, .loc 8, .loc 14, .loc 20, .loc 26, .loc 32, .loc 38, .loc 5] },
  { top := [.inner 0, .loc 59, .loc 61], kids := [.inner 0, .loc 8, .loc 14, .loc 20, .loc 26, .loc 32, .loc 38, .loc 5], deep := [.inner 0, .loc 8, .loc 14, .loc 20, .loc 26, .loc 32, .loc 38, .loc 5] },
  { top := [.inner 0, .loc 59, .loc 61], kids := [.inner 0, .loc 8, .loc 14, .loc 20, .loc 26, .loc 32, .loc 38, .loc 5], deep := [.inner 0, .loc 8, .loc 14, .loc 20, .loc 26, .loc 32, .loc 38, .loc 5] },
  { top := [.inner 0, .loc 59, .loc 61], kids := [.inner 0, .loc 8, .loc 14, .loc 20, .loc 26, .loc 32, .loc 38, .loc 5], deep := [.inner 0, .loc 8, .loc 14, .loc 20, .loc 26, .loc 32, .loc 38, .loc 5] },
  { top := [.inner 0, .loc 59, .loc 61], kids := [.inner 0, .loc 8, .loc 14, .loc 20, .loc 26, .loc 32, .loc 38, .loc 5], deep := [.inner 0, .loc 8, .loc 14, .loc 20, .loc 26, .loc 32, .loc 38, .loc 5] },
  { top := [.inner 0, .loc 59, .loc 61], kids := [.inner 0, .loc 8, .loc 14, .loc 20, .loc 26, .loc 32, .loc 38, .loc 5], deep := [.inner 0, .loc 8, .loc 14, .loc 20, .loc 26, .loc 32, .loc 38, .loc 5] },
  { top := [.inner 0, .loc 59, .loc 61], kids := [.inner 0, .loc 8, .loc 14, .loc 20, .loc 26, .loc 32, .loc 38, .loc 5], deep := [.inner 0, .loc 8, .loc 14, .loc 20, .loc 26, .loc 32, .loc 38, .loc 5] },
  { top := [.inner 0, .loc 59, .loc 61], kids := [.inner 0, .loc 8, .loc 14, .loc 20, .loc 26, .loc 32, .loc 38, .loc 5], deep := [.inner 0, .loc 8, .loc 14, .loc 20, .loc 26, .loc 32, .loc 38, .loc 5] }]

/-- peptacular.mods.mod_db_setup.EntryDb.reload_from_online -/
def prog_131 : List Stmt := [
  .param 0 0,
  .param 1 1,
  .global 4 40,
  .elem 5 0,
  .elem 6 4,
  .alias 6 [5],
  .alias 7 [6],
  .elem 8 0,
  .shallow 9 [7],
  .alias 10 [9],
  .shallow 11 [],
  .alias 12 [11],
  .write 10,
  .elem 13 10,
  .write 13,
  .pack 14 [10],
  .elem 16 14,
  .alias 15 [16],
  .elem 17 12,
  .alias 18 [17],
  .call 19 130 [some 0, some 18, none]]

def table_131 : Pts := [
  { top := [.root 0], kids := [.inner 0, .loc 19], deep := [.inner 0, .loc 19] },
  { top := [.root 1], kids := [.inner 1], deep := [.inner 1] },
  {},
  {},
  { top := [.glob 40], kids := [.glob 40], deep := [.glob 40] },
  { top := [.inner 0, .loc 19], kids := [.inner 0, .loc 19], deep := [.inner 0, .loc 19] },
  { top := [.glob 40, .inner 0, .loc 19], kids := [.glob 40, .inner 0, .loc 19], deep := [.glob 40, .inner 0, .loc 19] },
  { top := [.glob 40, .inner 0, .loc 19], kids := [.glob 40, .inner 0, .loc 19], deep := [.glob 40, .inner 0, .loc 19] },
  { top := [.inner 0, .loc 19], kids := [.inner 0, .loc 19], deep := [.inner 0, .loc 19] },
  { top := [.loc 9], kids := [.glob 40, .inner 0, .loc 19], deep := [.glob 40, .inner 0, .loc 19] },
  { top := [.loc 9], kids := [.glob 40, .inner 0, .loc 19], deep := [.glob 40, .inner 0, .loc 19] },
  { top := [.loc 11], kids := [], deep := [] },
  { top := [.loc 11], kids := [], deep := [] },
  { top := [.glob 40, .inner 0, .loc 19], kids := [.glob 40, .inner 0, .loc 19], deep := [.glob 40, .inner 0, .loc 19] },
  { top := [.loc 14], kids := [.loc 9], deep := [.glob 40, .inner 0, .loc 19] },
  { top := [.loc 9], kids := [.glob 40, .inner 0, .loc 19], deep := [.glob 40, .inner 0, .loc 19] },
  { top := [.loc 9], kids := [.glob 40, .inner 0, .loc 19], deep := [.glob 40, .inner 0, .loc 19] },
  {},
  {},
  {}]

/-- peptacular.mods.mod_db_setup.EntryDb.reset -/
def prog_132 : List Stmt := [
  .param 0 0,
  .pack 2 [],
  .store 0 2,
  .pack 3 [],
  .store 0 3,
  .pack 4 [],
  .store 0 4,
  .pack 5 [],
  .store 0 5,
  .pack 6 [],
  .store 0 6,
  .pack 7 [],
  .store 0 7]

def table_132 : Pts := [
  { top := [.root 0], kids := [.inner 0, .loc 2, .loc 3, .loc 4, .loc 5, .loc 6, .loc 7], deep := [.inner 0] },
  {},
  { top := [.loc 2], kids := [], deep := [] },
  { top := [.loc 3], kids := [], deep := [] },
  { top := [.loc 4], kids := [], deep := [] },
  { top := [.loc 5], kids := [], deep := [] },
  { top := [.loc 6], kids := [], deep := [] },
  { top := [.loc 7], kids := [], deep := [] }]

/-- peptacular.mods.mod_db_setup.EntryDb.setup -/
def prog_133 : List Stmt := [
  .param 0 0,
  .param 1 1,
  .param 2 2,
  .asRec 4 1 1,
  .call 5 121 [some 0, some 4],
  .asRec 6 1 1,
  .call 7 122 [some 0, some 6],
  .asRec 8 1 1,
  .call 9 123 [some 0, some 8],
  .asRec 10 1 1,
  .call 11 134 [some 0, some 10],
  .asRec 12 1 1,
  .call 13 120 [some 0, some 12],
  .write 0,
  .call 14 119 [some 0],
  .leaf 15 14,
  .store 0 15]

def table_133 : Pts := [
  { top := [.root 0], kids := [.inner 0, .loc 11, .loc 13, .loc 14], deep := [.inner 0, .recd 1] },
  { top := [.root 1], kids := [.inner 1], deep := [.inner 1] },
  { top := [.root 2], kids := [.inner 2], deep := [.inner 2] },
  {},
  { top := [.root 1], kids := [.recd 1], deep := [.recd 1] },
  {},
  { top := [.root 1], kids := [.recd 1], deep := [.recd 1] },
  {},
  { top := [.root 1], kids := [.recd 1], deep := [.recd 1] },
  {},
  { top := [.root 1], kids := [.recd 1], deep := [.recd 1] },
  {},
  { top := [.root 1], kids := [.recd 1], deep := [.recd 1] },
  {},
  { top := [.loc 14], kids := [], deep := [] },
  { top := [.loc 14], kids := [], deep := [] }]

/-- peptacular.mods.mod_db_setup.EntryDb.setup_mono_list -/
def prog_134 : List Stmt := [
  .param 0 0,
  .param 1 1,
  .asRec 3 1 1,
  .elem 4 3,
  .asRec 6 4 0,
  .alias 5 [6],
  .asRec 7 5 0,
  .asRec 8 5 0,
  .pack 9 [8],
  .alias 10 [9],
  .elem 12 11,
  .shallow 13 [10],
  .store 0 13]

def table_134 : Pts := [
  { top := [.root 0], kids := [.inner 0, .loc 13], deep := [.inner 0, .recd 1] },
  { top := [.root 1], kids := [.inner 1], deep := [.inner 1] },
  {},
  { top := [.root 1], kids := [.recd 1], deep := [.recd 1] },
  { top := [.recd 1], kids := [.recd 1], deep := [.recd 1] },
  { top := [.recd 1], kids := [.recd 1], deep := [.recd 1] },
  { top := [.recd 1], kids := [.recd 1], deep := [.recd 1] },
  { top := [.recd 1], kids := [.recd 1], deep := [.recd 1] },
  { top := [.recd 1], kids := [.recd 1], deep := [.recd 1] },
  { top := [.loc 9], kids := [.recd 1], deep := [.recd 1] },
  { top := [.loc 9], kids := [.recd 1], deep := [.recd 1] },
  {},
  {},
  { top := [.loc 13], kids := [.recd 1], deep := [.recd 1] }]

/-- peptacular.mods.mod_db_setup.ModEntry.calc_avg_mass -/
def prog_135 : List Stmt := [
  .param 0 0,
  .asRec 2 0 0,
  .asRec 3 0 0,
  .call 4 15 [none, none, none, none],
  .alias 1 [4]]

def table_135 : Pts := [
  { top := [.root 0], kids := [.inner 0], deep := [.inner 0] },
  {},
  { top := [.recTop 0], kids := [.recd 0], deep := [.recd 0] },
  { top := [.recTop 0], kids := [.recd 0], deep := [.recd 0] },
  {}]

/-- peptacular.mods.mod_db_setup.ModEntry.calc_mono_mass -/
def prog_136 : List Stmt := [
  .param 0 0,
  .asRec 2 0 0,
  .asRec 3 0 0,
  .call 4 15 [none, none, none, none],
  .alias 1 [4]]

def table_136 : Pts := [
  { top := [.root 0], kids := [.inner 0], deep := [.inner 0] },
  {},
  { top := [.recTop 0], kids := [.recd 0], deep := [.recd 0] },
  { top := [.recTop 0], kids := [.recd 0], deep := [.recd 0] },
  {}]

/-- peptacular.mods.mod_db_setup._get_gno_entries -/
def prog_137 : List Stmt := [
  .param 0 0,
  .elem 26 0,
  .alias 20 [26],
  .call 27 138 [some 20],
  .elem 28 27,
  .alias 21 [28],
  .elem 29 27,
  .alias 22 [29],
  .call 30 140 [some 20],
  .leaf 31 30,
  .pack 33 [],
  .leaf 34 33,
  .alias 14 [34],
  .call 35 146 [some 20],
  .pack 36 [],
  .alias 16 [36],
  .pack 37 [],
  .elem 38 20,
  .alias 38 [37],
  .elem 39 38,
  .alias 25 [39],
  .call 40 266 [some 25],
  .alias 12 [40],
  .elem 41 12,
  .elem 42 12,
  .call 43 269 [some 42, none],
  .alias 24 [43],
  .pack 44 [],
  .store 16 44,
  .elem 45 16,
  .store 45 24,
  .pack 46 [],
  .elem 47 20,
  .alias 47 [46],
  .alias 19 [47],
  .pack 48 [19],
  .alias 19 [48],
  .elem 49 19,
  .alias 50 [49],
  .call 51 266 [some 50],
  .elem 52 51,
  .pack 53 [52],
  .alias 19 [53],
  .pack 54 [],
  .elem 55 16,
  .alias 55 [54],
  .alias 25 [55],
  .shallow 56 [],
  .elem 57 25,
  .alias 25 [57],
  .elem 58 25,
  .alias 25 [58],
  .shallow 59 [],
  .alias 4 [59],
  .shallow 60 [],
  .alias 23 [60],
  .elem 61 23,
  .elem 62 61,
  .alias 17 [62],
  .elem 63 61,
  .alias 5 [63],
  .call 64 145 [some 17, none],
  .leaf 65 64,
  .alias 3 [65],
  .shallow 67 [],
  .leaf 68 3,
  .shallow 69 [68],
  .elem 70 69,
  .write 4,
  .call 71 17 [some 4, none, none, none],
  .alias 8 [71],
  .call 72 15 [none, none, none, none],
  .alias 10 [72],
  .call 73 15 [none, none, none, none],
  .alias 7 [73],
  .shallow 75 [],
  .leaf 76 14,
  .pack 77 [22, 19, 76],
  .asRec 78 77 0,
  .pack 79 [78],
  .alias 1 [79]]

def table_137 : Pts := [
  { top := [.root 0], kids := [.inner 0], deep := [.inner 0] },
  { top := [.loc 79], kids := [.loc 77], deep := [.recd 0, .loc 46, .loc 48, .loc 53, .loc 33, .loc 51] },
  {},
  { top := [.loc 64], kids := [], deep := [] },
  { top := [.loc 59], kids := [], deep := [] },
  {},
  {},
  {},
  {},
  {},
  {},
  {},
  { top := [.loc 40], kids := [.loc 40], deep := [.loc 40] },
  {},
  { top := [.loc 33], kids := [], deep := [] },
  {},
  { top := [.loc 36], kids := [.loc 44], deep := [.loc 43] },
  {},
  {},
  { top := [.inner 0, .loc 46, .loc 48, .loc 53], kids := [.inner 0, .loc 46, .loc 51, .loc 48, .loc 53], deep := [.inner 0, .loc 51, .loc 46, .loc 48, .loc 53] },
  { top := [.inner 0], kids := [.inner 0], deep := [.inner 0] },
  { top := [.inner 0], kids := [.inner 0], deep := [.inner 0] },
  { top := [.inner 0], kids := [.inner 0], deep := [.inner 0] },
  { top := [.loc 60], kids := [], deep := [] },
  { top := [.loc 43], kids := [], deep := [] },
  { top := [.inner 0, .loc 44, .loc 54, .loc 43], kids := [.inner 0, .loc 43], deep := [.inner 0, .loc 43] },
  { top := [.inner 0], kids := [.inner 0], deep := [.inner 0] },
  { top := [.loc 27], kids := [.inner 0], deep := [.inner 0] },
  { top := [.inner 0], kids := [.inner 0], deep := [.inner 0] },
  { top := [.inner 0], kids := [.inner 0], deep := [.inner 0] },
  { top := [.loc 30], kids := [], deep := [] },
  { top := [.loc 30], kids := [], deep := [] },
  {},
  { top := [.loc 33], kids := [], deep := [] },
  { top := [.loc 33], kids := [], deep := [] },
  {},
  { top := [.loc 36], kids := [.loc 44], deep := [.loc 43] },
  { top := [.loc 37], kids := [], deep := [] },
  { top := [.inner 0, .loc 37], kids := [.inner 0], deep := [.inner 0] },
  { top := [.inner 0], kids := [.inner 0], deep := [.inner 0] },
  { top := [.loc 40], kids := [.loc 40], deep := [.loc 40] },
  { top := [.loc 40], kids := [.loc 40], deep := [.loc 40] },
  { top := [.loc 40], kids := [.loc 40], deep := [.loc 40] },
  { top := [.loc 43], kids := [], deep := [] },
  { top := [.loc 44], kids := [.loc 43], deep := [] },
  { top := [.loc 44], kids := [.loc 43], deep := [.loc 43] },
  { top := [.loc 46], kids := [], deep := [] },
  { top := [.inner 0, .loc 46], kids := [.inner 0], deep := [.inner 0] },
  { top := [.loc 48], kids := [.inner 0, .loc 46, .loc 48, .loc 53], deep := [.inner 0, .loc 46, .loc 51, .loc 48, .loc 53] },
  { top := [.inner 0, .loc 46, .loc 51, .loc 48, .loc 53], kids := [.inner 0, .loc 51, .loc 46, .loc 48, .loc 53], deep := [.inner 0, .loc 51, .loc 46, .loc 48, .loc 53] },
  { top := [.inner 0, .loc 46, .loc 51, .loc 48, .loc 53], kids := [.inner 0, .loc 51, .loc 46, .loc 48, .loc 53], deep := [.inner 0, .loc 51, .loc 46, .loc 48, .loc 53] },
  { top := [.loc 51], kids := [.loc 51], deep := [.loc 51] },
  { top := [.loc 51], kids := [.loc 51], deep := [.loc 51] },
  { top := [.loc 53], kids := [.loc 51], deep := [.loc 51] },
  { top := [.loc 54], kids := [], deep := [] },
  { top := [.loc 44, .loc 54], kids := [.loc 43], deep := [.loc 43] },
  { top := [.loc 56], kids := [], deep := [] },
  { top := [.inner 0, .loc 43], kids := [.inner 0, .loc 43], deep := [.inner 0, .loc 43] },
  { top := [.inner 0, .loc 43], kids := [.inner 0, .loc 43], deep := [.inner 0, .loc 43] },
  { top := [.loc 59], kids := [], deep := [] },
  { top := [.loc 60], kids := [], deep := [] },
  {},
  {},
  {},
  { top := [.loc 64], kids := [], deep := [] },
  { top := [.loc 64], kids := [], deep := [] },
  {},
  { top := [.loc 67], kids := [], deep := [] },
  { top := [.loc 64], kids := [], deep := [] },
  { top := [.loc 69], kids := [], deep := [] },
  {},
  {},
  {},
  {},
  {},
  { top := [.loc 75], kids := [], deep := [] },
  { top := [.loc 33], kids := [], deep := [] },
  { top := [.loc 77], kids := [.inner 0, .loc 46, .loc 48, .loc 53, .loc 33], deep := [.inner 0, .loc 46, .loc 51, .loc 48, .loc 53] },
  { top := [.loc 77], kids := [.recd 0, .loc 46, .loc 48, .loc 53, .loc 33], deep := [.recd 0, .loc 46, .loc 51, .loc 48, .loc 53] },
  { top := [.loc 79], kids := [.loc 77], deep := [.recd 0, .loc 46, .loc 48, .loc 53, .loc 33, .loc 51] }]

/-- peptacular.mods.mod_db_setup._get_id_and_name -/
def prog_138 : List Stmt := [
  .param 0 0,
  .pack 2 [],
  .elem 3 0,
  .alias 3 [2],
  .alias 4 [3],
  .pack 5 [],
  .elem 6 0,
  .alias 6 [5],
  .alias 7 [6],
  .shallow 8 [],
  .elem 9 4,
  .alias 10 [9],
  .elem 11 4,
  .alias 12 [11],
  .alias 13 [10, 12],
  .shallow 14 [],
  .elem 15 7,
  .alias 16 [15],
  .elem 17 7,
  .alias 18 [17],
  .alias 19 [16, 18],
  .pack 20 [13, 19],
  .alias 1 [20]]

def table_138 : Pts := [
  { top := [.root 0], kids := [.inner 0], deep := [.inner 0] },
  { top := [.loc 20], kids := [.inner 0], deep := [.inner 0] },
  { top := [.loc 2], kids := [], deep := [] },
  { top := [.inner 0, .loc 2], kids := [.inner 0], deep := [.inner 0] },
  { top := [.inner 0, .loc 2], kids := [.inner 0], deep := [.inner 0] },
  { top := [.loc 5], kids := [], deep := [] },
  { top := [.inner 0, .loc 5], kids := [.inner 0], deep := [.inner 0] },
  { top := [.inner 0, .loc 5], kids := [.inner 0], deep := [.inner 0] },
  { top := [.loc 8], kids := [], deep := [] },
  { top := [.inner 0], kids := [.inner 0], deep := [.inner 0] },
  { top := [.inner 0], kids := [.inner 0], deep := [.inner 0] },
  { top := [.inner 0], kids := [.inner 0], deep := [.inner 0] },
  { top := [.inner 0], kids := [.inner 0], deep := [.inner 0] },
  { top := [.inner 0], kids := [.inner 0], deep := [.inner 0] },
  { top := [.loc 14], kids := [], deep := [] },
  { top := [.inner 0], kids := [.inner 0], deep := [.inner 0] },
  { top := [.inner 0], kids := [.inner 0], deep := [.inner 0] },
  { top := [.inner 0], kids := [.inner 0], deep := [.inner 0] },
  { top := [.inner 0], kids := [.inner 0], deep := [.inner 0] },
  { top := [.inner 0], kids := [.inner 0], deep := [.inner 0] },
  { top := [.loc 20], kids := [.inner 0], deep := [.inner 0] }]

/-- peptacular.mods.mod_db_setup._get_monosaccharide_entries -/
def prog_139 : List Stmt := [
  .param 0 0,
  .elem 19 0,
  .alias 14 [19],
  .call 20 138 [some 14],
  .elem 21 20,
  .alias 15 [21],
  .elem 22 20,
  .alias 16 [22],
  .call 23 140 [some 14],
  .leaf 24 23,
  .pack 26 [],
  .leaf 27 26,
  .alias 9 [27],
  .call 28 146 [some 14],
  .pack 29 [],
  .alias 11 [29],
  .pack 30 [],
  .elem 31 14,
  .alias 31 [30],
  .elem 32 31,
  .alias 18 [32],
  .call 33 266 [some 18],
  .alias 7 [33],
  .elem 34 7,
  .elem 35 7,
  .call 36 269 [some 35, none],
  .alias 17 [36],
  .pack 37 [],
  .store 11 37,
  .elem 38 11,
  .store 38 17,
  .pack 39 [],
  .elem 40 11,
  .alias 40 [39],
  .alias 4 [40],
  .pack 41 [],
  .elem 42 11,
  .alias 42 [41],
  .alias 5 [42],
  .pack 43 [],
  .elem 44 11,
  .alias 44 [43],
  .alias 2 [44],
  .shallow 45 [],
  .elem 46 4,
  .alias 4 [46],
  .elem 47 4,
  .alias 4 [47],
  .shallow 48 [],
  .elem 49 5,
  .alias 5 [49],
  .elem 50 5,
  .alias 5 [50],
  .shallow 51 [],
  .elem 52 2,
  .alias 2 [52],
  .elem 53 2,
  .alias 2 [53],
  .pack 54 [],
  .elem 55 14,
  .alias 55 [54],
  .alias 13 [55],
  .pack 56 [13],
  .alias 13 [56],
  .elem 57 13,
  .alias 58 [57],
  .call 59 266 [some 58],
  .elem 60 59,
  .pack 61 [60],
  .alias 13 [61],
  .call 62 15 [some 4, none, none, none],
  .alias 6 [62],
  .call 63 15 [some 4, none, none, none],
  .alias 3 [63],
  .shallow 65 [],
  .leaf 66 9,
  .pack 67 [16, 13, 66],
  .asRec 68 67 0,
  .pack 69 [68],
  .alias 1 [69]]

def table_139 : Pts := [
  { top := [.root 0], kids := [.inner 0], deep := [.inner 0] },
  { top := [.loc 69], kids := [.loc 67], deep := [.recd 0, .loc 54, .loc 56, .loc 61, .loc 26, .loc 59] },
  { top := [.loc 37, .loc 43, .loc 36], kids := [.loc 36], deep := [.loc 36] },
  {},
  { top := [.loc 37, .loc 39, .loc 36], kids := [.loc 36], deep := [.loc 36] },
  { top := [.loc 37, .loc 41, .loc 36], kids := [.loc 36], deep := [.loc 36] },
  {},
  { top := [.loc 33], kids := [.loc 33], deep := [.loc 33] },
  {},
  { top := [.loc 26], kids := [], deep := [] },
  {},
  { top := [.loc 29], kids := [.loc 37], deep := [.loc 36] },
  {},
  { top := [.inner 0, .loc 54, .loc 56, .loc 61], kids := [.inner 0, .loc 54, .loc 59, .loc 56, .loc 61], deep := [.inner 0, .loc 59, .loc 54, .loc 56, .loc 61] },
  { top := [.inner 0], kids := [.inner 0], deep := [.inner 0] },
  { top := [.inner 0], kids := [.inner 0], deep := [.inner 0] },
  { top := [.inner 0], kids := [.inner 0], deep := [.inner 0] },
  { top := [.loc 36], kids := [], deep := [] },
  { top := [.inner 0], kids := [.inner 0], deep := [.inner 0] },
  { top := [.inner 0], kids := [.inner 0], deep := [.inner 0] },
  { top := [.loc 20], kids := [.inner 0], deep := [.inner 0] },
  { top := [.inner 0], kids := [.inner 0], deep := [.inner 0] },
  { top := [.inner 0], kids := [.inner 0], deep := [.inner 0] },
  { top := [.loc 23], kids := [], deep := [] },
  { top := [.loc 23], kids := [], deep := [] },
  {},
  { top := [.loc 26], kids := [], deep := [] },
  { top := [.loc 26], kids := [], deep := [] },
  {},
  { top := [.loc 29], kids := [.loc 37], deep := [.loc 36] },
  { top := [.loc 30], kids := [], deep := [] },
  { top := [.inner 0, .loc 30], kids := [.inner 0], deep := [.inner 0] },
  { top := [.inner 0], kids := [.inner 0], deep := [.inner 0] },
  { top := [.loc 33], kids := [.loc 33], deep := [.loc 33] },
  { top := [.loc 33], kids := [.loc 33], deep := [.loc 33] },
  { top := [.loc 33], kids := [.loc 33], deep := [.loc 33] },
  { top := [.loc 36], kids := [], deep := [] },
  { top := [.loc 37], kids := [.loc 36], deep := [] },
  { top := [.loc 37], kids := [.loc 36], deep := [.loc 36] },
  { top := [.loc 39], kids := [], deep := [] },
  { top := [.loc 37, .loc 39], kids := [.loc 36], deep := [.loc 36] },
  { top := [.loc 41], kids := [], deep := [] },
  { top := [.loc 37, .loc 41], kids := [.loc 36], deep := [.loc 36] },
  { top := [.loc 43], kids := [], deep := [] },
  { top := [.loc 37, .loc 43], kids := [.loc 36], deep := [.loc 36] },
  { top := [.loc 45], kids := [], deep := [] },
  { top := [.loc 36], kids := [.loc 36], deep := [.loc 36] },
  { top := [.loc 36], kids := [.loc 36], deep := [.loc 36] },
  { top := [.loc 48], kids := [], deep := [] },
  { top := [.loc 36], kids := [.loc 36], deep := [.loc 36] },
  { top := [.loc 36], kids := [.loc 36], deep := [.loc 36] },
  { top := [.loc 51], kids := [], deep := [] },
  { top := [.loc 36], kids := [.loc 36], deep := [.loc 36] },
  { top := [.loc 36], kids := [.loc 36], deep := [.loc 36] },
  { top := [.loc 54], kids := [], deep := [] },
  { top := [.inner 0, .loc 54], kids := [.inner 0], deep := [.inner 0] },
  { top := [.loc 56], kids := [.inner 0, .loc 54, .loc 56, .loc 61], deep := [.inner 0, .loc 54, .loc 59, .loc 56, .loc 61] },
  { top := [.inner 0, .loc 54, .loc 59, .loc 56, .loc 61], kids := [.inner 0, .loc 59, .loc 54, .loc 56, .loc 61], deep := [.inner 0, .loc 59, .loc 54, .loc 56, .loc 61] },
  { top := [.inner 0, .loc 54, .loc 59, .loc 56, .loc 61], kids := [.inner 0, .loc 59, .loc 54, .loc 56, .loc 61], deep := [.inner 0, .loc 59, .loc 54, .loc 56, .loc 61] },
  { top := [.loc 59], kids := [.loc 59], deep := [.loc 59] },
  { top := [.loc 59], kids := [.loc 59], deep := [.loc 59] },
  { top := [.loc 61], kids := [.loc 59], deep := [.loc 59] },
  {},
  {},
  {},
  { top := [.loc 65], kids := [], deep := [] },
  { top := [.loc 26], kids := [], deep := [] },
  { top := [.loc 67], kids := [.inner 0, .loc 54, .loc 56, .loc 61, .loc 26], deep := [.inner 0, .loc 54, .loc 59, .loc 56, .loc 61] },
  { top := [.loc 67], kids := [.recd 0, .loc 54, .loc 56, .loc 61, .loc 26], deep := [.recd 0, .loc 54, .loc 59, .loc 56, .loc 61] },
  { top := [.loc 69], kids := [.loc 67], deep := [.recd 0, .loc 54, .loc 56, .loc 61, .loc 26, .loc 59] }]

/-- peptacular.mods.mod_db_setup._get_parent_ids -/
def prog_140 : List Stmt := [
  .param 0 0,
  .pack 2 [],
  .elem 3 0,
  .alias 3 [2],
  .alias 4 [3],
  .pack 5 [4],
  .alias 6 [5],
  .alias 7 [6, 4],
  .elem 8 7,
  .alias 9 [8],
  .call 10 266 [some 9],
  .elem 11 10,
  .pack 12 [11],
  .alias 13 [12],
  .leaf 14 13,
  .alias 1 [14]]

def table_140 : Pts := [
  { top := [.root 0], kids := [.inner 0], deep := [.inner 0] },
  { top := [.loc 12], kids := [], deep := [] },
  { top := [.loc 2], kids := [], deep := [] },
  { top := [.inner 0, .loc 2], kids := [.inner 0], deep := [.inner 0] },
  { top := [.inner 0, .loc 2], kids := [.inner 0], deep := [.inner 0] },
  { top := [.loc 5], kids := [.inner 0, .loc 2], deep := [.inner 0] },
  { top := [.loc 5], kids := [.inner 0, .loc 2], deep := [.inner 0] },
  { top := [.loc 5, .inner 0, .loc 2], kids := [.inner 0, .loc 2], deep := [.inner 0] },
  { top := [.inner 0, .loc 2], kids := [.inner 0], deep := [.inner 0] },
  { top := [.inner 0, .loc 2], kids := [.inner 0], deep := [.inner 0] },
  { top := [.loc 10], kids := [.loc 10], deep := [.loc 10] },
  { top := [.loc 10], kids := [.loc 10], deep := [.loc 10] },
  { top := [.loc 12], kids := [.loc 10], deep := [.loc 10] },
  { top := [.loc 12], kids := [.loc 10], deep := [.loc 10] },
  { top := [.loc 12], kids := [], deep := [] }]

/-- peptacular.mods.mod_db_setup._get_psimod_entries -/
def prog_141 : List Stmt := [
  .param 0 0,
  .elem 22 0,
  .alias 17 [22],
  .call 23 138 [some 17],
  .elem 24 23,
  .alias 18 [24],
  .elem 25 23,
  .alias 19 [25],
  .call 26 140 [some 17],
  .leaf 27 26,
  .pack 29 [],
  .leaf 30 29,
  .alias 12 [30],
  .call 31 146 [some 17],
  .pack 32 [],
  .alias 14 [32],
  .pack 33 [],
  .elem 34 17,
  .alias 34 [33],
  .elem 35 34,
  .alias 21 [35],
  .call 36 266 [some 21],
  .alias 9 [36],
  .elem 37 9,
  .elem 38 9,
  .call 39 269 [some 38, none],
  .alias 20 [39],
  .pack 40 [],
  .store 14 40,
  .elem 41 14,
  .store 41 20,
  .pack 42 [],
  .elem 43 14,
  .alias 43 [42],
  .alias 5 [43],
  .pack 44 [],
  .elem 45 14,
  .alias 45 [44],
  .alias 7 [45],
  .pack 46 [],
  .elem 47 14,
  .alias 47 [46],
  .alias 4 [47],
  .shallow 48 [],
  .elem 49 5,
  .alias 5 [49],
  .elem 50 5,
  .alias 5 [50],
  .shallow 51 [],
  .elem 52 7,
  .alias 7 [52],
  .elem 53 7,
  .alias 7 [53],
  .shallow 54 [],
  .elem 55 4,
  .alias 4 [55],
  .elem 56 4,
  .alias 4 [56],
  .pack 57 [],
  .elem 58 17,
  .alias 58 [57],
  .alias 16 [58],
  .pack 59 [16],
  .alias 16 [59],
  .elem 60 16,
  .alias 61 [60],
  .call 62 266 [some 61],
  .elem 63 62,
  .pack 64 [63],
  .alias 16 [64],
  .shallow 65 [],
  .alias 8 [65],
  .shallow 66 [5],
  .shallow 67 [5],
  .shallow 68 [66, 67],
  .elem 69 68,
  .elem 70 69,
  .alias 3 [70],
  .elem 71 69,
  .alias 11 [71],
  .write 8,
  .call 72 17 [some 8, none, none, none],
  .alias 6 [72],
  .call 73 16 [none, none],
  .leaf 74 73,
  .alias 2 [74],
  .elem 76 14,
  .shallow 77 [],
  .leaf 78 12,
  .pack 79 [19, 16, 78],
  .asRec 80 79 0,
  .pack 81 [80],
  .alias 1 [81]]

def table_141 : Pts := [
  { top := [.root 0], kids := [.inner 0], deep := [.inner 0] },
  { top := [.loc 81], kids := [.loc 79], deep := [.recd 0, .loc 57, .loc 59, .loc 64, .loc 29, .loc 62] },
  { top := [.loc 73], kids := [], deep := [] },
  { top := [.loc 39], kids := [.loc 39], deep := [.loc 39] },
  { top := [.loc 40, .loc 46, .loc 39], kids := [.loc 39], deep := [.loc 39] },
  { top := [.loc 40, .loc 42, .loc 39], kids := [.loc 39], deep := [.loc 39] },
  {},
  { top := [.loc 40, .loc 44, .loc 39], kids := [.loc 39], deep := [.loc 39] },
  { top := [.loc 65], kids := [], deep := [] },
  { top := [.loc 36], kids := [.loc 36], deep := [.loc 36] },
  {},
  { top := [.loc 39], kids := [.loc 39], deep := [.loc 39] },
  { top := [.loc 29], kids := [], deep := [] },
  {},
  { top := [.loc 32], kids := [.loc 40], deep := [.loc 39] },
  {},
  { top := [.inner 0, .loc 57, .loc 59, .loc 64], kids := [.inner 0, .loc 57, .loc 62, .loc 59, .loc 64], deep := [.inner 0, .loc 62, .loc 57, .loc 59, .loc 64] },
  { top := [.inner 0], kids := [.inner 0], deep := [.inner 0] },
  { top := [.inner 0], kids := [.inner 0], deep := [.inner 0] },
  { top := [.inner 0], kids := [.inner 0], deep := [.inner 0] },
  { top := [.loc 39], kids := [], deep := [] },
  { top := [.inner 0], kids := [.inner 0], deep := [.inner 0] },
  { top := [.inner 0], kids := [.inner 0], deep := [.inner 0] },
  { top := [.loc 23], kids := [.inner 0], deep := [.inner 0] },
  { top := [.inner 0], kids := [.inner 0], deep := [.inner 0] },
  { top := [.inner 0], kids := [.inner 0], deep := [.inner 0] },
  { top := [.loc 26], kids := [], deep := [] },
  { top := [.loc 26], kids := [], deep := [] },
  {},
  { top := [.loc 29], kids := [], deep := [] },
  { top := [.loc 29], kids := [], deep := [] },
  {},
  { top := [.loc 32], kids := [.loc 40], deep := [.loc 39] },
  { top := [.loc 33], kids := [], deep := [] },
  { top := [.inner 0, .loc 33], kids := [.inner 0], deep := [.inner 0] },
  { top := [.inner 0], kids := [.inner 0], deep := [.inner 0] },
  { top := [.loc 36], kids := [.loc 36], deep := [.loc 36] },
  { top := [.loc 36], kids := [.loc 36], deep := [.loc 36] },
  { top := [.loc 36], kids := [.loc 36], deep := [.loc 36] },
  { top := [.loc 39], kids := [], deep := [] },
  { top := [.loc 40], kids := [.loc 39], deep := [] },
  { top := [.loc 40], kids := [.loc 39], deep := [.loc 39] },
  { top := [.loc 42], kids := [], deep := [] },
  { top := [.loc 40, .loc 42], kids := [.loc 39], deep := [.loc 39] },
  { top := [.loc 44], kids := [], deep := [] },
  { top := [.loc 40, .loc 44], kids := [.loc 39], deep := [.loc 39] },
  { top := [.loc 46], kids := [], deep := [] },
  { top := [.loc 40, .loc 46], kids := [.loc 39], deep := [.loc 39] },
  { top := [.loc 48], kids := [], deep := [] },
  { top := [.loc 39], kids := [.loc 39], deep := [.loc 39] },
  { top := [.loc 39], kids := [.loc 39], deep := [.loc 39] },
  { top := [.loc 51], kids := [], deep := [] },
  { top := [.loc 39], kids := [.loc 39], deep := [.loc 39] },
  { top := [.loc 39], kids := [.loc 39], deep := [.loc 39] },
  { top := [.loc 54], kids := [], deep := [] },
  { top := [.loc 39], kids := [.loc 39], deep := [.loc 39] },
  { top := [.loc 39], kids := [.loc 39], deep := [.loc 39] },
  { top := [.loc 57], kids := [], deep := [] },
  { top := [.inner 0, .loc 57], kids := [.inner 0], deep := [.inner 0] },
  { top := [.loc 59], kids := [.inner 0, .loc 57, .loc 59, .loc 64], deep := [.inner 0, .loc 57, .loc 62, .loc 59, .loc 64] },
  { top := [.inner 0, .loc 57, .loc 62, .loc 59, .loc 64], kids := [.inner 0, .loc 62, .loc 57, .loc 59, .loc 64], deep := [.inner 0, .loc 62, .loc 57, .loc 59, .loc 64] },
  { top := [.inner 0, .loc 57, .loc 62, .loc 59, .loc 64], kids := [.inner 0, .loc 62, .loc 57, .loc 59, .loc 64], deep := [.inner 0, .loc 62, .loc 57, .loc 59, .loc 64] },
  { top := [.loc 62], kids := [.loc 62], deep := [.loc 62] },
  { top := [.loc 62], kids := [.loc 62], deep := [.loc 62] },
  { top := [.loc 64], kids := [.loc 62], deep := [.loc 62] },
  { top := [.loc 65], kids := [], deep := [] },
  { top := [.loc 66], kids := [.loc 39], deep := [.loc 39] },
  { top := [.loc 67], kids := [.loc 39], deep := [.loc 39] },
  { top := [.loc 68], kids := [.loc 39], deep := [.loc 39] },
  { top := [.loc 39], kids := [.loc 39], deep := [.loc 39] },
  { top := [.loc 39], kids := [.loc 39], deep := [.loc 39] },
  { top := [.loc 39], kids := [.loc 39], deep := [.loc 39] },
  {},
  { top := [.loc 73], kids := [], deep := [] },
  { top := [.loc 73], kids := [], deep := [] },
  {},
  { top := [.loc 40], kids := [.loc 39], deep := [.loc 39] },
  { top := [.loc 77], kids := [], deep := [] },
  { top := [.loc 29], kids := [], deep := [] },
  { top := [.loc 79], kids := [.inner 0, .loc 57, .loc 59, .loc 64, .loc 29], deep := [.inner 0, .loc 57, .loc 62, .loc 59, .loc 64] },
  { top := [.loc 79], kids := [.recd 0, .loc 57, .loc 59, .loc 64, .loc 29], deep := [.recd 0, .loc 57, .loc 62, .loc 59, .loc 64] },
  { top := [.loc 81], kids := [.loc 79], deep := [.recd 0, .loc 57, .loc 59, .loc 64, .loc 29, .loc 62] }]

/-- peptacular.mods.mod_db_setup._get_resid_entries -/
def prog_142 : List Stmt := [
  .param 0 0,
  .elem 26 0,
  .alias 21 [26],
  .call 27 138 [some 21],
  .elem 28 27,
  .alias 22 [28],
  .elem 29 27,
  .alias 23 [29],
  .call 30 140 [some 21],
  .leaf 31 30,
  .pack 33 [],
  .leaf 34 33,
  .alias 13 [34],
  .call 35 146 [some 21],
  .pack 36 [],
  .elem 37 21,
  .alias 37 [36],
  .alias 4 [37],
  .shallow 38 [],
  .elem 39 4,
  .alias 4 [39],
  .elem 40 4,
  .alias 4 [40],
  .pack 41 [],
  .alias 18 [41],
  .shallow 42 [4],
  .alias 18 [42],
  .pack 43 [],
  .alias 15 [43],
  .pack 44 [],
  .elem 45 21,
  .alias 45 [44],
  .elem 46 45,
  .alias 25 [46],
  .call 47 266 [some 25],
  .alias 10 [47],
  .elem 48 10,
  .elem 49 10,
  .call 50 269 [some 49, none],
  .alias 24 [50],
  .pack 51 [],
  .store 15 51,
  .elem 52 15,
  .store 52 24,
  .pack 53 [],
  .elem 54 15,
  .alias 54 [53],
  .alias 6 [54],
  .pack 55 [],
  .elem 56 15,
  .alias 56 [55],
  .alias 8 [56],
  .pack 57 [],
  .elem 58 15,
  .alias 58 [57],
  .alias 5 [58],
  .shallow 59 [],
  .elem 60 6,
  .alias 6 [60],
  .elem 61 6,
  .alias 6 [61],
  .shallow 62 [],
  .elem 63 8,
  .alias 8 [63],
  .elem 64 8,
  .alias 8 [64],
  .shallow 65 [],
  .elem 66 5,
  .alias 5 [66],
  .elem 67 5,
  .alias 5 [67],
  .pack 68 [],
  .elem 69 21,
  .alias 69 [68],
  .alias 20 [69],
  .pack 70 [20],
  .alias 20 [70],
  .elem 71 20,
  .alias 72 [71],
  .call 73 266 [some 72],
  .elem 74 73,
  .pack 75 [74],
  .alias 20 [75],
  .shallow 76 [],
  .alias 9 [76],
  .shallow 77 [6],
  .shallow 78 [6],
  .shallow 79 [77, 78],
  .elem 80 79,
  .elem 81 80,
  .alias 3 [81],
  .elem 82 80,
  .alias 12 [82],
  .write 9,
  .call 83 17 [some 9, none, none, none],
  .alias 7 [83],
  .call 84 16 [none, none],
  .leaf 85 84,
  .alias 2 [85],
  .elem 87 15,
  .shallow 88 [],
  .elem 89 18,
  .alias 17 [89],
  .leaf 90 13,
  .pack 91 [17, 23, 20, 90],
  .asRec 92 91 0,
  .pack 93 [92],
  .alias 1 [93]]

def table_142 : Pts := [
  { top := [.root 0], kids := [.inner 0], deep := [.inner 0] },
  { top := [.loc 93], kids := [.loc 91], deep := [.recd 0, .loc 68, .loc 70, .loc 75, .loc 33, .loc 73] },
  { top := [.loc 84], kids := [], deep := [] },
  { top := [.loc 50], kids := [.loc 50], deep := [.loc 50] },
  { top := [.inner 0, .loc 36], kids := [.inner 0], deep := [.inner 0] },
  { top := [.loc 51, .loc 57, .loc 50], kids := [.loc 50], deep := [.loc 50] },
  { top := [.loc 51, .loc 53, .loc 50], kids := [.loc 50], deep := [.loc 50] },
  {},
  { top := [.loc 51, .loc 55, .loc 50], kids := [.loc 50], deep := [.loc 50] },
  { top := [.loc 76], kids := [], deep := [] },
  { top := [.loc 47], kids := [.loc 47], deep := [.loc 47] },
  {},
  { top := [.loc 50], kids := [.loc 50], deep := [.loc 50] },
  { top := [.loc 33], kids := [], deep := [] },
  {},
  { top := [.loc 43], kids := [.loc 51], deep := [.loc 50] },
  {},
  { top := [.inner 0], kids := [.inner 0], deep := [.inner 0] },
  { top := [.loc 41, .loc 42], kids := [.inner 0], deep := [.inner 0] },
  {},
  { top := [.inner 0, .loc 68, .loc 70, .loc 75], kids := [.inner 0, .loc 68, .loc 73, .loc 70, .loc 75], deep := [.inner 0, .loc 73, .loc 68, .loc 70, .loc 75] },
  { top := [.inner 0], kids := [.inner 0], deep := [.inner 0] },
  { top := [.inner 0], kids := [.inner 0], deep := [.inner 0] },
  { top := [.inner 0], kids := [.inner 0], deep := [.inner 0] },
  { top := [.loc 50], kids := [], deep := [] },
  { top := [.inner 0], kids := [.inner 0], deep := [.inner 0] },
  { top := [.inner 0], kids := [.inner 0], deep := [.inner 0] },
  { top := [.loc 27], kids := [.inner 0], deep := [.inner 0] },
  { top := [.inner 0], kids := [.inner 0], deep := [.inner 0] },
  { top := [.inner 0], kids := [.inner 0], deep := [.inner 0] },
  { top := [.loc 30], kids := [], deep := [] },
  { top := [.loc 30], kids := [], deep := [] },
  {},
  { top := [.loc 33], kids := [], deep := [] },
  { top := [.loc 33], kids := [], deep := [] },
  {},
  { top := [.loc 36], kids := [], deep := [] },
  { top := [.inner 0, .loc 36], kids := [.inner 0], deep := [.inner 0] },
  { top := [.loc 38], kids := [], deep := [] },
  { top := [.inner 0], kids := [.inner 0], deep := [.inner 0] },
  { top := [.inner 0], kids := [.inner 0], deep := [.inner 0] },
  { top := [.loc 41], kids := [], deep := [] },
  { top := [.loc 42], kids := [.inner 0], deep := [.inner 0] },
  { top := [.loc 43], kids := [.loc 51], deep := [.loc 50] },
  { top := [.loc 44], kids := [], deep := [] },
  { top := [.inner 0, .loc 44], kids := [.inner 0], deep := [.inner 0] },
  { top := [.inner 0], kids := [.inner 0], deep := [.inner 0] },
  { top := [.loc 47], kids := [.loc 47], deep := [.loc 47] },
  { top := [.loc 47], kids := [.loc 47], deep := [.loc 47] },
  { top := [.loc 47], kids := [.loc 47], deep := [.loc 47] },
  { top := [.loc 50], kids := [], deep := [] },
  { top := [.loc 51], kids := [.loc 50], deep := [] },
  { top := [.loc 51], kids := [.loc 50], deep := [.loc 50] },
  { top := [.loc 53], kids := [], deep := [] },
  { top := [.loc 51, .loc 53], kids := [.loc 50], deep := [.loc 50] },
  { top := [.loc 55], kids := [], deep := [] },
  { top := [.loc 51, .loc 55], kids := [.loc 50], deep := [.loc 50] },
  { top := [.loc 57], kids := [], deep := [] },
  { top := [.loc 51, .loc 57], kids := [.loc 50], deep := [.loc 50] },
  { top := [.loc 59], kids := [], deep := [] },
  { top := [.loc 50], kids := [.loc 50], deep := [.loc 50] },
  { top := [.loc 50], kids := [.loc 50], deep := [.loc 50] },
  { top := [.loc 62], kids := [], deep := [] },
  { top := [.loc 50], kids := [.loc 50], deep := [.loc 50] },
  { top := [.loc 50], kids := [.loc 50], deep := [.loc 50] },
  { top := [.loc 65], kids := [], deep := [] },
  { top := [.loc 50], kids := [.loc 50], deep := [.loc 50] },
  { top := [.loc 50], kids := [.loc 50], deep := [.loc 50] },
  { top := [.loc 68], kids := [], deep := [] },
  { top := [.inner 0, .loc 68], kids := [.inner 0], deep := [.inner 0] },
  { top := [.loc 70], kids := [.inner 0, .loc 68, .loc 70, .loc 75], deep := [.inner 0, .loc 68, .loc 73, .loc 70, .loc 75] },
  { top := [.inner 0, .loc 68, .loc 73, .loc 70, .loc 75], kids := [.inner 0, .loc 73, .loc 68, .loc 70, .loc 75], deep := [.inner 0, .loc 73, .loc 68, .loc 70, .loc 75] },
  { top := [.inner 0, .loc 68, .loc 73, .loc 70, .loc 75], kids := [.inner 0, .loc 73, .loc 68, .loc 70, .loc 75], deep := [.inner 0, .loc 73, .loc 68, .loc 70, .loc 75] },
  { top := [.loc 73], kids := [.loc 73], deep := [.loc 73] },
  { top := [.loc 73], kids := [.loc 73], deep := [.loc 73] },
  { top := [.loc 75], kids := [.loc 73], deep := [.loc 73] },
  { top := [.loc 76], kids := [], deep := [] },
  { top := [.loc 77], kids := [.loc 50], deep := [.loc 50] },
  { top := [.loc 78], kids := [.loc 50], deep := [.loc 50] },
  { top := [.loc 79], kids := [.loc 50], deep := [.loc 50] },
  { top := [.loc 50], kids := [.loc 50], deep := [.loc 50] },
  { top := [.loc 50], kids := [.loc 50], deep := [.loc 50] },
  { top := [.loc 50], kids := [.loc 50], deep := [.loc 50] },
  {},
  { top := [.loc 84], kids := [], deep := [] },
  { top := [.loc 84], kids := [], deep := [] },
  {},
  { top := [.loc 51], kids := [.loc 50], deep := [.loc 50] },
  { top := [.loc 88], kids := [], deep := [] },
  { top := [.inner 0], kids := [.inner 0], deep := [.inner 0] },
  { top := [.loc 33], kids := [], deep := [] },
  { top := [.loc 91], kids := [.inner 0, .loc 68, .loc 70, .loc 75, .loc 33], deep := [.inner 0, .loc 68, .loc 73, .loc 70, .loc 75] },
  { top := [.loc 91], kids := [.recd 0, .loc 68, .loc 70, .loc 75, .loc 33], deep := [.recd 0, .loc 68, .loc 73, .loc 70, .loc 75] },
  { top := [.loc 93], kids := [.loc 91], deep := [.recd 0, .loc 68, .loc 70, .loc 75, .loc 33, .loc 73] }]

/-- peptacular.mods.mod_db_setup._get_unimod_entries -/
def prog_143 : List Stmt := [
  .param 0 0,
  .elem 25 0,
  .alias 20 [25],
  .call 26 138 [some 20],
  .elem 27 26,
  .alias 21 [27],
  .elem 28 26,
  .alias 22 [28],
  .call 29 140 [some 20],
  .leaf 30 29,
  .pack 32 [],
  .leaf 33 32,
  .alias 15 [33],
  .call 34 146 [some 20],
  .pack 35 [],
  .alias 17 [35],
  .pack 36 [],
  .elem 37 20,
  .alias 37 [36],
  .elem 38 37,
  .alias 24 [38],
  .call 39 266 [some 24],
  .alias 10 [39],
  .elem 40 10,
  .elem 41 10,
  .call 42 269 [some 41, none],
  .alias 23 [42],
  .pack 43 [],
  .store 17 43,
  .elem 44 17,
  .store 44 23,
  .pack 45 [],
  .elem 46 17,
  .alias 46 [45],
  .alias 6 [46],
  .pack 47 [],
  .elem 48 17,
  .alias 48 [47],
  .alias 8 [48],
  .pack 49 [],
  .elem 50 17,
  .alias 50 [49],
  .alias 5 [50],
  .shallow 51 [],
  .elem 52 6,
  .alias 6 [52],
  .elem 53 6,
  .alias 6 [53],
  .shallow 54 [],
  .elem 55 8,
  .alias 8 [55],
  .elem 56 8,
  .alias 8 [56],
  .shallow 57 [],
  .elem 58 5,
  .alias 5 [58],
  .elem 59 5,
  .alias 5 [59],
  .pack 60 [],
  .elem 61 20,
  .alias 61 [60],
  .alias 19 [61],
  .pack 62 [19],
  .alias 19 [62],
  .elem 63 19,
  .alias 64 [63],
  .call 65 266 [some 64],
  .elem 66 65,
  .pack 67 [66],
  .alias 19 [67],
  .call 68 16 [none, none],
  .leaf 69 68,
  .alias 6 [69],
  .pack 70 [],
  .alias 3 [70],
  .leaf 71 6,
  .shallow 72 [71],
  .elem 73 72,
  .global 74 3,
  .call 75 145 [none, none],
  .leaf 76 75,
  .alias 11 [76],
  .leaf 77 11,
  .shallow 78 [77],
  .elem 79 78,
  .elem 80 3,
  .write 3,
  .elem 81 3,
  .call 82 17 [some 3, none, none, none],
  .alias 7 [82],
  .call 83 15 [none, none, none, none],
  .alias 2 [83],
  .pack 85 [],
  .elem 86 17,
  .alias 86 [85],
  .alias 14 [86],
  .shallow 87 [],
  .leaf 88 15,
  .pack 89 [22, 19, 88],
  .asRec 90 89 0,
  .alias 13 [90],
  .asRec 91 13 0,
  .pack 92 [91],
  .alias 1 [92]]

def table_143 : Pts := [
  { top := [.root 0], kids := [.inner 0], deep := [.inner 0] },
  { top := [.loc 92], kids := [.loc 89], deep := [.recd 0, .loc 60, .loc 62, .loc 67, .loc 32, .loc 65] },
  {},
  { top := [.loc 70], kids := [], deep := [] },
  {},
  { top := [.loc 43, .loc 49, .loc 42], kids := [.loc 42], deep := [.loc 42] },
  { top := [.loc 43, .loc 45, .loc 42, .loc 68], kids := [.loc 42], deep := [.loc 42] },
  {},
  { top := [.loc 43, .loc 47, .loc 42], kids := [.loc 42], deep := [.loc 42] },
  {},
  { top := [.loc 39], kids := [.loc 39], deep := [.loc 39] },
  { top := [.loc 75], kids := [], deep := [] },
  {},
  { top := [.loc 89], kids := [.recd 0, .loc 60, .loc 62, .loc 67, .loc 32], deep := [.recd 0, .loc 60, .loc 65, .loc 62, .loc 67] },
  { top := [.loc 43, .loc 85], kids := [.loc 42], deep := [.loc 42] },
  { top := [.loc 32], kids := [], deep := [] },
  {},
  { top := [.loc 35], kids := [.loc 43], deep := [.loc 42] },
  {},
  { top := [.inner 0, .loc 60, .loc 62, .loc 67], kids := [.inner 0, .loc 60, .loc 65, .loc 62, .loc 67], deep := [.inner 0, .loc 65, .loc 60, .loc 62, .loc 67] },
  { top := [.inner 0], kids := [.inner 0], deep := [.inner 0] },
  { top := [.inner 0], kids := [.inner 0], deep := [.inner 0] },
  { top := [.inner 0], kids := [.inner 0], deep := [.inner 0] },
  { top := [.loc 42], kids := [], deep := [] },
  { top := [.inner 0], kids := [.inner 0], deep := [.inner 0] },
  { top := [.inner 0], kids := [.inner 0], deep := [.inner 0] },
  { top := [.loc 26], kids := [.inner 0], deep := [.inner 0] },
  { top := [.inner 0], kids := [.inner 0], deep := [.inner 0] },
  { top := [.inner 0], kids := [.inner 0], deep := [.inner 0] },
  { top := [.loc 29], kids := [], deep := [] },
  { top := [.loc 29], kids := [], deep := [] },
  {},
  { top := [.loc 32], kids := [], deep := [] },
  { top := [.loc 32], kids := [], deep := [] },
  {},
  { top := [.loc 35], kids := [.loc 43], deep := [.loc 42] },
  { top := [.loc 36], kids := [], deep := [] },
  { top := [.inner 0, .loc 36], kids := [.inner 0], deep := [.inner 0] },
  { top := [.inner 0], kids := [.inner 0], deep := [.inner 0] },
  { top := [.loc 39], kids := [.loc 39], deep := [.loc 39] },
  { top := [.loc 39], kids := [.loc 39], deep := [.loc 39] },
  { top := [.loc 39], kids := [.loc 39], deep := [.loc 39] },
  { top := [.loc 42], kids := [], deep := [] },
  { top := [.loc 43], kids := [.loc 42], deep := [] },
  { top := [.loc 43], kids := [.loc 42], deep := [.loc 42] },
  { top := [.loc 45], kids := [], deep := [] },
  { top := [.loc 43, .loc 45], kids := [.loc 42], deep := [.loc 42] },
  { top := [.loc 47], kids := [], deep := [] },
  { top := [.loc 43, .loc 47], kids := [.loc 42], deep := [.loc 42] },
  { top := [.loc 49], kids := [], deep := [] },
  { top := [.loc 43, .loc 49], kids := [.loc 42], deep := [.loc 42] },
  { top := [.loc 51], kids := [], deep := [] },
  { top := [.loc 42], kids := [.loc 42], deep := [.loc 42] },
  { top := [.loc 42], kids := [.loc 42], deep := [.loc 42] },
  { top := [.loc 54], kids := [], deep := [] },
  { top := [.loc 42], kids := [.loc 42], deep := [.loc 42] },
  { top := [.loc 42], kids := [.loc 42], deep := [.loc 42] },
  { top := [.loc 57], kids := [], deep := [] },
  { top := [.loc 42], kids := [.loc 42], deep := [.loc 42] },
  { top := [.loc 42], kids := [.loc 42], deep := [.loc 42] },
  { top := [.loc 60], kids := [], deep := [] },
  { top := [.inner 0, .loc 60], kids := [.inner 0], deep := [.inner 0] },
  { top := [.loc 62], kids := [.inner 0, .loc 60, .loc 62, .loc 67], deep := [.inner 0, .loc 60, .loc 65, .loc 62, .loc 67] },
  { top := [.inner 0, .loc 60, .loc 65, .loc 62, .loc 67], kids := [.inner 0, .loc 65, .loc 60, .loc 62, .loc 67], deep := [.inner 0, .loc 65, .loc 60, .loc 62, .loc 67] },
  { top := [.inner 0, .loc 60, .loc 65, .loc 62, .loc 67], kids := [.inner 0, .loc 65, .loc 60, .loc 62, .loc 67], deep := [.inner 0, .loc 65, .loc 60, .loc 62, .loc 67] },
  { top := [.loc 65], kids := [.loc 65], deep := [.loc 65] },
  { top := [.loc 65], kids := [.loc 65], deep := [.loc 65] },
  { top := [.loc 67], kids := [.loc 65], deep := [.loc 65] },
  { top := [.loc 68], kids := [], deep := [] },
  { top := [.loc 68], kids := [], deep := [] },
  { top := [.loc 70], kids := [], deep := [] },
  { top := [.loc 43, .loc 45, .loc 42, .loc 68], kids := [.loc 42], deep := [] },
  { top := [.loc 72], kids := [.loc 42], deep := [] },
  { top := [.loc 42], kids := [], deep := [] },
  { top := [.glob 3], kids := [.glob 3], deep := [.glob 3] },
  { top := [.loc 75], kids := [], deep := [] },
  { top := [.loc 75], kids := [], deep := [] },
  { top := [.loc 75], kids := [], deep := [] },
  { top := [.loc 78], kids := [], deep := [] },
  {},
  {},
  {},
  {},
  {},
  {},
  { top := [.loc 85], kids := [], deep := [] },
  { top := [.loc 43, .loc 85], kids := [.loc 42], deep := [.loc 42] },
  { top := [.loc 87], kids := [], deep := [] },
  { top := [.loc 32], kids := [], deep := [] },
  { top := [.loc 89], kids := [.inner 0, .loc 60, .loc 62, .loc 67, .loc 32], deep := [.inner 0, .loc 60, .loc 65, .loc 62, .loc 67] },
  { top := [.loc 89], kids := [.recd 0, .loc 60, .loc 62, .loc 67, .loc 32], deep := [.recd 0, .loc 60, .loc 65, .loc 62, .loc 67] },
  { top := [.loc 89], kids := [.recd 0, .loc 60, .loc 62, .loc 67, .loc 32], deep := [.recd 0, .loc 60, .loc 65, .loc 62, .loc 67] },
  { top := [.loc 92], kids := [.loc 89], deep := [.recd 0, .loc 60, .loc 62, .loc 67, .loc 32, .loc 65] }]

/-- peptacular.mods.mod_db_setup._get_xlmod_entries -/
def prog_144 : List Stmt := [
  .param 0 0,
  .elem 24 0,
  .alias 19 [24],
  .call 25 138 [some 19],
  .elem 26 25,
  .alias 20 [26],
  .elem 27 25,
  .alias 21 [27],
  .call 28 140 [some 19],
  .leaf 29 28,
  .pack 31 [],
  .leaf 32 31,
  .alias 14 [32],
  .call 33 146 [some 19],
  .pack 34 [],
  .alias 16 [34],
  .pack 35 [],
  .elem 36 19,
  .alias 36 [35],
  .elem 37 36,
  .alias 23 [37],
  .call 38 266 [some 23],
  .alias 12 [38],
  .elem 39 12,
  .elem 40 12,
  .call 41 269 [some 40, none],
  .alias 22 [41],
  .pack 42 [],
  .store 16 42,
  .elem 43 16,
  .store 43 22,
  .pack 44 [],
  .elem 45 16,
  .alias 45 [44],
  .elem 46 16,
  .alias 46 [45],
  .alias 7 [46],
  .pack 47 [],
  .elem 48 16,
  .alias 48 [47],
  .alias 9 [48],
  .shallow 49 [],
  .elem 50 7,
  .alias 7 [50],
  .elem 51 7,
  .alias 7 [51],
  .shallow 52 [],
  .elem 53 9,
  .alias 9 [53],
  .elem 54 9,
  .alias 9 [54],
  .pack 55 [],
  .elem 56 19,
  .alias 56 [55],
  .alias 18 [56],
  .pack 57 [18],
  .alias 18 [57],
  .elem 58 18,
  .alias 59 [58],
  .call 60 266 [some 59],
  .elem 61 60,
  .pack 62 [61],
  .alias 18 [62],
  .call 63 266 [some 7],
  .alias 7 [63],
  .shallow 64 [],
  .alias 11 [64],
  .elem 65 7,
  .alias 3 [65],
  .shallow 66 [3],
  .alias 3 [66],
  .call 67 12 [some 3],
  .leaf 68 67,
  .alias 4 [68],
  .leaf 69 4,
  .shallow 70 [69],
  .elem 71 70,
  .write 11,
  .call 72 12 [some 3],
  .leaf 73 72,
  .alias 4 [73],
  .leaf 74 4,
  .shallow 75 [74],
  .elem 76 75,
  .call 77 17 [some 11, none, none, none],
  .alias 8 [77],
  .call 78 15 [none, none, none, none],
  .alias 2 [78],
  .call 79 15 [none, none, none, none],
  .alias 2 [79],
  .shallow 81 [],
  .leaf 82 14,
  .pack 83 [21, 18, 82],
  .asRec 84 83 0,
  .pack 85 [84],
  .alias 1 [85]]

def table_144 : Pts := [
  { top := [.root 0], kids := [.inner 0], deep := [.inner 0] },
  { top := [.loc 85], kids := [.loc 83], deep := [.recd 0, .loc 55, .loc 57, .loc 62, .loc 31, .loc 60] },
  {},
  { top := [.loc 41, .loc 63, .loc 66], kids := [.loc 41, .loc 63], deep := [.loc 41, .loc 63] },
  { top := [.loc 67, .loc 72], kids := [], deep := [] },
  {},
  {},
  { top := [.loc 42, .loc 44, .loc 41, .loc 63], kids := [.loc 41, .loc 63], deep := [.loc 41, .loc 63] },
  {},
  { top := [.loc 42, .loc 47, .loc 41], kids := [.loc 41], deep := [.loc 41] },
  {},
  { top := [.loc 64], kids := [], deep := [] },
  { top := [.loc 38], kids := [.loc 38], deep := [.loc 38] },
  {},
  { top := [.loc 31], kids := [], deep := [] },
  {},
  { top := [.loc 34], kids := [.loc 42], deep := [.loc 41] },
  {},
  { top := [.inner 0, .loc 55, .loc 57, .loc 62], kids := [.inner 0, .loc 55, .loc 60, .loc 57, .loc 62], deep := [.inner 0, .loc 60, .loc 55, .loc 57, .loc 62] },
  { top := [.inner 0], kids := [.inner 0], deep := [.inner 0] },
  { top := [.inner 0], kids := [.inner 0], deep := [.inner 0] },
  { top := [.inner 0], kids := [.inner 0], deep := [.inner 0] },
  { top := [.loc 41], kids := [], deep := [] },
  { top := [.inner 0], kids := [.inner 0], deep := [.inner 0] },
  { top := [.inner 0], kids := [.inner 0], deep := [.inner 0] },
  { top := [.loc 25], kids := [.inner 0], deep := [.inner 0] },
  { top := [.inner 0], kids := [.inner 0], deep := [.inner 0] },
  { top := [.inner 0], kids := [.inner 0], deep := [.inner 0] },
  { top := [.loc 28], kids := [], deep := [] },
  { top := [.loc 28], kids := [], deep := [] },
  {},
  { top := [.loc 31], kids := [], deep := [] },
  { top := [.loc 31], kids := [], deep := [] },
  {},
  { top := [.loc 34], kids := [.loc 42], deep := [.loc 41] },
  { top := [.loc 35], kids := [], deep := [] },
  { top := [.inner 0, .loc 35], kids := [.inner 0], deep := [.inner 0] },
  { top := [.inner 0], kids := [.inner 0], deep := [.inner 0] },
  { top := [.loc 38], kids := [.loc 38], deep := [.loc 38] },
  { top := [.loc 38], kids := [.loc 38], deep := [.loc 38] },
  { top := [.loc 38], kids := [.loc 38], deep := [.loc 38] },
  { top := [.loc 41], kids := [], deep := [] },
  { top := [.loc 42], kids := [.loc 41], deep := [] },
  { top := [.loc 42], kids := [.loc 41], deep := [.loc 41] },
  { top := [.loc 44], kids := [], deep := [] },
  { top := [.loc 42, .loc 44], kids := [.loc 41], deep := [.loc 41] },
  { top := [.loc 42, .loc 44], kids := [.loc 41], deep := [.loc 41] },
  { top := [.loc 47], kids := [], deep := [] },
  { top := [.loc 42, .loc 47], kids := [.loc 41], deep := [.loc 41] },
  { top := [.loc 49], kids := [], deep := [] },
  { top := [.loc 41, .loc 63], kids := [.loc 41, .loc 63], deep := [.loc 41, .loc 63] },
  { top := [.loc 41, .loc 63], kids := [.loc 41, .loc 63], deep := [.loc 41, .loc 63] },
  { top := [.loc 52], kids := [], deep := [] },
  { top := [.loc 41], kids := [.loc 41], deep := [.loc 41] },
  { top := [.loc 41], kids := [.loc 41], deep := [.loc 41] },
  { top := [.loc 55], kids := [], deep := [] },
  { top := [.inner 0, .loc 55], kids := [.inner 0], deep := [.inner 0] },
  { top := [.loc 57], kids := [.inner 0, .loc 55, .loc 57, .loc 62], deep := [.inner 0, .loc 55, .loc 60, .loc 57, .loc 62] },
  { top := [.inner 0, .loc 55, .loc 60, .loc 57, .loc 62], kids := [.inner 0, .loc 60, .loc 55, .loc 57, .loc 62], deep := [.inner 0, .loc 60, .loc 55, .loc 57, .loc 62] },
  { top := [.inner 0, .loc 55, .loc 60, .loc 57, .loc 62], kids := [.inner 0, .loc 60, .loc 55, .loc 57, .loc 62], deep := [.inner 0, .loc 60, .loc 55, .loc 57, .loc 62] },
  { top := [.loc 60], kids := [.loc 60], deep := [.loc 60] },
  { top := [.loc 60], kids := [.loc 60], deep := [.loc 60] },
  { top := [.loc 62], kids := [.loc 60], deep := [.loc 60] },
  { top := [.loc 63], kids := [.loc 63], deep := [.loc 63] },
  { top := [.loc 64], kids := [], deep := [] },
  { top := [.loc 41, .loc 63], kids := [.loc 41, .loc 63], deep := [.loc 41, .loc 63] },
  { top := [.loc 66], kids := [.loc 41, .loc 63], deep := [.loc 41, .loc 63] },
  { top := [.loc 67], kids := [], deep := [] },
  { top := [.loc 67], kids := [], deep := [] },
  { top := [.loc 67, .loc 72], kids := [], deep := [] },
  { top := [.loc 70], kids := [], deep := [] },
  {},
  { top := [.loc 72], kids := [], deep := [] },
  { top := [.loc 72], kids := [], deep := [] },
  { top := [.loc 67, .loc 72], kids := [], deep := [] },
  { top := [.loc 75], kids := [], deep := [] },
  {},
  {},
  {},
  {},
  {},
  { top := [.loc 81], kids := [], deep := [] },
  { top := [.loc 31], kids := [], deep := [] },
  { top := [.loc 83], kids := [.inner 0, .loc 55, .loc 57, .loc 62, .loc 31], deep := [.inner 0, .loc 55, .loc 60, .loc 57, .loc 62] },
  { top := [.loc 83], kids := [.recd 0, .loc 55, .loc 57, .loc 62, .loc 31], deep := [.recd 0, .loc 55, .loc 60, .loc 57, .loc 62] },
  { top := [.loc 85], kids := [.loc 83], deep := [.recd 0, .loc 55, .loc 57, .loc 62, .loc 31, .loc 60] }]

/-- peptacular.mods.mod_db_setup._glycan_comp -/
def prog_145 : List Stmt := [
  .param 0 0,
  .param 1 1,
  .leaf 3 0,
  .leaf 4 0,
  .call 5 147 [some 4, none],
  .leaf 6 5,
  .alias 7 [6],
  .alias 8 [7, 0],
  .pack 9 [],
  .alias 10 [9],
  .leaf 11 8,
  .shallow 12 [11],
  .elem 19 12,
  .global 20 41,
  .call 21 125 [some 20, none],
  .call 22 128 [some 20, none],
  .alias 18 [22],
  .call 23 126 [some 20, none],
  .call 24 129 [some 20, none],
  .alias 18 [24],
  .leaf 25 8,
  .elem 26 18,
  .call 27 16 [some 26, none],
  .leaf 28 27,
  .alias 13 [28],
  .leaf 29 13,
  .shallow 30 [29],
  .elem 31 30,
  .elem 32 10,
  .write 10,
  .leaf 33 10,
  .alias 2 [33]]

def table_145 : Pts := [
  { top := [.root 0], kids := [.inner 0], deep := [.inner 0] },
  { top := [.root 1], kids := [.inner 1], deep := [.inner 1] },
  { top := [.loc 9], kids := [], deep := [] },
  { top := [.root 0], kids := [], deep := [] },
  { top := [.root 0], kids := [], deep := [] },
  { top := [.loc 5], kids := [], deep := [] },
  { top := [.loc 5], kids := [], deep := [] },
  { top := [.loc 5], kids := [], deep := [] },
  { top := [.loc 5, .root 0], kids := [.inner 0], deep := [.inner 0] },
  { top := [.loc 9], kids := [], deep := [] },
  { top := [.loc 9], kids := [], deep := [] },
  { top := [.loc 5, .root 0], kids := [], deep := [] },
  { top := [.loc 12], kids := [], deep := [] },
  { top := [.loc 27], kids := [], deep := [] },
  {},
  {},
  {},
  {},
  { top := [.glob 41], kids := [.glob 41], deep := [.glob 41] },
  {},
  { top := [.glob 41], kids := [.glob 41], deep := [.glob 41] },
  {},
  { top := [.glob 41], kids := [.glob 41], deep := [.glob 41] },
  {},
  { top := [.glob 41], kids := [.glob 41], deep := [.glob 41] },
  { top := [.loc 5, .root 0], kids := [], deep := [] },
  { top := [.glob 41], kids := [.glob 41], deep := [.glob 41] },
  { top := [.loc 27], kids := [], deep := [] },
  { top := [.loc 27], kids := [], deep := [] },
  { top := [.loc 27], kids := [], deep := [] },
  { top := [.loc 30], kids := [], deep := [] },
  {},
  {},
  { top := [.loc 9], kids := [], deep := [] }]

/-- peptacular.mods.mod_db_setup._is_obsolete -/
def prog_146 : List Stmt := [
  .param 0 0,
  .pack 2 [],
  .elem 3 0,
  .alias 3 [2],
  .elem 4 3,
  .alias 5 [4],
  .pack 6 []]

def table_146 : Pts := [
  { top := [.root 0], kids := [.inner 0], deep := [.inner 0] },
  {},
  { top := [.loc 2], kids := [], deep := [] },
  { top := [.inner 0, .loc 2], kids := [.inner 0], deep := [.inner 0] },
  { top := [.inner 0], kids := [.inner 0], deep := [.inner 0] },
  { top := [.inner 0], kids := [.inner 0], deep := [.inner 0] },
  { top := [.loc 6], kids := [], deep := [] }]

/-- peptacular.mods.mod_db_setup._parse_glycan_formula -/
def prog_147 : List Stmt := [
  .param 0 0,
  .param 1 1,
  .pack 3 [],
  .alias 4 [3],
  .leaf 5 4,
  .alias 2 [5],
  .call 7 13 [none, none],
  .leaf 8 7,
  .alias 2 [8],
  .alias 11 [0],
  .global 13 41,
  .elem 14 13,
  .elem 15 14,
  .alias 12 [15],
  .alias 16 [10, 9],
  .alias 10 [16],
  .call 17 403 [none],
  .alias 10 [17],
  .elem 18 4,
  .alias 18 [12],
  .write 4,
  .leaf 19 4,
  .alias 2 [19]]

def table_147 : Pts := [
  { top := [.root 0], kids := [.inner 0], deep := [.inner 0] },
  { top := [.root 1], kids := [.inner 1], deep := [.inner 1] },
  { top := [.loc 3, .loc 7], kids := [], deep := [] },
  { top := [.loc 3], kids := [], deep := [] },
  { top := [.loc 3], kids := [], deep := [] },
  { top := [.loc 3], kids := [], deep := [] },
  {},
  { top := [.loc 7], kids := [], deep := [] },
  { top := [.loc 7], kids := [], deep := [] },
  {},
  {},
  { top := [.root 0], kids := [.inner 0], deep := [.inner 0] },
  { top := [.glob 41], kids := [.glob 41], deep := [.glob 41] },
  { top := [.glob 41], kids := [.glob 41], deep := [.glob 41] },
  { top := [.glob 41], kids := [.glob 41], deep := [.glob 41] },
  { top := [.glob 41], kids := [.glob 41], deep := [.glob 41] },
  {},
  {},
  { top := [.glob 41], kids := [.glob 41], deep := [.glob 41] },
  { top := [.loc 3], kids := [], deep := [] }]

/-- peptacular.mods.mod_db_setup._read_obo -/
def prog_148 : List Stmt := [
  .param 0 0,
  .pack 2 [],
  .pack 3 [],
  .pack 4 [2, 3],
  .pack 5 [],
  .alias 6 [5],
  .pack 7 [],
  .alias 8 [7],
  .alias 11 [10],
  .alias 14 [9],
  .elem 16 0,
  .alias 13 [16],
  .write 8,
  .pack 17 [],
  .alias 11 [17],
  .call 18 266 [some 13],
  .elem 19 18,
  .alias 12 [19],
  .elem 20 18,
  .alias 15 [20],
  .store 6 15,
  .call 21 266 [some 13],
  .elem 22 21,
  .alias 12 [22],
  .elem 23 21,
  .alias 15 [23],
  .pack 24 [15],
  .store 11 24,
  .elem 25 11,
  .store 25 15,
  .store 8 11,
  .alias 1 [8]]

def table_148 : Pts := [
  { top := [.root 0], kids := [.inner 0], deep := [.inner 0] },
  { top := [.loc 7], kids := [.loc 17], deep := [.loc 24, .loc 18, .loc 21] },
  { top := [.loc 2], kids := [], deep := [] },
  { top := [.loc 3], kids := [], deep := [] },
  { top := [.loc 4], kids := [.loc 2, .loc 3], deep := [] },
  { top := [.loc 5], kids := [.loc 18, .loc 21], deep := [.loc 18, .loc 21] },
  { top := [.loc 5], kids := [.loc 18, .loc 21], deep := [.loc 18, .loc 21] },
  { top := [.loc 7], kids := [.loc 17], deep := [.loc 24, .loc 18, .loc 21] },
  { top := [.loc 7], kids := [.loc 17], deep := [.loc 24, .loc 18, .loc 21] },
  {},
  {},
  { top := [.loc 17], kids := [.loc 24], deep := [.loc 18, .loc 21] },
  { top := [.loc 18, .loc 21], kids := [.loc 18, .loc 21], deep := [.loc 18, .loc 21] },
  { top := [.inner 0], kids := [.inner 0], deep := [.inner 0] },
  {},
  { top := [.loc 18, .loc 21], kids := [.loc 18, .loc 21], deep := [.loc 18, .loc 21] },
  { top := [.inner 0], kids := [.inner 0], deep := [.inner 0] },
  { top := [.loc 17], kids := [.loc 24], deep := [.loc 18, .loc 21] },
  { top := [.loc 18], kids := [.loc 18], deep := [.loc 18] },
  { top := [.loc 18], kids := [.loc 18], deep := [.loc 18] },
  { top := [.loc 18], kids := [.loc 18], deep := [.loc 18] },
  { top := [.loc 21], kids := [.loc 21], deep := [.loc 21] },
  { top := [.loc 21], kids := [.loc 21], deep := [.loc 21] },
  { top := [.loc 21], kids := [.loc 21], deep := [.loc 21] },
  { top := [.loc 24], kids := [.loc 18, .loc 21], deep := [.loc 18, .loc 21] },
  { top := [.loc 24], kids := [.loc 18, .loc 21], deep := [.loc 18, .loc 21] }]

/-- peptacular.mods.mod_db_setup.count_invalid_entries -/
def prog_149 : List Stmt := [
  .param 0 0,
  .pack 2 [],
  .asRec 6 0 1,
  .alias 8 [4],
  .alias 9 [5],
  .alias 10 [3],
  .elem 11 6,
  .asRec 12 11 0,
  .alias 7 [12],
  .asRec 13 7 0,
  .alias 10 [10],
  .asRec 14 7 0,
  .alias 8 [8],
  .asRec 15 7 0,
  .alias 9 [9],
  .pack 16 []]

def table_149 : Pts := [
  { top := [.root 0], kids := [.inner 0], deep := [.inner 0] },
  {},
  { top := [.loc 2], kids := [], deep := [] },
  {},
  {},
  {},
  { top := [.root 0], kids := [.recd 0], deep := [.recd 0] },
  { top := [.recd 0], kids := [.recd 0], deep := [.recd 0] },
  {},
  {},
  {},
  { top := [.recd 0], kids := [.recd 0], deep := [.recd 0] },
  { top := [.recd 0], kids := [.recd 0], deep := [.recd 0] },
  { top := [.recd 0], kids := [.recd 0], deep := [.recd 0] },
  { top := [.recd 0], kids := [.recd 0], deep := [.recd 0] },
  { top := [.recd 0], kids := [.recd 0], deep := [.recd 0] },
  { top := [.loc 16], kids := [], deep := [] }]

/-- peptacular.mods.mod_db_setup.get_entries -/
def prog_150 : List Stmt := [
  .param 0 0,
  .param 1 1,
  .call 4 148 [some 3],
  .alias 5 [4],
  .call 6 143 [some 5],
  .asRec 7 6 1,
  .shallow 8 [7],
  .asRec 9 8 1,
  .alias 2 [9],
  .call 10 141 [some 5],
  .asRec 11 10 1,
  .shallow 12 [11],
  .asRec 13 12 1,
  .alias 2 [13],
  .call 14 137 [some 5],
  .asRec 15 14 1,
  .shallow 16 [15],
  .asRec 17 16 1,
  .alias 2 [17],
  .call 18 142 [some 5],
  .asRec 19 18 1,
  .shallow 20 [19],
  .asRec 21 20 1,
  .alias 2 [21],
  .call 22 144 [some 5],
  .asRec 23 22 1,
  .shallow 24 [23],
  .asRec 25 24 1,
  .alias 2 [25],
  .call 26 139 [some 5],
  .asRec 27 26 1,
  .shallow 28 [27],
  .asRec 29 28 1,
  .alias 2 [29]]

def table_150 : Pts := [
  { top := [.root 0], kids := [.inner 0], deep := [.inner 0] },
  { top := [.root 1], kids := [.inner 1], deep := [.inner 1] },
  { top := [.loc 8, .loc 12, .loc 16, .loc 20, .loc 24, .loc 28], kids := [.loc 6, .loc 10, .loc 14, .loc 18, .loc 22, .loc 26], deep := [.loc 4, .loc 6, .loc 10, .loc 14, .loc 18, .loc 22, .loc 26] },
  {},
  { top := [.loc 4], kids := [.loc 4], deep := [.loc 4] },
  { top := [.loc 4], kids := [.loc 4], deep := [.loc 4] },
  { top := [.loc 6], kids := [.loc 6], deep := [.loc 4, .loc 6] },
  { top := [.loc 6], kids := [.loc 6], deep := [.loc 4, .loc 6] },
  { top := [.loc 8], kids := [.loc 6], deep := [.loc 4, .loc 6] },
  { top := [.loc 8], kids := [.loc 6], deep := [.loc 4, .loc 6] },
  { top := [.loc 10], kids := [.loc 10], deep := [.loc 4, .loc 10] },
  { top := [.loc 10], kids := [.loc 10], deep := [.loc 4, .loc 10] },
  { top := [.loc 12], kids := [.loc 10], deep := [.loc 4, .loc 10] },
  { top := [.loc 12], kids := [.loc 10], deep := [.loc 4, .loc 10] },
  { top := [.loc 14], kids := [.loc 14], deep := [.loc 4, .loc 14] },
  { top := [.loc 14], kids := [.loc 14], deep := [.loc 4, .loc 14] },
  { top := [.loc 16], kids := [.loc 14], deep := [.loc 4, .loc 14] },
  { top := [.loc 16], kids := [.loc 14], deep := [.loc 4, .loc 14] },
  { top := [.loc 18], kids := [.loc 18], deep := [.loc 4, .loc 18] },
  { top := [.loc 18], kids := [.loc 18], deep := [.loc 4, .loc 18] },
  { top := [.loc 20], kids := [.loc 18], deep := [.loc 4, .loc 18] },
  { top := [.loc 20], kids := [.loc 18], deep := [.loc 4, .loc 18] },
  { top := [.loc 22], kids := [.loc 22], deep := [.loc 4, .loc 22] },
  { top := [.loc 22], kids := [.loc 22], deep := [.loc 4, .loc 22] },
  { top := [.loc 24], kids := [.loc 22], deep := [.loc 4, .loc 22] },
  { top := [.loc 24], kids := [.loc 22], deep := [.loc 4, .loc 22] },
  { top := [.loc 26], kids := [.loc 26], deep := [.loc 4, .loc 26] },
  { top := [.loc 26], kids := [.loc 26], deep := [.loc 4, .loc 26] },
  { top := [.loc 28], kids := [.loc 26], deep := [.loc 4, .loc 26] },
  { top := [.loc 28], kids := [.loc 26], deep := [.loc 4, .loc 26] }]

/-- peptacular.mods.mod_db_setup.reload_all_databases -/
def prog_151 : List Stmt := [
  .call 1 153 [],
  .global 2 41,
  .call 3 130 [some 2, none, none],
  .global 4 42,
  .call 5 130 [some 4, none, none],
  .global 6 43,
  .call 7 130 [some 6, none, none],
  .global 8 44,
  .call 9 130 [some 8, none, none],
  .global 10 45,
  .call 11 130 [some 10, none, none],
  .global 12 46,
  .call 13 130 [some 12, none, none]]

def table_151 : Pts := [
  {},
  {},
  { top := [.glob 41], kids := [.glob 41, .loc 3], deep := [.glob 41, .loc 3] },
  {},
  { top := [.glob 42], kids := [.glob 42, .loc 5], deep := [.glob 42, .loc 5] },
  {},
  { top := [.glob 43], kids := [.glob 43, .loc 7], deep := [.glob 43, .loc 7] },
  {},
  { top := [.glob 44], kids := [.glob 44, .loc 9], deep := [.glob 44, .loc 9] },
  {},
  { top := [.glob 45], kids := [.glob 45, .loc 11], deep := [.glob 45, .loc 11] },
  {},
  { top := [.glob 46], kids := [.glob 46, .loc 13], deep := [.glob 46, .loc 13] },
  {}]

/-- peptacular.mods.mod_db_setup.reload_all_databases_from_online -/
def prog_152 : List Stmt := [
  .global 1 41,
  .call 2 131 [some 1, none],
  .global 3 42,
  .call 4 131 [some 3, none],
  .global 5 43,
  .call 6 131 [some 5, none],
  .global 7 44,
  .call 8 131 [some 7, none],
  .global 9 45,
  .call 10 131 [some 9, none],
  .global 11 46,
  .call 12 131 [some 11, none]]

def table_152 : Pts := [
  {},
  { top := [.glob 41], kids := [.glob 41, .loc 2], deep := [.glob 41, .loc 2] },
  {},
  { top := [.glob 42], kids := [.glob 42, .loc 4], deep := [.glob 42, .loc 4] },
  {},
  { top := [.glob 43], kids := [.glob 43, .loc 6], deep := [.glob 43, .loc 6] },
  {},
  { top := [.glob 44], kids := [.glob 44, .loc 8], deep := [.glob 44, .loc 8] },
  {},
  { top := [.glob 45], kids := [.glob 45, .loc 10], deep := [.glob 45, .loc 10] },
  {},
  { top := [.glob 46], kids := [.glob 46, .loc 12], deep := [.glob 46, .loc 12] },
  {}]

/-- peptacular.mods.mod_db_setup.reset_all_databases -/
def prog_153 : List Stmt := [
  .global 1 41,
  .call 2 132 [some 1],
  .global 3 42,
  .call 4 132 [some 3],
  .global 5 43,
  .call 6 132 [some 5],
  .global 7 45,
  .call 8 132 [some 7],
  .global 9 46,
  .call 10 132 [some 9],
  .global 11 44,
  .call 12 132 [some 11]]

def table_153 : Pts := [
  {},
  { top := [.glob 41], kids := [.glob 41, .loc 2], deep := [.glob 41, .loc 2] },
  {},
  { top := [.glob 42], kids := [.glob 42, .loc 4], deep := [.glob 42, .loc 4] },
  {},
  { top := [.glob 43], kids := [.glob 43, .loc 6], deep := [.glob 43, .loc 6] },
  {},
  { top := [.glob 45], kids := [.glob 45, .loc 8], deep := [.glob 45, .loc 8] },
  {},
  { top := [.glob 46], kids := [.glob 46, .loc 10], deep := [.glob 46, .loc 10] },
  {},
  { top := [.glob 44], kids := [.glob 44, .loc 12], deep := [.glob 44, .loc 12] },
  {}]

def fns_0 : List (Nat × FnInfo) := [
  (107, { prog := prog_107, nparams := 2, ret := 2, fuel := 2, table := table_107 }),
  (108, { prog := prog_108, nparams := 2, ret := 2, fuel := 2, table := table_108 }),
  (109, { prog := prog_109, nparams := 2, ret := 2, fuel := 2, table := table_109 }),
  (110, { prog := prog_110, nparams := 1, ret := 1, fuel := 2, table := table_110 }),
  (111, { prog := prog_111, nparams := 1, ret := 1, fuel := 2, table := table_111 }),
  (112, { prog := prog_112, nparams := 1, ret := 1, fuel := 2, table := table_112 }),
  (113, { prog := prog_113, nparams := 2, ret := 2, fuel := 2, table := table_113 }),
  (114, { prog := prog_114, nparams := 1, ret := 1, fuel := 2, table := table_114 }),
  (115, { prog := prog_115, nparams := 1, ret := 1, fuel := 2, table := table_115 }),
  (116, { prog := prog_116, nparams := 2, ret := 2, fuel := 3, table := table_116 }),
  (117, { prog := prog_117, nparams := 2, ret := 2, fuel := 3, table := table_117 }),
  (118, { prog := prog_118, nparams := 2, ret := 2, fuel := 3, table := table_118 }),
  (119, { prog := prog_119, nparams := 1, ret := 1, fuel := 2, table := table_119 }),
  (120, { prog := prog_120, nparams := 2, ret := 2, fuel := 2, table := table_120 }),
  (121, { prog := prog_121, nparams := 2, ret := 2, fuel := 2, table := table_121 }),
  (122, { prog := prog_122, nparams := 2, ret := 2, fuel := 2, table := table_122 }),
  (123, { prog := prog_123, nparams := 2, ret := 2, fuel := 2, table := table_123 }),
  (124, { prog := prog_124, nparams := 2, ret := 2, fuel := 2, table := table_124 }),
  (125, { prog := prog_125, nparams := 2, ret := 2, fuel := 2, table := table_125 }),
  (126, { prog := prog_126, nparams := 2, ret := 2, fuel := 2, table := table_126 }),
  (127, { prog := prog_127, nparams := 2, ret := 2, fuel := 2, table := table_127 }),
  (128, { prog := prog_128, nparams := 2, ret := 2, fuel := 2, table := table_128 }),
  (129, { prog := prog_129, nparams := 2, ret := 2, fuel := 2, table := table_129 }),
  (130, { prog := prog_130, nparams := 3, ret := 3, fuel := 3, table := table_130 }),
  (131, { prog := prog_131, nparams := 2, ret := 2, fuel := 3, table := table_131 }),
  (132, { prog := prog_132, nparams := 1, ret := 1, fuel := 2, table := table_132 }),
  (133, { prog := prog_133, nparams := 3, ret := 3, fuel := 2, table := table_133 }),
  (134, { prog := prog_134, nparams := 2, ret := 2, fuel := 2, table := table_134 }),
  (135, { prog := prog_135, nparams := 1, ret := 1, fuel := 2, table := table_135 }),
  (136, { prog := prog_136, nparams := 1, ret := 1, fuel := 2, table := table_136 }),
  (137, { prog := prog_137, nparams := 1, ret := 1, fuel := 4, table := table_137 }),
  (138, { prog := prog_138, nparams := 1, ret := 1, fuel := 2, table := table_138 }),
  (139, { prog := prog_139, nparams := 1, ret := 1, fuel := 4, table := table_139 }),
  (140, { prog := prog_140, nparams := 1, ret := 1, fuel := 2, table := table_140 }),
  (141, { prog := prog_141, nparams := 1, ret := 1, fuel := 4, table := table_141 }),
  (142, { prog := prog_142, nparams := 1, ret := 1, fuel := 4, table := table_142 }),
  (143, { prog := prog_143, nparams := 1, ret := 1, fuel := 4, table := table_143 }),
  (144, { prog := prog_144, nparams := 1, ret := 1, fuel := 4, table := table_144 }),
  (145, { prog := prog_145, nparams := 2, ret := 2, fuel := 2, table := table_145 }),
  (146, { prog := prog_146, nparams := 1, ret := 1, fuel := 2, table := table_146 })]

def fns_1 : List (Nat × FnInfo) := [
  (147, { prog := prog_147, nparams := 2, ret := 2, fuel := 2, table := table_147 }),
  (148, { prog := prog_148, nparams := 1, ret := 1, fuel := 3, table := table_148 }),
  (149, { prog := prog_149, nparams := 1, ret := 1, fuel := 2, table := table_149 }),
  (150, { prog := prog_150, nparams := 2, ret := 2, fuel := 2, table := table_150 }),
  (151, { prog := prog_151, nparams := 0, ret := 0, fuel := 2, table := table_151 }),
  (152, { prog := prog_152, nparams := 0, ret := 0, fuel := 2, table := table_152 }),
  (153, { prog := prog_153, nparams := 0, ret := 0, fuel := 2, table := table_153 })]

def fns : List (Nat × FnInfo) := fns_0 ++ fns_1

theorem ok : fns.all (fun p => entryOK Gen.summaries Gen.verdicts p.1 p.2) = true :=
  all_entryOK_of_fast 8 (by decide +kernel)

end Gen.M_mods_mod_db_setup
