import PeptVerif.Generated.Effects.Core
import PeptVerif.Lemmas.EffectsFast
/-! GENERATED by harness/translate_effects.py - do not edit.  Source module: peptacular.fragmentation (16 functions).
`ok` is the kernel check of these functions against the global summary / verdict tables: every table is closed
under its program, the summary the program induces is within the summary table, and the write / sharing sets
read off the table are the claimed verdict.  The kernel evaluates it in the form `entryOKFast`
(Lemmas/EffectsFast.lean); 8 is the stride of its lookups, any stride gives the same value. -/
namespace Gen.M_fragmentation
open Effects
set_option maxRecDepth 100000
/-- peptacular.fragmentation.Fragment.__iter__ -/
def prog_38 : List Stmt := [
  .param 0 0,
  .asRec 2 0 0,
  .call 5 171 [some 4, none, none],
  .call 5 254 [some 4, none],
  .call 5 174 [some 4, none],
  .pack 6 [3, 5],
  .pack 7 [6],
  .alias 1 [7],
  .pack 8 [3, 4],
  .pack 9 [8],
  .alias 1 [9],
  .asRec 10 0 0,
  .pack 11 [],
  .pack 12 [11],
  .alias 1 [12],
  .asRec 13 0 0,
  .pack 14 [],
  .pack 15 [14],
  .alias 1 [15]]

def table_38 : Pts := [
  { top := [.root 0], kids := [.inner 0], deep := [.inner 0] },
  { top := [.loc 7, .loc 9, .loc 12, .loc 15], kids := [.loc 6, .loc 8, .loc 11, .loc 14], deep := [] },
  { top := [.recTop 0], kids := [.recd 0], deep := [.recd 0] },
  {},
  {},
  {},
  { top := [.loc 6], kids := [], deep := [] },
  { top := [.loc 7], kids := [.loc 6], deep := [] },
  { top := [.loc 8], kids := [], deep := [] },
  { top := [.loc 9], kids := [.loc 8], deep := [] },
  { top := [.recTop 0], kids := [.recd 0], deep := [.recd 0] },
  { top := [.loc 11], kids := [], deep := [] },
  { top := [.loc 12], kids := [.loc 11], deep := [] },
  { top := [.recTop 0], kids := [.recd 0], deep := [.recd 0] },
  { top := [.loc 14], kids := [], deep := [] },
  { top := [.loc 15], kids := [.loc 14], deep := [] }]

/-- peptacular.fragmentation.Fragment.label -/
def prog_39 : List Stmt := [
  .param 0 0,
  .asRec 2 0 0,
  .asRec 3 0 0,
  .asRec 4 0 0,
  .asRec 5 0 0,
  .asRec 6 0 0,
  .call 7 51 [none, none, none, none, none]]

def table_39 : Pts := [
  { top := [.root 0], kids := [.inner 0], deep := [.inner 0] },
  {},
  { top := [.recTop 0], kids := [.recd 0], deep := [.recd 0] },
  { top := [.recTop 0], kids := [.recd 0], deep := [.recd 0] },
  { top := [.recTop 0], kids := [.recd 0], deep := [.recd 0] },
  { top := [.recTop 0], kids := [.recd 0], deep := [.recd 0] },
  { top := [.recTop 0], kids := [.recd 0], deep := [.recd 0] },
  {}]

/-- peptacular.fragmentation.Fragment.number -/
def prog_40 : List Stmt := [
  .param 0 0,
  .asRec 2 0 0,
  .asRec 3 0 0,
  .elem 4 3,
  .asRec 5 0 0,
  .asRec 6 0 0,
  .call 7 53 [none, none, none, none]]

def table_40 : Pts := [
  { top := [.root 0], kids := [.inner 0], deep := [.inner 0] },
  {},
  { top := [.recTop 0], kids := [.recd 0], deep := [.recd 0] },
  { top := [.recTop 0], kids := [.recd 0], deep := [.recd 0] },
  { top := [.recd 0], kids := [.recd 0], deep := [.recd 0] },
  { top := [.recTop 0], kids := [.recd 0], deep := [.recd 0] },
  { top := [.recTop 0], kids := [.recd 0], deep := [.recd 0] },
  {}]

/-- peptacular.fragmentation.Fragmenter.__init__ -/
def prog_41 : List Stmt := [
  .param 0 0,
  .param 1 1,
  .param 2 2,
  .call 4 387 [some 1],
  .store 0 4,
  .store 0 1,
  .write 0,
  .elem 5 0,
  .call 6 202 [some 5],
  .alias 7 [6],
  .call 8 244 [some 7],
  .asRec 9 8 1,
  .call 10 198 [some 7, none],
  .call 11 266 [some 7],
  .store 0 11,
  .elem 12 0,
  .elem 13 12,
  .alias 14 [13],
  .elem 15 0,
  .call 16 81 [some 14, none, none, some 15, none, none, none, none, none, none],
  .pack 17 [16],
  .leaf 18 17,
  .store 0 18]

def table_41 : Pts := [
  { top := [.root 0], kids := [.inner 0, .loc 4, .root 1, .loc 11, .loc 17], deep := [.inner 0, .loc 4, .inner 1, .loc 11] },
  { top := [.root 1], kids := [.inner 1], deep := [.inner 1] },
  { top := [.root 2], kids := [.inner 2], deep := [.inner 2] },
  {},
  { top := [.loc 4], kids := [.loc 4], deep := [.loc 4] },
  { top := [.inner 0, .loc 4, .root 1, .loc 11, .loc 17], kids := [.inner 0, .loc 4, .inner 1, .loc 11], deep := [.inner 0, .loc 4, .inner 1, .loc 11] },
  { top := [.loc 6], kids := [.loc 8, .loc 10], deep := [.loc 10] },
  { top := [.loc 6], kids := [.loc 8, .loc 10], deep := [.loc 10] },
  { top := [.loc 8, .loc 10], kids := [.loc 8, .loc 10], deep := [.loc 8, .loc 10] },
  { top := [.loc 8, .loc 10], kids := [.loc 8, .loc 10], deep := [.loc 8, .loc 10] },
  {},
  { top := [.loc 11], kids := [.loc 11], deep := [.loc 11] },
  { top := [.inner 0, .loc 4, .root 1, .loc 11, .loc 17], kids := [.inner 0, .loc 4, .inner 1, .loc 11], deep := [.inner 0, .loc 4, .inner 1, .loc 11] },
  { top := [.inner 0, .loc 4, .inner 1, .loc 11], kids := [.inner 0, .loc 4, .inner 1, .loc 11], deep := [.inner 0, .loc 4, .inner 1, .loc 11] },
  { top := [.inner 0, .loc 4, .inner 1, .loc 11], kids := [.inner 0, .loc 4, .inner 1, .loc 11], deep := [.inner 0, .loc 4, .inner 1, .loc 11] },
  { top := [.inner 0, .loc 4, .root 1, .loc 11, .loc 17], kids := [.inner 0, .loc 4, .inner 1, .loc 11], deep := [.inner 0, .loc 4, .inner 1, .loc 11] },
  {},
  { top := [.loc 17], kids := [], deep := [] },
  { top := [.loc 17], kids := [], deep := [] }]

/-- peptacular.fragmentation.Fragmenter.fragment -/
def prog_42 : List Stmt := [
  .param 0 0,
  .param 1 1,
  .param 2 2,
  .param 3 3,
  .param 4 4,
  .param 5 5,
  .param 6 6,
  .param 7 7,
  .param 8 8,
  .param 9 9,
  .elem 11 0,
  .leaf 12 1,
  .leaf 13 2,
  .elem 14 0,
  .leaf 15 3,
  .leaf 16 6,
  .elem 17 0,
  .call 18 50 [some 11, some 12, some 13, some 14, some 15, none, none, some 16, none, none, none, some 17],
  .alias 10 [18]]

def table_42 : Pts := [
  { top := [.root 0], kids := [.inner 0], deep := [.inner 0] },
  { top := [.root 1], kids := [.inner 1], deep := [.inner 1] },
  { top := [.root 2], kids := [.inner 2], deep := [.inner 2] },
  { top := [.root 3], kids := [.inner 3], deep := [.inner 3] },
  { top := [.root 4], kids := [.inner 4], deep := [.inner 4] },
  { top := [.root 5], kids := [.inner 5], deep := [.inner 5] },
  { top := [.root 6], kids := [.inner 6], deep := [.inner 6] },
  { top := [.root 7], kids := [.inner 7], deep := [.inner 7] },
  { top := [.root 8], kids := [.inner 8], deep := [.inner 8] },
  { top := [.root 9], kids := [.inner 9], deep := [.inner 9] },
  { top := [.loc 18], kids := [.loc 18], deep := [.loc 18] },
  { top := [.inner 0], kids := [.inner 0], deep := [.inner 0] },
  { top := [.root 1], kids := [], deep := [] },
  { top := [.root 2], kids := [], deep := [] },
  { top := [.inner 0], kids := [.inner 0], deep := [.inner 0] },
  { top := [.root 3], kids := [], deep := [] },
  { top := [.root 6], kids := [], deep := [] },
  { top := [.inner 0], kids := [.inner 0], deep := [.inner 0] },
  { top := [.loc 18], kids := [.loc 18], deep := [.loc 18] }]

/-- peptacular.fragmentation._build_fragments -/
def prog_43 : List Stmt := [
  .param 0 0,
  .param 1 1,
  .param 2 2,
  .param 3 3,
  .param 4 4,
  .param 5 5,
  .param 6 6,
  .param 7 7,
  .param 8 8,
  .param 9 9,
  .param 10 10,
  .pack 12 [],
  .alias 13 [12],
  .leaf 14 1,
  .pack 16 [],
  .leaf 17 2,
  .shallow 18 [17],
  .leaf 19 18,
  .shallow 20 [16, 19],
  .elem 21 20,
  .alias 22 [21],
  .pack 23 [22],
  .call 24 49 [some 6, none, some 22, none],
  .pack 25 [24],
  .alias 26 [25],
  .leaf 27 0,
  .leaf 42 8,
  .shallow 43 [42],
  .leaf 44 43,
  .call 45 72 [none, none, none, none, none, none, none, none],
  .alias 30 [45],
  .call 46 262 [some 6, none, none, none],
  .alias 29 [46],
  .call 47 254 [some 29, none],
  .alias 31 [47],
  .leaf 48 3,
  .call 49 52 [none, some 48, none],
  .leaf 50 49,
  .alias 28 [50],
  .leaf 51 1,
  .leaf 52 4,
  .leaf 53 28,
  .leaf 54 2,
  .pack 55 [],
  .elem 56 26,
  .call 57 72 [none, none, none, none, none, none, none, none],
  .alias 36 [57],
  .pack 58 [],
  .elem 59 26,
  .call 60 72 [none, none, none, none, none, none, none, none],
  .alias 34 [60],
  .call 61 73 [none, none, none],
  .alias 35 [61],
  .pack 62 [6],
  .asRec 63 62 0,
  .store 13 63,
  .call 64 53 [none, none, none, none],
  .alias 40 [64],
  .call 65 51 [none, none, none, none, none],
  .store 13 65,
  .write 13,
  .call 66 53 [none, none, none, none],
  .alias 40 [66],
  .call 67 51 [none, none, none, none, none],
  .pack 68 [67],
  .store 13 68,
  .call 69 53 [none, none, none, none],
  .alias 40 [69],
  .call 70 51 [none, none, none, none, none],
  .pack 71 [70],
  .store 13 71,
  .alias 11 [13]]

def table_43 : Pts := [
  { top := [.root 0], kids := [.inner 0], deep := [.inner 0] },
  { top := [.root 1], kids := [.inner 1], deep := [.inner 1] },
  { top := [.root 2], kids := [.inner 2], deep := [.inner 2] },
  { top := [.root 3], kids := [.inner 3], deep := [.inner 3] },
  { top := [.root 4], kids := [.inner 4], deep := [.inner 4] },
  { top := [.root 5], kids := [.inner 5], deep := [.inner 5] },
  { top := [.root 6], kids := [.inner 6], deep := [.inner 6] },
  { top := [.root 7], kids := [.inner 7], deep := [.inner 7] },
  { top := [.root 8], kids := [.inner 8], deep := [.inner 8] },
  { top := [.root 9], kids := [.inner 9], deep := [.inner 9] },
  { top := [.root 10], kids := [.inner 10], deep := [.inner 10] },
  { top := [.loc 12], kids := [.loc 62, .loc 68, .loc 71], deep := [.recTop 6, .recd 6] },
  { top := [.loc 12], kids := [.loc 62, .loc 68, .loc 71], deep := [.recTop 6, .recd 6] },
  { top := [.loc 12], kids := [.loc 62, .loc 68, .loc 71], deep := [.recTop 6, .recd 6] },
  { top := [.root 1], kids := [], deep := [] },
  {},
  { top := [.loc 16], kids := [], deep := [] },
  { top := [.root 2], kids := [], deep := [] },
  { top := [.loc 18], kids := [], deep := [] },
  { top := [.loc 18], kids := [], deep := [] },
  { top := [.loc 20], kids := [], deep := [] },
  {},
  {},
  { top := [.loc 23], kids := [], deep := [] },
  {},
  { top := [.loc 25], kids := [], deep := [] },
  { top := [.loc 25], kids := [], deep := [] },
  { top := [.root 0], kids := [], deep := [] },
  { top := [.loc 49], kids := [], deep := [] },
  { top := [.loc 46], kids := [.loc 46], deep := [.loc 46] },
  {},
  {},
  {},
  {},
  {},
  {},
  {},
  {},
  {},
  {},
  {},
  {},
  { top := [.root 8], kids := [], deep := [] },
  { top := [.loc 43], kids := [], deep := [] },
  { top := [.loc 43], kids := [], deep := [] },
  {},
  { top := [.loc 46], kids := [.loc 46], deep := [.loc 46] },
  {},
  { top := [.root 3], kids := [], deep := [] },
  { top := [.loc 49], kids := [], deep := [] },
  { top := [.loc 49], kids := [], deep := [] },
  { top := [.root 1], kids := [], deep := [] },
  { top := [.root 4], kids := [], deep := [] },
  { top := [.loc 49], kids := [], deep := [] },
  { top := [.root 2], kids := [], deep := [] },
  { top := [.loc 55], kids := [], deep := [] },
  {},
  {},
  { top := [.loc 58], kids := [], deep := [] },
  {},
  {},
  {},
  { top := [.loc 62], kids := [.root 6], deep := [.inner 6] },
  { top := [.loc 62], kids := [.recTop 6], deep := [.recd 6] },
  {},
  {},
  {},
  {},
  { top := [.loc 68], kids := [], deep := [] },
  {},
  {},
  { top := [.loc 71], kids := [], deep := [] }]

/-- peptacular.fragmentation._get_backward_fragments -/
def prog_44 : List Stmt := [
  .param 0 0,
  .param 1 1,
  .param 2 2,
  .param 3 3,
  .param 4 4,
  .param 5 5,
  .param 6 6,
  .param 7 7,
  .param 8 8,
  .param 9 9,
  .call 11 386 [some 0],
  .pack 12 [11],
  .alias 13 [12],
  .pack 14 [13],
  .call 15 399 [some 13, none, none],
  .leaf 16 15,
  .shallow 17 [16],
  .leaf 18 17,
  .shallow 19 [14, 18],
  .alias 20 [19],
  .leaf 21 1,
  .leaf 22 2,
  .leaf 23 5,
  .leaf 24 4,
  .leaf 25 7,
  .call 26 43 [some 20, some 21, some 22, some 23, some 24, none, some 0, none, some 25, none, none],
  .shallow 27 [26],
  .alias 10 [27]]

def table_44 : Pts := [
  { top := [.root 0], kids := [.inner 0], deep := [.inner 0] },
  { top := [.root 1], kids := [.inner 1], deep := [.inner 1] },
  { top := [.root 2], kids := [.inner 2], deep := [.inner 2] },
  { top := [.root 3], kids := [.inner 3], deep := [.inner 3] },
  { top := [.root 4], kids := [.inner 4], deep := [.inner 4] },
  { top := [.root 5], kids := [.inner 5], deep := [.inner 5] },
  { top := [.root 6], kids := [.inner 6], deep := [.inner 6] },
  { top := [.root 7], kids := [.inner 7], deep := [.inner 7] },
  { top := [.root 8], kids := [.inner 8], deep := [.inner 8] },
  { top := [.root 9], kids := [.inner 9], deep := [.inner 9] },
  { top := [.loc 27], kids := [.loc 26], deep := [.recTop 0, .recd 0] },
  {},
  { top := [.loc 12], kids := [], deep := [] },
  { top := [.loc 12], kids := [], deep := [] },
  { top := [.loc 14], kids := [.loc 12], deep := [] },
  { top := [.loc 15], kids := [], deep := [] },
  { top := [.loc 15], kids := [], deep := [] },
  { top := [.loc 17], kids := [], deep := [] },
  { top := [.loc 17], kids := [], deep := [] },
  { top := [.loc 19], kids := [.loc 12], deep := [] },
  { top := [.loc 19], kids := [.loc 12], deep := [] },
  { top := [.root 1], kids := [], deep := [] },
  { top := [.root 2], kids := [], deep := [] },
  { top := [.root 5], kids := [], deep := [] },
  { top := [.root 4], kids := [], deep := [] },
  { top := [.root 7], kids := [], deep := [] },
  { top := [.loc 26], kids := [.loc 26], deep := [.recTop 0, .recd 0] },
  { top := [.loc 27], kids := [.loc 26], deep := [.recTop 0, .recd 0] }]

/-- peptacular.fragmentation._get_forward_fragments -/
def prog_45 : List Stmt := [
  .param 0 0,
  .param 1 1,
  .param 2 2,
  .param 3 3,
  .param 4 4,
  .param 5 5,
  .param 6 6,
  .param 7 7,
  .param 8 8,
  .param 9 9,
  .call 11 386 [some 0],
  .pack 12 [11],
  .alias 13 [12],
  .pack 14 [13],
  .call 15 397 [some 13, none, none],
  .leaf 16 15,
  .shallow 17 [16],
  .leaf 18 17,
  .shallow 19 [14, 18],
  .alias 20 [19],
  .leaf 21 1,
  .leaf 22 2,
  .leaf 23 5,
  .leaf 24 4,
  .leaf 25 7,
  .call 26 43 [some 20, some 21, some 22, some 23, some 24, none, some 0, none, some 25, none, none],
  .shallow 27 [26],
  .alias 10 [27]]

def table_45 : Pts := [
  { top := [.root 0], kids := [.inner 0], deep := [.inner 0] },
  { top := [.root 1], kids := [.inner 1], deep := [.inner 1] },
  { top := [.root 2], kids := [.inner 2], deep := [.inner 2] },
  { top := [.root 3], kids := [.inner 3], deep := [.inner 3] },
  { top := [.root 4], kids := [.inner 4], deep := [.inner 4] },
  { top := [.root 5], kids := [.inner 5], deep := [.inner 5] },
  { top := [.root 6], kids := [.inner 6], deep := [.inner 6] },
  { top := [.root 7], kids := [.inner 7], deep := [.inner 7] },
  { top := [.root 8], kids := [.inner 8], deep := [.inner 8] },
  { top := [.root 9], kids := [.inner 9], deep := [.inner 9] },
  { top := [.loc 27], kids := [.loc 26], deep := [.recTop 0, .recd 0] },
  {},
  { top := [.loc 12], kids := [], deep := [] },
  { top := [.loc 12], kids := [], deep := [] },
  { top := [.loc 14], kids := [.loc 12], deep := [] },
  { top := [.loc 15], kids := [], deep := [] },
  { top := [.loc 15], kids := [], deep := [] },
  { top := [.loc 17], kids := [], deep := [] },
  { top := [.loc 17], kids := [], deep := [] },
  { top := [.loc 19], kids := [.loc 12], deep := [] },
  { top := [.loc 19], kids := [.loc 12], deep := [] },
  { top := [.root 1], kids := [], deep := [] },
  { top := [.root 2], kids := [], deep := [] },
  { top := [.root 5], kids := [], deep := [] },
  { top := [.root 4], kids := [], deep := [] },
  { top := [.root 7], kids := [], deep := [] },
  { top := [.loc 26], kids := [.loc 26], deep := [.recTop 0, .recd 0] },
  { top := [.loc 27], kids := [.loc 26], deep := [.recTop 0, .recd 0] }]

/-- peptacular.fragmentation._get_immonium_fragments -/
def prog_46 : List Stmt := [
  .param 0 0,
  .param 1 1,
  .param 2 2,
  .param 3 3,
  .param 4 4,
  .param 5 5,
  .param 6 6,
  .param 7 7,
  .param 8 8,
  .pack 11 [],
  .pack 12 [11],
  .alias 13 [12],
  .pack 14 [],
  .leaf 15 1,
  .leaf 16 4,
  .leaf 17 3,
  .leaf 18 6,
  .call 19 43 [some 13, some 14, some 15, some 16, some 17, none, some 0, none, some 18, none, none],
  .shallow 20 [19],
  .alias 9 [20]]

def table_46 : Pts := [
  { top := [.root 0], kids := [.inner 0], deep := [.inner 0] },
  { top := [.root 1], kids := [.inner 1], deep := [.inner 1] },
  { top := [.root 2], kids := [.inner 2], deep := [.inner 2] },
  { top := [.root 3], kids := [.inner 3], deep := [.inner 3] },
  { top := [.root 4], kids := [.inner 4], deep := [.inner 4] },
  { top := [.root 5], kids := [.inner 5], deep := [.inner 5] },
  { top := [.root 6], kids := [.inner 6], deep := [.inner 6] },
  { top := [.root 7], kids := [.inner 7], deep := [.inner 7] },
  { top := [.root 8], kids := [.inner 8], deep := [.inner 8] },
  { top := [.loc 20], kids := [.loc 19], deep := [.recTop 0, .recd 0] },
  {},
  { top := [.loc 11], kids := [], deep := [] },
  { top := [.loc 12], kids := [.loc 11], deep := [] },
  { top := [.loc 12], kids := [.loc 11], deep := [] },
  { top := [.loc 14], kids := [], deep := [] },
  { top := [.root 1], kids := [], deep := [] },
  { top := [.root 4], kids := [], deep := [] },
  { top := [.root 3], kids := [], deep := [] },
  { top := [.root 6], kids := [], deep := [] },
  { top := [.loc 19], kids := [.loc 19], deep := [.recTop 0, .recd 0] },
  { top := [.loc 20], kids := [.loc 19], deep := [.recTop 0, .recd 0] }]

/-- peptacular.fragmentation._get_internal_fragments -/
def prog_47 : List Stmt := [
  .param 0 0,
  .param 1 1,
  .param 2 2,
  .param 3 3,
  .param 4 4,
  .param 5 5,
  .param 6 6,
  .param 7 7,
  .param 8 8,
  .param 9 9,
  .pack 11 [],
  .call 12 398 [some 11, none, none],
  .leaf 13 12,
  .shallow 14 [13],
  .leaf 15 14,
  .alias 16 [15],
  .leaf 17 16,
  .pack 19 [],
  .alias 20 [19],
  .leaf 21 1,
  .leaf 22 2,
  .leaf 23 5,
  .leaf 24 4,
  .leaf 25 7,
  .call 26 43 [some 20, some 21, some 22, some 23, some 24, none, some 0, none, some 25, none, none],
  .shallow 27 [26],
  .alias 10 [27]]

def table_47 : Pts := [
  { top := [.root 0], kids := [.inner 0], deep := [.inner 0] },
  { top := [.root 1], kids := [.inner 1], deep := [.inner 1] },
  { top := [.root 2], kids := [.inner 2], deep := [.inner 2] },
  { top := [.root 3], kids := [.inner 3], deep := [.inner 3] },
  { top := [.root 4], kids := [.inner 4], deep := [.inner 4] },
  { top := [.root 5], kids := [.inner 5], deep := [.inner 5] },
  { top := [.root 6], kids := [.inner 6], deep := [.inner 6] },
  { top := [.root 7], kids := [.inner 7], deep := [.inner 7] },
  { top := [.root 8], kids := [.inner 8], deep := [.inner 8] },
  { top := [.root 9], kids := [.inner 9], deep := [.inner 9] },
  { top := [.loc 27], kids := [.loc 26], deep := [.recTop 0, .recd 0] },
  { top := [.loc 11], kids := [], deep := [] },
  { top := [.loc 12], kids := [], deep := [] },
  { top := [.loc 12], kids := [], deep := [] },
  { top := [.loc 14], kids := [], deep := [] },
  { top := [.loc 14], kids := [], deep := [] },
  { top := [.loc 14], kids := [], deep := [] },
  { top := [.loc 14], kids := [], deep := [] },
  {},
  { top := [.loc 19], kids := [], deep := [] },
  { top := [.loc 19], kids := [], deep := [] },
  { top := [.root 1], kids := [], deep := [] },
  { top := [.root 2], kids := [], deep := [] },
  { top := [.root 5], kids := [], deep := [] },
  { top := [.root 4], kids := [], deep := [] },
  { top := [.root 7], kids := [], deep := [] },
  { top := [.loc 26], kids := [.loc 26], deep := [.recTop 0, .recd 0] },
  { top := [.loc 27], kids := [.loc 26], deep := [.recTop 0, .recd 0] }]

/-- peptacular.fragmentation._get_terminal_fragments -/
def prog_48 : List Stmt := [
  .param 0 0,
  .param 1 1,
  .param 2 2,
  .param 3 3,
  .param 4 4,
  .param 5 5,
  .param 6 6,
  .param 7 7,
  .param 8 8,
  .param 9 9,
  .leaf 11 1,
  .global 13 24,
  .pack 14 [],
  .alias 15 [14],
  .leaf 16 1,
  .global 18 25,
  .pack 19 [],
  .alias 20 [19],
  .pack 21 [],
  .alias 22 [21],
  .leaf 23 2,
  .leaf 24 4,
  .leaf 25 5,
  .leaf 26 7,
  .call 27 45 [some 0, some 15, some 23, none, some 24, some 25, none, some 26, none, none],
  .store 22 27,
  .leaf 28 2,
  .leaf 29 4,
  .leaf 30 5,
  .leaf 31 7,
  .call 32 44 [some 0, some 20, some 28, none, some 29, some 30, none, some 31, none, none],
  .store 22 32,
  .alias 10 [22]]

def table_48 : Pts := [
  { top := [.root 0], kids := [.inner 0], deep := [.inner 0] },
  { top := [.root 1], kids := [.inner 1], deep := [.inner 1] },
  { top := [.root 2], kids := [.inner 2], deep := [.inner 2] },
  { top := [.root 3], kids := [.inner 3], deep := [.inner 3] },
  { top := [.root 4], kids := [.inner 4], deep := [.inner 4] },
  { top := [.root 5], kids := [.inner 5], deep := [.inner 5] },
  { top := [.root 6], kids := [.inner 6], deep := [.inner 6] },
  { top := [.root 7], kids := [.inner 7], deep := [.inner 7] },
  { top := [.root 8], kids := [.inner 8], deep := [.inner 8] },
  { top := [.root 9], kids := [.inner 9], deep := [.inner 9] },
  { top := [.loc 21], kids := [.loc 27, .loc 32], deep := [.loc 27, .recTop 0, .recd 0, .loc 32] },
  { top := [.root 1], kids := [], deep := [] },
  {},
  { top := [.glob 24], kids := [.glob 24], deep := [.glob 24] },
  { top := [.loc 14], kids := [], deep := [] },
  { top := [.loc 14], kids := [], deep := [] },
  { top := [.root 1], kids := [], deep := [] },
  {},
  { top := [.glob 25], kids := [.glob 25], deep := [.glob 25] },
  { top := [.loc 19], kids := [], deep := [] },
  { top := [.loc 19], kids := [], deep := [] },
  { top := [.loc 21], kids := [.loc 27, .loc 32], deep := [.loc 27, .recTop 0, .recd 0, .loc 32] },
  { top := [.loc 21], kids := [.loc 27, .loc 32], deep := [.loc 27, .recTop 0, .recd 0, .loc 32] },
  { top := [.root 2], kids := [], deep := [] },
  { top := [.root 4], kids := [], deep := [] },
  { top := [.root 5], kids := [], deep := [] },
  { top := [.root 7], kids := [], deep := [] },
  { top := [.loc 27], kids := [.loc 27], deep := [.recTop 0, .recd 0] },
  { top := [.root 2], kids := [], deep := [] },
  { top := [.root 4], kids := [], deep := [] },
  { top := [.root 5], kids := [], deep := [] },
  { top := [.root 7], kids := [], deep := [] },
  { top := [.loc 32], kids := [.loc 32], deep := [.recTop 0, .recd 0] }]

/-- peptacular.fragmentation._label_shift -/
def prog_49 : List Stmt := [
  .param 0 0,
  .param 1 1,
  .param 2 2,
  .param 3 3,
  .call 5 217 [some 0],
  .elem 6 0,
  .asRec 7 6 1,
  .pack 8 [7],
  .alias 9 [8],
  .shallow 10 [],
  .shallow 11 [],
  .call 12 81 [some 9, none, none, none, none, none, none, none, none, none],
  .call 13 72 [none, none, none, none, none, none, none, none]]

def table_49 : Pts := [
  { top := [.root 0], kids := [.inner 0], deep := [.inner 0] },
  { top := [.root 1], kids := [.inner 1], deep := [.inner 1] },
  { top := [.root 2], kids := [.inner 2], deep := [.inner 2] },
  { top := [.root 3], kids := [.inner 3], deep := [.inner 3] },
  {},
  {},
  { top := [.inner 0], kids := [.inner 0], deep := [.inner 0] },
  { top := [.inner 0], kids := [.recd 0], deep := [.recd 0] },
  { top := [.loc 8], kids := [.inner 0], deep := [.recd 0] },
  { top := [.loc 8], kids := [.inner 0], deep := [.recd 0] },
  { top := [.loc 10], kids := [], deep := [] },
  { top := [.loc 11], kids := [], deep := [] },
  {},
  {}]

/-- peptacular.fragmentation.fragment -/
def prog_50 : List Stmt := [
  .param 0 0,
  .param 1 1,
  .param 2 2,
  .param 3 3,
  .param 4 4,
  .param 5 5,
  .param 6 6,
  .param 7 7,
  .param 8 8,
  .param 9 9,
  .param 10 10,
  .param 11 11,
  .leaf 13 1,
  .leaf 14 1,
  .pack 15 [14],
  .alias 16 [15],
  .alias 17 [16, 1],
  .leaf 18 2,
  .leaf 19 2,
  .pack 20 [19],
  .alias 21 [20],
  .alias 22 [21, 2],
  .leaf 23 4,
  .leaf 24 4,
  .pack 25 [24],
  .alias 26 [25],
  .alias 27 [26, 4],
  .leaf 28 7,
  .pack 29 [],
  .alias 30 [29],
  .leaf 31 7,
  .leaf 32 7,
  .pack 33 [32],
  .alias 34 [33],
  .leaf 35 7,
  .shallow 36 [35],
  .leaf 37 36,
  .alias 38 [37],
  .alias 39 [34, 38],
  .alias 40 [30, 39],
  .pack 41 [],
  .store 40 41,
  .pack 42 [],
  .store 40 42,
  .call 43 387 [some 0],
  .alias 44 [43],
  .call 45 202 [some 0],
  .alias 46 [45],
  .alias 47 [44, 46],
  .call 48 244 [some 47],
  .asRec 49 48 1,
  .call 50 198 [some 47, none],
  .call 51 201 [some 47],
  .elem 52 17,
  .alias 53 [52],
  .pack 54 [53],
  .alias 55 [54],
  .elem 56 17,
  .alias 57 [56],
  .global 58 26,
  .pack 59 [57],
  .alias 60 [59],
  .leaf 62 11,
  .call 63 266 [some 47],
  .alias 64 [63],
  .elem 65 64,
  .alias 66 [65],
  .call 67 81 [some 66, none, none, none, none, none, none, none, none, none],
  .pack 68 [67],
  .leaf 69 68,
  .alias 70 [69],
  .alias 71 [70, 11],
  .pack 72 [],
  .alias 73 [72],
  .leaf 74 71,
  .call 75 48 [some 47, some 55, some 22, none, some 27, some 40, none, some 74, none, none],
  .store 73 75,
  .leaf 76 71,
  .call 77 47 [some 47, some 60, some 22, none, some 27, some 40, none, some 76, none, none],
  .store 73 77,
  .leaf 78 71,
  .call 79 46 [some 47, some 22, none, some 27, some 40, none, some 78, none, none],
  .store 73 79,
  .alias 12 [73]]

def table_50 : Pts := [
  { top := [.root 0], kids := [.inner 0], deep := [.inner 0] },
  { top := [.root 1], kids := [.inner 1], deep := [.inner 1] },
  { top := [.root 2], kids := [.inner 2], deep := [.inner 2] },
  { top := [.root 3], kids := [.inner 3], deep := [.inner 3] },
  { top := [.root 4], kids := [.inner 4], deep := [.inner 4] },
  { top := [.root 5], kids := [.inner 5], deep := [.inner 5] },
  { top := [.root 6], kids := [.inner 6], deep := [.inner 6] },
  { top := [.root 7], kids := [.inner 7], deep := [.inner 7] },
  { top := [.root 8], kids := [.inner 8], deep := [.inner 8] },
  { top := [.root 9], kids := [.inner 9], deep := [.inner 9] },
  { top := [.root 10], kids := [.inner 10], deep := [.inner 10] },
  { top := [.root 11], kids := [.inner 11], deep := [.inner 11] },
  { top := [.loc 72], kids := [.loc 75, .loc 77, .loc 79], deep := [.loc 75, .loc 43, .loc 45, .loc 48, .loc 50, .loc 77, .loc 79] },
  { top := [.root 1], kids := [], deep := [] },
  { top := [.root 1], kids := [], deep := [] },
  { top := [.loc 15], kids := [.root 1], deep := [] },
  { top := [.loc 15], kids := [.root 1], deep := [] },
  { top := [.loc 15, .root 1], kids := [.root 1, .inner 1], deep := [.inner 1] },
  { top := [.root 2], kids := [], deep := [] },
  { top := [.root 2], kids := [], deep := [] },
  { top := [.loc 20], kids := [.root 2], deep := [] },
  { top := [.loc 20], kids := [.root 2], deep := [] },
  { top := [.loc 20, .root 2], kids := [.root 2, .inner 2], deep := [.inner 2] },
  { top := [.root 4], kids := [], deep := [] },
  { top := [.root 4], kids := [], deep := [] },
  { top := [.loc 25], kids := [.root 4], deep := [] },
  { top := [.loc 25], kids := [.root 4], deep := [] },
  { top := [.loc 25, .root 4], kids := [.root 4, .inner 4], deep := [.inner 4] },
  { top := [.root 7], kids := [], deep := [] },
  { top := [.loc 29], kids := [.loc 41, .loc 42], deep := [] },
  { top := [.loc 29], kids := [.loc 41, .loc 42], deep := [] },
  { top := [.root 7], kids := [], deep := [] },
  { top := [.root 7], kids := [], deep := [] },
  { top := [.loc 33], kids := [.root 7, .loc 41, .loc 42], deep := [] },
  { top := [.loc 33], kids := [.root 7, .loc 41, .loc 42], deep := [] },
  { top := [.root 7], kids := [], deep := [] },
  { top := [.loc 36], kids := [.loc 41, .loc 42], deep := [] },
  { top := [.loc 36], kids := [.loc 41, .loc 42], deep := [] },
  { top := [.loc 36], kids := [.loc 41, .loc 42], deep := [] },
  { top := [.loc 33, .loc 36], kids := [.root 7, .loc 41, .loc 42], deep := [] },
  { top := [.loc 29, .loc 33, .loc 36], kids := [.root 7, .loc 41, .loc 42], deep := [] },
  { top := [.loc 41], kids := [], deep := [] },
  { top := [.loc 42], kids := [], deep := [] },
  { top := [.loc 43], kids := [.loc 43, .loc 48, .loc 50], deep := [.loc 43, .loc 48, .loc 50] },
  { top := [.loc 43], kids := [.loc 43, .loc 48, .loc 50], deep := [.loc 43, .loc 48, .loc 50] },
  { top := [.loc 45], kids := [.loc 48, .loc 50], deep := [.loc 50] },
  { top := [.loc 45], kids := [.loc 48, .loc 50], deep := [.loc 50] },
  { top := [.loc 43, .loc 45], kids := [.loc 43, .loc 48, .loc 50], deep := [.loc 43, .loc 48, .loc 50] },
  { top := [.loc 43, .loc 48, .loc 50], kids := [.loc 43, .loc 50, .loc 48], deep := [.loc 43, .loc 50, .loc 48] },
  { top := [.loc 43, .loc 48, .loc 50], kids := [.loc 43, .loc 50, .loc 48], deep := [.loc 43, .loc 50, .loc 48] },
  {},
  {},
  { top := [.root 1, .inner 1], kids := [.inner 1], deep := [.inner 1] },
  { top := [.root 1, .inner 1], kids := [.inner 1], deep := [.inner 1] },
  { top := [.loc 54], kids := [.root 1, .inner 1], deep := [.inner 1] },
  { top := [.loc 54], kids := [.root 1, .inner 1], deep := [.inner 1] },
  { top := [.root 1, .inner 1], kids := [.inner 1], deep := [.inner 1] },
  { top := [.root 1, .inner 1], kids := [.inner 1], deep := [.inner 1] },
  { top := [.glob 26], kids := [.glob 26], deep := [.glob 26] },
  { top := [.loc 59], kids := [.root 1, .inner 1], deep := [.inner 1] },
  { top := [.loc 59], kids := [.root 1, .inner 1], deep := [.inner 1] },
  {},
  { top := [.root 11], kids := [], deep := [] },
  { top := [.loc 63], kids := [.loc 63], deep := [.loc 63] },
  { top := [.loc 63], kids := [.loc 63], deep := [.loc 63] },
  { top := [.loc 63], kids := [.loc 63], deep := [.loc 63] },
  { top := [.loc 63], kids := [.loc 63], deep := [.loc 63] },
  {},
  { top := [.loc 68], kids := [], deep := [] },
  { top := [.loc 68], kids := [], deep := [] },
  { top := [.loc 68], kids := [], deep := [] },
  { top := [.loc 68, .root 11], kids := [.inner 11], deep := [.inner 11] },
  { top := [.loc 72], kids := [.loc 75, .loc 77, .loc 79], deep := [.loc 75, .loc 43, .loc 45, .loc 48, .loc 50, .loc 77, .loc 79] },
  { top := [.loc 72], kids := [.loc 75, .loc 77, .loc 79], deep := [.loc 75, .loc 43, .loc 45, .loc 48, .loc 50, .loc 77, .loc 79] },
  { top := [.loc 68, .root 11], kids := [], deep := [] },
  { top := [.loc 75], kids := [.loc 75], deep := [.loc 75, .loc 43, .loc 45, .loc 48, .loc 50] },
  { top := [.loc 68, .root 11], kids := [], deep := [] },
  { top := [.loc 77], kids := [.loc 77], deep := [.loc 43, .loc 45, .loc 48, .loc 50] },
  { top := [.loc 68, .root 11], kids := [], deep := [] },
  { top := [.loc 79], kids := [.loc 79], deep := [.loc 43, .loc 45, .loc 48, .loc 50] }]

/-- peptacular.fragmentation.get_label -/
def prog_51 : List Stmt := [
  .param 0 0,
  .param 1 1,
  .param 2 2,
  .param 3 3,
  .param 4 4]

def table_51 : Pts := [
  { top := [.root 0], kids := [.inner 0], deep := [.inner 0] },
  { top := [.root 1], kids := [.inner 1], deep := [.inner 1] },
  { top := [.root 2], kids := [.inner 2], deep := [.inner 2] },
  { top := [.root 3], kids := [.inner 3], deep := [.inner 3] },
  { top := [.root 4], kids := [.inner 4], deep := [.inner 4] }]

/-- peptacular.fragmentation.get_losses -/
def prog_52 : List Stmt := [
  .param 0 0,
  .param 1 1,
  .param 2 2,
  .pack 4 [],
  .alias 5 [4],
  .leaf 6 1,
  .shallow 10 [9],
  .elem 11 10,
  .alias 7 [11],
  .store 5 8,
  .shallow 12 [],
  .alias 13 [12],
  .shallow 16 [5],
  .shallow 17 [16],
  .elem 18 17,
  .alias 14 [18],
  .write 13,
  .shallow 19 [5],
  .shallow 20 [19, 13],
  .alias 21 [20],
  .write 21,
  .leaf 22 21,
  .alias 3 [22]]

def table_52 : Pts := [
  { top := [.root 0], kids := [.inner 0], deep := [.inner 0] },
  { top := [.root 1], kids := [.inner 1], deep := [.inner 1] },
  { top := [.root 2], kids := [.inner 2], deep := [.inner 2] },
  { top := [.loc 20], kids := [], deep := [] },
  { top := [.loc 4], kids := [], deep := [] },
  { top := [.loc 4], kids := [], deep := [] },
  { top := [.root 1], kids := [], deep := [] },
  {},
  {},
  {},
  { top := [.loc 10], kids := [], deep := [] },
  {},
  { top := [.loc 12], kids := [], deep := [] },
  { top := [.loc 12], kids := [], deep := [] },
  {},
  {},
  { top := [.loc 16], kids := [], deep := [] },
  { top := [.loc 17], kids := [], deep := [] },
  {},
  { top := [.loc 19], kids := [], deep := [] },
  { top := [.loc 20], kids := [], deep := [] },
  { top := [.loc 20], kids := [], deep := [] },
  { top := [.loc 20], kids := [], deep := [] }]

/-- peptacular.fragmentation.get_number -/
def prog_53 : List Stmt := [
  .param 0 0,
  .param 1 1,
  .param 2 2,
  .param 3 3,
  .global 5 24,
  .global 7 25,
  .global 9 26,
  .alias 12 [10, 11],
  .alias 13 [8, 12],
  .alias 14 [6, 13]]

def table_53 : Pts := [
  { top := [.root 0], kids := [.inner 0], deep := [.inner 0] },
  { top := [.root 1], kids := [.inner 1], deep := [.inner 1] },
  { top := [.root 2], kids := [.inner 2], deep := [.inner 2] },
  { top := [.root 3], kids := [.inner 3], deep := [.inner 3] },
  {},
  { top := [.glob 24], kids := [.glob 24], deep := [.glob 24] },
  {},
  { top := [.glob 25], kids := [.glob 25], deep := [.glob 25] },
  {},
  { top := [.glob 26], kids := [.glob 26], deep := [.glob 26] },
  {},
  {},
  {},
  {},
  {}]

def fns_0 : List (Nat × FnInfo) := [
  (38, { prog := prog_38, nparams := 1, ret := 1, fuel := 2, table := table_38 }),
  (39, { prog := prog_39, nparams := 1, ret := 1, fuel := 2, table := table_39 }),
  (40, { prog := prog_40, nparams := 1, ret := 1, fuel := 2, table := table_40 }),
  (41, { prog := prog_41, nparams := 3, ret := 3, fuel := 3, table := table_41 }),
  (42, { prog := prog_42, nparams := 10, ret := 10, fuel := 2, table := table_42 }),
  (43, { prog := prog_43, nparams := 11, ret := 11, fuel := 2, table := table_43 }),
  (44, { prog := prog_44, nparams := 10, ret := 10, fuel := 2, table := table_44 }),
  (45, { prog := prog_45, nparams := 10, ret := 10, fuel := 2, table := table_45 }),
  (46, { prog := prog_46, nparams := 9, ret := 9, fuel := 2, table := table_46 }),
  (47, { prog := prog_47, nparams := 10, ret := 10, fuel := 2, table := table_47 }),
  (48, { prog := prog_48, nparams := 10, ret := 10, fuel := 2, table := table_48 }),
  (49, { prog := prog_49, nparams := 4, ret := 4, fuel := 2, table := table_49 }),
  (50, { prog := prog_50, nparams := 12, ret := 12, fuel := 3, table := table_50 }),
  (51, { prog := prog_51, nparams := 5, ret := 5, fuel := 2, table := table_51 }),
  (52, { prog := prog_52, nparams := 3, ret := 3, fuel := 2, table := table_52 }),
  (53, { prog := prog_53, nparams := 4, ret := 4, fuel := 2, table := table_53 })]

def fns : List (Nat × FnInfo) := fns_0

theorem ok : fns.all (fun p => entryOK Gen.summaries Gen.verdicts p.1 p.2) = true :=
  all_entryOK_of_fast 8 (by decide +kernel)

end Gen.M_fragmentation
