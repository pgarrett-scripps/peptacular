import PeptVerif.Generated.Effects.Core
import PeptVerif.Lemmas.EffectsFast
/-! GENERATED by harness/translate_effects.py - do not edit.  Source module: peptacular.chem.chem_util (7 functions).
`ok` is the kernel check of these functions against the global summary / verdict tables: every table is closed
under its program, the summary the program induces is within the summary table, and the write / sharing sets
read off the table are the claimed verdict.  The kernel evaluates it in the form `entryOKFast`
(Lemmas/EffectsFast.lean); 8 is the stride of its lookups, any stride gives the same value. -/
namespace Gen.M_chem_chem_util
open Effects
set_option maxRecDepth 100000
/-- peptacular.chem.chem_util._parse_condensed_chem_formula -/
def prog_11 : List Stmt := [
  .param 0 0,
  .pack 2 [],
  .alias 3 [2],
  .leaf 4 3,
  .alias 1 [4],
  .shallow 5 [],
  .alias 6 [5],
  .alias 12 [7],
  .elem 13 6,
  .alias 11 [13],
  .alias 12 [12],
  .call 14 403 [some 9],
  .alias 15 [14],
  .alias 8 [15],
  .write 3,
  .elem 16 3,
  .leaf 17 3,
  .alias 1 [17]]

def table_11 : Pts := [
  { top := [.root 0], kids := [.inner 0], deep := [.inner 0] },
  { top := [.loc 2], kids := [], deep := [] },
  { top := [.loc 2], kids := [], deep := [] },
  { top := [.loc 2], kids := [], deep := [] },
  { top := [.loc 2], kids := [], deep := [] },
  { top := [.loc 5], kids := [], deep := [] },
  { top := [.loc 5], kids := [], deep := [] },
  {},
  {},
  {},
  {},
  {},
  {},
  {},
  {},
  {},
  {},
  { top := [.loc 2], kids := [], deep := [] }]

/-- peptacular.chem.chem_util._parse_isotope_component -/
def prog_12 : List Stmt := [
  .param 0 0,
  .pack 2 [],
  .alias 3 [2],
  .leaf 4 3,
  .alias 1 [4],
  .call 5 11 [none],
  .leaf 6 5,
  .alias 1 [6],
  .call 9 403 [none],
  .alias 10 [9],
  .alias 11 [10],
  .write 3,
  .elem 12 3,
  .leaf 13 3,
  .alias 1 [13]]

def table_12 : Pts := [
  { top := [.root 0], kids := [.inner 0], deep := [.inner 0] },
  { top := [.loc 2, .loc 5], kids := [], deep := [] },
  { top := [.loc 2], kids := [], deep := [] },
  { top := [.loc 2], kids := [], deep := [] },
  { top := [.loc 2], kids := [], deep := [] },
  { top := [.loc 5], kids := [], deep := [] },
  { top := [.loc 5], kids := [], deep := [] },
  {},
  {},
  {},
  {},
  {},
  {},
  { top := [.loc 2], kids := [], deep := [] }]

/-- peptacular.chem.chem_util._parse_split_chem_formula -/
def prog_13 : List Stmt := [
  .param 0 0,
  .param 1 1,
  .pack 3 [],
  .alias 4 [3],
  .alias 11 [8],
  .alias 12 [7],
  .call 13 403 [none],
  .alias 9 [13],
  .alias 11 [11],
  .write 4,
  .leaf 14 4,
  .alias 2 [14]]

def table_13 : Pts := [
  { top := [.root 0], kids := [.inner 0], deep := [.inner 0] },
  { top := [.root 1], kids := [.inner 1], deep := [.inner 1] },
  { top := [.loc 3], kids := [], deep := [] },
  { top := [.loc 3], kids := [], deep := [] },
  { top := [.loc 3], kids := [], deep := [] },
  {},
  {},
  {},
  {},
  {},
  {},
  {},
  {},
  {},
  { top := [.loc 3], kids := [], deep := [] }]

/-- peptacular.chem.chem_util._split_chem_formula -/
def prog_14 : List Stmt := [
  .param 0 0,
  .pack 2 [],
  .alias 3 [2],
  .alias 7 [4],
  .write 3,
  .alias 7 [7],
  .leaf 8 3,
  .alias 1 [8]]

def table_14 : Pts := [
  { top := [.root 0], kids := [.inner 0], deep := [.inner 0] },
  { top := [.loc 2], kids := [], deep := [] },
  { top := [.loc 2], kids := [], deep := [] },
  { top := [.loc 2], kids := [], deep := [] },
  {},
  {},
  {},
  {},
  { top := [.loc 2], kids := [], deep := [] }]

/-- peptacular.chem.chem_util.chem_mass -/
def prog_15 : List Stmt := [
  .param 0 0,
  .param 1 1,
  .param 2 2,
  .param 3 3,
  .leaf 5 0,
  .leaf 6 0,
  .call 7 16 [some 6, none],
  .leaf 8 7,
  .alias 9 [8],
  .alias 10 [9, 0],
  .leaf 12 10,
  .shallow 13 [12],
  .alias 16 [11],
  .elem 17 13,
  .global 18 3,
  .alias 16 [16],
  .leaf 19 10,
  .elem 20 18,
  .elem 21 18,
  .global 22 2,
  .elem 23 22,
  .alias 25 [24, 16]]

def table_15 : Pts := [
  { top := [.root 0], kids := [.inner 0], deep := [.inner 0] },
  { top := [.root 1], kids := [.inner 1], deep := [.inner 1] },
  { top := [.root 2], kids := [.inner 2], deep := [.inner 2] },
  { top := [.root 3], kids := [.inner 3], deep := [.inner 3] },
  {},
  { top := [.root 0], kids := [], deep := [] },
  { top := [.root 0], kids := [], deep := [] },
  { top := [.loc 7], kids := [], deep := [] },
  { top := [.loc 7], kids := [], deep := [] },
  { top := [.loc 7], kids := [], deep := [] },
  { top := [.loc 7, .root 0], kids := [.inner 0], deep := [.inner 0] },
  {},
  { top := [.loc 7, .root 0], kids := [], deep := [] },
  { top := [.loc 13], kids := [], deep := [] },
  {},
  {},
  {},
  {},
  { top := [.glob 3], kids := [.glob 3], deep := [.glob 3] },
  { top := [.loc 7, .root 0], kids := [], deep := [] },
  { top := [.glob 3], kids := [.glob 3], deep := [.glob 3] },
  { top := [.glob 3], kids := [.glob 3], deep := [.glob 3] },
  { top := [.glob 2], kids := [.glob 2], deep := [.glob 2] },
  { top := [.glob 2], kids := [.glob 2], deep := [.glob 2] },
  {},
  {}]

/-- peptacular.chem.chem_util.parse_chem_formula -/
def prog_16 : List Stmt := [
  .param 0 0,
  .param 1 1,
  .call 3 13 [none, none],
  .leaf 4 3,
  .alias 2 [4],
  .pack 5 [],
  .alias 6 [5],
  .call 7 14 [none],
  .leaf 8 7,
  .call 10 12 [none],
  .leaf 11 10,
  .store 6 11,
  .call 13 11 [none],
  .leaf 14 13,
  .store 6 14,
  .pack 16 [],
  .alias 17 [16],
  .elem 21 6,
  .alias 18 [21],
  .shallow 22 [18],
  .elem 23 22,
  .elem 24 23,
  .alias 19 [24],
  .elem 25 23,
  .alias 20 [25],
  .elem 26 17,
  .alias 26 [19],
  .write 17,
  .leaf 27 17,
  .alias 2 [27]]

def table_16 : Pts := [
  { top := [.root 0], kids := [.inner 0], deep := [.inner 0] },
  { top := [.root 1], kids := [.inner 1], deep := [.inner 1] },
  { top := [.loc 3, .loc 16], kids := [], deep := [] },
  { top := [.loc 3], kids := [], deep := [] },
  { top := [.loc 3], kids := [], deep := [] },
  { top := [.loc 5], kids := [.loc 10, .loc 13], deep := [] },
  { top := [.loc 5], kids := [.loc 10, .loc 13], deep := [] },
  { top := [.loc 7], kids := [], deep := [] },
  { top := [.loc 7], kids := [], deep := [] },
  {},
  { top := [.loc 10], kids := [], deep := [] },
  { top := [.loc 10], kids := [], deep := [] },
  {},
  { top := [.loc 13], kids := [], deep := [] },
  { top := [.loc 13], kids := [], deep := [] },
  {},
  { top := [.loc 16], kids := [], deep := [] },
  { top := [.loc 16], kids := [], deep := [] },
  { top := [.loc 10, .loc 13], kids := [], deep := [] },
  {},
  {},
  { top := [.loc 10, .loc 13], kids := [], deep := [] },
  { top := [.loc 22], kids := [], deep := [] },
  {},
  {},
  {},
  {},
  { top := [.loc 16], kids := [], deep := [] }]

/-- peptacular.chem.chem_util.write_chem_formula -/
def prog_17 : List Stmt := [
  .param 0 0,
  .param 1 1,
  .param 2 2,
  .param 3 3,
  .leaf 5 0,
  .shallow 6 [5],
  .global 8 8,
  .elem 9 7,
  .elem 10 8,
  .alias 10 [9],
  .shallow 11 [6],
  .shallow 12 [11],
  .alias 13 [12],
  .alias 14 [13, 0],
  .shallow 15 [14],
  .elem 16 15,
  .elem 17 16,
  .alias 18 [17],
  .elem 19 16,
  .alias 20 [19],
  .pack 21 [],
  .alias 22 [21],
  .alias 23 [22, 14],
  .shallow 24 [23],
  .elem 25 24,
  .elem 26 25,
  .alias 27 [26],
  .elem 28 25,
  .alias 29 [28],
  .pack 30 [],
  .leaf 31 30,
  .shallow 33 [23],
  .alias 35 [32],
  .elem 37 33,
  .elem 38 37,
  .alias 34 [38],
  .elem 39 37,
  .alias 36 [39],
  .elem 40 34,
  .alias 35 [35]]

def table_17 : Pts := [
  { top := [.root 0], kids := [.inner 0], deep := [.inner 0] },
  { top := [.root 1], kids := [.inner 1], deep := [.inner 1] },
  { top := [.root 2], kids := [.inner 2], deep := [.inner 2] },
  { top := [.root 3], kids := [.inner 3], deep := [.inner 3] },
  {},
  { top := [.root 0], kids := [], deep := [] },
  { top := [.loc 6], kids := [], deep := [] },
  {},
  { top := [.glob 8], kids := [.glob 8], deep := [.glob 8] },
  {},
  { top := [.glob 8], kids := [.glob 8], deep := [.glob 8] },
  { top := [.loc 11], kids := [], deep := [] },
  { top := [.loc 12], kids := [], deep := [] },
  { top := [.loc 12], kids := [], deep := [] },
  { top := [.loc 12, .root 0], kids := [.inner 0], deep := [.inner 0] },
  { top := [.loc 15], kids := [.inner 0], deep := [.inner 0] },
  { top := [.inner 0], kids := [.inner 0], deep := [.inner 0] },
  { top := [.inner 0], kids := [.inner 0], deep := [.inner 0] },
  { top := [.inner 0], kids := [.inner 0], deep := [.inner 0] },
  { top := [.inner 0], kids := [.inner 0], deep := [.inner 0] },
  { top := [.inner 0], kids := [.inner 0], deep := [.inner 0] },
  { top := [.loc 21], kids := [], deep := [] },
  { top := [.loc 21], kids := [], deep := [] },
  { top := [.loc 21, .loc 12, .root 0], kids := [.inner 0], deep := [.inner 0] },
  { top := [.loc 24], kids := [.inner 0], deep := [.inner 0] },
  { top := [.inner 0], kids := [.inner 0], deep := [.inner 0] },
  { top := [.inner 0], kids := [.inner 0], deep := [.inner 0] },
  { top := [.inner 0], kids := [.inner 0], deep := [.inner 0] },
  { top := [.inner 0], kids := [.inner 0], deep := [.inner 0] },
  { top := [.inner 0], kids := [.inner 0], deep := [.inner 0] },
  { top := [.loc 30], kids := [], deep := [] },
  { top := [.loc 30], kids := [], deep := [] },
  {},
  { top := [.loc 33], kids := [.inner 0], deep := [.inner 0] },
  { top := [.inner 0], kids := [.inner 0], deep := [.inner 0] },
  {},
  { top := [.inner 0], kids := [.inner 0], deep := [.inner 0] },
  { top := [.inner 0], kids := [.inner 0], deep := [.inner 0] },
  { top := [.inner 0], kids := [.inner 0], deep := [.inner 0] },
  { top := [.inner 0], kids := [.inner 0], deep := [.inner 0] },
  { top := [.inner 0], kids := [.inner 0], deep := [.inner 0] }]

def fns_0 : List (Nat × FnInfo) := [
  (11, { prog := prog_11, nparams := 1, ret := 1, fuel := 2, table := table_11 }),
  (12, { prog := prog_12, nparams := 1, ret := 1, fuel := 2, table := table_12 }),
  (13, { prog := prog_13, nparams := 2, ret := 2, fuel := 2, table := table_13 }),
  (14, { prog := prog_14, nparams := 1, ret := 1, fuel := 2, table := table_14 }),
  (15, { prog := prog_15, nparams := 4, ret := 4, fuel := 2, table := table_15 }),
  (16, { prog := prog_16, nparams := 2, ret := 2, fuel := 2, table := table_16 }),
  (17, { prog := prog_17, nparams := 4, ret := 4, fuel := 2, table := table_17 })]

def fns : List (Nat × FnInfo) := fns_0

theorem ok : fns.all (fun p => entryOK Gen.summaries Gen.verdicts p.1 p.2) = true :=
  all_entryOK_of_fast 8 (by decide +kernel)

end Gen.M_chem_chem_util
