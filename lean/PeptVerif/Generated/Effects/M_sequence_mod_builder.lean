import PeptVerif.Generated.Effects.Core
import PeptVerif.Lemmas.EffectsFast
/-! GENERATED by harness/translate_effects.py - do not edit.  Source module: peptacular.sequence.mod_builder (4 functions).
`ok` is the kernel check of these functions against the global summary / verdict tables: every table is closed
under its program, the summary the program induces is within the summary table, and the write / sharing sets
read off the table are the claimed verdict.  The kernel evaluates it in the form `entryOKFast`
(Lemmas/EffectsFast.lean); 8 is the stride of its lookups, any stride gives the same value. -/
namespace Gen.M_sequence_mod_builder
open Effects
set_option maxRecDepth 100000
/-- peptacular.sequence.mod_builder._apply_variable_mods_rec -/
def prog_364 : List Stmt := [
  .param 0 0,
  .param 1 1,
  .param 2 2,
  .param 3 3,
  .param 4 4,
  .call 6 204 [some 1],
  .pack 7 [1],
  .alias 5 [7],
  .call 8 202 [some 1],
  .alias 9 [8],
  .elem 10 0,
  .alias 11 [10],
  .elem 14 11,
  .alias 12 [14],
  .call 15 215 [some 1, none],
  .call 16 202 [some 1],
  .alias 13 [16],
  .call 17 181 [some 13, none, some 12, none],
  .call 18 364 [some 0, some 13, none, none, none],
  .alias 5 [18],
  .call 19 202 [some 1],
  .alias 13 [19],
  .call 20 181 [some 13, none, some 12, none],
  .call 21 364 [some 0, some 13, none, none, none],
  .alias 5 [21],
  .call 22 202 [some 1],
  .alias 13 [22],
  .call 23 181 [some 13, none, some 12, none],
  .call 24 364 [some 0, some 13, none, none, none],
  .alias 5 [24],
  .call 25 364 [some 0, some 9, none, none, none],
  .alias 5 [25]]

def table_364 : Pts := [
  { top := [.root 0], kids := [.inner 0], deep := [.inner 0] },
  { top := [.root 1], kids := [.inner 1], deep := [.inner 1] },
  { top := [.root 2], kids := [.inner 2], deep := [.inner 2] },
  { top := [.root 3], kids := [.inner 3], deep := [.inner 3] },
  { top := [.root 4], kids := [.inner 4], deep := [.inner 4] },
  { top := [.loc 7, .loc 18, .loc 21, .loc 24, .loc 25], kids := [.root 1, .loc 16, .loc 18, .loc 19, .loc 21, .loc 22, .loc 24, .loc 8, .loc 25], deep := [.inner 1, .loc 17, .loc 18, .loc 20, .loc 21, .loc 23, .loc 24, .loc 25] },
  {},
  { top := [.loc 7], kids := [.root 1], deep := [.inner 1] },
  { top := [.loc 8], kids := [], deep := [] },
  { top := [.loc 8], kids := [], deep := [] },
  { top := [.inner 0], kids := [.inner 0], deep := [.inner 0] },
  { top := [.inner 0], kids := [.inner 0], deep := [.inner 0] },
  { top := [.inner 0], kids := [.inner 0], deep := [.inner 0] },
  { top := [.loc 16, .loc 19, .loc 22], kids := [.loc 17, .loc 20, .loc 23], deep := [.loc 17, .loc 20, .loc 23] },
  { top := [.inner 0], kids := [.inner 0], deep := [.inner 0] },
  {},
  { top := [.loc 16], kids := [.loc 17, .loc 20, .loc 23], deep := [.loc 17, .loc 20, .loc 23] },
  {},
  { top := [.loc 18], kids := [.loc 16, .loc 18, .loc 19, .loc 22], deep := [.loc 17, .loc 18, .loc 20, .loc 23] },
  { top := [.loc 19], kids := [.loc 20, .loc 23, .loc 17], deep := [.loc 20, .loc 23, .loc 17] },
  {},
  { top := [.loc 21], kids := [.loc 16, .loc 19, .loc 21, .loc 22], deep := [.loc 17, .loc 20, .loc 21, .loc 23] },
  { top := [.loc 22], kids := [.loc 23, .loc 17, .loc 20], deep := [.loc 23, .loc 17, .loc 20] },
  {},
  { top := [.loc 24], kids := [.loc 16, .loc 19, .loc 22, .loc 24], deep := [.loc 17, .loc 20, .loc 23, .loc 24] },
  { top := [.loc 25], kids := [.loc 8, .loc 25], deep := [.loc 25] }]

/-- peptacular.sequence.mod_builder._variable_mods_builder -/
def prog_365 : List Stmt := [
  .param 0 0,
  .param 1 1,
  .param 2 2,
  .param 3 3,
  .pack 5 [],
  .alias 6 [5],
  .shallow 7 [1],
  .elem 12 7,
  .elem 13 12,
  .asRec 14 13 2,
  .alias 8 [14],
  .call 15 404 [none, none, none],
  .leaf 16 15,
  .asRec 17 8 2,
  .elem 18 17,
  .asRec 19 18 1,
  .alias 9 [19],
  .pack 20 [],
  .store 6 20,
  .elem 21 6,
  .asRec 22 9 1,
  .store 21 22,
  .call 23 204 [some 0],
  .alias 24 [23],
  .call 25 202 [some 0],
  .call 26 364 [some 6, some 25, none, none, none],
  .alias 27 [26],
  .alias 4 [27]]

def table_365 : Pts := [
  { top := [.root 0], kids := [.inner 0], deep := [.inner 0] },
  { top := [.root 1], kids := [.inner 1], deep := [.inner 1] },
  { top := [.root 2], kids := [.inner 2], deep := [.inner 2] },
  { top := [.root 3], kids := [.inner 3], deep := [.inner 3] },
  { top := [.loc 26], kids := [.loc 25, .loc 26], deep := [.loc 26] },
  { top := [.loc 5], kids := [.loc 20], deep := [.inner 1, .recd 1] },
  { top := [.loc 5], kids := [.loc 20], deep := [.inner 1, .recd 1] },
  { top := [.loc 7], kids := [.inner 1], deep := [.inner 1] },
  { top := [.inner 1], kids := [.inner 1], deep := [.recd 1] },
  { top := [.inner 1], kids := [.recd 1], deep := [.recd 1] },
  {},
  {},
  { top := [.inner 1], kids := [.inner 1], deep := [.inner 1] },
  { top := [.inner 1], kids := [.inner 1], deep := [.inner 1] },
  { top := [.inner 1], kids := [.inner 1], deep := [.recd 1] },
  {},
  {},
  { top := [.inner 1], kids := [.inner 1], deep := [.recd 1] },
  { top := [.inner 1], kids := [.recd 1], deep := [.recd 1] },
  { top := [.inner 1], kids := [.recd 1], deep := [.recd 1] },
  { top := [.loc 20], kids := [.inner 1], deep := [.recd 1] },
  { top := [.loc 20], kids := [.inner 1, .recd 1], deep := [.recd 1, .inner 1] },
  { top := [.inner 1], kids := [.recd 1], deep := [.recd 1] },
  {},
  {},
  { top := [.loc 25], kids := [], deep := [] },
  { top := [.loc 26], kids := [.loc 25, .loc 26], deep := [.loc 26] },
  { top := [.loc 26], kids := [.loc 25, .loc 26], deep := [.loc 26] }]

/-- peptacular.sequence.mod_builder.apply_static_mods -/
def prog_366 : List Stmt := [
  .param 0 0,
  .param 1 1,
  .param 2 2,
  .param 3 3,
  .param 4 4,
  .param 5 5,
  .call 7 387 [some 0],
  .alias 8 [7],
  .alias 9 [0],
  .alias 10 [8, 9],
  .shallow 11 [1],
  .elem 12 11,
  .elem 14 12,
  .alias 15 [14],
  .call 16 159 [some 15],
  .asRec 17 16 1,
  .pack 18 [17],
  .alias 19 [18],
  .pack 20 [],
  .alias 21 [20],
  .alias 22 [19, 21],
  .shallow 23 [22],
  .elem 24 23,
  .elem 26 24,
  .alias 27 [26],
  .pack 28 [27],
  .alias 29 [28],
  .shallow 30 [2],
  .elem 31 30,
  .elem 33 31,
  .alias 34 [33],
  .call 35 159 [some 34],
  .asRec 36 35 1,
  .pack 37 [36],
  .pack 38 [],
  .alias 39 [37, 38],
  .alias 40 [39],
  .call 41 159 [some 2],
  .asRec 42 41 1,
  .pack 43 [42],
  .alias 44 [43],
  .pack 45 [],
  .call 46 159 [some 2],
  .asRec 47 46 1,
  .pack 48 [47],
  .alias 49 [48],
  .pack 50 [],
  .alias 51 [50],
  .alias 52 [49, 51],
  .alias 53 [44, 52],
  .alias 54 [40, 53],
  .shallow 55 [54],
  .elem 56 55,
  .elem 58 56,
  .alias 59 [58],
  .pack 60 [59],
  .alias 61 [60],
  .shallow 62 [3],
  .elem 63 62,
  .elem 65 63,
  .alias 66 [65],
  .call 67 159 [some 66],
  .asRec 68 67 1,
  .pack 69 [68],
  .pack 70 [],
  .alias 71 [69, 70],
  .alias 72 [71],
  .call 73 159 [some 3],
  .asRec 74 73 1,
  .pack 75 [74],
  .alias 76 [75],
  .pack 77 [],
  .call 78 159 [some 3],
  .asRec 79 78 1,
  .pack 80 [79],
  .alias 81 [80],
  .pack 82 [],
  .alias 83 [82],
  .alias 84 [81, 83],
  .alias 85 [76, 84],
  .alias 86 [72, 85],
  .shallow 87 [86],
  .elem 88 87,
  .elem 90 88,
  .alias 91 [90],
  .pack 92 [91],
  .alias 93 [92],
  .call 94 202 [some 10],
  .alias 95 [94],
  .shallow 96 [29],
  .elem 100 96,
  .elem 101 100,
  .alias 98 [101],
  .call 102 404 [none, none, none],
  .leaf 103 102,
  .call 104 215 [some 10, none],
  .call 105 181 [some 95, none, some 98, none],
  .call 106 181 [some 95, none, some 98, none],
  .call 107 181 [some 95, none, some 98, none],
  .shallow 108 [61],
  .alias 109 [97],
  .alias 110 [98],
  .alias 111 [99],
  .elem 112 108,
  .elem 113 112,
  .alias 110 [113],
  .call 114 404 [none, none, none],
  .leaf 115 114,
  .call 116 220 [some 10],
  .call 117 187 [some 95, some 110, none],
  .call 118 187 [some 95, some 110, none],
  .call 119 187 [some 95, some 110, none],
  .shallow 120 [93],
  .alias 121 [109],
  .alias 122 [110],
  .alias 123 [111],
  .elem 124 120,
  .elem 125 124,
  .alias 122 [125],
  .call 126 404 [none, none, none],
  .leaf 127 126,
  .call 128 213 [some 10],
  .call 129 180 [some 95, some 122, none],
  .call 130 180 [some 95, some 122, none],
  .call 131 180 [some 95, some 122, none],
  .call 132 254 [some 95, none],
  .alias 6 [132],
  .alias 6 [95]]

def table_366 : Pts := [
  { top := [.root 0], kids := [.inner 0], deep := [.inner 0] },
  { top := [.root 1], kids := [.inner 1], deep := [.inner 1] },
  { top := [.root 2], kids := [.inner 2], deep := [.inner 2] },
  { top := [.root 3], kids := [.inner 3], deep := [.inner 3] },
  { top := [.root 4], kids := [.inner 4], deep := [.inner 4] },
  { top := [.root 5], kids := [.inner 5], deep := [.inner 5] },
  { top := [.loc 94], kids := [.loc 105, .loc 106, .loc 107, .loc 117, .loc 118, .loc 119, .loc 129, .loc 130, .loc 131], deep := [.loc 105, .loc 106, .loc 107, .loc 117, .loc 118, .loc 119, .loc 129, .loc 130, .loc 131] },
  { top := [.loc 7], kids := [.loc 7], deep := [.loc 7] },
  { top := [.loc 7], kids := [.loc 7], deep := [.loc 7] },
  { top := [.root 0], kids := [.inner 0], deep := [.inner 0] },
  { top := [.loc 7, .root 0], kids := [.loc 7, .inner 0], deep := [.loc 7, .inner 0] },
  { top := [.loc 11], kids := [.inner 1], deep := [.inner 1] },
  { top := [.inner 1], kids := [.inner 1], deep := [.inner 1] },
  {},
  { top := [.inner 1], kids := [.inner 1], deep := [.inner 1] },
  { top := [.inner 1], kids := [.inner 1], deep := [.inner 1] },
  { top := [.loc 16], kids := [.recd 1, .loc 16], deep := [.recd 1] },
  { top := [.loc 16], kids := [.recd 1, .loc 16], deep := [.recd 1] },
  { top := [.loc 18], kids := [.loc 16], deep := [.recd 1, .loc 16] },
  { top := [.loc 18], kids := [.loc 16], deep := [.recd 1, .loc 16] },
  { top := [.loc 20], kids := [], deep := [] },
  { top := [.loc 20], kids := [], deep := [] },
  { top := [.loc 18, .loc 20], kids := [.loc 16], deep := [.recd 1, .loc 16] },
  { top := [.loc 23], kids := [.loc 16], deep := [.recd 1, .loc 16] },
  { top := [.loc 16], kids := [.recd 1, .loc 16], deep := [.recd 1, .loc 16] },
  {},
  { top := [.recd 1, .loc 16], kids := [.recd 1, .loc 16], deep := [.recd 1, .loc 16] },
  { top := [.recd 1, .loc 16], kids := [.recd 1, .loc 16], deep := [.recd 1, .loc 16] },
  { top := [.loc 28], kids := [.recd 1, .loc 16], deep := [.recd 1, .loc 16] },
  { top := [.loc 28], kids := [.recd 1, .loc 16], deep := [.recd 1, .loc 16] },
  { top := [.loc 30], kids := [.inner 2], deep := [.inner 2] },
  { top := [.inner 2], kids := [.inner 2], deep := [.inner 2] },
  {},
  { top := [.inner 2], kids := [.inner 2], deep := [.inner 2] },
  { top := [.inner 2], kids := [.inner 2], deep := [.inner 2] },
  { top := [.loc 35], kids := [.recd 2, .loc 35], deep := [.recd 2] },
  { top := [.loc 35], kids := [.recd 2, .loc 35], deep := [.recd 2] },
  { top := [.loc 37], kids := [.loc 35], deep := [.recd 2, .loc 35] },
  { top := [.loc 38], kids := [], deep := [] },
  { top := [.loc 37, .loc 38], kids := [.loc 35], deep := [.recd 2, .loc 35] },
  { top := [.loc 37, .loc 38], kids := [.loc 35], deep := [.recd 2, .loc 35] },
  { top := [.loc 41], kids := [.recTop 2, .loc 41, .recd 2], deep := [.recd 2, .recTop 2] },
  { top := [.loc 41], kids := [.recTop 2, .loc 41, .recd 2], deep := [.recd 2, .recTop 2] },
  { top := [.loc 43], kids := [.loc 41], deep := [.recTop 2, .loc 41, .recd 2] },
  { top := [.loc 43], kids := [.loc 41], deep := [.recTop 2, .loc 41, .recd 2] },
  { top := [.loc 45], kids := [], deep := [] },
  { top := [.loc 46], kids := [.recTop 2, .loc 46, .recd 2], deep := [.recd 2, .recTop 2] },
  { top := [.loc 46], kids := [.recTop 2, .loc 46, .recd 2], deep := [.recd 2, .recTop 2] },
  { top := [.loc 48], kids := [.loc 46], deep := [.recTop 2, .loc 46, .recd 2] },
  { top := [.loc 48], kids := [.loc 46], deep := [.recTop 2, .loc 46, .recd 2] },
  { top := [.loc 50], kids := [], deep := [] },
  { top := [.loc 50], kids := [], deep := [] },
  { top := [.loc 48, .loc 50], kids := [.loc 46], deep := [.recTop 2, .loc 46, .recd 2] },
  { top := [.loc 43, .loc 48, .loc 50], kids := [.loc 41, .loc 46], deep := [.recTop 2, .loc 41, .recd 2, .loc 46] },
  { top := [.loc 37, .loc 38, .loc 43, .loc 48, .loc 50], kids := [.loc 35, .loc 41, .loc 46], deep := [.recd 2, .loc 35, .recTop 2, .loc 41, .loc 46] },
  { top := [.loc 55], kids := [.loc 35, .loc 41, .loc 46], deep := [.recd 2, .loc 35, .recTop 2, .loc 41, .loc 46] },
  { top := [.loc 35, .loc 41, .loc 46], kids := [.recd 2, .loc 35, .recTop 2, .loc 41, .loc 46], deep := [.recd 2, .loc 35, .recTop 2, .loc 41, .loc 46] },
  {},
  { top := [.recd 2, .loc 35, .recTop 2, .loc 41, .loc 46], kids := [.recd 2, .loc 35, .recTop 2, .loc 41, .loc 46], deep := [.recd 2, .loc 35, .recTop 2, .loc 41, .loc 46] },
  { top := [.recd 2, .loc 35, .recTop 2, .loc 41, .loc 46], kids := [.recd 2, .loc 35, .recTop 2, .loc 41, .loc 46], deep := [.recd 2, .loc 35, .recTop 2, .loc 41, .loc 46] },
  { top := [.loc 60], kids := [.recd 2, .loc 35, .recTop 2, .loc 41, .loc 46], deep := [.recd 2, .loc 35, .recTop 2, .loc 41, .loc 46] },
  { top := [.loc 60], kids := [.recd 2, .loc 35, .recTop 2, .loc 41, .loc 46], deep := [.recd 2, .loc 35, .recTop 2, .loc 41, .loc 46] },
  { top := [.loc 62], kids := [.inner 3], deep := [.inner 3] },
  { top := [.inner 3], kids := [.inner 3], deep := [.inner 3] },
  {},
  { top := [.inner 3], kids := [.inner 3], deep := [.inner 3] },
  { top := [.inner 3], kids := [.inner 3], deep := [.inner 3] },
  { top := [.loc 67], kids := [.recd 3, .loc 67], deep := [.recd 3] },
  { top := [.loc 67], kids := [.recd 3, .loc 67], deep := [.recd 3] },
  { top := [.loc 69], kids := [.loc 67], deep := [.recd 3, .loc 67] },
  { top := [.loc 70], kids := [], deep := [] },
  { top := [.loc 69, .loc 70], kids := [.loc 67], deep := [.recd 3, .loc 67] },
  { top := [.loc 69, .loc 70], kids := [.loc 67], deep := [.recd 3, .loc 67] },
  { top := [.loc 73], kids := [.recTop 3, .loc 73, .recd 3], deep := [.recd 3, .recTop 3] },
  { top := [.loc 73], kids := [.recTop 3, .loc 73, .recd 3], deep := [.recd 3, .recTop 3] },
  { top := [.loc 75], kids := [.loc 73], deep := [.recTop 3, .loc 73, .recd 3] },
  { top := [.loc 75], kids := [.loc 73], deep := [.recTop 3, .loc 73, .recd 3] },
  { top := [.loc 77], kids := [], deep := [] },
  { top := [.loc 78], kids := [.recTop 3, .loc 78, .recd 3], deep := [.recd 3, .recTop 3] },
  { top := [.loc 78], kids := [.recTop 3, .loc 78, .recd 3], deep := [.recd 3, .recTop 3] },
  { top := [.loc 80], kids := [.loc 78], deep := [.recTop 3, .loc 78, .recd 3] },
  { top := [.loc 80], kids := [.loc 78], deep := [.recTop 3, .loc 78, .recd 3] },
  { top := [.loc 82], kids := [], deep := [] },
  { top := [.loc 82], kids := [], deep := [] },
  { top := [.loc 80, .loc 82], kids := [.loc 78], deep := [.recTop 3, .loc 78, .recd 3] },
  { top := [.loc 75, .loc 80, .loc 82], kids := [.loc 73, .loc 78], deep := [.recTop 3, .loc 73, .recd 3, .loc 78] },
  { top := [.loc 69, .loc 70, .loc 75, .loc 80, .loc 82], kids := [.loc 67, .loc 73, .loc 78], deep := [.recd 3, .loc 67, .recTop 3, .loc 73, .loc 78] },
  { top := [.loc 87], kids := [.loc 67, .loc 73, .loc 78], deep := [.recd 3, .loc 67, .recTop 3, .loc 73, .loc 78] },
  { top := [.loc 67, .loc 73, .loc 78], kids := [.recd 3, .loc 67, .recTop 3, .loc 73, .loc 78], deep := [.recd 3, .loc 67, .recTop 3, .loc 73, .loc 78] },
  {},
  { top := [.recd 3, .loc 67, .recTop 3, .loc 73, .loc 78], kids := [.recd 3, .loc 67, .recTop 3, .loc 73, .loc 78], deep := [.recd 3, .loc 67, .recTop 3, .loc 73, .loc 78] },
  { top := [.recd 3, .loc 67, .recTop 3, .loc 73, .loc 78], kids := [.recd 3, .loc 67, .recTop 3, .loc 73, .loc 78], deep := [.recd 3, .loc 67, .recTop 3, .loc 73, .loc 78] },
  { top := [.loc 92], kids := [.recd 3, .loc 67, .recTop 3, .loc 73, .loc 78], deep := [.recd 3, .loc 67, .recTop 3, .loc 73, .loc 78] },
  { top := [.loc 92], kids := [.recd 3, .loc 67, .recTop 3, .loc 73, .loc 78], deep := [.recd 3, .loc 67, .recTop 3, .loc 73, .loc 78] },
  { top := [.loc 94], kids := [.loc 105, .loc 106, .loc 107, .loc 117, .loc 118, .loc 119, .loc 129, .loc 130, .loc 131], deep := [.loc 105, .loc 106, .loc 107, .loc 117, .loc 118, .loc 119, .loc 129, .loc 130, .loc 131] },
  { top := [.loc 94], kids := [.loc 105, .loc 106, .loc 107, .loc 117, .loc 118, .loc 119, .loc 129, .loc 130, .loc 131], deep := [.loc 105, .loc 106, .loc 107, .loc 117, .loc 118, .loc 119, .loc 129, .loc 130, .loc 131] },
  { top := [.loc 96], kids := [.recd 1, .loc 16], deep := [.recd 1, .loc 16] },
  {},
  { top := [.recd 1, .loc 16], kids := [.recd 1, .loc 16], deep := [.recd 1, .loc 16] },
  {},
  { top := [.recd 1, .loc 16], kids := [.recd 1, .loc 16], deep := [.recd 1, .loc 16] },
  { top := [.recd 1, .loc 16], kids := [.recd 1, .loc 16], deep := [.recd 1, .loc 16] },
  {},
  {},
  {},
  {},
  {},
  {},
  { top := [.loc 108], kids := [.recd 2, .loc 35, .recTop 2, .loc 41, .loc 46], deep := [.recd 2, .loc 35, .recTop 2, .loc 41, .loc 46] },
  {},
  { top := [.recd 1, .loc 16, .recd 2, .loc 35, .recTop 2, .loc 41, .loc 46], kids := [.recd 1, .loc 16, .recd 2, .loc 35, .recTop 2, .loc 41, .loc 46], deep := [.recd 1, .loc 16, .recd 2, .loc 35, .recTop 2, .loc 41, .loc 46] },
  {},
  { top := [.recd 2, .loc 35, .recTop 2, .loc 41, .loc 46], kids := [.recd 2, .loc 35, .recTop 2, .loc 41, .loc 46], deep := [.recd 2, .loc 35, .recTop 2, .loc 41, .loc 46] },
  { top := [.recd 2, .loc 35, .recTop 2, .loc 41, .loc 46], kids := [.recd 2, .loc 35, .recTop 2, .loc 41, .loc 46], deep := [.recd 2, .loc 35, .recTop 2, .loc 41, .loc 46] },
  {},
  {},
  {},
  {},
  {},
  {},
  { top := [.loc 120], kids := [.recd 3, .loc 67, .recTop 3, .loc 73, .loc 78], deep := [.recd 3, .loc 67, .recTop 3, .loc 73, .loc 78] },
  {},
  { top := [.recd 1, .loc 16, .recd 2, .loc 35, .recTop 2, .loc 41, .loc 46, .recd 3, .loc 67, .recTop 3, .loc 73, .loc 78], kids := [.recd 1, .loc 16, .recd 2, .loc 35, .recTop 2, .loc 41, .loc 46, .recd 3, .loc 67, .recTop 3, .loc 73, .loc 78], deep := [.recd 1, .loc 16, .recd 2, .loc 35, .recTop 2, .loc 41, .loc 46, .recd 3, .loc 67, .recTop 3, .loc 73, .loc 78] },
  {},
  { top := [.recd 3, .loc 67, .recTop 3, .loc 73, .loc 78], kids := [.recd 3, .loc 67, .recTop 3, .loc 73, .loc 78], deep := [.recd 3, .loc 67, .recTop 3, .loc 73, .loc 78] },
  { top := [.recd 3, .loc 67, .recTop 3, .loc 73, .loc 78], kids := [.recd 3, .loc 67, .recTop 3, .loc 73, .loc 78], deep := [.recd 3, .loc 67, .recTop 3, .loc 73, .loc 78] },
  {},
  {},
  {},
  {},
  {},
  {},
  {}]

/-- peptacular.sequence.mod_builder.apply_variable_mods -/
def prog_367 : List Stmt := [
  .param 0 0,
  .param 1 1,
  .param 2 2,
  .param 3 3,
  .param 4 4,
  .param 5 5,
  .param 6 6,
  .call 8 387 [some 0],
  .alias 9 [8],
  .alias 10 [0],
  .alias 11 [9, 10],
  .shallow 12 [1],
  .elem 13 12,
  .elem 15 13,
  .alias 16 [15],
  .call 17 158 [some 16],
  .asRec 18 17 2,
  .pack 19 [18],
  .alias 20 [19],
  .pack 21 [],
  .alias 22 [21],
  .alias 23 [20, 22],
  .shallow 24 [23],
  .elem 25 24,
  .elem 27 25,
  .alias 28 [27],
  .call 29 160 [some 28],
  .asRec 30 29 2,
  .pack 31 [30],
  .alias 32 [31],
  .shallow 33 [32],
  .elem 34 33,
  .elem 36 34,
  .alias 37 [36],
  .pack 38 [37],
  .alias 39 [38],
  .shallow 40 [3],
  .elem 41 40,
  .elem 43 41,
  .alias 44 [43],
  .call 45 158 [some 44],
  .asRec 46 45 2,
  .pack 47 [46],
  .pack 48 [],
  .alias 49 [47, 48],
  .alias 50 [49],
  .call 51 158 [some 3],
  .asRec 52 51 2,
  .pack 53 [52],
  .alias 54 [53],
  .pack 55 [],
  .call 56 158 [some 3],
  .asRec 57 56 2,
  .pack 58 [57],
  .alias 59 [58],
  .pack 60 [],
  .alias 61 [60],
  .alias 62 [59, 61],
  .alias 63 [54, 62],
  .alias 64 [50, 63],
  .shallow 65 [64],
  .elem 66 65,
  .elem 68 66,
  .alias 69 [68],
  .call 70 160 [some 69],
  .asRec 71 70 2,
  .pack 72 [71],
  .alias 73 [72],
  .shallow 74 [73],
  .elem 75 74,
  .elem 77 75,
  .alias 78 [77],
  .pack 79 [78],
  .alias 80 [79],
  .shallow 81 [4],
  .elem 82 81,
  .elem 84 82,
  .alias 85 [84],
  .call 86 158 [some 85],
  .asRec 87 86 2,
  .pack 88 [87],
  .pack 89 [],
  .alias 90 [88, 89],
  .alias 91 [90],
  .call 92 158 [some 4],
  .asRec 93 92 2,
  .pack 94 [93],
  .alias 95 [94],
  .pack 96 [],
  .call 97 158 [some 4],
  .asRec 98 97 2,
  .pack 99 [98],
  .alias 100 [99],
  .pack 101 [],
  .alias 102 [101],
  .alias 103 [100, 102],
  .alias 104 [95, 103],
  .alias 105 [91, 104],
  .shallow 106 [105],
  .elem 107 106,
  .elem 109 107,
  .alias 110 [109],
  .call 111 160 [some 110],
  .asRec 112 111 2,
  .pack 113 [112],
  .alias 114 [113],
  .shallow 115 [114],
  .elem 116 115,
  .elem 118 116,
  .alias 119 [118],
  .pack 120 [119],
  .alias 121 [120],
  .pack 122 [],
  .alias 123 [122],
  .pack 124 [],
  .alias 125 [124],
  .shallow 126 [80],
  .elem 131 126,
  .elem 132 131,
  .alias 128 [132],
  .elem 133 128,
  .alias 127 [133],
  .pack 134 [],
  .pack 135 [127],
  .call 136 366 [some 11, some 134, some 135, none, none, none],
  .alias 129 [136],
  .store 125 129,
  .call 137 365 [some 129, some 39, none, none],
  .store 123 137,
  .pack 138 [],
  .alias 139 [138],
  .shallow 140 [121],
  .alias 142 [127],
  .alias 143 [128],
  .alias 145 [130],
  .elem 146 140,
  .elem 147 146,
  .alias 143 [147],
  .elem 148 143,
  .alias 142 [148],
  .elem 149 125,
  .alias 144 [149],
  .pack 150 [],
  .pack 151 [142],
  .call 152 366 [some 144, some 150, none, some 151, none, none],
  .alias 141 [152],
  .call 153 365 [some 141, some 39, none, none],
  .store 139 153,
  .pack 154 [],
  .pack 155 [142],
  .call 156 366 [some 11, some 154, none, some 155, none, none],
  .alias 141 [156],
  .call 157 365 [some 141, some 39, none, none],
  .store 139 157,
  .alias 158 [142, 127],
  .alias 159 [143, 128],
  .alias 160 [145, 130],
  .call 161 365 [some 11, some 39, none, none],
  .store 139 161,
  .shallow 162 [123, 139],
  .alias 163 [162],
  .elem 164 163,
  .alias 165 [164],
  .call 166 171 [some 165, none, none],
  .call 166 254 [some 165, none],
  .call 166 174 [some 165, none],
  .pack 167 [166],
  .leaf 168 167,
  .alias 7 [168],
  .alias 7 [163]]

def table_367 : Pts := [
  { top := [.root 0], kids := [.inner 0], deep := [.inner 0] },
  { top := [.root 1], kids := [.inner 1], deep := [.inner 1] },
  { top := [.root 2], kids := [.inner 2], deep := [.inner 2] },
  { top := [.root 3], kids := [.inner 3], deep := [.inner 3] },
  { top := [.root 4], kids := [.inner 4], deep := [.inner 4] },
  { top := [.root 5], kids := [.inner 5], deep := [.inner 5] },
  { top := [.root 6], kids := [.inner 6], deep := [.inner 6] },
  { top := [.loc 167, .loc 162], kids := [.loc 137, .loc 153, .loc 157, .loc 161], deep := [.loc 137, .loc 153, .loc 157, .loc 161] },
  { top := [.loc 8], kids := [.loc 8], deep := [.loc 8] },
  { top := [.loc 8], kids := [.loc 8], deep := [.loc 8] },
  { top := [.root 0], kids := [.inner 0], deep := [.inner 0] },
  { top := [.loc 8, .root 0], kids := [.loc 8, .inner 0], deep := [.loc 8, .inner 0] },
  { top := [.loc 12], kids := [.inner 1], deep := [.inner 1] },
  { top := [.inner 1], kids := [.inner 1], deep := [.inner 1] },
  {},
  { top := [.inner 1], kids := [.inner 1], deep := [.inner 1] },
  { top := [.inner 1], kids := [.inner 1], deep := [.inner 1] },
  { top := [.loc 17], kids := [.loc 17], deep := [.recd 1, .loc 17] },
  { top := [.loc 17], kids := [.loc 17], deep := [.recd 1, .loc 17] },
  { top := [.loc 19], kids := [.loc 17], deep := [.loc 17, .recd 1] },
  { top := [.loc 19], kids := [.loc 17], deep := [.loc 17, .recd 1] },
  { top := [.loc 21], kids := [], deep := [] },
  { top := [.loc 21], kids := [], deep := [] },
  { top := [.loc 19, .loc 21], kids := [.loc 17], deep := [.loc 17, .recd 1] },
  { top := [.loc 24], kids := [.loc 17], deep := [.loc 17, .recd 1] },
  { top := [.loc 17], kids := [.loc 17, .recd 1], deep := [.loc 17, .recd 1] },
  {},
  { top := [.loc 17, .recd 1], kids := [.loc 17, .recd 1], deep := [.loc 17, .recd 1] },
  { top := [.loc 17, .recd 1], kids := [.loc 17, .recd 1], deep := [.loc 17, .recd 1] },
  { top := [.loc 29], kids := [.loc 29], deep := [.loc 17, .recd 1] },
  { top := [.loc 29], kids := [.loc 29], deep := [.loc 17, .recd 1] },
  { top := [.loc 31], kids := [.loc 29], deep := [.loc 29, .loc 17, .recd 1] },
  { top := [.loc 31], kids := [.loc 29], deep := [.loc 29, .loc 17, .recd 1] },
  { top := [.loc 33], kids := [.loc 29], deep := [.loc 29, .loc 17, .recd 1] },
  { top := [.loc 29], kids := [.loc 29, .loc 17, .recd 1], deep := [.loc 29, .loc 17, .recd 1] },
  {},
  { top := [.loc 29, .loc 17, .recd 1], kids := [.loc 29, .loc 17, .recd 1], deep := [.loc 29, .loc 17, .recd 1] },
  { top := [.loc 29, .loc 17, .recd 1], kids := [.loc 29, .loc 17, .recd 1], deep := [.loc 29, .loc 17, .recd 1] },
  { top := [.loc 38], kids := [.loc 29, .loc 17, .recd 1], deep := [.loc 29, .loc 17, .recd 1] },
  { top := [.loc 38], kids := [.loc 29, .loc 17, .recd 1], deep := [.loc 29, .loc 17, .recd 1] },
  { top := [.loc 40], kids := [.inner 3], deep := [.inner 3] },
  { top := [.inner 3], kids := [.inner 3], deep := [.inner 3] },
  {},
  { top := [.inner 3], kids := [.inner 3], deep := [.inner 3] },
  { top := [.inner 3], kids := [.inner 3], deep := [.inner 3] },
  { top := [.loc 45], kids := [.loc 45], deep := [.recd 3, .loc 45] },
  { top := [.loc 45], kids := [.loc 45], deep := [.recd 3, .loc 45] },
  { top := [.loc 47], kids := [.loc 45], deep := [.loc 45, .recd 3] },
  { top := [.loc 48], kids := [], deep := [] },
  { top := [.loc 47, .loc 48], kids := [.loc 45], deep := [.loc 45, .recd 3] },
  { top := [.loc 47, .loc 48], kids := [.loc 45], deep := [.loc 45, .recd 3] },
  { top := [.loc 51], kids := [.loc 51], deep := [.recTop 3, .loc 51, .recd 3] },
  { top := [.loc 51], kids := [.loc 51], deep := [.recTop 3, .loc 51, .recd 3] },
  { top := [.loc 53], kids := [.loc 51], deep := [.loc 51, .recTop 3, .recd 3] },
  { top := [.loc 53], kids := [.loc 51], deep := [.loc 51, .recTop 3, .recd 3] },
  { top := [.loc 55], kids := [], deep := [] },
  { top := [.loc 56], kids := [.loc 56], deep := [.recTop 3, .loc 56, .recd 3] },
  { top := [.loc 56], kids := [.loc 56], deep := [.recTop 3, .loc 56, .recd 3] },
  { top := [.loc 58], kids := [.loc 56], deep := [.loc 56, .recTop 3, .recd 3] },
  { top := [.loc 58], kids := [.loc 56], deep := [.loc 56, .recTop 3, .recd 3] },
  { top := [.loc 60], kids := [], deep := [] },
  { top := [.loc 60], kids := [], deep := [] },
  { top := [.loc 58, .loc 60], kids := [.loc 56], deep := [.loc 56, .recTop 3, .recd 3] },
  { top := [.loc 53, .loc 58, .loc 60], kids := [.loc 51, .loc 56], deep := [.loc 51, .recTop 3, .recd 3, .loc 56] },
  { top := [.loc 47, .loc 48, .loc 53, .loc 58, .loc 60], kids := [.loc 45, .loc 51, .loc 56], deep := [.loc 45, .recd 3, .loc 51, .recTop 3, .loc 56] },
  { top := [.loc 65], kids := [.loc 45, .loc 51, .loc 56], deep := [.loc 45, .recd 3, .loc 51, .recTop 3, .loc 56] },
  { top := [.loc 45, .loc 51, .loc 56], kids := [.loc 45, .recd 3, .loc 51, .recTop 3, .loc 56], deep := [.loc 45, .recd 3, .loc 51, .recTop 3, .loc 56] },
  {},
  { top := [.loc 45, .recd 3, .loc 51, .recTop 3, .loc 56], kids := [.loc 45, .recd 3, .loc 51, .recTop 3, .loc 56], deep := [.loc 45, .recd 3, .loc 51, .recTop 3, .loc 56] },
  { top := [.loc 45, .recd 3, .loc 51, .recTop 3, .loc 56], kids := [.loc 45, .recd 3, .loc 51, .recTop 3, .loc 56], deep := [.loc 45, .recd 3, .loc 51, .recTop 3, .loc 56] },
  { top := [.loc 70], kids := [.loc 70], deep := [.loc 45, .recd 3, .loc 51, .recTop 3, .loc 56] },
  { top := [.loc 70], kids := [.loc 70], deep := [.loc 45, .recd 3, .loc 51, .recTop 3, .loc 56] },
  { top := [.loc 72], kids := [.loc 70], deep := [.loc 70, .loc 45, .recd 3, .loc 51, .recTop 3, .loc 56] },
  { top := [.loc 72], kids := [.loc 70], deep := [.loc 70, .loc 45, .recd 3, .loc 51, .recTop 3, .loc 56] },
  { top := [.loc 74], kids := [.loc 70], deep := [.loc 70, .loc 45, .recd 3, .loc 51, .recTop 3, .loc 56] },
  { top := [.loc 70], kids := [.loc 70, .loc 45, .recd 3, .loc 51, .recTop 3, .loc 56], deep := [.loc 70, .loc 45, .recd 3, .loc 51, .recTop 3, .loc 56] },
  {},
  { top := [.loc 70, .loc 45, .recd 3, .loc 51, .recTop 3, .loc 56], kids := [.loc 70, .loc 45, .recd 3, .loc 51, .recTop 3, .loc 56], deep := [.loc 70, .loc 45, .recd 3, .loc 51, .recTop 3, .loc 56] },
  { top := [.loc 70, .loc 45, .recd 3, .loc 51, .recTop 3, .loc 56], kids := [.loc 70, .loc 45, .recd 3, .loc 51, .recTop 3, .loc 56], deep := [.loc 70, .loc 45, .recd 3, .loc 51, .recTop 3, .loc 56] },
  { top := [.loc 79], kids := [.loc 70, .loc 45, .recd 3, .loc 51, .recTop 3, .loc 56], deep := [.loc 70, .loc 45, .recd 3, .loc 51, .recTop 3, .loc 56] },
  { top := [.loc 79], kids := [.loc 70, .loc 45, .recd 3, .loc 51, .recTop 3, .loc 56], deep := [.loc 70, .loc 45, .recd 3, .loc 51, .recTop 3, .loc 56] },
  { top := [.loc 81], kids := [.inner 4], deep := [.inner 4] },
  { top := [.inner 4], kids := [.inner 4], deep := [.inner 4] },
  {},
  { top := [.inner 4], kids := [.inner 4], deep := [.inner 4] },
  { top := [.inner 4], kids := [.inner 4], deep := [.inner 4] },
  { top := [.loc 86], kids := [.loc 86], deep := [.recd 4, .loc 86] },
  { top := [.loc 86], kids := [.loc 86], deep := [.recd 4, .loc 86] },
  { top := [.loc 88], kids := [.loc 86], deep := [.loc 86, .recd 4] },
  { top := [.loc 89], kids := [], deep := [] },
  { top := [.loc 88, .loc 89], kids := [.loc 86], deep := [.loc 86, .recd 4] },
  { top := [.loc 88, .loc 89], kids := [.loc 86], deep := [.loc 86, .recd 4] },
  { top := [.loc 92], kids := [.loc 92], deep := [.recTop 4, .loc 92, .recd 4] },
  { top := [.loc 92], kids := [.loc 92], deep := [.recTop 4, .loc 92, .recd 4] },
  { top := [.loc 94], kids := [.loc 92], deep := [.loc 92, .recTop 4, .recd 4] },
  { top := [.loc 94], kids := [.loc 92], deep := [.loc 92, .recTop 4, .recd 4] },
  { top := [.loc 96], kids := [], deep := [] },
  { top := [.loc 97], kids := [.loc 97], deep := [.recTop 4, .loc 97, .recd 4] },
  { top := [.loc 97], kids := [.loc 97], deep := [.recTop 4, .loc 97, .recd 4] },
  { top := [.loc 99], kids := [.loc 97], deep := [.loc 97, .recTop 4, .recd 4] },
  { top := [.loc 99], kids := [.loc 97], deep := [.loc 97, .recTop 4, .recd 4] },
  { top := [.loc 101], kids := [], deep := [] },
  { top := [.loc 101], kids := [], deep := [] },
  { top := [.loc 99, .loc 101], kids := [.loc 97], deep := [.loc 97, .recTop 4, .recd 4] },
  { top := [.loc 94, .loc 99, .loc 101], kids := [.loc 92, .loc 97], deep := [.loc 92, .recTop 4, .recd 4, .loc 97] },
  { top := [.loc 88, .loc 89, .loc 94, .loc 99, .loc 101], kids := [.loc 86, .loc 92, .loc 97], deep := [.loc 86, .recd 4, .loc 92, .recTop 4, .loc 97] },
  { top := [.loc 106], kids := [.loc 86, .loc 92, .loc 97], deep := [.loc 86, .recd 4, .loc 92, .recTop 4, .loc 97] },
  { top := [.loc 86, .loc 92, .loc 97], kids := [.loc 86, .recd 4, .loc 92, .recTop 4, .loc 97], deep := [.loc 86, .recd 4, .loc 92, .recTop 4, .loc 97] },
  {},
  { top := [.loc 86, .recd 4, .loc 92, .recTop 4, .loc 97], kids := [.loc 86, .recd 4, .loc 92, .recTop 4, .loc 97], deep := [.loc 86, .recd 4, .loc 92, .recTop 4, .loc 97] },
  { top := [.loc 86, .recd 4, .loc 92, .recTop 4, .loc 97], kids := [.loc 86, .recd 4, .loc 92, .recTop 4, .loc 97], deep := [.loc 86, .recd 4, .loc 92, .recTop 4, .loc 97] },
  { top := [.loc 111], kids := [.loc 111], deep := [.loc 86, .recd 4, .loc 92, .recTop 4, .loc 97] },
  { top := [.loc 111], kids := [.loc 111], deep := [.loc 86, .recd 4, .loc 92, .recTop 4, .loc 97] },
  { top := [.loc 113], kids := [.loc 111], deep := [.loc 111, .loc 86, .recd 4, .loc 92, .recTop 4, .loc 97] },
  { top := [.loc 113], kids := [.loc 111], deep := [.loc 111, .loc 86, .recd 4, .loc 92, .recTop 4, .loc 97] },
  { top := [.loc 115], kids := [.loc 111], deep := [.loc 111, .loc 86, .recd 4, .loc 92, .recTop 4, .loc 97] },
  { top := [.loc 111], kids := [.loc 111, .loc 86, .recd 4, .loc 92, .recTop 4, .loc 97], deep := [.loc 111, .loc 86, .recd 4, .loc 92, .recTop 4, .loc 97] },
  {},
  { top := [.loc 111, .loc 86, .recd 4, .loc 92, .recTop 4, .loc 97], kids := [.loc 111, .loc 86, .recd 4, .loc 92, .recTop 4, .loc 97], deep := [.loc 111, .loc 86, .recd 4, .loc 92, .recTop 4, .loc 97] },
  { top := [.loc 111, .loc 86, .recd 4, .loc 92, .recTop 4, .loc 97], kids := [.loc 111, .loc 86, .recd 4, .loc 92, .recTop 4, .loc 97], deep := [.loc 111, .loc 86, .recd 4, .loc 92, .recTop 4, .loc 97] },
  { top := [.loc 120], kids := [.loc 111, .loc 86, .recd 4, .loc 92, .recTop 4, .loc 97], deep := [.loc 111, .loc 86, .recd 4, .loc 92, .recTop 4, .loc 97] },
  { top := [.loc 120], kids := [.loc 111, .loc 86, .recd 4, .loc 92, .recTop 4, .loc 97], deep := [.loc 111, .loc 86, .recd 4, .loc 92, .recTop 4, .loc 97] },
  { top := [.loc 122], kids := [.loc 137], deep := [.loc 137] },
  { top := [.loc 122], kids := [.loc 137], deep := [.loc 137] },
  { top := [.loc 124], kids := [.loc 136], deep := [.loc 136] },
  { top := [.loc 124], kids := [.loc 136], deep := [.loc 136] },
  { top := [.loc 126], kids := [.loc 70, .loc 45, .recd 3, .loc 51, .recTop 3, .loc 56], deep := [.loc 70, .loc 45, .recd 3, .loc 51, .recTop 3, .loc 56] },
  { top := [.loc 70, .loc 45, .recd 3, .loc 51, .recTop 3, .loc 56], kids := [.loc 70, .loc 45, .recd 3, .loc 51, .recTop 3, .loc 56], deep := [.loc 70, .loc 45, .recd 3, .loc 51, .recTop 3, .loc 56] },
  { top := [.loc 70, .loc 45, .recd 3, .loc 51, .recTop 3, .loc 56], kids := [.loc 70, .loc 45, .recd 3, .loc 51, .recTop 3, .loc 56], deep := [.loc 70, .loc 45, .recd 3, .loc 51, .recTop 3, .loc 56] },
  { top := [.loc 136], kids := [.loc 136], deep := [.loc 136] },
  {},
  { top := [.loc 70, .loc 45, .recd 3, .loc 51, .recTop 3, .loc 56], kids := [.loc 70, .loc 45, .recd 3, .loc 51, .recTop 3, .loc 56], deep := [.loc 70, .loc 45, .recd 3, .loc 51, .recTop 3, .loc 56] },
  { top := [.loc 70, .loc 45, .recd 3, .loc 51, .recTop 3, .loc 56], kids := [.loc 70, .loc 45, .recd 3, .loc 51, .recTop 3, .loc 56], deep := [.loc 70, .loc 45, .recd 3, .loc 51, .recTop 3, .loc 56] },
  { top := [.loc 70, .loc 45, .recd 3, .loc 51, .recTop 3, .loc 56], kids := [.loc 70, .loc 45, .recd 3, .loc 51, .recTop 3, .loc 56], deep := [.loc 70, .loc 45, .recd 3, .loc 51, .recTop 3, .loc 56] },
  { top := [.loc 134], kids := [], deep := [] },
  { top := [.loc 135], kids := [.loc 70, .loc 45, .recd 3, .loc 51, .recTop 3, .loc 56], deep := [.loc 70, .loc 45, .recd 3, .loc 51, .recTop 3, .loc 56] },
  { top := [.loc 136], kids := [.loc 136], deep := [.loc 136] },
  { top := [.loc 137], kids := [.loc 137], deep := [.loc 137] },
  { top := [.loc 138], kids := [.loc 153, .loc 157, .loc 161], deep := [.loc 153, .loc 157, .loc 161] },
  { top := [.loc 138], kids := [.loc 153, .loc 157, .loc 161], deep := [.loc 153, .loc 157, .loc 161] },
  { top := [.loc 140], kids := [.loc 111, .loc 86, .recd 4, .loc 92, .recTop 4, .loc 97], deep := [.loc 111, .loc 86, .recd 4, .loc 92, .recTop 4, .loc 97] },
  { top := [.loc 152, .loc 156], kids := [.loc 152, .loc 156], deep := [.loc 152, .loc 156] },
  { top := [.loc 70, .loc 45, .recd 3, .loc 51, .recTop 3, .loc 56, .loc 111, .loc 86, .recd 4, .loc 92, .recTop 4, .loc 97], kids := [.loc 70, .loc 45, .recd 3, .loc 51, .recTop 3, .loc 56, .loc 111, .loc 86, .recd 4, .loc 92, .recTop 4, .loc 97], deep := [.loc 70, .loc 45, .recd 3, .loc 51, .recTop 3, .loc 56, .loc 111, .loc 86, .recd 4, .loc 92, .recTop 4, .loc 97] },
  { top := [.loc 70, .loc 45, .recd 3, .loc 51, .recTop 3, .loc 56, .loc 111, .loc 86, .recd 4, .loc 92, .recTop 4, .loc 97], kids := [.loc 70, .loc 45, .recd 3, .loc 51, .recTop 3, .loc 56, .loc 111, .loc 86, .recd 4, .loc 92, .recTop 4, .loc 97], deep := [.loc 70, .loc 45, .recd 3, .loc 51, .recTop 3, .loc 56, .loc 111, .loc 86, .recd 4, .loc 92, .recTop 4, .loc 97] },
  { top := [.loc 136], kids := [.loc 136], deep := [.loc 136] },
  {},
  { top := [.loc 111, .loc 86, .recd 4, .loc 92, .recTop 4, .loc 97], kids := [.loc 111, .loc 86, .recd 4, .loc 92, .recTop 4, .loc 97], deep := [.loc 111, .loc 86, .recd 4, .loc 92, .recTop 4, .loc 97] },
  { top := [.loc 111, .loc 86, .recd 4, .loc 92, .recTop 4, .loc 97], kids := [.loc 111, .loc 86, .recd 4, .loc 92, .recTop 4, .loc 97], deep := [.loc 111, .loc 86, .recd 4, .loc 92, .recTop 4, .loc 97] },
  { top := [.loc 70, .loc 45, .recd 3, .loc 51, .recTop 3, .loc 56, .loc 111, .loc 86, .recd 4, .loc 92, .recTop 4, .loc 97], kids := [.loc 70, .loc 45, .recd 3, .loc 51, .recTop 3, .loc 56, .loc 111, .loc 86, .recd 4, .loc 92, .recTop 4, .loc 97], deep := [.loc 70, .loc 45, .recd 3, .loc 51, .recTop 3, .loc 56, .loc 111, .loc 86, .recd 4, .loc 92, .recTop 4, .loc 97] },
  { top := [.loc 136], kids := [.loc 136], deep := [.loc 136] },
  { top := [.loc 150], kids := [], deep := [] },
  { top := [.loc 151], kids := [.loc 70, .loc 45, .recd 3, .loc 51, .recTop 3, .loc 56, .loc 111, .loc 86, .recd 4, .loc 92, .recTop 4, .loc 97], deep := [.loc 70, .loc 45, .recd 3, .loc 51, .recTop 3, .loc 56, .loc 111, .loc 86, .recd 4, .loc 92, .recTop 4, .loc 97] },
  { top := [.loc 152], kids := [.loc 152], deep := [.loc 152] },
  { top := [.loc 153], kids := [.loc 153], deep := [.loc 153] },
  { top := [.loc 154], kids := [], deep := [] },
  { top := [.loc 155], kids := [.loc 70, .loc 45, .recd 3, .loc 51, .recTop 3, .loc 56, .loc 111, .loc 86, .recd 4, .loc 92, .recTop 4, .loc 97], deep := [.loc 70, .loc 45, .recd 3, .loc 51, .recTop 3, .loc 56, .loc 111, .loc 86, .recd 4, .loc 92, .recTop 4, .loc 97] },
  { top := [.loc 156], kids := [.loc 156], deep := [.loc 156] },
  { top := [.loc 157], kids := [.loc 157], deep := [.loc 157] },
  { top := [.loc 70, .loc 45, .recd 3, .loc 51, .recTop 3, .loc 56, .loc 111, .loc 86, .recd 4, .loc 92, .recTop 4, .loc 97], kids := [.loc 70, .loc 45, .recd 3, .loc 51, .recTop 3, .loc 56, .loc 111, .loc 86, .recd 4, .loc 92, .recTop 4, .loc 97], deep := [.loc 70, .loc 45, .recd 3, .loc 51, .recTop 3, .loc 56, .loc 111, .loc 86, .recd 4, .loc 92, .recTop 4, .loc 97] },
  { top := [.loc 70, .loc 45, .recd 3, .loc 51, .recTop 3, .loc 56, .loc 111, .loc 86, .recd 4, .loc 92, .recTop 4, .loc 97], kids := [.loc 70, .loc 45, .recd 3, .loc 51, .recTop 3, .loc 56, .loc 111, .loc 86, .recd 4, .loc 92, .recTop 4, .loc 97], deep := [.loc 70, .loc 45, .recd 3, .loc 51, .recTop 3, .loc 56, .loc 111, .loc 86, .recd 4, .loc 92, .recTop 4, .loc 97] },
  {},
  { top := [.loc 161], kids := [.loc 161], deep := [.loc 161] },
  { top := [.loc 162], kids := [.loc 137, .loc 153, .loc 157, .loc 161], deep := [.loc 137, .loc 153, .loc 157, .loc 161] },
  { top := [.loc 162], kids := [.loc 137, .loc 153, .loc 157, .loc 161], deep := [.loc 137, .loc 153, .loc 157, .loc 161] },
  { top := [.loc 137, .loc 153, .loc 157, .loc 161], kids := [.loc 137, .loc 153, .loc 157, .loc 161], deep := [.loc 137, .loc 153, .loc 157, .loc 161] },
  { top := [.loc 137, .loc 153, .loc 157, .loc 161], kids := [.loc 137, .loc 153, .loc 157, .loc 161], deep := [.loc 137, .loc 153, .loc 157, .loc 161] },
  {},
  { top := [.loc 167], kids := [], deep := [] },
  { top := [.loc 167], kids := [], deep := [] }]

def fns_0 : List (Nat × FnInfo) := [
  (364, { prog := prog_364, nparams := 5, ret := 5, fuel := 3, table := table_364 }),
  (365, { prog := prog_365, nparams := 4, ret := 4, fuel := 3, table := table_365 }),
  (366, { prog := prog_366, nparams := 6, ret := 6, fuel := 2, table := table_366 }),
  (367, { prog := prog_367, nparams := 7, ret := 7, fuel := 2, table := table_367 })]

def fns : List (Nat × FnInfo) := fns_0

theorem ok : fns.all (fun p => entryOK Gen.summaries Gen.verdicts p.1 p.2) = true :=
  all_entryOK_of_fast 8 (by decide +kernel)

end Gen.M_sequence_mod_builder
