import PeptVerif.Generated.Effects.Core
import PeptVerif.Lemmas.EffectsFast
/-! GENERATED by harness/translate_effects.py - do not edit.  Source module: peptacular.mass_calc (20 functions).
`ok` is the kernel check of these functions against the global summary / verdict tables: every table is closed
under its program, the summary the program induces is within the summary table, and the write / sharing sets
read off the table are the claimed verdict.  The kernel evaluates it in the form `entryOKFast`
(Lemmas/EffectsFast.lean); 8 is the stride of its lookups, any stride gives the same value. -/
namespace Gen.M_mass_calc
open Effects
set_option maxRecDepth 100000
/-- peptacular.mass_calc._parse_adduct_mass -/
def prog_65 : List Stmt := [
  .param 0 0,
  .param 1 1,
  .param 2 2,
  .call 5 313 [none],
  .elem 6 5,
  .alias 7 [6],
  .elem 8 5,
  .alias 9 [8],
  .elem 10 5,
  .alias 11 [10],
  .shallow 12 [7],
  .alias 13 [4, 12],
  .alias 14 [13],
  .global 15 3,
  .elem 16 15,
  .shallow 17 [7, 16],
  .alias 18 [4, 17],
  .alias 19 [18],
  .shallow 20 [11],
  .alias 21 [19, 20],
  .alias 22 [21],
  .global 23 2,
  .elem 24 23,
  .shallow 25 [7, 24],
  .alias 26 [4, 25],
  .alias 27 [26],
  .global 28 3,
  .elem 29 28,
  .shallow 30 [7, 29],
  .alias 31 [4, 30],
  .alias 32 [31],
  .alias 33 [27, 32],
  .shallow 34 [11],
  .alias 35 [33, 34],
  .alias 36 [35],
  .alias 37 [15, 28],
  .alias 38 [22, 36],
  .alias 40 [39, 38],
  .alias 41 [14, 40]]

def table_65 : Pts := [
  { top := [.root 0], kids := [.inner 0], deep := [.inner 0] },
  { top := [.root 1], kids := [.inner 1], deep := [.inner 1] },
  { top := [.root 2], kids := [.inner 2], deep := [.inner 2] },
  {},
  {},
  {},
  {},
  {},
  {},
  {},
  {},
  {},
  { top := [.loc 12], kids := [], deep := [] },
  { top := [.loc 12], kids := [], deep := [] },
  { top := [.loc 12], kids := [], deep := [] },
  { top := [.glob 3], kids := [.glob 3], deep := [.glob 3] },
  { top := [.glob 3], kids := [.glob 3], deep := [.glob 3] },
  { top := [.loc 17], kids := [.glob 3], deep := [.glob 3] },
  { top := [.loc 17], kids := [.glob 3], deep := [.glob 3] },
  { top := [.loc 17], kids := [.glob 3], deep := [.glob 3] },
  { top := [.loc 20], kids := [], deep := [] },
  { top := [.loc 17, .loc 20], kids := [.glob 3], deep := [.glob 3] },
  { top := [.loc 17, .loc 20], kids := [.glob 3], deep := [.glob 3] },
  { top := [.glob 2], kids := [.glob 2], deep := [.glob 2] },
  { top := [.glob 2], kids := [.glob 2], deep := [.glob 2] },
  { top := [.loc 25], kids := [.glob 2], deep := [.glob 2] },
  { top := [.loc 25], kids := [.glob 2], deep := [.glob 2] },
  { top := [.loc 25], kids := [.glob 2], deep := [.glob 2] },
  { top := [.glob 3], kids := [.glob 3], deep := [.glob 3] },
  { top := [.glob 3], kids := [.glob 3], deep := [.glob 3] },
  { top := [.loc 30], kids := [.glob 3], deep := [.glob 3] },
  { top := [.loc 30], kids := [.glob 3], deep := [.glob 3] },
  { top := [.loc 30], kids := [.glob 3], deep := [.glob 3] },
  { top := [.loc 25, .loc 30], kids := [.glob 2, .glob 3], deep := [.glob 2, .glob 3] },
  { top := [.loc 34], kids := [], deep := [] },
  { top := [.loc 25, .loc 30, .loc 34], kids := [.glob 2, .glob 3], deep := [.glob 2, .glob 3] },
  { top := [.loc 25, .loc 30, .loc 34], kids := [.glob 2, .glob 3], deep := [.glob 2, .glob 3] },
  { top := [.glob 3], kids := [.glob 3], deep := [.glob 3] },
  { top := [.loc 17, .loc 20, .loc 25, .loc 30, .loc 34], kids := [.glob 3, .glob 2], deep := [.glob 3, .glob 2] },
  {},
  { top := [.loc 17, .loc 20, .loc 25, .loc 30, .loc 34], kids := [.glob 3, .glob 2], deep := [.glob 3, .glob 2] },
  { top := [.loc 12, .loc 17, .loc 20, .loc 25, .loc 30, .loc 34], kids := [.glob 3, .glob 2], deep := [.glob 3, .glob 2] }]

/-- peptacular.mass_calc._parse_charge_adducts_mass -/
def prog_66 : List Stmt := [
  .param 0 0,
  .param 1 1,
  .param 2 2,
  .asRec 4 0 0,
  .call 5 66 [none, none, none],
  .pack 6 [],
  .call 7 266 [some 0],
  .alias 8 [7],
  .alias 11 [9],
  .elem 12 8,
  .alias 10 [12],
  .call 13 65 [some 10, none, none],
  .alias 14 [11, 13],
  .alias 11 [14],
  .alias 16 [15, 11]]

def table_66 : Pts := [
  { top := [.root 0], kids := [.inner 0], deep := [.inner 0] },
  { top := [.root 1], kids := [.inner 1], deep := [.inner 1] },
  { top := [.root 2], kids := [.inner 2], deep := [.inner 2] },
  {},
  { top := [.recTop 0], kids := [.recd 0], deep := [.recd 0] },
  {},
  { top := [.loc 6], kids := [], deep := [] },
  { top := [.loc 7], kids := [.loc 7], deep := [.loc 7] },
  { top := [.loc 7], kids := [.loc 7], deep := [.loc 7] },
  {},
  { top := [.loc 7], kids := [.loc 7], deep := [.loc 7] },
  {},
  { top := [.loc 7], kids := [.loc 7], deep := [.loc 7] },
  {},
  {},
  {},
  {}]

/-- peptacular.mass_calc._parse_chem_mass_from_proforma_str -/
def prog_67 : List Stmt := [
  .param 0 0,
  .param 1 1,
  .param 2 2,
  .alias 5 [4, 0],
  .call 6 16 [none, none],
  .leaf 7 6,
  .alias 8 [7],
  .leaf 9 8,
  .call 10 15 [some 9, none, none, none]]

def table_67 : Pts := [
  { top := [.root 0], kids := [.inner 0], deep := [.inner 0] },
  { top := [.root 1], kids := [.inner 1], deep := [.inner 1] },
  { top := [.root 2], kids := [.inner 2], deep := [.inner 2] },
  {},
  {},
  { top := [.root 0], kids := [.inner 0], deep := [.inner 0] },
  { top := [.loc 6], kids := [], deep := [] },
  { top := [.loc 6], kids := [], deep := [] },
  { top := [.loc 6], kids := [], deep := [] },
  { top := [.loc 6], kids := [], deep := [] },
  {}]

/-- peptacular.mass_calc._parse_glycan_mass_from_proforma_str -/
def prog_68 : List Stmt := [
  .param 0 0,
  .param 1 1,
  .param 2 2,
  .alias 5 [4],
  .alias 8 [6],
  .alias 7 [8],
  .alias 10 [9, 0],
  .global 11 41,
  .call 12 124 [some 11, none],
  .call 13 127 [some 11, none],
  .alias 14 [13],
  .call 15 125 [some 11, none],
  .call 16 128 [some 11, none],
  .alias 17 [16],
  .call 18 126 [some 11, none],
  .call 19 129 [some 11, none],
  .alias 20 [19],
  .alias 22 [20, 21],
  .alias 23 [17, 22],
  .alias 24 [14, 23],
  .call 25 79 [none, none, none],
  .alias 6 [25]]

def table_68 : Pts := [
  { top := [.root 0], kids := [.inner 0], deep := [.inner 0] },
  { top := [.root 1], kids := [.inner 1], deep := [.inner 1] },
  { top := [.root 2], kids := [.inner 2], deep := [.inner 2] },
  {},
  {},
  {},
  {},
  {},
  {},
  {},
  { top := [.root 0], kids := [.inner 0], deep := [.inner 0] },
  { top := [.glob 41], kids := [.glob 41], deep := [.glob 41] },
  {},
  { top := [.glob 41], kids := [.glob 41], deep := [.glob 41] },
  { top := [.glob 41], kids := [.glob 41], deep := [.glob 41] },
  {},
  { top := [.glob 41], kids := [.glob 41], deep := [.glob 41] },
  { top := [.glob 41], kids := [.glob 41], deep := [.glob 41] },
  {},
  { top := [.glob 41], kids := [.glob 41], deep := [.glob 41] },
  { top := [.glob 41], kids := [.glob 41], deep := [.glob 41] },
  {},
  { top := [.glob 41], kids := [.glob 41], deep := [.glob 41] },
  { top := [.glob 41], kids := [.glob 41], deep := [.glob 41] },
  { top := [.glob 41], kids := [.glob 41], deep := [.glob 41] },
  {}]

/-- peptacular.mass_calc._parse_mod_mass -/
def prog_69 : List Stmt := [
  .param 0 0,
  .param 1 1,
  .param 2 2,
  .alias 5 [4, 0],
  .call 6 403 [none],
  .alias 7 [6],
  .call 9 68 [none, none, none],
  .call 10 92 [none],
  .call 11 98 [none, none, none],
  .call 12 96 [none],
  .call 13 106 [none, none, none],
  .call 14 94 [none],
  .call 15 102 [none, none, none],
  .call 16 93 [none],
  .call 17 100 [none, none, none],
  .call 18 95 [none],
  .call 19 104 [none, none, none],
  .call 20 67 [none, none, none],
  .call 21 70 [none, none]]

def table_69 : Pts := [
  { top := [.root 0], kids := [.inner 0], deep := [.inner 0] },
  { top := [.root 1], kids := [.inner 1], deep := [.inner 1] },
  { top := [.root 2], kids := [.inner 2], deep := [.inner 2] },
  {},
  {},
  { top := [.root 0], kids := [.inner 0], deep := [.inner 0] },
  {},
  {},
  {},
  {},
  {},
  {},
  {},
  {},
  {},
  {},
  {},
  {},
  {},
  {},
  {},
  {}]

/-- peptacular.mass_calc._parse_obs_mass_from_proforma_str -/
def prog_70 : List Stmt := [
  .param 0 0,
  .param 1 1,
  .alias 4 [3],
  .alias 7 [5],
  .alias 6 [7],
  .alias 9 [8, 0]]

def table_70 : Pts := [
  { top := [.root 0], kids := [.inner 0], deep := [.inner 0] },
  { top := [.root 1], kids := [.inner 1], deep := [.inner 1] },
  {},
  {},
  {},
  {},
  {},
  {},
  {},
  { top := [.root 0], kids := [.inner 0], deep := [.inner 0] }]

/-- peptacular.mass_calc._pop_delta_mass_mods -/
def prog_71 : List Stmt := [
  .param 0 0,
  .call 3 218 [some 0],
  .elem 4 0,
  .asRec 5 4 1,
  .alias 6 [2],
  .elem 10 0,
  .asRec 11 10 1,
  .elem 12 11,
  .asRec 13 12 0,
  .alias 8 [13],
  .asRec 14 8 0,
  .call 15 5 [some 14],
  .alias 9 [15],
  .asRec 16 8 0,
  .asRec 17 8 0,
  .alias 6 [6],
  .elem 18 0,
  .asRec 19 18 1,
  .write 19,
  .elem 20 19,
  .alias 21 [6, 2],
  .call 22 223 [some 0],
  .elem 23 0,
  .asRec 24 23 1,
  .alias 25 [21],
  .alias 26 [7],
  .alias 27 [8],
  .alias 28 [9],
  .elem 29 0,
  .asRec 30 29 1,
  .elem 31 30,
  .asRec 32 31 0,
  .alias 27 [32],
  .asRec 33 27 0,
  .call 34 5 [some 33],
  .alias 28 [34],
  .asRec 35 27 0,
  .asRec 36 27 0,
  .alias 25 [25],
  .elem 37 0,
  .asRec 38 37 1,
  .write 38,
  .elem 39 38,
  .alias 40 [25, 21],
  .alias 41 [26, 7],
  .alias 42 [27, 8],
  .alias 43 [28, 9],
  .call 44 220 [some 0],
  .elem 45 0,
  .asRec 46 45 1,
  .alias 47 [40],
  .alias 48 [41],
  .alias 49 [42],
  .alias 50 [43],
  .elem 51 0,
  .asRec 52 51 1,
  .elem 53 52,
  .asRec 54 53 0,
  .alias 49 [54],
  .asRec 55 49 0,
  .call 56 5 [some 55],
  .alias 50 [56],
  .asRec 57 49 0,
  .asRec 58 49 0,
  .alias 47 [47],
  .elem 59 0,
  .asRec 60 59 1,
  .write 60,
  .elem 61 60,
  .alias 62 [47, 40],
  .alias 63 [48, 41],
  .alias 64 [49, 42],
  .alias 65 [50, 43],
  .call 66 213 [some 0],
  .elem 67 0,
  .asRec 68 67 1,
  .alias 69 [62],
  .alias 70 [63],
  .alias 71 [64],
  .alias 72 [65],
  .elem 73 0,
  .asRec 74 73 1,
  .elem 75 74,
  .asRec 76 75 0,
  .alias 71 [76],
  .asRec 77 71 0,
  .call 78 5 [some 77],
  .alias 72 [78],
  .asRec 79 71 0,
  .asRec 80 71 0,
  .alias 69 [69],
  .elem 81 0,
  .asRec 82 81 1,
  .write 82,
  .elem 83 82,
  .alias 84 [69, 62],
  .alias 85 [70, 63],
  .alias 86 [71, 64],
  .alias 87 [72, 65],
  .call 88 216 [some 0],
  .elem 89 0,
  .asRec 90 89 1,
  .alias 91 [84],
  .alias 92 [85],
  .alias 94 [86],
  .alias 95 [87],
  .elem 96 90,
  .asRec 97 96 0,
  .alias 93 [97],
  .asRec 98 93 0,
  .call 99 165 [some 98],
  .asRec 100 93 0,
  .elem 101 100,
  .asRec 102 101 1,
  .asRec 103 93 0,
  .elem 104 103,
  .asRec 105 104 1,
  .elem 106 105,
  .asRec 107 106 0,
  .alias 94 [107],
  .asRec 108 94 0,
  .call 109 5 [some 108],
  .alias 95 [109],
  .asRec 110 94 0,
  .asRec 111 94 0,
  .alias 91 [91],
  .asRec 112 93 0,
  .elem 113 112,
  .asRec 114 113 1,
  .write 114,
  .elem 115 114,
  .alias 116 [91, 84],
  .alias 117 [92, 85],
  .alias 118 [94, 86],
  .alias 119 [95, 87],
  .call 120 214 [some 0],
  .elem 121 0,
  .alias 122 [116],
  .alias 123 [117],
  .alias 125 [118],
  .alias 126 [119],
  .elem 127 121,
  .alias 124 [127],
  .elem 128 0,
  .elem 129 128,
  .elem 130 0,
  .elem 131 130,
  .elem 132 131,
  .alias 125 [132],
  .asRec 133 125 0,
  .call 134 5 [some 133],
  .alias 126 [134],
  .asRec 135 125 0,
  .asRec 136 125 0,
  .alias 122 [122],
  .elem 137 0,
  .elem 138 137,
  .write 138,
  .elem 139 138,
  .alias 140 [122, 116],
  .alias 141 [123, 117],
  .alias 142 [125, 118],
  .alias 143 [126, 119],
  .call 144 194 [some 0]]

def table_71 : Pts := [
  { top := [.root 0], kids := [.inner 0, .loc 144], deep := [.inner 0] },
  {},
  {},
  {},
  { top := [.inner 0, .loc 144], kids := [.inner 0], deep := [.inner 0] },
  { top := [.inner 0, .loc 144], kids := [.recd 0], deep := [.recd 0] },
  {},
  {},
  { top := [.recd 0], kids := [.recd 0], deep := [.recd 0] },
  {},
  { top := [.inner 0, .loc 144], kids := [.inner 0], deep := [.inner 0] },
  { top := [.inner 0, .loc 144], kids := [.recd 0], deep := [.recd 0] },
  { top := [.recd 0], kids := [.recd 0], deep := [.recd 0] },
  { top := [.recd 0], kids := [.recd 0], deep := [.recd 0] },
  { top := [.recd 0], kids := [.recd 0], deep := [.recd 0] },
  {},
  { top := [.recd 0], kids := [.recd 0], deep := [.recd 0] },
  { top := [.recd 0], kids := [.recd 0], deep := [.recd 0] },
  { top := [.inner 0, .loc 144], kids := [.inner 0], deep := [.inner 0] },
  { top := [.inner 0, .loc 144], kids := [.recd 0], deep := [.recd 0] },
  { top := [.recd 0], kids := [.recd 0], deep := [.recd 0] },
  {},
  {},
  { top := [.inner 0, .loc 144], kids := [.inner 0], deep := [.inner 0] },
  { top := [.inner 0, .loc 144], kids := [.recd 0], deep := [.recd 0] },
  {},
  {},
  { top := [.recd 0], kids := [.recd 0], deep := [.recd 0] },
  {},
  { top := [.inner 0, .loc 144], kids := [.inner 0], deep := [.inner 0] },
  { top := [.inner 0, .loc 144], kids := [.recd 0], deep := [.recd 0] },
  { top := [.recd 0], kids := [.recd 0], deep := [.recd 0] },
  { top := [.recd 0], kids := [.recd 0], deep := [.recd 0] },
  { top := [.recd 0], kids := [.recd 0], deep := [.recd 0] },
  {},
  { top := [.recd 0], kids := [.recd 0], deep := [.recd 0] },
  { top := [.recd 0], kids := [.recd 0], deep := [.recd 0] },
  { top := [.inner 0, .loc 144], kids := [.inner 0], deep := [.inner 0] },
  { top := [.inner 0, .loc 144], kids := [.recd 0], deep := [.recd 0] },
  { top := [.recd 0], kids := [.recd 0], deep := [.recd 0] },
  {},
  {},
  { top := [.recd 0], kids := [.recd 0], deep := [.recd 0] },
  {},
  {},
  { top := [.inner 0, .loc 144], kids := [.inner 0], deep := [.inner 0] },
  { top := [.inner 0, .loc 144], kids := [.recd 0], deep := [.recd 0] },
  {},
  {},
  { top := [.recd 0], kids := [.recd 0], deep := [.recd 0] },
  {},
  { top := [.inner 0, .loc 144], kids := [.inner 0], deep := [.inner 0] },
  { top := [.inner 0, .loc 144], kids := [.recd 0], deep := [.recd 0] },
  { top := [.recd 0], kids := [.recd 0], deep := [.recd 0] },
  { top := [.recd 0], kids := [.recd 0], deep := [.recd 0] },
  { top := [.recd 0], kids := [.recd 0], deep := [.recd 0] },
  {},
  { top := [.recd 0], kids := [.recd 0], deep := [.recd 0] },
  { top := [.recd 0], kids := [.recd 0], deep := [.recd 0] },
  { top := [.inner 0, .loc 144], kids := [.inner 0], deep := [.inner 0] },
  { top := [.inner 0, .loc 144], kids := [.recd 0], deep := [.recd 0] },
  { top := [.recd 0], kids := [.recd 0], deep := [.recd 0] },
  {},
  {},
  { top := [.recd 0], kids := [.recd 0], deep := [.recd 0] },
  {},
  {},
  { top := [.inner 0, .loc 144], kids := [.inner 0], deep := [.inner 0] },
  { top := [.inner 0, .loc 144], kids := [.recd 0], deep := [.recd 0] },
  {},
  {},
  { top := [.recd 0], kids := [.recd 0], deep := [.recd 0] },
  {},
  { top := [.inner 0, .loc 144], kids := [.inner 0], deep := [.inner 0] },
  { top := [.inner 0, .loc 144], kids := [.recd 0], deep := [.recd 0] },
  { top := [.recd 0], kids := [.recd 0], deep := [.recd 0] },
  { top := [.recd 0], kids := [.recd 0], deep := [.recd 0] },
  { top := [.recd 0], kids := [.recd 0], deep := [.recd 0] },
  {},
  { top := [.recd 0], kids := [.recd 0], deep := [.recd 0] },
  { top := [.recd 0], kids := [.recd 0], deep := [.recd 0] },
  { top := [.inner 0, .loc 144], kids := [.inner 0], deep := [.inner 0] },
  { top := [.inner 0, .loc 144], kids := [.recd 0], deep := [.recd 0] },
  { top := [.recd 0], kids := [.recd 0], deep := [.recd 0] },
  {},
  {},
  { top := [.recd 0], kids := [.recd 0], deep := [.recd 0] },
  {},
  {},
  { top := [.inner 0, .loc 144], kids := [.inner 0], deep := [.inner 0] },
  { top := [.inner 0, .loc 144], kids := [.recd 0], deep := [.recd 0] },
  {},
  {},
  { top := [.recd 0], kids := [.recd 0], deep := [.recd 0] },
  { top := [.recd 0], kids := [.recd 0], deep := [.recd 0] },
  {},
  { top := [.recd 0], kids := [.recd 0], deep := [.recd 0] },
  { top := [.recd 0], kids := [.recd 0], deep := [.recd 0] },
  { top := [.recd 0], kids := [.recd 0], deep := [.recd 0] },
  {},
  { top := [.recd 0], kids := [.recd 0], deep := [.recd 0] },
  { top := [.recd 0], kids := [.recd 0], deep := [.recd 0] },
  { top := [.recd 0], kids := [.recd 0], deep := [.recd 0] },
  { top := [.recd 0], kids := [.recd 0], deep := [.recd 0] },
  { top := [.recd 0], kids := [.recd 0], deep := [.recd 0] },
  { top := [.recd 0], kids := [.recd 0], deep := [.recd 0] },
  { top := [.recd 0], kids := [.recd 0], deep := [.recd 0] },
  { top := [.recd 0], kids := [.recd 0], deep := [.recd 0] },
  { top := [.recd 0], kids := [.recd 0], deep := [.recd 0] },
  {},
  { top := [.recd 0], kids := [.recd 0], deep := [.recd 0] },
  { top := [.recd 0], kids := [.recd 0], deep := [.recd 0] },
  { top := [.recd 0], kids := [.recd 0], deep := [.recd 0] },
  { top := [.recd 0], kids := [.recd 0], deep := [.recd 0] },
  { top := [.recd 0], kids := [.recd 0], deep := [.recd 0] },
  { top := [.recd 0], kids := [.recd 0], deep := [.recd 0] },
  {},
  {},
  { top := [.recd 0], kids := [.recd 0], deep := [.recd 0] },
  {},
  {},
  { top := [.inner 0, .loc 144], kids := [.inner 0], deep := [.inner 0] },
  {},
  {},
  { top := [.inner 0], kids := [.inner 0], deep := [.inner 0] },
  { top := [.recd 0, .inner 0], kids := [.recd 0, .inner 0], deep := [.recd 0, .inner 0] },
  {},
  { top := [.inner 0], kids := [.inner 0], deep := [.inner 0] },
  { top := [.inner 0, .loc 144], kids := [.inner 0], deep := [.inner 0] },
  { top := [.inner 0], kids := [.inner 0], deep := [.inner 0] },
  { top := [.inner 0, .loc 144], kids := [.inner 0], deep := [.inner 0] },
  { top := [.inner 0], kids := [.inner 0], deep := [.inner 0] },
  { top := [.inner 0], kids := [.inner 0], deep := [.inner 0] },
  { top := [.recd 0], kids := [.recd 0], deep := [.recd 0] },
  {},
  { top := [.recd 0], kids := [.recd 0], deep := [.recd 0] },
  { top := [.recd 0], kids := [.recd 0], deep := [.recd 0] },
  { top := [.inner 0, .loc 144], kids := [.inner 0], deep := [.inner 0] },
  { top := [.inner 0], kids := [.inner 0], deep := [.inner 0] },
  { top := [.inner 0], kids := [.inner 0], deep := [.inner 0] },
  {},
  {},
  { top := [.recd 0, .inner 0], kids := [.recd 0, .inner 0], deep := [.recd 0, .inner 0] },
  {},
  {}]

/-- peptacular.mass_calc.adjust_mass -/
def prog_72 : List Stmt := [
  .param 0 0,
  .param 1 1,
  .param 2 2,
  .param 3 3,
  .param 4 4,
  .param 5 5,
  .param 6 6,
  .param 7 7,
  .alias 10 [9, 1],
  .pack 12 [],
  .global 14 33,
  .elem 15 14,
  .global 16 34,
  .elem 17 16,
  .alias 18 [15, 17],
  .alias 19 [18],
  .alias 21 [13, 20],
  .call 22 66 [none, none, none],
  .alias 23 [22],
  .alias 24 [21, 23],
  .alias 25 [11],
  .global 26 31,
  .elem 27 26,
  .global 28 32,
  .elem 29 28,
  .alias 30 [27, 29],
  .alias 31 [25, 30],
  .alias 32 [31],
  .alias 33 [32],
  .alias 35 [34, 33]]

def table_72 : Pts := [
  { top := [.root 0], kids := [.inner 0], deep := [.inner 0] },
  { top := [.root 1], kids := [.inner 1], deep := [.inner 1] },
  { top := [.root 2], kids := [.inner 2], deep := [.inner 2] },
  { top := [.root 3], kids := [.inner 3], deep := [.inner 3] },
  { top := [.root 4], kids := [.inner 4], deep := [.inner 4] },
  { top := [.root 5], kids := [.inner 5], deep := [.inner 5] },
  { top := [.root 6], kids := [.inner 6], deep := [.inner 6] },
  { top := [.root 7], kids := [.inner 7], deep := [.inner 7] },
  {},
  {},
  { top := [.root 1], kids := [.inner 1], deep := [.inner 1] },
  {},
  { top := [.loc 12], kids := [], deep := [] },
  {},
  { top := [.glob 33], kids := [.glob 33], deep := [.glob 33] },
  { top := [.glob 33], kids := [.glob 33], deep := [.glob 33] },
  { top := [.glob 34], kids := [.glob 34], deep := [.glob 34] },
  { top := [.glob 34], kids := [.glob 34], deep := [.glob 34] },
  { top := [.glob 33, .glob 34], kids := [.glob 33, .glob 34], deep := [.glob 33, .glob 34] },
  { top := [.glob 33, .glob 34], kids := [.glob 33, .glob 34], deep := [.glob 33, .glob 34] },
  {},
  {},
  {},
  {},
  {},
  {},
  { top := [.glob 31], kids := [.glob 31], deep := [.glob 31] },
  { top := [.glob 31], kids := [.glob 31], deep := [.glob 31] },
  { top := [.glob 32], kids := [.glob 32], deep := [.glob 32] },
  { top := [.glob 32], kids := [.glob 32], deep := [.glob 32] },
  { top := [.glob 31, .glob 32], kids := [.glob 31, .glob 32], deep := [.glob 31, .glob 32] },
  { top := [.glob 31, .glob 32], kids := [.glob 31, .glob 32], deep := [.glob 31, .glob 32] },
  { top := [.glob 31, .glob 32], kids := [.glob 31, .glob 32], deep := [.glob 31, .glob 32] },
  { top := [.glob 31, .glob 32], kids := [.glob 31, .glob 32], deep := [.glob 31, .glob 32] },
  {},
  { top := [.glob 31, .glob 32], kids := [.glob 31, .glob 32], deep := [.glob 31, .glob 32] }]

/-- peptacular.mass_calc.adjust_mz -/
def prog_73 : List Stmt := [
  .param 0 0,
  .param 1 1,
  .param 2 2,
  .alias 5 [4, 1],
  .alias 9 [8, 7]]

def table_73 : Pts := [
  { top := [.root 0], kids := [.inner 0], deep := [.inner 0] },
  { top := [.root 1], kids := [.inner 1], deep := [.inner 1] },
  { top := [.root 2], kids := [.inner 2], deep := [.inner 2] },
  {},
  {},
  { top := [.root 1], kids := [.inner 1], deep := [.inner 1] },
  {},
  {},
  {},
  {}]

/-- peptacular.mass_calc.chem_mz -/
def prog_74 : List Stmt := [
  .param 0 0,
  .param 1 1,
  .param 2 2,
  .param 3 3,
  .param 4 4,
  .leaf 6 0,
  .call 7 15 [some 6, none, none, none],
  .alias 8 [7],
  .call 9 73 [none, none, none]]

def table_74 : Pts := [
  { top := [.root 0], kids := [.inner 0], deep := [.inner 0] },
  { top := [.root 1], kids := [.inner 1], deep := [.inner 1] },
  { top := [.root 2], kids := [.inner 2], deep := [.inner 2] },
  { top := [.root 3], kids := [.inner 3], deep := [.inner 3] },
  { top := [.root 4], kids := [.inner 4], deep := [.inner 4] },
  {},
  { top := [.root 0], kids := [], deep := [] },
  {},
  {},
  {}]

/-- peptacular.mass_calc.comp -/
def prog_75 : List Stmt := [
  .param 0 0,
  .param 1 1,
  .param 2 2,
  .param 3 3,
  .param 4 4,
  .param 5 5,
  .param 6 6,
  .param 7 7,
  .call 9 387 [some 0],
  .alias 10 [9],
  .alias 11 [0],
  .alias 12 [10, 11],
  .call 13 76 [some 12, none, none, none, none, some 6, none],
  .elem 14 13,
  .alias 15 [14],
  .elem 16 13,
  .alias 17 [16],
  .elem 18 12,
  .asRec 19 18 1,
  .call 20 8 [some 17, some 19],
  .leaf 21 20,
  .alias 22 [21],
  .shallow 23 [],
  .call 24 8 [some 17, none],
  .leaf 25 24,
  .alias 26 [25],
  .alias 27 [22, 26],
  .leaf 28 27,
  .write 15,
  .elem 30 15,
  .leaf 31 27,
  .leaf 32 15,
  .alias 8 [32]]

def table_75 : Pts := [
  { top := [.root 0], kids := [.inner 0], deep := [.inner 0] },
  { top := [.root 1], kids := [.inner 1], deep := [.inner 1] },
  { top := [.root 2], kids := [.inner 2], deep := [.inner 2] },
  { top := [.root 3], kids := [.inner 3], deep := [.inner 3] },
  { top := [.root 4], kids := [.inner 4], deep := [.inner 4] },
  { top := [.root 5], kids := [.inner 5], deep := [.inner 5] },
  { top := [.root 6], kids := [.inner 6], deep := [.inner 6] },
  { top := [.root 7], kids := [.inner 7], deep := [.inner 7] },
  { top := [.loc 13], kids := [], deep := [] },
  { top := [.loc 9], kids := [.loc 9], deep := [.loc 9] },
  { top := [.loc 9], kids := [.loc 9], deep := [.loc 9] },
  { top := [.root 0], kids := [.inner 0], deep := [.inner 0] },
  { top := [.loc 9, .root 0], kids := [.loc 9, .inner 0], deep := [.loc 9, .inner 0] },
  { top := [.loc 13], kids := [.loc 13], deep := [] },
  { top := [.loc 13], kids := [], deep := [] },
  { top := [.loc 13], kids := [], deep := [] },
  { top := [.loc 13], kids := [], deep := [] },
  { top := [.loc 13], kids := [], deep := [] },
  { top := [.loc 9, .inner 0], kids := [.loc 9, .inner 0], deep := [.loc 9, .inner 0] },
  { top := [.loc 9, .inner 0], kids := [.loc 9, .recd 0], deep := [.loc 9, .recd 0] },
  { top := [.loc 20], kids := [], deep := [] },
  { top := [.loc 20], kids := [], deep := [] },
  { top := [.loc 20], kids := [], deep := [] },
  { top := [.loc 23], kids := [], deep := [] },
  { top := [.loc 24], kids := [], deep := [] },
  { top := [.loc 24], kids := [], deep := [] },
  { top := [.loc 24], kids := [], deep := [] },
  { top := [.loc 20, .loc 24], kids := [], deep := [] },
  { top := [.loc 20, .loc 24], kids := [], deep := [] },
  {},
  {},
  { top := [.loc 20, .loc 24], kids := [], deep := [] },
  { top := [.loc 13], kids := [], deep := [] }]

/-- peptacular.mass_calc.comp_mass -/
def prog_76 : List Stmt := [
  .param 0 0,
  .param 1 1,
  .param 2 2,
  .param 3 3,
  .param 4 4,
  .param 5 5,
  .param 6 6,
  .call 8 387 [some 0],
  .alias 9 [8],
  .call 10 202 [some 0],
  .alias 11 [10],
  .alias 12 [9, 11],
  .call 13 191 [some 12, none],
  .call 14 193 [some 12, none],
  .call 15 230 [some 12, some 5],
  .call 16 222 [some 12],
  .elem 17 12,
  .asRec 18 17 1,
  .call 19 315 [some 18],
  .asRec 20 19 2,
  .shallow 21 [20],
  .elem 25 21,
  .elem 26 25,
  .asRec 27 26 1,
  .alias 23 [27],
  .pack 28 [],
  .asRec 29 23 1,
  .shallow 30 [29],
  .asRec 31 30 1,
  .pack 32 [31],
  .pack 33 [32],
  .alias 22 [33],
  .call 34 71 [some 22],
  .call 35 6 [some 22, none, none, none],
  .leaf 36 35,
  .call 37 198 [some 12, none],
  .call 38 244 [some 12],
  .asRec 39 38 1,
  .call 40 71 [some 12],
  .alias 41 [40],
  .call 42 6 [some 12, none, none, none],
  .leaf 43 42,
  .alias 44 [43],
  .shallow 45 [],
  .leaf 46 44,
  .pack 47 [46],
  .alias 7 [47]]

def table_76 : Pts := [
  { top := [.root 0], kids := [.inner 0], deep := [.inner 0] },
  { top := [.root 1], kids := [.inner 1], deep := [.inner 1] },
  { top := [.root 2], kids := [.inner 2], deep := [.inner 2] },
  { top := [.root 3], kids := [.inner 3], deep := [.inner 3] },
  { top := [.root 4], kids := [.inner 4], deep := [.inner 4] },
  { top := [.root 5], kids := [.inner 5], deep := [.inner 5] },
  { top := [.root 6], kids := [.inner 6], deep := [.inner 6] },
  { top := [.loc 47], kids := [.loc 42], deep := [] },
  { top := [.loc 8], kids := [.loc 8, .loc 14, .loc 15, .loc 37, .loc 38, .loc 40], deep := [.loc 8, .loc 14, .loc 15, .loc 37, .loc 38, .loc 40] },
  { top := [.loc 8], kids := [.loc 8, .loc 14, .loc 15, .loc 37, .loc 38, .loc 40], deep := [.loc 8, .loc 14, .loc 15, .loc 37, .loc 38, .loc 40] },
  { top := [.loc 10], kids := [.loc 14, .loc 15, .loc 37, .loc 38, .loc 40], deep := [.loc 37] },
  { top := [.loc 10], kids := [.loc 14, .loc 15, .loc 37, .loc 38, .loc 40], deep := [.loc 37] },
  { top := [.loc 8, .loc 10], kids := [.loc 8, .loc 14, .loc 15, .loc 37, .loc 38, .loc 40], deep := [.loc 8, .loc 14, .loc 15, .loc 37, .loc 38, .loc 40] },
  {},
  {},
  {},
  {},
  { top := [.loc 8, .loc 14, .loc 15, .loc 37, .loc 38, .loc 40], kids := [.loc 8, .loc 14, .loc 15, .loc 37, .loc 38, .loc 40], deep := [.loc 8, .loc 14, .loc 15, .loc 37, .loc 38, .loc 40] },
  { top := [.loc 8, .loc 14, .loc 15, .loc 37, .loc 38, .loc 40], kids := [.loc 8, .loc 14, .loc 15, .loc 37, .loc 38, .loc 40], deep := [.loc 8, .loc 14, .loc 15, .loc 37, .loc 38, .loc 40] },
  { top := [.loc 19], kids := [.loc 19], deep := [.loc 19] },
  { top := [.loc 19], kids := [.loc 19], deep := [.loc 19] },
  { top := [.loc 21], kids := [.loc 19], deep := [.loc 19] },
  { top := [.loc 33], kids := [.loc 32, .loc 34], deep := [.loc 30, .loc 19] },
  { top := [.loc 19], kids := [.loc 19], deep := [.loc 19] },
  {},
  { top := [.loc 19], kids := [.loc 19], deep := [.loc 19] },
  { top := [.loc 19], kids := [.loc 19], deep := [.loc 19] },
  { top := [.loc 19], kids := [.loc 19], deep := [.loc 19] },
  { top := [.loc 28], kids := [], deep := [] },
  { top := [.loc 19], kids := [.loc 19], deep := [.loc 19] },
  { top := [.loc 30], kids := [.loc 19], deep := [.loc 19] },
  { top := [.loc 30], kids := [.loc 19], deep := [.loc 19] },
  { top := [.loc 32], kids := [.loc 30], deep := [.loc 19] },
  { top := [.loc 33], kids := [.loc 32, .loc 34], deep := [.loc 30, .loc 19] },
  {},
  { top := [.loc 35], kids := [], deep := [] },
  { top := [.loc 35], kids := [], deep := [] },
  {},
  { top := [.loc 8, .loc 14, .loc 15, .loc 37, .loc 38, .loc 40], kids := [.loc 8, .loc 14, .loc 15, .loc 37, .loc 40, .loc 38], deep := [.loc 8, .loc 14, .loc 15, .loc 37, .loc 40, .loc 38] },
  { top := [.loc 8, .loc 14, .loc 15, .loc 37, .loc 38, .loc 40], kids := [.loc 8, .loc 14, .loc 15, .loc 37, .loc 40, .loc 38], deep := [.loc 8, .loc 14, .loc 15, .loc 37, .loc 40, .loc 38] },
  {},
  {},
  { top := [.loc 42], kids := [], deep := [] },
  { top := [.loc 42], kids := [], deep := [] },
  { top := [.loc 42], kids := [], deep := [] },
  { top := [.loc 45], kids := [], deep := [] },
  { top := [.loc 42], kids := [], deep := [] },
  { top := [.loc 47], kids := [.loc 42], deep := [] }]

/-- peptacular.mass_calc.condense_to_mass_mods -/
def prog_77 : List Stmt := [
  .param 0 0,
  .param 1 1,
  .param 2 2,
  .call 4 387 [some 0],
  .alias 5 [4],
  .alias 6 [0],
  .alias 7 [5, 6],
  .call 8 197 [some 7, none],
  .alias 9 [8],
  .call 10 237 [some 9],
  .alias 11 [10],
  .call 12 238 [some 9],
  .alias 13 [12],
  .call 14 248 [some 9],
  .asRec 15 14 1,
  .alias 16 [15],
  .call 17 242 [some 9],
  .asRec 18 17 1,
  .alias 19 [18],
  .call 20 246 [some 9],
  .asRec 21 20 1,
  .alias 22 [21],
  .call 23 239 [some 9],
  .asRec 24 23 1,
  .alias 25 [24],
  .call 26 244 [some 9],
  .asRec 27 26 1,
  .alias 28 [27],
  .call 29 266 [some 9],
  .shallow 30 [29],
  .alias 31 [30],
  .elem 32 31,
  .alias 33 [32],
  .call 34 269 [some 33, none],
  .pack 35 [34],
  .alias 36 [35],
  .call 37 269 [some 9, none],
  .alias 38 [37],
  .pack 39 [],
  .call 42 217 [some 9],
  .global 43 9,
  .elem 44 9,
  .asRec 45 44 1,
  .call 46 7 [some 43, some 45],
  .leaf 47 46,
  .call 48 15 [some 47, none, none, none],
  .call 49 15 [some 43, none, none, none],
  .global 51 10,
  .elem 52 9,
  .asRec 53 52 1,
  .call 54 7 [some 51, some 53],
  .leaf 55 54,
  .call 56 15 [some 55, none, none, none],
  .call 57 15 [some 51, none, none, none],
  .alias 59 [58, 41],
  .alias 60 [50, 40],
  .shallow 61 [31, 36],
  .shallow 62 [61],
  .elem 67 62,
  .elem 68 67,
  .alias 63 [68],
  .elem 69 67,
  .elem 70 69,
  .alias 65 [70],
  .elem 71 69,
  .alias 66 [71],
  .call 72 81 [some 65, none, none, none, none, none, none, none, none, none],
  .call 73 81 [some 66, none, none, none, none, none, none, none, none, none],
  .call 74 181 [some 38, some 63, none, none],
  .asRec 75 22 1,
  .asRec 76 22 1,
  .pack 77 [],
  .alias 78 [76, 77],
  .elem 79 78,
  .alias 80 [79],
  .call 81 82 [some 80, none, none],
  .pack 82 [81],
  .leaf 83 82,
  .alias 85 [84],
  .alias 86 [85, 84],
  .call 87 187 [some 38, none, none],
  .asRec 88 25 1,
  .asRec 89 25 1,
  .pack 90 [],
  .alias 91 [89, 90],
  .elem 92 91,
  .alias 93 [92],
  .call 94 82 [some 93, none, none],
  .pack 95 [94],
  .leaf 96 95,
  .alias 98 [97],
  .alias 99 [98, 97],
  .call 100 180 [some 38, none, none],
  .asRec 101 28 1,
  .asRec 102 28 1,
  .elem 103 102,
  .asRec 105 103 0,
  .alias 104 [105],
  .asRec 106 104 0,
  .call 107 82 [some 106, none, none],
  .pack 108 [107],
  .leaf 109 108,
  .call 111 185 [some 38, none, none],
  .asRec 112 16 1,
  .asRec 113 16 1,
  .elem 114 113,
  .asRec 116 114 0,
  .alias 115 [116],
  .asRec 117 115 0,
  .call 118 82 [some 117, none, none],
  .pack 119 [118],
  .leaf 120 119,
  .call 122 189 [some 38, none, none],
  .asRec 123 19 1,
  .asRec 124 19 1,
  .elem 127 124,
  .asRec 128 127 0,
  .alias 125 [128],
  .asRec 129 125 0,
  .elem 130 129,
  .asRec 131 130 1,
  .asRec 132 125 0,
  .elem 133 132,
  .asRec 134 133 1,
  .elem 135 134,
  .asRec 137 135 0,
  .alias 136 [137],
  .asRec 138 136 0,
  .call 139 82 [some 138, none, none],
  .pack 140 [139],
  .leaf 141 140,
  .pack 142 [],
  .call 143 169 [some 142],
  .asRec 144 142 0,
  .pack 145 [144],
  .asRec 146 125 0,
  .store 146 145,
  .asRec 147 19 1,
  .call 148 183 [some 38, some 147, none],
  .call 149 191 [some 38, none],
  .call 150 193 [some 38, none],
  .call 151 254 [some 38, none]]

def table_77 : Pts := [
  { top := [.root 0], kids := [.inner 0], deep := [.inner 0] },
  { top := [.root 1], kids := [.inner 1], deep := [.inner 1] },
  { top := [.root 2], kids := [.inner 2], deep := [.inner 2] },
  {},
  { top := [.loc 4], kids := [.loc 4], deep := [.loc 4] },
  { top := [.loc 4], kids := [.loc 4], deep := [.loc 4] },
  { top := [.root 0], kids := [.inner 0], deep := [.inner 0] },
  { top := [.loc 4, .root 0], kids := [.loc 4, .inner 0], deep := [.loc 4, .inner 0] },
  { top := [.loc 8], kids := [.loc 8, .loc 12, .loc 14, .loc 17, .loc 20, .loc 23, .loc 26, .loc 145], deep := [.loc 8, .loc 12, .loc 14, .loc 17, .loc 20, .loc 23, .loc 26, .loc 142, .loc 145] },
  { top := [.loc 8], kids := [.loc 8, .loc 12, .loc 14, .loc 17, .loc 20, .loc 23, .loc 26, .loc 145], deep := [.loc 8, .loc 12, .loc 14, .loc 17, .loc 20, .loc 23, .loc 26, .loc 142, .loc 145] },
  {},
  {},
  {},
  {},
  { top := [.loc 8, .loc 12, .loc 14, .loc 17, .loc 20, .loc 23, .loc 26, .loc 145, .loc 142], kids := [.loc 8, .loc 12, .loc 17, .loc 20, .loc 23, .loc 26, .loc 145, .loc 14, .loc 142], deep := [.loc 8, .loc 12, .loc 17, .loc 20, .loc 23, .loc 26, .loc 142, .loc 145, .loc 14] },
  { top := [.loc 8, .loc 12, .loc 14, .loc 17, .loc 20, .loc 23, .loc 26, .loc 145, .loc 142], kids := [.loc 8, .loc 12, .loc 17, .loc 20, .loc 23, .loc 26, .loc 145, .loc 14, .loc 142], deep := [.loc 8, .loc 12, .loc 17, .loc 20, .loc 23, .loc 26, .loc 142, .loc 145, .loc 14] },
  { top := [.loc 8, .loc 12, .loc 14, .loc 17, .loc 20, .loc 23, .loc 26, .loc 145, .loc 142], kids := [.loc 8, .loc 12, .loc 17, .loc 20, .loc 23, .loc 26, .loc 145, .loc 14, .loc 142], deep := [.loc 8, .loc 12, .loc 17, .loc 20, .loc 23, .loc 26, .loc 142, .loc 145, .loc 14] },
  { top := [.loc 8, .loc 12, .loc 14, .loc 17, .loc 20, .loc 23, .loc 26, .loc 145, .loc 142], kids := [.loc 8, .loc 12, .loc 14, .loc 20, .loc 23, .loc 26, .loc 145, .loc 17, .loc 142], deep := [.loc 8, .loc 12, .loc 14, .loc 20, .loc 23, .loc 26, .loc 142, .loc 145, .loc 17] },
  { top := [.loc 8, .loc 12, .loc 14, .loc 17, .loc 20, .loc 23, .loc 26, .loc 145, .loc 142], kids := [.loc 8, .loc 12, .loc 14, .loc 20, .loc 23, .loc 26, .loc 145, .loc 17, .loc 142], deep := [.loc 8, .loc 12, .loc 14, .loc 20, .loc 23, .loc 26, .loc 142, .loc 145, .loc 17] },
  { top := [.loc 8, .loc 12, .loc 14, .loc 17, .loc 20, .loc 23, .loc 26, .loc 145, .loc 142], kids := [.loc 8, .loc 12, .loc 14, .loc 20, .loc 23, .loc 26, .loc 145, .loc 17, .loc 142], deep := [.loc 8, .loc 12, .loc 14, .loc 20, .loc 23, .loc 26, .loc 142, .loc 145, .loc 17] },
  { top := [.loc 8, .loc 12, .loc 14, .loc 17, .loc 20, .loc 23, .loc 26, .loc 145, .loc 142], kids := [.loc 8, .loc 12, .loc 14, .loc 17, .loc 23, .loc 26, .loc 145, .loc 20, .loc 142], deep := [.loc 8, .loc 12, .loc 14, .loc 17, .loc 23, .loc 26, .loc 142, .loc 145, .loc 20] },
  { top := [.loc 8, .loc 12, .loc 14, .loc 17, .loc 20, .loc 23, .loc 26, .loc 145, .loc 142], kids := [.loc 8, .loc 12, .loc 14, .loc 17, .loc 23, .loc 26, .loc 145, .loc 20, .loc 142], deep := [.loc 8, .loc 12, .loc 14, .loc 17, .loc 23, .loc 26, .loc 142, .loc 145, .loc 20] },
  { top := [.loc 8, .loc 12, .loc 14, .loc 17, .loc 20, .loc 23, .loc 26, .loc 145, .loc 142], kids := [.loc 8, .loc 12, .loc 14, .loc 17, .loc 23, .loc 26, .loc 145, .loc 20, .loc 142], deep := [.loc 8, .loc 12, .loc 14, .loc 17, .loc 23, .loc 26, .loc 142, .loc 145, .loc 20] },
  { top := [.loc 8, .loc 12, .loc 14, .loc 17, .loc 20, .loc 23, .loc 26, .loc 145, .loc 142], kids := [.loc 8, .loc 12, .loc 14, .loc 17, .loc 20, .loc 26, .loc 145, .loc 23, .loc 142], deep := [.loc 8, .loc 12, .loc 14, .loc 17, .loc 20, .loc 26, .loc 142, .loc 145, .loc 23] },
  { top := [.loc 8, .loc 12, .loc 14, .loc 17, .loc 20, .loc 23, .loc 26, .loc 145, .loc 142], kids := [.loc 8, .loc 12, .loc 14, .loc 17, .loc 20, .loc 26, .loc 145, .loc 23, .loc 142], deep := [.loc 8, .loc 12, .loc 14, .loc 17, .loc 20, .loc 26, .loc 142, .loc 145, .loc 23] },
  { top := [.loc 8, .loc 12, .loc 14, .loc 17, .loc 20, .loc 23, .loc 26, .loc 145, .loc 142], kids := [.loc 8, .loc 12, .loc 14, .loc 17, .loc 20, .loc 26, .loc 145, .loc 23, .loc 142], deep := [.loc 8, .loc 12, .loc 14, .loc 17, .loc 20, .loc 26, .loc 142, .loc 145, .loc 23] },
  { top := [.loc 8, .loc 12, .loc 14, .loc 17, .loc 20, .loc 23, .loc 26, .loc 145, .loc 142], kids := [.loc 8, .loc 12, .loc 14, .loc 17, .loc 20, .loc 23, .loc 145, .loc 26, .loc 142], deep := [.loc 8, .loc 12, .loc 14, .loc 17, .loc 20, .loc 23, .loc 142, .loc 145, .loc 26] },
  { top := [.loc 8, .loc 12, .loc 14, .loc 17, .loc 20, .loc 23, .loc 26, .loc 145, .loc 142], kids := [.loc 8, .loc 12, .loc 14, .loc 17, .loc 20, .loc 23, .loc 145, .loc 26, .loc 142], deep := [.loc 8, .loc 12, .loc 14, .loc 17, .loc 20, .loc 23, .loc 142, .loc 145, .loc 26] },
  { top := [.loc 8, .loc 12, .loc 14, .loc 17, .loc 20, .loc 23, .loc 26, .loc 145, .loc 142], kids := [.loc 8, .loc 12, .loc 14, .loc 17, .loc 20, .loc 23, .loc 145, .loc 26, .loc 142], deep := [.loc 8, .loc 12, .loc 14, .loc 17, .loc 20, .loc 23, .loc 142, .loc 145, .loc 26] },
  { top := [.loc 29], kids := [.loc 29], deep := [.loc 29] },
  { top := [.loc 30], kids := [.loc 29], deep := [.loc 29] },
  { top := [.loc 30], kids := [.loc 29], deep := [.loc 29] },
  { top := [.loc 29], kids := [.loc 29], deep := [.loc 29] },
  { top := [.loc 29], kids := [.loc 29], deep := [.loc 29] },
  { top := [.loc 34], kids := [], deep := [] },
  { top := [.loc 35], kids := [.loc 34], deep := [] },
  { top := [.loc 35], kids := [.loc 34], deep := [] },
  { top := [.loc 37], kids := [.loc 74, .loc 87, .loc 100, .loc 111, .loc 122, .loc 148, .loc 150], deep := [.loc 74, .loc 87, .loc 100, .loc 111, .loc 122, .loc 148] },
  { top := [.loc 37], kids := [.loc 74, .loc 87, .loc 100, .loc 111, .loc 122, .loc 148, .loc 150], deep := [.loc 74, .loc 87, .loc 100, .loc 111, .loc 122, .loc 148] },
  { top := [.loc 39], kids := [], deep := [] },
  {},
  {},
  {},
  { top := [.glob 9], kids := [.glob 9], deep := [.glob 9] },
  { top := [.loc 8, .loc 12, .loc 14, .loc 17, .loc 20, .loc 23, .loc 26, .loc 145], kids := [.loc 8, .loc 12, .loc 14, .loc 17, .loc 20, .loc 23, .loc 26, .loc 145, .loc 142], deep := [.loc 8, .loc 12, .loc 14, .loc 17, .loc 20, .loc 23, .loc 26, .loc 142, .loc 145] },
  { top := [.loc 8, .loc 12, .loc 14, .loc 17, .loc 20, .loc 23, .loc 26, .loc 145], kids := [.loc 8, .loc 12, .loc 14, .loc 17, .loc 20, .loc 23, .loc 26, .loc 145, .loc 142], deep := [.loc 8, .loc 12, .loc 14, .loc 17, .loc 20, .loc 23, .loc 26, .loc 142, .loc 145] },
  { top := [.loc 46], kids := [], deep := [] },
  { top := [.loc 46], kids := [], deep := [] },
  {},
  {},
  {},
  { top := [.glob 10], kids := [.glob 10], deep := [.glob 10] },
  { top := [.loc 8, .loc 12, .loc 14, .loc 17, .loc 20, .loc 23, .loc 26, .loc 145], kids := [.loc 8, .loc 12, .loc 14, .loc 17, .loc 20, .loc 23, .loc 26, .loc 145, .loc 142], deep := [.loc 8, .loc 12, .loc 14, .loc 17, .loc 20, .loc 23, .loc 26, .loc 142, .loc 145] },
  { top := [.loc 8, .loc 12, .loc 14, .loc 17, .loc 20, .loc 23, .loc 26, .loc 145], kids := [.loc 8, .loc 12, .loc 14, .loc 17, .loc 20, .loc 23, .loc 26, .loc 145, .loc 142], deep := [.loc 8, .loc 12, .loc 14, .loc 17, .loc 20, .loc 23, .loc 26, .loc 142, .loc 145] },
  { top := [.loc 54], kids := [], deep := [] },
  { top := [.loc 54], kids := [], deep := [] },
  {},
  {},
  {},
  {},
  {},
  { top := [.loc 61], kids := [.loc 29, .loc 34], deep := [.loc 29] },
  { top := [.loc 62], kids := [.loc 29, .loc 34], deep := [.loc 29] },
  { top := [.loc 29], kids := [.loc 29], deep := [.loc 29] },
  {},
  { top := [.loc 29], kids := [.loc 29], deep := [.loc 29] },
  { top := [.loc 29], kids := [.loc 29], deep := [.loc 29] },
  { top := [.loc 29, .loc 34], kids := [.loc 29], deep := [.loc 29] },
  { top := [.loc 29], kids := [.loc 29], deep := [.loc 29] },
  { top := [.loc 29], kids := [.loc 29], deep := [.loc 29] },
  { top := [.loc 29], kids := [.loc 29], deep := [.loc 29] },
  { top := [.loc 29], kids := [.loc 29], deep := [.loc 29] },
  {},
  {},
  {},
  { top := [.loc 8, .loc 12, .loc 14, .loc 17, .loc 20, .loc 23, .loc 26, .loc 145, .loc 142], kids := [.loc 8, .loc 12, .loc 14, .loc 17, .loc 23, .loc 26, .loc 145, .loc 20, .loc 142], deep := [.loc 8, .loc 12, .loc 14, .loc 17, .loc 23, .loc 26, .loc 142, .loc 145, .loc 20] },
  { top := [.loc 8, .loc 12, .loc 14, .loc 17, .loc 20, .loc 23, .loc 26, .loc 145, .loc 142], kids := [.loc 8, .loc 12, .loc 14, .loc 17, .loc 23, .loc 26, .loc 145, .loc 20, .loc 142], deep := [.loc 8, .loc 12, .loc 14, .loc 17, .loc 23, .loc 26, .loc 142, .loc 145, .loc 20] },
  { top := [.loc 77], kids := [], deep := [] },
  { top := [.loc 8, .loc 12, .loc 14, .loc 17, .loc 20, .loc 77, .loc 23, .loc 26, .loc 145, .loc 142], kids := [.loc 8, .loc 12, .loc 14, .loc 17, .loc 23, .loc 26, .loc 145, .loc 20, .loc 142], deep := [.loc 8, .loc 12, .loc 14, .loc 17, .loc 23, .loc 26, .loc 142, .loc 145, .loc 20] },
  { top := [.loc 8, .loc 12, .loc 14, .loc 17, .loc 23, .loc 26, .loc 145, .loc 20, .loc 142], kids := [.loc 8, .loc 12, .loc 14, .loc 17, .loc 23, .loc 26, .loc 145, .loc 20, .loc 142], deep := [.loc 8, .loc 12, .loc 14, .loc 17, .loc 23, .loc 26, .loc 142, .loc 145, .loc 20] },
  { top := [.loc 8, .loc 12, .loc 14, .loc 17, .loc 23, .loc 26, .loc 145, .loc 20, .loc 142], kids := [.loc 8, .loc 12, .loc 14, .loc 17, .loc 23, .loc 26, .loc 145, .loc 20, .loc 142], deep := [.loc 8, .loc 12, .loc 14, .loc 17, .loc 23, .loc 26, .loc 142, .loc 145, .loc 20] },
  {},
  { top := [.loc 82], kids := [], deep := [] },
  { top := [.loc 82], kids := [], deep := [] },
  {},
  {},
  {},
  {},
  { top := [.loc 8, .loc 12, .loc 14, .loc 17, .loc 20, .loc 23, .loc 26, .loc 145, .loc 142], kids := [.loc 8, .loc 12, .loc 14, .loc 17, .loc 20, .loc 26, .loc 145, .loc 23, .loc 142], deep := [.loc 8, .loc 12, .loc 14, .loc 17, .loc 20, .loc 26, .loc 142, .loc 145, .loc 23] },
  { top := [.loc 8, .loc 12, .loc 14, .loc 17, .loc 20, .loc 23, .loc 26, .loc 145, .loc 142], kids := [.loc 8, .loc 12, .loc 14, .loc 17, .loc 20, .loc 26, .loc 145, .loc 23, .loc 142], deep := [.loc 8, .loc 12, .loc 14, .loc 17, .loc 20, .loc 26, .loc 142, .loc 145, .loc 23] },
  { top := [.loc 90], kids := [], deep := [] },
  { top := [.loc 8, .loc 12, .loc 14, .loc 17, .loc 20, .loc 23, .loc 90, .loc 26, .loc 145, .loc 142], kids := [.loc 8, .loc 12, .loc 14, .loc 17, .loc 20, .loc 26, .loc 145, .loc 23, .loc 142], deep := [.loc 8, .loc 12, .loc 14, .loc 17, .loc 20, .loc 26, .loc 142, .loc 145, .loc 23] },
  { top := [.loc 8, .loc 12, .loc 14, .loc 17, .loc 20, .loc 26, .loc 145, .loc 23, .loc 142], kids := [.loc 8, .loc 12, .loc 14, .loc 17, .loc 20, .loc 26, .loc 145, .loc 23, .loc 142], deep := [.loc 8, .loc 12, .loc 14, .loc 17, .loc 20, .loc 26, .loc 142, .loc 145, .loc 23] },
  { top := [.loc 8, .loc 12, .loc 14, .loc 17, .loc 20, .loc 26, .loc 145, .loc 23, .loc 142], kids := [.loc 8, .loc 12, .loc 14, .loc 17, .loc 20, .loc 26, .loc 145, .loc 23, .loc 142], deep := [.loc 8, .loc 12, .loc 14, .loc 17, .loc 20, .loc 26, .loc 142, .loc 145, .loc 23] },
  {},
  { top := [.loc 95], kids := [], deep := [] },
  { top := [.loc 95], kids := [], deep := [] },
  {},
  {},
  {},
  {},
  { top := [.loc 8, .loc 12, .loc 14, .loc 17, .loc 20, .loc 23, .loc 26, .loc 145, .loc 142], kids := [.loc 8, .loc 12, .loc 14, .loc 17, .loc 20, .loc 23, .loc 145, .loc 26, .loc 142], deep := [.loc 8, .loc 12, .loc 14, .loc 17, .loc 20, .loc 23, .loc 142, .loc 145, .loc 26] },
  { top := [.loc 8, .loc 12, .loc 14, .loc 17, .loc 20, .loc 23, .loc 26, .loc 145, .loc 142], kids := [.loc 8, .loc 12, .loc 14, .loc 17, .loc 20, .loc 23, .loc 145, .loc 26, .loc 142], deep := [.loc 8, .loc 12, .loc 14, .loc 17, .loc 20, .loc 23, .loc 142, .loc 145, .loc 26] },
  { top := [.loc 8, .loc 12, .loc 14, .loc 17, .loc 20, .loc 23, .loc 145, .loc 26, .loc 142], kids := [.loc 8, .loc 12, .loc 14, .loc 17, .loc 20, .loc 23, .loc 145, .loc 26, .loc 142], deep := [.loc 8, .loc 12, .loc 14, .loc 17, .loc 20, .loc 23, .loc 142, .loc 145, .loc 26] },
  { top := [.loc 8, .loc 12, .loc 14, .loc 17, .loc 20, .loc 23, .loc 145, .loc 26, .loc 142], kids := [.loc 8, .loc 12, .loc 14, .loc 17, .loc 20, .loc 23, .loc 145, .loc 26, .loc 142], deep := [.loc 8, .loc 12, .loc 14, .loc 17, .loc 20, .loc 23, .loc 142, .loc 145, .loc 26] },
  { top := [.loc 8, .loc 12, .loc 14, .loc 17, .loc 20, .loc 23, .loc 145, .loc 26, .loc 142], kids := [.loc 8, .loc 12, .loc 14, .loc 17, .loc 20, .loc 23, .loc 145, .loc 26, .loc 142], deep := [.loc 8, .loc 12, .loc 14, .loc 17, .loc 20, .loc 23, .loc 142, .loc 145, .loc 26] },
  { top := [.loc 8, .loc 12, .loc 14, .loc 17, .loc 20, .loc 23, .loc 145, .loc 26, .loc 142], kids := [.loc 8, .loc 12, .loc 14, .loc 17, .loc 20, .loc 23, .loc 145, .loc 26, .loc 142], deep := [.loc 8, .loc 12, .loc 14, .loc 17, .loc 20, .loc 23, .loc 142, .loc 145, .loc 26] },
  {},
  { top := [.loc 108], kids := [], deep := [] },
  { top := [.loc 108], kids := [], deep := [] },
  {},
  {},
  { top := [.loc 8, .loc 12, .loc 14, .loc 17, .loc 20, .loc 23, .loc 26, .loc 145, .loc 142], kids := [.loc 8, .loc 12, .loc 17, .loc 20, .loc 23, .loc 26, .loc 145, .loc 14, .loc 142], deep := [.loc 8, .loc 12, .loc 17, .loc 20, .loc 23, .loc 26, .loc 142, .loc 145, .loc 14] },
  { top := [.loc 8, .loc 12, .loc 14, .loc 17, .loc 20, .loc 23, .loc 26, .loc 145, .loc 142], kids := [.loc 8, .loc 12, .loc 17, .loc 20, .loc 23, .loc 26, .loc 145, .loc 14, .loc 142], deep := [.loc 8, .loc 12, .loc 17, .loc 20, .loc 23, .loc 26, .loc 142, .loc 145, .loc 14] },
  { top := [.loc 8, .loc 12, .loc 17, .loc 20, .loc 23, .loc 26, .loc 145, .loc 14, .loc 142], kids := [.loc 8, .loc 12, .loc 17, .loc 20, .loc 23, .loc 26, .loc 145, .loc 14, .loc 142], deep := [.loc 8, .loc 12, .loc 17, .loc 20, .loc 23, .loc 26, .loc 142, .loc 145, .loc 14] },
  { top := [.loc 8, .loc 12, .loc 17, .loc 20, .loc 23, .loc 26, .loc 145, .loc 14, .loc 142], kids := [.loc 8, .loc 12, .loc 17, .loc 20, .loc 23, .loc 26, .loc 145, .loc 14, .loc 142], deep := [.loc 8, .loc 12, .loc 17, .loc 20, .loc 23, .loc 26, .loc 142, .loc 145, .loc 14] },
  { top := [.loc 8, .loc 12, .loc 17, .loc 20, .loc 23, .loc 26, .loc 145, .loc 14, .loc 142], kids := [.loc 8, .loc 12, .loc 17, .loc 20, .loc 23, .loc 26, .loc 145, .loc 14, .loc 142], deep := [.loc 8, .loc 12, .loc 17, .loc 20, .loc 23, .loc 26, .loc 142, .loc 145, .loc 14] },
  { top := [.loc 8, .loc 12, .loc 17, .loc 20, .loc 23, .loc 26, .loc 145, .loc 14, .loc 142], kids := [.loc 8, .loc 12, .loc 17, .loc 20, .loc 23, .loc 26, .loc 145, .loc 14, .loc 142], deep := [.loc 8, .loc 12, .loc 17, .loc 20, .loc 23, .loc 26, .loc 142, .loc 145, .loc 14] },
  {},
  { top := [.loc 119], kids := [], deep := [] },
  { top := [.loc 119], kids := [], deep := [] },
  {},
  {},
  { top := [.loc 8, .loc 12, .loc 14, .loc 17, .loc 20, .loc 23, .loc 26, .loc 145, .loc 142], kids := [.loc 8, .loc 12, .loc 14, .loc 20, .loc 23, .loc 26, .loc 145, .loc 17, .loc 142], deep := [.loc 8, .loc 12, .loc 14, .loc 20, .loc 23, .loc 26, .loc 142, .loc 145, .loc 17] },
  { top := [.loc 8, .loc 12, .loc 14, .loc 17, .loc 20, .loc 23, .loc 26, .loc 145, .loc 142], kids := [.loc 8, .loc 12, .loc 14, .loc 20, .loc 23, .loc 26, .loc 145, .loc 17, .loc 142], deep := [.loc 8, .loc 12, .loc 14, .loc 20, .loc 23, .loc 26, .loc 142, .loc 145, .loc 17] },
  { top := [.loc 8, .loc 12, .loc 14, .loc 20, .loc 23, .loc 26, .loc 145, .loc 17, .loc 142], kids := [.loc 8, .loc 12, .loc 14, .loc 20, .loc 23, .loc 26, .loc 145, .loc 17, .loc 142], deep := [.loc 8, .loc 12, .loc 14, .loc 20, .loc 23, .loc 26, .loc 142, .loc 145, .loc 17] },
  {},
  { top := [.loc 8, .loc 12, .loc 14, .loc 20, .loc 23, .loc 26, .loc 145, .loc 17, .loc 142], kids := [.loc 8, .loc 12, .loc 14, .loc 20, .loc 23, .loc 26, .loc 145, .loc 17, .loc 142], deep := [.loc 8, .loc 12, .loc 14, .loc 20, .loc 23, .loc 26, .loc 142, .loc 145, .loc 17] },
  { top := [.loc 8, .loc 12, .loc 14, .loc 20, .loc 23, .loc 26, .loc 145, .loc 17, .loc 142], kids := [.loc 8, .loc 12, .loc 14, .loc 20, .loc 23, .loc 26, .loc 145, .loc 17, .loc 142], deep := [.loc 8, .loc 12, .loc 14, .loc 20, .loc 23, .loc 26, .loc 142, .loc 145, .loc 17] },
  { top := [.loc 8, .loc 12, .loc 14, .loc 20, .loc 23, .loc 26, .loc 145, .loc 17, .loc 142], kids := [.loc 8, .loc 12, .loc 14, .loc 20, .loc 23, .loc 26, .loc 145, .loc 17, .loc 142], deep := [.loc 8, .loc 12, .loc 14, .loc 20, .loc 23, .loc 26, .loc 142, .loc 145, .loc 17] },
  { top := [.loc 8, .loc 12, .loc 14, .loc 20, .loc 23, .loc 26, .loc 145, .loc 17, .loc 142], kids := [.loc 8, .loc 12, .loc 14, .loc 20, .loc 23, .loc 26, .loc 145, .loc 17, .loc 142], deep := [.loc 8, .loc 12, .loc 14, .loc 20, .loc 23, .loc 26, .loc 142, .loc 145, .loc 17] },
  { top := [.loc 8, .loc 12, .loc 14, .loc 20, .loc 23, .loc 26, .loc 145, .loc 17, .loc 142], kids := [.loc 8, .loc 12, .loc 14, .loc 20, .loc 23, .loc 26, .loc 145, .loc 17, .loc 142], deep := [.loc 8, .loc 12, .loc 14, .loc 20, .loc 23, .loc 26, .loc 142, .loc 145, .loc 17] },
  { top := [.loc 8, .loc 12, .loc 14, .loc 20, .loc 23, .loc 26, .loc 145, .loc 17, .loc 142], kids := [.loc 8, .loc 12, .loc 14, .loc 20, .loc 23, .loc 26, .loc 145, .loc 17, .loc 142], deep := [.loc 8, .loc 12, .loc 14, .loc 20, .loc 23, .loc 26, .loc 142, .loc 145, .loc 17] },
  { top := [.loc 8, .loc 12, .loc 14, .loc 20, .loc 23, .loc 26, .loc 145, .loc 17, .loc 142], kids := [.loc 8, .loc 12, .loc 14, .loc 20, .loc 23, .loc 26, .loc 145, .loc 17, .loc 142], deep := [.loc 8, .loc 12, .loc 14, .loc 20, .loc 23, .loc 26, .loc 142, .loc 145, .loc 17] },
  { top := [.loc 8, .loc 12, .loc 14, .loc 20, .loc 23, .loc 26, .loc 145, .loc 17, .loc 142], kids := [.loc 8, .loc 12, .loc 14, .loc 20, .loc 23, .loc 26, .loc 145, .loc 17, .loc 142], deep := [.loc 8, .loc 12, .loc 14, .loc 20, .loc 23, .loc 26, .loc 142, .loc 145, .loc 17] },
  { top := [.loc 8, .loc 12, .loc 14, .loc 20, .loc 23, .loc 26, .loc 145, .loc 17, .loc 142], kids := [.loc 8, .loc 12, .loc 14, .loc 20, .loc 23, .loc 26, .loc 145, .loc 17, .loc 142], deep := [.loc 8, .loc 12, .loc 14, .loc 20, .loc 23, .loc 26, .loc 142, .loc 145, .loc 17] },
  { top := [.loc 8, .loc 12, .loc 14, .loc 20, .loc 23, .loc 26, .loc 145, .loc 17, .loc 142], kids := [.loc 8, .loc 12, .loc 14, .loc 20, .loc 23, .loc 26, .loc 145, .loc 17, .loc 142], deep := [.loc 8, .loc 12, .loc 14, .loc 20, .loc 23, .loc 26, .loc 142, .loc 145, .loc 17] },
  { top := [.loc 8, .loc 12, .loc 14, .loc 20, .loc 23, .loc 26, .loc 145, .loc 17, .loc 142], kids := [.loc 8, .loc 12, .loc 14, .loc 20, .loc 23, .loc 26, .loc 145, .loc 17, .loc 142], deep := [.loc 8, .loc 12, .loc 14, .loc 20, .loc 23, .loc 26, .loc 142, .loc 145, .loc 17] },
  { top := [.loc 8, .loc 12, .loc 14, .loc 20, .loc 23, .loc 26, .loc 145, .loc 17, .loc 142], kids := [.loc 8, .loc 12, .loc 14, .loc 20, .loc 23, .loc 26, .loc 145, .loc 17, .loc 142], deep := [.loc 8, .loc 12, .loc 14, .loc 20, .loc 23, .loc 26, .loc 142, .loc 145, .loc 17] },
  {},
  { top := [.loc 140], kids := [], deep := [] },
  { top := [.loc 140], kids := [], deep := [] },
  { top := [.loc 142], kids := [.loc 145], deep := [.loc 142, .loc 145] },
  {},
  { top := [.loc 142], kids := [.loc 145], deep := [.loc 142, .loc 145] },
  { top := [.loc 145], kids := [.loc 142, .loc 145], deep := [.loc 142, .loc 145] },
  { top := [.loc 8, .loc 12, .loc 14, .loc 20, .loc 23, .loc 26, .loc 145, .loc 17, .loc 142], kids := [.loc 8, .loc 12, .loc 14, .loc 20, .loc 23, .loc 26, .loc 145, .loc 17, .loc 142], deep := [.loc 8, .loc 12, .loc 14, .loc 20, .loc 23, .loc 26, .loc 142, .loc 145, .loc 17] },
  { top := [.loc 8, .loc 12, .loc 14, .loc 17, .loc 20, .loc 23, .loc 26, .loc 145, .loc 142], kids := [.loc 8, .loc 12, .loc 14, .loc 20, .loc 23, .loc 26, .loc 145, .loc 17, .loc 142], deep := [.loc 8, .loc 12, .loc 14, .loc 20, .loc 23, .loc 26, .loc 142, .loc 145, .loc 17] },
  {},
  {},
  {},
  {}]

/-- peptacular.mass_calc.dalton_error -/
def prog_78 : List Stmt := [
  .param 0 0,
  .param 1 1,
  .param 2 2]

def table_78 : Pts := [
  { top := [.root 0], kids := [.inner 0], deep := [.inner 0] },
  { top := [.root 1], kids := [.inner 1], deep := [.inner 1] },
  { top := [.root 2], kids := [.inner 2], deep := [.inner 2] }]

/-- peptacular.mass_calc.glycan_mass -/
def prog_79 : List Stmt := [
  .param 0 0,
  .param 1 1,
  .param 2 2,
  .leaf 4 0,
  .alias 5 [4],
  .leaf 6 0,
  .leaf 7 0,
  .call 8 56 [some 7, none],
  .leaf 9 8,
  .alias 10 [9],
  .alias 11 [10, 0],
  .leaf 13 11,
  .shallow 14 [13],
  .alias 17 [12],
  .elem 19 14,
  .global 20 41,
  .call 21 125 [some 20, none],
  .call 22 128 [some 20, none],
  .alias 16 [22],
  .call 23 126 [some 20, none],
  .call 24 129 [some 20, none],
  .alias 16 [24],
  .leaf 25 5,
  .elem 26 16,
  .alias 17 [17],
  .elem 27 16,
  .alias 29 [28, 17]]

def table_79 : Pts := [
  { top := [.root 0], kids := [.inner 0], deep := [.inner 0] },
  { top := [.root 1], kids := [.inner 1], deep := [.inner 1] },
  { top := [.root 2], kids := [.inner 2], deep := [.inner 2] },
  {},
  { top := [.root 0], kids := [], deep := [] },
  { top := [.root 0], kids := [], deep := [] },
  { top := [.root 0], kids := [], deep := [] },
  { top := [.root 0], kids := [], deep := [] },
  { top := [.loc 8], kids := [], deep := [] },
  { top := [.loc 8], kids := [], deep := [] },
  { top := [.loc 8], kids := [], deep := [] },
  { top := [.loc 8, .root 0], kids := [.inner 0], deep := [.inner 0] },
  {},
  { top := [.loc 8, .root 0], kids := [], deep := [] },
  { top := [.loc 14], kids := [], deep := [] },
  {},
  { top := [.glob 41], kids := [.glob 41], deep := [.glob 41] },
  {},
  {},
  {},
  { top := [.glob 41], kids := [.glob 41], deep := [.glob 41] },
  {},
  { top := [.glob 41], kids := [.glob 41], deep := [.glob 41] },
  {},
  { top := [.glob 41], kids := [.glob 41], deep := [.glob 41] },
  { top := [.root 0], kids := [], deep := [] },
  { top := [.glob 41], kids := [.glob 41], deep := [.glob 41] },
  { top := [.glob 41], kids := [.glob 41], deep := [.glob 41] },
  {},
  {}]

/-- peptacular.mass_calc.glycan_mz -/
def prog_80 : List Stmt := [
  .param 0 0,
  .param 1 1,
  .param 2 2,
  .param 3 3,
  .leaf 5 0,
  .call 6 79 [some 5, none, none],
  .alias 7 [6],
  .call 8 73 [none, none, none]]

def table_80 : Pts := [
  { top := [.root 0], kids := [.inner 0], deep := [.inner 0] },
  { top := [.root 1], kids := [.inner 1], deep := [.inner 1] },
  { top := [.root 2], kids := [.inner 2], deep := [.inner 2] },
  { top := [.root 3], kids := [.inner 3], deep := [.inner 3] },
  {},
  { top := [.root 0], kids := [], deep := [] },
  {},
  {},
  {}]

/-- peptacular.mass_calc.mass -/
def prog_81 : List Stmt := [
  .param 0 0,
  .param 1 1,
  .param 2 2,
  .param 3 3,
  .param 4 4,
  .param 5 5,
  .param 6 6,
  .param 7 7,
  .param 8 8,
  .param 9 9,
  .call 11 387 [some 0],
  .alias 12 [11],
  .alias 13 [0],
  .alias 14 [12, 13],
  .alias 16 [15, 1],
  .elem 17 14,
  .asRec 18 17 1,
  .elem 19 14,
  .asRec 20 19 1,
  .elem 21 14,
  .asRec 22 21 1,
  .elem 23 22,
  .asRec 24 23 0,
  .alias 25 [24],
  .elem 26 14,
  .asRec 27 26 1,
  .elem 28 14,
  .asRec 29 28 1,
  .elem 30 29,
  .asRec 32 30 0,
  .alias 31 [32],
  .asRec 33 31 0,
  .asRec 34 31 0,
  .asRec 35 31 0,
  .alias 36 [35],
  .pack 37 [],
  .leaf 38 37,
  .alias 40 [39, 6],
  .alias 41 [25, 40],
  .alias 42 [41, 6],
  .elem 43 14,
  .asRec 44 43 1,
  .asRec 45 7 1,
  .elem 46 14,
  .asRec 47 46 1,
  .alias 48 [47],
  .alias 49 [48, 7],
  .asRec 50 49 1,
  .asRec 51 49 1,
  .asRec 52 42 0,
  .asRec 53 49 1,
  .call 54 76 [some 14, none, none, none, some 52, some 53, none],
  .elem 55 54,
  .alias 56 [55],
  .elem 57 54,
  .alias 58 [57],
  .call 59 15 [some 56, none, none, none],
  .alias 62 [61, 60],
  .pack 63 [],
  .shallow 64 [],
  .call 66 222 [some 14],
  .elem 67 14,
  .asRec 68 67 1,
  .call 69 315 [some 68],
  .asRec 70 69 2,
  .alias 71 [70],
  .asRec 72 71 2,
  .elem 73 72,
  .alias 74 [73],
  .elem 75 74,
  .alias 76 [75],
  .call 77 82 [some 76, none, none],
  .pack 78 [77],
  .leaf 79 78,
  .alias 80 [65],
  .alias 81 [80, 65],
  .asRec 82 71 2,
  .elem 83 82,
  .alias 84 [83],
  .elem 85 84,
  .alias 86 [85],
  .call 87 82 [some 86, none, none],
  .pack 88 [87],
  .leaf 89 88,
  .alias 90 [81],
  .alias 91 [90, 81],
  .asRec 92 71 2,
  .shallow 93 [92],
  .alias 96 [91],
  .elem 98 93,
  .elem 99 98,
  .asRec 100 99 1,
  .alias 97 [100],
  .pack 101 [],
  .asRec 102 97 1,
  .elem 103 102,
  .asRec 105 103 0,
  .alias 104 [105],
  .asRec 106 104 0,
  .call 107 82 [some 106, none, none],
  .pack 108 [107],
  .leaf 109 108,
  .alias 96 [96],
  .alias 110 [96, 65],
  .alias 111 [94],
  .alias 112 [110],
  .global 114 37,
  .elem 115 114,
  .global 116 38,
  .elem 117 116,
  .alias 118 [115, 117],
  .pack 119 [118],
  .alias 112 [112],
  .call 121 218 [some 14],
  .alias 122 [121],
  .elem 123 14,
  .asRec 124 123 1,
  .alias 125 [112],
  .alias 126 [97],
  .elem 127 124,
  .asRec 128 127 0,
  .alias 126 [128],
  .call 129 82 [some 126, none, none],
  .alias 130 [125, 129],
  .alias 125 [130],
  .alias 131 [125, 112],
  .alias 132 [126, 97],
  .call 133 223 [some 14],
  .elem 134 14,
  .asRec 135 134 1,
  .alias 136 [131],
  .alias 137 [132],
  .elem 138 135,
  .asRec 139 138 0,
  .alias 137 [139],
  .call 140 82 [some 137, none, none],
  .alias 141 [136, 140],
  .alias 136 [141],
  .alias 142 [136, 131],
  .alias 143 [137, 132],
  .call 144 220 [some 14],
  .elem 145 14,
  .asRec 146 145 1,
  .alias 147 [142],
  .alias 148 [143],
  .elem 149 146,
  .asRec 150 149 0,
  .alias 148 [150],
  .call 151 82 [some 148, none, none],
  .alias 152 [147, 151],
  .alias 147 [152],
  .alias 153 [147, 142],
  .alias 154 [148, 143],
  .call 155 216 [some 14],
  .elem 156 14,
  .asRec 157 156 1,
  .alias 159 [153],
  .alias 160 [154],
  .elem 161 157,
  .asRec 162 161 0,
  .alias 158 [162],
  .asRec 163 158 0,
  .elem 164 163,
  .asRec 165 164 1,
  .asRec 166 158 0,
  .elem 167 166,
  .asRec 168 167 1,
  .elem 169 168,
  .asRec 170 169 0,
  .alias 160 [170],
  .call 171 82 [some 160, none, none],
  .alias 172 [159, 171],
  .alias 159 [172],
  .alias 173 [159, 153],
  .alias 174 [160, 154],
  .call 175 214 [some 14],
  .elem 176 14,
  .shallow 177 [176],
  .alias 179 [173],
  .alias 180 [174],
  .elem 182 177,
  .elem 183 182,
  .alias 181 [183],
  .elem 184 181,
  .alias 180 [184],
  .call 185 82 [some 180, none, none],
  .alias 186 [179, 185],
  .alias 179 [186],
  .alias 187 [179, 173],
  .alias 188 [180, 174],
  .call 189 213 [some 14],
  .elem 190 14,
  .asRec 191 190 1,
  .alias 192 [187],
  .alias 193 [188],
  .elem 194 191,
  .asRec 195 194 0,
  .alias 193 [195],
  .call 196 82 [some 193, none, none],
  .alias 197 [192, 196],
  .alias 192 [197],
  .alias 198 [192, 187],
  .alias 199 [193, 188],
  .asRec 200 42 0,
  .call 201 72 [none, none, none, none, none, none, some 200, none]]

def table_81 : Pts := [
  { top := [.root 0], kids := [.inner 0], deep := [.inner 0] },
  { top := [.root 1], kids := [.inner 1], deep := [.inner 1] },
  { top := [.root 2], kids := [.inner 2], deep := [.inner 2] },
  { top := [.root 3], kids := [.inner 3], deep := [.inner 3] },
  { top := [.root 4], kids := [.inner 4], deep := [.inner 4] },
  { top := [.root 5], kids := [.inner 5], deep := [.inner 5] },
  { top := [.root 6], kids := [.inner 6], deep := [.inner 6] },
  { top := [.root 7], kids := [.inner 7], deep := [.inner 7] },
  { top := [.root 8], kids := [.inner 8], deep := [.inner 8] },
  { top := [.root 9], kids := [.inner 9], deep := [.inner 9] },
  {},
  { top := [.loc 11], kids := [.loc 11], deep := [.loc 11] },
  { top := [.loc 11], kids := [.loc 11], deep := [.loc 11] },
  { top := [.root 0], kids := [.inner 0], deep := [.inner 0] },
  { top := [.loc 11, .root 0], kids := [.loc 11, .inner 0], deep := [.loc 11, .inner 0] },
  {},
  { top := [.root 1], kids := [.inner 1], deep := [.inner 1] },
  { top := [.loc 11, .inner 0], kids := [.loc 11, .inner 0], deep := [.loc 11, .inner 0] },
  { top := [.loc 11, .inner 0], kids := [.loc 11, .recd 0], deep := [.loc 11, .recd 0] },
  { top := [.loc 11, .inner 0], kids := [.loc 11, .inner 0], deep := [.loc 11, .inner 0] },
  { top := [.loc 11, .inner 0], kids := [.loc 11, .recd 0], deep := [.loc 11, .recd 0] },
  { top := [.loc 11, .inner 0], kids := [.loc 11, .inner 0], deep := [.loc 11, .inner 0] },
  { top := [.loc 11, .inner 0], kids := [.loc 11, .recd 0], deep := [.loc 11, .recd 0] },
  { top := [.loc 11, .recd 0], kids := [.loc 11, .recd 0], deep := [.loc 11, .recd 0] },
  { top := [.loc 11, .recd 0], kids := [.loc 11, .recd 0], deep := [.loc 11, .recd 0] },
  { top := [.loc 11, .recd 0], kids := [.loc 11, .recd 0], deep := [.loc 11, .recd 0] },
  { top := [.loc 11, .inner 0], kids := [.loc 11, .inner 0], deep := [.loc 11, .inner 0] },
  { top := [.loc 11, .inner 0], kids := [.loc 11, .recd 0], deep := [.loc 11, .recd 0] },
  { top := [.loc 11, .inner 0], kids := [.loc 11, .inner 0], deep := [.loc 11, .inner 0] },
  { top := [.loc 11, .inner 0], kids := [.loc 11, .recd 0], deep := [.loc 11, .recd 0] },
  { top := [.loc 11, .recd 0], kids := [.loc 11, .recd 0], deep := [.loc 11, .recd 0] },
  { top := [.loc 11, .recd 0], kids := [.loc 11, .recd 0], deep := [.loc 11, .recd 0] },
  { top := [.loc 11, .recd 0], kids := [.loc 11, .recd 0], deep := [.loc 11, .recd 0] },
  { top := [.loc 11, .recd 0], kids := [.loc 11, .recd 0], deep := [.loc 11, .recd 0] },
  { top := [.loc 11, .recd 0], kids := [.loc 11, .recd 0], deep := [.loc 11, .recd 0] },
  { top := [.loc 11, .recd 0], kids := [.loc 11, .recd 0], deep := [.loc 11, .recd 0] },
  { top := [.loc 11, .recd 0], kids := [.loc 11, .recd 0], deep := [.loc 11, .recd 0] },
  { top := [.loc 37], kids := [], deep := [] },
  { top := [.loc 37], kids := [], deep := [] },
  {},
  { top := [.root 6], kids := [.inner 6], deep := [.inner 6] },
  { top := [.loc 11, .recd 0, .root 6], kids := [.loc 11, .recd 0, .inner 6], deep := [.loc 11, .recd 0, .inner 6] },
  { top := [.loc 11, .recd 0, .root 6], kids := [.loc 11, .recd 0, .inner 6], deep := [.loc 11, .recd 0, .inner 6] },
  { top := [.loc 11, .inner 0], kids := [.loc 11, .inner 0], deep := [.loc 11, .inner 0] },
  { top := [.loc 11, .inner 0], kids := [.loc 11, .recd 0], deep := [.loc 11, .recd 0] },
  { top := [.root 7], kids := [.recd 7], deep := [.recd 7] },
  { top := [.loc 11, .inner 0], kids := [.loc 11, .inner 0], deep := [.loc 11, .inner 0] },
  { top := [.loc 11, .inner 0], kids := [.loc 11, .recd 0], deep := [.loc 11, .recd 0] },
  { top := [.loc 11, .inner 0], kids := [.loc 11, .recd 0], deep := [.loc 11, .recd 0] },
  { top := [.loc 11, .inner 0, .root 7], kids := [.loc 11, .recd 0, .inner 7], deep := [.loc 11, .recd 0, .inner 7] },
  { top := [.loc 11, .inner 0, .root 7], kids := [.loc 11, .recd 0, .recd 7], deep := [.loc 11, .recd 0, .recd 7] },
  { top := [.loc 11, .inner 0, .root 7], kids := [.loc 11, .recd 0, .recd 7], deep := [.loc 11, .recd 0, .recd 7] },
  { top := [.loc 11, .recd 0, .recTop 6], kids := [.loc 11, .recd 0, .recd 6], deep := [.loc 11, .recd 0, .recd 6] },
  { top := [.loc 11, .inner 0, .root 7], kids := [.loc 11, .recd 0, .recd 7], deep := [.loc 11, .recd 0, .recd 7] },
  { top := [.loc 54], kids := [.loc 54], deep := [] },
  { top := [.loc 54], kids := [], deep := [] },
  { top := [.loc 54], kids := [], deep := [] },
  { top := [.loc 54], kids := [], deep := [] },
  { top := [.loc 54], kids := [], deep := [] },
  {},
  {},
  {},
  {},
  { top := [.loc 63], kids := [], deep := [] },
  { top := [.loc 64], kids := [], deep := [] },
  {},
  {},
  { top := [.loc 11, .inner 0], kids := [.loc 11, .inner 0], deep := [.loc 11, .inner 0] },
  { top := [.loc 11, .inner 0], kids := [.loc 11, .recd 0], deep := [.loc 11, .recd 0] },
  { top := [.loc 69], kids := [.loc 69], deep := [.loc 69] },
  { top := [.loc 69], kids := [.loc 69], deep := [.loc 69] },
  { top := [.loc 69], kids := [.loc 69], deep := [.loc 69] },
  { top := [.loc 69], kids := [.loc 69], deep := [.loc 69] },
  { top := [.loc 69], kids := [.loc 69], deep := [.loc 69] },
  { top := [.loc 69], kids := [.loc 69], deep := [.loc 69] },
  { top := [.loc 69], kids := [.loc 69], deep := [.loc 69] },
  { top := [.loc 69], kids := [.loc 69], deep := [.loc 69] },
  {},
  { top := [.loc 78], kids := [], deep := [] },
  { top := [.loc 78], kids := [], deep := [] },
  {},
  {},
  { top := [.loc 69], kids := [.loc 69], deep := [.loc 69] },
  { top := [.loc 69], kids := [.loc 69], deep := [.loc 69] },
  { top := [.loc 69], kids := [.loc 69], deep := [.loc 69] },
  { top := [.loc 69], kids := [.loc 69], deep := [.loc 69] },
  { top := [.loc 69], kids := [.loc 69], deep := [.loc 69] },
  {},
  { top := [.loc 88], kids := [], deep := [] },
  { top := [.loc 88], kids := [], deep := [] },
  {},
  {},
  { top := [.loc 69], kids := [.loc 69], deep := [.loc 69] },
  { top := [.loc 93], kids := [.loc 69], deep := [.loc 69] },
  {},
  {},
  {},
  { top := [.loc 69], kids := [.loc 69], deep := [.loc 69] },
  { top := [.loc 69], kids := [.loc 69], deep := [.loc 69] },
  { top := [.loc 69], kids := [.loc 69], deep := [.loc 69] },
  { top := [.loc 69], kids := [.loc 69], deep := [.loc 69] },
  { top := [.loc 101], kids := [], deep := [] },
  { top := [.loc 69], kids := [.loc 69], deep := [.loc 69] },
  { top := [.loc 69], kids := [.loc 69], deep := [.loc 69] },
  { top := [.loc 69], kids := [.loc 69], deep := [.loc 69] },
  { top := [.loc 69], kids := [.loc 69], deep := [.loc 69] },
  { top := [.loc 69], kids := [.loc 69], deep := [.loc 69] },
  {},
  { top := [.loc 108], kids := [], deep := [] },
  { top := [.loc 108], kids := [], deep := [] },
  {},
  {},
  {},
  {},
  { top := [.glob 37], kids := [.glob 37], deep := [.glob 37] },
  { top := [.glob 37], kids := [.glob 37], deep := [.glob 37] },
  { top := [.glob 38], kids := [.glob 38], deep := [.glob 38] },
  { top := [.glob 38], kids := [.glob 38], deep := [.glob 38] },
  { top := [.glob 37, .glob 38], kids := [.glob 37, .glob 38], deep := [.glob 37, .glob 38] },
  { top := [.loc 119], kids := [.glob 37, .glob 38], deep := [.glob 37, .glob 38] },
  {},
  {},
  {},
  { top := [.loc 11, .inner 0], kids := [.loc 11, .inner 0], deep := [.loc 11, .inner 0] },
  { top := [.loc 11, .inner 0], kids := [.loc 11, .recd 0], deep := [.loc 11, .recd 0] },
  {},
  { top := [.loc 69, .loc 11, .recd 0], kids := [.loc 69, .loc 11, .recd 0], deep := [.loc 69, .loc 11, .recd 0] },
  { top := [.loc 11, .recd 0], kids := [.loc 11, .recd 0], deep := [.loc 11, .recd 0] },
  { top := [.loc 11, .recd 0], kids := [.loc 11, .recd 0], deep := [.loc 11, .recd 0] },
  {},
  {},
  {},
  { top := [.loc 69, .loc 11, .recd 0], kids := [.loc 69, .loc 11, .recd 0], deep := [.loc 69, .loc 11, .recd 0] },
  {},
  { top := [.loc 11, .inner 0], kids := [.loc 11, .inner 0], deep := [.loc 11, .inner 0] },
  { top := [.loc 11, .inner 0], kids := [.loc 11, .recd 0], deep := [.loc 11, .recd 0] },
  {},
  { top := [.loc 69, .loc 11, .recd 0], kids := [.loc 69, .loc 11, .recd 0], deep := [.loc 69, .loc 11, .recd 0] },
  { top := [.loc 11, .recd 0], kids := [.loc 11, .recd 0], deep := [.loc 11, .recd 0] },
  { top := [.loc 11, .recd 0], kids := [.loc 11, .recd 0], deep := [.loc 11, .recd 0] },
  {},
  {},
  {},
  { top := [.loc 69, .loc 11, .recd 0], kids := [.loc 69, .loc 11, .recd 0], deep := [.loc 69, .loc 11, .recd 0] },
  {},
  { top := [.loc 11, .inner 0], kids := [.loc 11, .inner 0], deep := [.loc 11, .inner 0] },
  { top := [.loc 11, .inner 0], kids := [.loc 11, .recd 0], deep := [.loc 11, .recd 0] },
  {},
  { top := [.loc 69, .loc 11, .recd 0], kids := [.loc 69, .loc 11, .recd 0], deep := [.loc 69, .loc 11, .recd 0] },
  { top := [.loc 11, .recd 0], kids := [.loc 11, .recd 0], deep := [.loc 11, .recd 0] },
  { top := [.loc 11, .recd 0], kids := [.loc 11, .recd 0], deep := [.loc 11, .recd 0] },
  {},
  {},
  {},
  { top := [.loc 69, .loc 11, .recd 0], kids := [.loc 69, .loc 11, .recd 0], deep := [.loc 69, .loc 11, .recd 0] },
  {},
  { top := [.loc 11, .inner 0], kids := [.loc 11, .inner 0], deep := [.loc 11, .inner 0] },
  { top := [.loc 11, .inner 0], kids := [.loc 11, .recd 0], deep := [.loc 11, .recd 0] },
  { top := [.loc 11, .recd 0], kids := [.loc 11, .recd 0], deep := [.loc 11, .recd 0] },
  {},
  { top := [.loc 69, .loc 11, .recd 0], kids := [.loc 69, .loc 11, .recd 0], deep := [.loc 69, .loc 11, .recd 0] },
  { top := [.loc 11, .recd 0], kids := [.loc 11, .recd 0], deep := [.loc 11, .recd 0] },
  { top := [.loc 11, .recd 0], kids := [.loc 11, .recd 0], deep := [.loc 11, .recd 0] },
  { top := [.loc 11, .recd 0], kids := [.loc 11, .recd 0], deep := [.loc 11, .recd 0] },
  { top := [.loc 11, .recd 0], kids := [.loc 11, .recd 0], deep := [.loc 11, .recd 0] },
  { top := [.loc 11, .recd 0], kids := [.loc 11, .recd 0], deep := [.loc 11, .recd 0] },
  { top := [.loc 11, .recd 0], kids := [.loc 11, .recd 0], deep := [.loc 11, .recd 0] },
  { top := [.loc 11, .recd 0], kids := [.loc 11, .recd 0], deep := [.loc 11, .recd 0] },
  { top := [.loc 11, .recd 0], kids := [.loc 11, .recd 0], deep := [.loc 11, .recd 0] },
  { top := [.loc 11, .recd 0], kids := [.loc 11, .recd 0], deep := [.loc 11, .recd 0] },
  { top := [.loc 11, .recd 0], kids := [.loc 11, .recd 0], deep := [.loc 11, .recd 0] },
  {},
  {},
  {},
  { top := [.loc 69, .loc 11, .recd 0], kids := [.loc 69, .loc 11, .recd 0], deep := [.loc 69, .loc 11, .recd 0] },
  {},
  { top := [.loc 11, .inner 0], kids := [.loc 11, .inner 0], deep := [.loc 11, .inner 0] },
  { top := [.loc 177], kids := [.loc 11, .inner 0], deep := [.loc 11, .inner 0] },
  {},
  {},
  { top := [.loc 69, .loc 11, .recd 0, .inner 0], kids := [.loc 69, .loc 11, .recd 0, .inner 0], deep := [.loc 69, .loc 11, .recd 0, .inner 0] },
  { top := [.loc 11, .inner 0], kids := [.loc 11, .inner 0], deep := [.loc 11, .inner 0] },
  { top := [.loc 11, .inner 0], kids := [.loc 11, .inner 0], deep := [.loc 11, .inner 0] },
  { top := [.loc 11, .inner 0], kids := [.loc 11, .inner 0], deep := [.loc 11, .inner 0] },
  { top := [.loc 11, .inner 0], kids := [.loc 11, .inner 0], deep := [.loc 11, .inner 0] },
  {},
  {},
  {},
  { top := [.loc 69, .loc 11, .recd 0, .inner 0], kids := [.loc 69, .loc 11, .recd 0, .inner 0], deep := [.loc 69, .loc 11, .recd 0, .inner 0] },
  {},
  { top := [.loc 11, .inner 0], kids := [.loc 11, .inner 0], deep := [.loc 11, .inner 0] },
  { top := [.loc 11, .inner 0], kids := [.loc 11, .recd 0], deep := [.loc 11, .recd 0] },
  {},
  { top := [.loc 69, .loc 11, .recd 0, .inner 0], kids := [.loc 69, .loc 11, .recd 0, .inner 0], deep := [.loc 69, .loc 11, .recd 0, .inner 0] },
  { top := [.loc 11, .recd 0], kids := [.loc 11, .recd 0], deep := [.loc 11, .recd 0] },
  { top := [.loc 11, .recd 0], kids := [.loc 11, .recd 0], deep := [.loc 11, .recd 0] },
  {},
  {},
  {},
  { top := [.loc 69, .loc 11, .recd 0, .inner 0], kids := [.loc 69, .loc 11, .recd 0, .inner 0], deep := [.loc 69, .loc 11, .recd 0, .inner 0] },
  { top := [.loc 11, .recd 0, .recTop 6], kids := [.loc 11, .recd 0, .recd 6], deep := [.loc 11, .recd 0, .recd 6] },
  {}]

/-- peptacular.mass_calc.mod_mass -/
def prog_82 : List Stmt := [
  .param 0 0,
  .param 1 1,
  .param 2 2,
  .asRec 4 0 1,
  .asRec 5 0 1,
  .elem 6 5,
  .asRec 8 6 0,
  .alias 7 [8],
  .asRec 9 7 0,
  .call 10 82 [some 9, none, none],
  .pack 11 [10],
  .leaf 12 11,
  .asRec 13 0 1,
  .asRec 14 0 0,
  .call 15 82 [none, none, none],
  .asRec 16 0 1,
  .asRec 17 0 1,
  .asRec 18 0 1,
  .asRec 19 0 1,
  .asRec 20 0 1,
  .alias 21 [20],
  .asRec 22 0 1,
  .elem 25 23,
  .alias 24 [25],
  .call 26 69 [some 24, none, none],
  .alias 24 [26],
  .asRec 27 0 1]

def table_82 : Pts := [
  { top := [.root 0], kids := [.inner 0], deep := [.inner 0] },
  { top := [.root 1], kids := [.inner 1], deep := [.inner 1] },
  { top := [.root 2], kids := [.inner 2], deep := [.inner 2] },
  {},
  { top := [.root 0], kids := [.recd 0], deep := [.recd 0] },
  { top := [.root 0], kids := [.recd 0], deep := [.recd 0] },
  { top := [.recd 0], kids := [.recd 0], deep := [.recd 0] },
  { top := [.recd 0], kids := [.recd 0], deep := [.recd 0] },
  { top := [.recd 0], kids := [.recd 0], deep := [.recd 0] },
  { top := [.recd 0], kids := [.recd 0], deep := [.recd 0] },
  {},
  { top := [.loc 11], kids := [], deep := [] },
  { top := [.loc 11], kids := [], deep := [] },
  { top := [.root 0], kids := [.recd 0], deep := [.recd 0] },
  { top := [.recTop 0], kids := [.recd 0], deep := [.recd 0] },
  {},
  { top := [.root 0], kids := [.recd 0], deep := [.recd 0] },
  { top := [.root 0], kids := [.recd 0], deep := [.recd 0] },
  { top := [.root 0], kids := [.recd 0], deep := [.recd 0] },
  { top := [.root 0], kids := [.recd 0], deep := [.recd 0] },
  { top := [.root 0], kids := [.recd 0], deep := [.recd 0] },
  { top := [.root 0], kids := [.recd 0], deep := [.recd 0] },
  { top := [.root 0], kids := [.recd 0], deep := [.recd 0] },
  {},
  {},
  {},
  {},
  { top := [.root 0], kids := [.recd 0], deep := [.recd 0] }]

/-- peptacular.mass_calc.mz -/
def prog_83 : List Stmt := [
  .param 0 0,
  .param 1 1,
  .param 2 2,
  .param 3 3,
  .param 4 4,
  .param 5 5,
  .param 6 6,
  .param 7 7,
  .param 8 8,
  .call 10 387 [some 0],
  .alias 11 [10],
  .alias 12 [0],
  .alias 13 [11, 12],
  .alias 15 [14, 1],
  .asRec 16 7 1,
  .call 17 81 [some 13, none, none, none, none, none, none, some 16, none, none],
  .alias 18 [17],
  .call 19 73 [none, none, none]]

def table_83 : Pts := [
  { top := [.root 0], kids := [.inner 0], deep := [.inner 0] },
  { top := [.root 1], kids := [.inner 1], deep := [.inner 1] },
  { top := [.root 2], kids := [.inner 2], deep := [.inner 2] },
  { top := [.root 3], kids := [.inner 3], deep := [.inner 3] },
  { top := [.root 4], kids := [.inner 4], deep := [.inner 4] },
  { top := [.root 5], kids := [.inner 5], deep := [.inner 5] },
  { top := [.root 6], kids := [.inner 6], deep := [.inner 6] },
  { top := [.root 7], kids := [.inner 7], deep := [.inner 7] },
  { top := [.root 8], kids := [.inner 8], deep := [.inner 8] },
  {},
  { top := [.loc 10], kids := [.loc 10], deep := [.loc 10] },
  { top := [.loc 10], kids := [.loc 10], deep := [.loc 10] },
  { top := [.root 0], kids := [.inner 0], deep := [.inner 0] },
  { top := [.loc 10, .root 0], kids := [.loc 10, .inner 0], deep := [.loc 10, .inner 0] },
  {},
  { top := [.root 1], kids := [.inner 1], deep := [.inner 1] },
  { top := [.root 7], kids := [.recd 7], deep := [.recd 7] },
  {},
  {},
  {}]

/-- peptacular.mass_calc.ppm_error -/
def prog_84 : List Stmt := [
  .param 0 0,
  .param 1 1,
  .param 2 2]

def table_84 : Pts := [
  { top := [.root 0], kids := [.inner 0], deep := [.inner 0] },
  { top := [.root 1], kids := [.inner 1], deep := [.inner 1] },
  { top := [.root 2], kids := [.inner 2], deep := [.inner 2] }]

def fns_0 : List (Nat × FnInfo) := [
  (65, { prog := prog_65, nparams := 3, ret := 3, fuel := 2, table := table_65 }),
  (66, { prog := prog_66, nparams := 3, ret := 3, fuel := 2, table := table_66 }),
  (67, { prog := prog_67, nparams := 3, ret := 3, fuel := 2, table := table_67 }),
  (68, { prog := prog_68, nparams := 3, ret := 3, fuel := 2, table := table_68 }),
  (69, { prog := prog_69, nparams := 3, ret := 3, fuel := 2, table := table_69 }),
  (70, { prog := prog_70, nparams := 2, ret := 2, fuel := 2, table := table_70 }),
  (71, { prog := prog_71, nparams := 1, ret := 1, fuel := 3, table := table_71 }),
  (72, { prog := prog_72, nparams := 8, ret := 8, fuel := 2, table := table_72 }),
  (73, { prog := prog_73, nparams := 3, ret := 3, fuel := 2, table := table_73 }),
  (74, { prog := prog_74, nparams := 5, ret := 5, fuel := 2, table := table_74 }),
  (75, { prog := prog_75, nparams := 8, ret := 8, fuel := 2, table := table_75 }),
  (76, { prog := prog_76, nparams := 7, ret := 7, fuel := 3, table := table_76 }),
  (77, { prog := prog_77, nparams := 3, ret := 3, fuel := 4, table := table_77 }),
  (78, { prog := prog_78, nparams := 3, ret := 3, fuel := 2, table := table_78 }),
  (79, { prog := prog_79, nparams := 3, ret := 3, fuel := 2, table := table_79 }),
  (80, { prog := prog_80, nparams := 4, ret := 4, fuel := 2, table := table_80 }),
  (81, { prog := prog_81, nparams := 10, ret := 10, fuel := 2, table := table_81 }),
  (82, { prog := prog_82, nparams := 3, ret := 3, fuel := 2, table := table_82 }),
  (83, { prog := prog_83, nparams := 9, ret := 9, fuel := 2, table := table_83 }),
  (84, { prog := prog_84, nparams := 3, ret := 3, fuel := 2, table := table_84 })]

def fns : List (Nat × FnInfo) := fns_0

theorem ok : fns.all (fun p => entryOK Gen.summaries Gen.verdicts p.1 p.2) = true :=
  all_entryOK_of_fast 8 (by decide +kernel)

end Gen.M_mass_calc
