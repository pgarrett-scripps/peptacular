import PeptVerif.Generated.Effects.Core
import PeptVerif.Lemmas.EffectsFast
/-! GENERATED by harness/translate_effects.py - do not edit.  Source module: peptacular.proforma.randomizer (12 functions).
`ok` is the kernel check of these functions against the global summary / verdict tables: every table is closed
under its program, the summary the program induces is within the summary table, and the write / sharing sets
read off the table are the claimed verdict.  The kernel evaluates it in the form `entryOKFast`
(Lemmas/EffectsFast.lean); 8 is the stride of its lookups, any stride gives the same value. -/
namespace Gen.M_proforma_randomizer
open Effects
set_option maxRecDepth 100000
/-- peptacular.proforma.randomizer._random_interval -/
def prog_320 : List Stmt := [
  .param 0 0,
  .param 1 1,
  .param 2 2,
  .gwrite 0,
  .shallow 4 [],
  .alias 5 [4],
  .shallow 6 [],
  .alias 7 [6],
  .pack 8 [],
  .shallow 9 [8],
  .alias 10 [9],
  .shallow 11 [],
  .call 13 328 [some 0, none, none],
  .asRec 14 13 0,
  .pack 15 [14],
  .asRec 16 15 1,
  .alias 17 [16],
  .asRec 18 17 1,
  .pack 19 [5, 7, 10, 18],
  .asRec 20 19 0,
  .alias 3 [20]]

def table_320 : Pts := [
  { top := [.root 0], kids := [.inner 0], deep := [.inner 0] },
  { top := [.root 1], kids := [.inner 1], deep := [.inner 1] },
  { top := [.root 2], kids := [.inner 2], deep := [.inner 2] },
  { top := [.loc 19], kids := [.loc 4, .loc 6, .loc 9, .loc 15], deep := [.loc 13] },
  { top := [.loc 4], kids := [], deep := [] },
  { top := [.loc 4], kids := [], deep := [] },
  { top := [.loc 6], kids := [], deep := [] },
  { top := [.loc 6], kids := [], deep := [] },
  { top := [.loc 8], kids := [], deep := [] },
  { top := [.loc 9], kids := [], deep := [] },
  { top := [.loc 9], kids := [], deep := [] },
  { top := [.loc 11], kids := [], deep := [] },
  {},
  { top := [.loc 13], kids := [.loc 13], deep := [] },
  { top := [.loc 13], kids := [.loc 13], deep := [] },
  { top := [.loc 15], kids := [.loc 13], deep := [.loc 13] },
  { top := [.loc 15], kids := [.loc 13], deep := [.loc 13] },
  { top := [.loc 15], kids := [.loc 13], deep := [.loc 13] },
  { top := [.loc 15], kids := [.loc 13], deep := [.loc 13] },
  { top := [.loc 19], kids := [.loc 4, .loc 6, .loc 9, .loc 15], deep := [.loc 13] },
  { top := [.loc 19], kids := [.loc 4, .loc 6, .loc 9, .loc 15], deep := [.loc 13] }]

/-- peptacular.proforma.randomizer._random_mod -/
def prog_321 : List Stmt := [
  .param 0 0,
  .param 1 1,
  .param 2 2,
  .leaf 4 0,
  .gwrite 0,
  .shallow 5 [4],
  .alias 6 [5],
  .shallow 7 [],
  .alias 9 [6],
  .global 10 52,
  .shallow 11 [10],
  .alias 9 [9],
  .alias 12 [9, 6],
  .pack 13 [12],
  .call 14 169 [some 13],
  .asRec 15 13 0,
  .alias 3 [15]]

def table_321 : Pts := [
  { top := [.root 0], kids := [.inner 0], deep := [.inner 0] },
  { top := [.root 1], kids := [.inner 1], deep := [.inner 1] },
  { top := [.root 2], kids := [.inner 2], deep := [.inner 2] },
  { top := [.loc 13], kids := [.loc 5], deep := [] },
  { top := [.root 0], kids := [], deep := [] },
  { top := [.loc 5], kids := [], deep := [] },
  { top := [.loc 5], kids := [], deep := [] },
  { top := [.loc 7], kids := [], deep := [] },
  {},
  { top := [.loc 5], kids := [], deep := [] },
  { top := [.glob 52], kids := [.glob 52], deep := [.glob 52] },
  { top := [.loc 11], kids := [.glob 52], deep := [.glob 52] },
  { top := [.loc 5], kids := [], deep := [] },
  { top := [.loc 13], kids := [.loc 5], deep := [] },
  {},
  { top := [.loc 13], kids := [.loc 5], deep := [] }]

/-- peptacular.proforma.randomizer._random_sequence -/
def prog_322 : List Stmt := [
  .param 0 0,
  .param 1 1,
  .param 2 2,
  .gwrite 0,
  .shallow 4 [],
  .shallow 6 [],
  .pack 7 [6]]

def table_322 : Pts := [
  { top := [.root 0], kids := [.inner 0], deep := [.inner 0] },
  { top := [.root 1], kids := [.inner 1], deep := [.inner 1] },
  { top := [.root 2], kids := [.inner 2], deep := [.inner 2] },
  {},
  { top := [.loc 4], kids := [], deep := [] },
  {},
  { top := [.loc 6], kids := [], deep := [] },
  { top := [.loc 7], kids := [.loc 6], deep := [] }]

/-- peptacular.proforma.randomizer.compliance_randomizer -/
def prog_323 : List Stmt := [
  .param 0 0,
  .param 1 1,
  .param 2 2,
  .param 3 3,
  .param 4 4,
  .alias 8 [6, 7],
  .alias 9 [8, 0],
  .pack 10 [],
  .call 11 329 [some 9, none, none, none],
  .alias 12 [11],
  .pack 13 [],
  .alias 14 [13],
  .pack 17 [],
  .gwrite 0,
  .shallow 18 [17],
  .call 19 328 [some 9, none, some 18],
  .asRec 20 19 0,
  .pack 21 [20],
  .asRec 22 21 1,
  .alias 23 [22],
  .shallow 24 [],
  .alias 25 [24],
  .asRec 26 23 1,
  .shallow 27 [25, 26],
  .elem 30 27,
  .elem 31 30,
  .alias 28 [31],
  .elem 32 30,
  .alias 29 [32],
  .call 33 181 [some 14, some 28, some 29, none],
  .shallow 34 [],
  .pack 36 [],
  .shallow 37 [36],
  .call 38 328 [some 9, none, some 37],
  .asRec 39 38 0,
  .call 40 187 [some 14, some 39, none],
  .shallow 41 [],
  .alias 42 [35],
  .pack 43 [],
  .shallow 44 [43],
  .call 45 328 [some 9, none, some 44],
  .asRec 46 45 0,
  .call 47 180 [some 14, some 46, none],
  .shallow 48 [],
  .alias 49 [42],
  .pack 50 [],
  .shallow 51 [50],
  .call 52 328 [some 9, none, some 51],
  .asRec 53 52 0,
  .call 54 185 [some 14, some 53, none],
  .shallow 55 [],
  .alias 56 [49],
  .shallow 57 [],
  .pack 58 [],
  .shallow 59 [58],
  .call 60 328 [some 9, some 57, some 59],
  .asRec 61 60 0,
  .call 62 189 [some 14, some 61, none],
  .shallow 63 [],
  .call 64 327 [some 9, none, some 63],
  .asRec 65 64 1,
  .alias 66 [65],
  .asRec 67 66 1,
  .call 68 183 [some 14, some 67, none],
  .pack 69 [],
  .shallow 70 [69],
  .call 71 328 [some 9, none, none],
  .asRec 72 71 0,
  .alias 73 [72],
  .asRec 74 73 0,
  .pack 75 [],
  .call 76 169 [some 75],
  .asRec 77 75 0,
  .alias 78 [77],
  .shallow 79 [],
  .pack 81 [],
  .call 82 169 [some 81],
  .asRec 83 81 0,
  .pack 84 [83],
  .asRec 85 84 1,
  .alias 86 [85],
  .asRec 87 78 0,
  .pack 88 [87],
  .asRec 89 86 1,
  .shallow 90 [88, 89],
  .alias 91 [90],
  .shallow 92 [],
  .alias 93 [92],
  .shallow 94 [93, 91],
  .alias 95 [28],
  .alias 96 [29],
  .elem 97 94,
  .elem 98 97,
  .alias 95 [98],
  .elem 99 97,
  .alias 96 [99],
  .call 100 181 [some 14, some 95, some 96, none],
  .alias 101 [95, 28],
  .alias 102 [96, 29],
  .alias 5 [14]]

def table_323 : Pts := [
  { top := [.root 0], kids := [.inner 0], deep := [.inner 0] },
  { top := [.root 1], kids := [.inner 1], deep := [.inner 1] },
  { top := [.root 2], kids := [.inner 2], deep := [.inner 2] },
  { top := [.root 3], kids := [.inner 3], deep := [.inner 3] },
  { top := [.root 4], kids := [.inner 4], deep := [.inner 4] },
  { top := [.loc 13], kids := [.loc 33, .loc 40, .loc 47, .loc 54, .loc 62, .loc 68, .loc 100], deep := [.loc 33, .loc 40, .loc 47, .loc 54, .loc 62, .loc 68, .loc 100] },
  {},
  {},
  {},
  { top := [.root 0], kids := [.inner 0], deep := [.inner 0] },
  { top := [.loc 10], kids := [], deep := [] },
  {},
  {},
  { top := [.loc 13], kids := [.loc 33, .loc 40, .loc 47, .loc 54, .loc 62, .loc 68, .loc 100], deep := [.loc 33, .loc 40, .loc 47, .loc 54, .loc 62, .loc 68, .loc 100] },
  { top := [.loc 13], kids := [.loc 33, .loc 40, .loc 47, .loc 54, .loc 62, .loc 68, .loc 100], deep := [.loc 33, .loc 40, .loc 47, .loc 54, .loc 62, .loc 68, .loc 100] },
  {},
  {},
  { top := [.loc 17], kids := [], deep := [] },
  { top := [.loc 18], kids := [], deep := [] },
  { top := [.loc 19], kids := [.loc 19], deep := [] },
  { top := [.loc 19], kids := [.loc 19], deep := [] },
  { top := [.loc 21], kids := [.loc 19], deep := [.loc 19] },
  { top := [.loc 21], kids := [.loc 19], deep := [.loc 19] },
  { top := [.loc 21], kids := [.loc 19], deep := [.loc 19] },
  { top := [.loc 24], kids := [], deep := [] },
  { top := [.loc 24], kids := [], deep := [] },
  { top := [.loc 21], kids := [.loc 19], deep := [.loc 19] },
  { top := [.loc 27], kids := [.loc 19], deep := [.loc 19] },
  { top := [.loc 19], kids := [.loc 19], deep := [.loc 19] },
  { top := [.loc 19], kids := [.loc 19], deep := [.loc 19] },
  { top := [.loc 19], kids := [.loc 19], deep := [.loc 19] },
  { top := [.loc 19], kids := [.loc 19], deep := [.loc 19] },
  { top := [.loc 19], kids := [.loc 19], deep := [.loc 19] },
  {},
  { top := [.loc 34], kids := [], deep := [] },
  {},
  { top := [.loc 36], kids := [], deep := [] },
  { top := [.loc 37], kids := [], deep := [] },
  { top := [.loc 38], kids := [.loc 38], deep := [] },
  { top := [.loc 38], kids := [.loc 38], deep := [] },
  {},
  { top := [.loc 41], kids := [], deep := [] },
  {},
  { top := [.loc 43], kids := [], deep := [] },
  { top := [.loc 44], kids := [], deep := [] },
  { top := [.loc 45], kids := [.loc 45], deep := [] },
  { top := [.loc 45], kids := [.loc 45], deep := [] },
  {},
  { top := [.loc 48], kids := [], deep := [] },
  {},
  { top := [.loc 50], kids := [], deep := [] },
  { top := [.loc 51], kids := [], deep := [] },
  { top := [.loc 52], kids := [.loc 52], deep := [] },
  { top := [.loc 52], kids := [.loc 52], deep := [] },
  {},
  { top := [.loc 55], kids := [], deep := [] },
  {},
  { top := [.loc 57], kids := [], deep := [] },
  { top := [.loc 58], kids := [], deep := [] },
  { top := [.loc 59], kids := [], deep := [] },
  { top := [.loc 60], kids := [.loc 60], deep := [] },
  { top := [.loc 60], kids := [.loc 60], deep := [] },
  {},
  { top := [.loc 63], kids := [], deep := [] },
  { top := [.loc 64], kids := [.loc 64], deep := [.loc 64] },
  { top := [.loc 64], kids := [.loc 64], deep := [.loc 64] },
  { top := [.loc 64], kids := [.loc 64], deep := [.loc 64] },
  { top := [.loc 64], kids := [.loc 64], deep := [.loc 64] },
  {},
  { top := [.loc 69], kids := [], deep := [] },
  { top := [.loc 70], kids := [], deep := [] },
  { top := [.loc 71], kids := [.loc 71], deep := [] },
  { top := [.loc 71], kids := [.loc 71], deep := [] },
  { top := [.loc 71], kids := [.loc 71], deep := [] },
  { top := [.loc 71], kids := [.loc 71], deep := [] },
  { top := [.loc 75], kids := [], deep := [] },
  {},
  { top := [.loc 75], kids := [], deep := [] },
  { top := [.loc 75], kids := [], deep := [] },
  { top := [.loc 79], kids := [], deep := [] },
  {},
  { top := [.loc 81], kids := [], deep := [] },
  {},
  { top := [.loc 81], kids := [], deep := [] },
  { top := [.loc 84], kids := [.loc 81], deep := [] },
  { top := [.loc 84], kids := [.loc 81], deep := [] },
  { top := [.loc 84], kids := [.loc 81], deep := [] },
  { top := [.loc 75], kids := [], deep := [] },
  { top := [.loc 88], kids := [.loc 75], deep := [] },
  { top := [.loc 84], kids := [.loc 81], deep := [] },
  { top := [.loc 90], kids := [.loc 75, .loc 81], deep := [] },
  { top := [.loc 90], kids := [.loc 75, .loc 81], deep := [] },
  { top := [.loc 92], kids := [], deep := [] },
  { top := [.loc 92], kids := [], deep := [] },
  { top := [.loc 94], kids := [.loc 75, .loc 81], deep := [] },
  { top := [.loc 19], kids := [.loc 19], deep := [.loc 19] },
  { top := [.loc 19], kids := [.loc 19], deep := [.loc 19] },
  { top := [.loc 75, .loc 81], kids := [], deep := [] },
  {},
  {},
  {},
  { top := [.loc 19], kids := [.loc 19], deep := [.loc 19] },
  { top := [.loc 19], kids := [.loc 19], deep := [.loc 19] }]

/-- peptacular.proforma.randomizer.cross_linking_randomizer -/
def prog_324 : List Stmt := [
  .param 0 0,
  .pack 2 [],
  .gwrite 0,
  .shallow 3 [2],
  .call 4 328 [none, none, none],
  .asRec 5 4 0,
  .alias 6 [5],
  .asRec 7 6 0,
  .pack 8 [],
  .call 9 169 [some 8],
  .asRec 10 8 0,
  .alias 11 [10],
  .shallow 12 [],
  .pack 14 [],
  .call 15 169 [some 14],
  .asRec 16 14 0,
  .pack 17 [16],
  .asRec 18 17 1,
  .alias 19 [18],
  .asRec 20 11 0,
  .pack 21 [20],
  .asRec 22 19 1,
  .shallow 23 [21, 22],
  .alias 24 [23],
  .shallow 25 [],
  .alias 26 [25],
  .shallow 27 [26, 24],
  .elem 30 27,
  .elem 31 30,
  .alias 28 [31],
  .elem 32 30,
  .alias 29 [32],
  .call 33 181 [some 0, some 28, some 29, none]]

def table_324 : Pts := [
  { top := [.root 0], kids := [.inner 0, .loc 33], deep := [.inner 0, .loc 33] },
  {},
  { top := [.loc 2], kids := [], deep := [] },
  { top := [.loc 3], kids := [], deep := [] },
  { top := [.loc 4], kids := [.loc 4], deep := [] },
  { top := [.loc 4], kids := [.loc 4], deep := [] },
  { top := [.loc 4], kids := [.loc 4], deep := [] },
  { top := [.loc 4], kids := [.loc 4], deep := [] },
  { top := [.loc 8], kids := [], deep := [] },
  {},
  { top := [.loc 8], kids := [], deep := [] },
  { top := [.loc 8], kids := [], deep := [] },
  { top := [.loc 12], kids := [], deep := [] },
  {},
  { top := [.loc 14], kids := [], deep := [] },
  {},
  { top := [.loc 14], kids := [], deep := [] },
  { top := [.loc 17], kids := [.loc 14], deep := [] },
  { top := [.loc 17], kids := [.loc 14], deep := [] },
  { top := [.loc 17], kids := [.loc 14], deep := [] },
  { top := [.loc 8], kids := [], deep := [] },
  { top := [.loc 21], kids := [.loc 8], deep := [] },
  { top := [.loc 17], kids := [.loc 14], deep := [] },
  { top := [.loc 23], kids := [.loc 8, .loc 14], deep := [] },
  { top := [.loc 23], kids := [.loc 8, .loc 14], deep := [] },
  { top := [.loc 25], kids := [], deep := [] },
  { top := [.loc 25], kids := [], deep := [] },
  { top := [.loc 27], kids := [.loc 8, .loc 14], deep := [] },
  {},
  {},
  { top := [.loc 8, .loc 14], kids := [], deep := [] },
  {},
  {},
  {}]

/-- peptacular.proforma.randomizer.glycan_randomizer -/
def prog_325 : List Stmt := [
  .param 0 0,
  .param 1 1,
  .pack 5 [],
  .gwrite 0,
  .shallow 6 [5],
  .call 7 328 [none, none, some 6],
  .asRec 8 7 0,
  .pack 9 [8],
  .asRec 10 9 1,
  .alias 11 [10],
  .shallow 12 [],
  .alias 13 [12],
  .asRec 14 11 1,
  .shallow 15 [13, 14],
  .elem 18 15,
  .elem 19 18,
  .alias 16 [19],
  .elem 20 18,
  .alias 17 [20],
  .call 21 181 [some 0, some 16, some 17, none]]

def table_325 : Pts := [
  { top := [.root 0], kids := [.inner 0, .loc 21], deep := [.inner 0, .loc 21] },
  { top := [.root 1], kids := [.inner 1], deep := [.inner 1] },
  {},
  {},
  {},
  { top := [.loc 5], kids := [], deep := [] },
  { top := [.loc 6], kids := [], deep := [] },
  { top := [.loc 7], kids := [.loc 7], deep := [] },
  { top := [.loc 7], kids := [.loc 7], deep := [] },
  { top := [.loc 9], kids := [.loc 7], deep := [.loc 7] },
  { top := [.loc 9], kids := [.loc 7], deep := [.loc 7] },
  { top := [.loc 9], kids := [.loc 7], deep := [.loc 7] },
  { top := [.loc 12], kids := [], deep := [] },
  { top := [.loc 12], kids := [], deep := [] },
  { top := [.loc 9], kids := [.loc 7], deep := [.loc 7] },
  { top := [.loc 15], kids := [.loc 7], deep := [.loc 7] },
  { top := [.loc 7], kids := [.loc 7], deep := [.loc 7] },
  { top := [.loc 7], kids := [.loc 7], deep := [.loc 7] },
  { top := [.loc 7], kids := [.loc 7], deep := [.loc 7] },
  { top := [.loc 7], kids := [.loc 7], deep := [.loc 7] },
  { top := [.loc 7], kids := [.loc 7], deep := [.loc 7] },
  {}]

/-- peptacular.proforma.randomizer.random_interval -/
def prog_326 : List Stmt := [
  .param 0 0,
  .param 1 1,
  .param 2 2,
  .call 4 320 [some 0, none, none],
  .asRec 5 4 0,
  .alias 3 [5]]

def table_326 : Pts := [
  { top := [.root 0], kids := [.inner 0], deep := [.inner 0] },
  { top := [.root 1], kids := [.inner 1], deep := [.inner 1] },
  { top := [.root 2], kids := [.inner 2], deep := [.inner 2] },
  { top := [.loc 4], kids := [.loc 4], deep := [.loc 4] },
  { top := [.loc 4], kids := [.loc 4], deep := [.loc 4] },
  { top := [.loc 4], kids := [.loc 4], deep := [.loc 4] }]

/-- peptacular.proforma.randomizer.random_intervals -/
def prog_327 : List Stmt := [
  .param 0 0,
  .param 1 1,
  .param 2 2,
  .pack 4 [],
  .alias 5 [4],
  .asRec 6 5 1,
  .alias 3 [6],
  .call 12 320 [some 0, none, none],
  .asRec 13 12 0,
  .alias 10 [13],
  .asRec 14 10 0,
  .store 5 14,
  .asRec 15 5 1,
  .alias 3 [15]]

def table_327 : Pts := [
  { top := [.root 0], kids := [.inner 0], deep := [.inner 0] },
  { top := [.root 1], kids := [.inner 1], deep := [.inner 1] },
  { top := [.root 2], kids := [.inner 2], deep := [.inner 2] },
  { top := [.loc 4], kids := [.loc 12], deep := [.loc 12] },
  { top := [.loc 4], kids := [.loc 12], deep := [.loc 12] },
  { top := [.loc 4], kids := [.loc 12], deep := [.loc 12] },
  { top := [.loc 4], kids := [.loc 12], deep := [.loc 12] },
  {},
  {},
  {},
  { top := [.loc 12], kids := [.loc 12], deep := [.loc 12] },
  {},
  { top := [.loc 12], kids := [.loc 12], deep := [.loc 12] },
  { top := [.loc 12], kids := [.loc 12], deep := [.loc 12] },
  { top := [.loc 12], kids := [.loc 12], deep := [.loc 12] },
  { top := [.loc 4], kids := [.loc 12], deep := [.loc 12] }]

/-- peptacular.proforma.randomizer.random_mod -/
def prog_328 : List Stmt := [
  .param 0 0,
  .param 1 1,
  .param 2 2,
  .call 4 321 [none, none, none],
  .asRec 5 4 0,
  .alias 3 [5],
  .call 6 321 [none, none, none],
  .asRec 7 6 0,
  .alias 3 [7],
  .global 8 61,
  .call 9 321 [some 8, none, none],
  .asRec 10 9 0,
  .alias 3 [10],
  .call 11 321 [none, none, none],
  .asRec 12 11 0,
  .alias 3 [12],
  .global 13 62,
  .call 14 321 [some 13, none, none],
  .asRec 15 14 0,
  .alias 3 [15],
  .pack 16 [],
  .call 17 321 [some 16, none, none],
  .asRec 18 17 0,
  .alias 3 [18]]

def table_328 : Pts := [
  { top := [.root 0], kids := [.inner 0], deep := [.inner 0] },
  { top := [.root 1], kids := [.inner 1], deep := [.inner 1] },
  { top := [.root 2], kids := [.inner 2], deep := [.inner 2] },
  { top := [.loc 4, .loc 6, .loc 9, .loc 11, .loc 14, .loc 17], kids := [.loc 4, .loc 6, .loc 9, .loc 11, .loc 14, .loc 17], deep := [] },
  { top := [.loc 4], kids := [.loc 4], deep := [] },
  { top := [.loc 4], kids := [.loc 4], deep := [] },
  { top := [.loc 6], kids := [.loc 6], deep := [] },
  { top := [.loc 6], kids := [.loc 6], deep := [] },
  { top := [.glob 61], kids := [.glob 61], deep := [.glob 61] },
  { top := [.loc 9], kids := [.loc 9], deep := [] },
  { top := [.loc 9], kids := [.loc 9], deep := [] },
  { top := [.loc 11], kids := [.loc 11], deep := [] },
  { top := [.loc 11], kids := [.loc 11], deep := [] },
  { top := [.glob 62], kids := [.glob 62], deep := [.glob 62] },
  { top := [.loc 14], kids := [.loc 14], deep := [] },
  { top := [.loc 14], kids := [.loc 14], deep := [] },
  { top := [.loc 16], kids := [], deep := [] },
  { top := [.loc 17], kids := [.loc 17], deep := [] },
  { top := [.loc 17], kids := [.loc 17], deep := [] }]

/-- peptacular.proforma.randomizer.random_sequence -/
def prog_329 : List Stmt := [
  .param 0 0,
  .param 1 1,
  .param 2 2,
  .param 3 3,
  .call 5 322 [none, none, none],
  .call 6 322 [none, none, none],
  .call 7 322 [none, none, none]]

def table_329 : Pts := [
  { top := [.root 0], kids := [.inner 0], deep := [.inner 0] },
  { top := [.root 1], kids := [.inner 1], deep := [.inner 1] },
  { top := [.root 2], kids := [.inner 2], deep := [.inner 2] },
  { top := [.root 3], kids := [.inner 3], deep := [.inner 3] },
  {},
  {},
  {},
  {}]

/-- peptacular.proforma.randomizer.spectrum_randomizer -/
def prog_330 : List Stmt := [
  .param 0 0,
  .pack 2 [],
  .gwrite 0,
  .shallow 3 [2],
  .pack 4 [],
  .shallow 5 [4],
  .call 6 178 [some 0, some 5],
  .shallow 7 [],
  .global 10 57,
  .call 11 321 [some 10, none, none],
  .asRec 12 11 0,
  .alias 9 [12],
  .asRec 13 9 0,
  .call 14 184 [some 0, some 13, none],
  .shallow 15 [],
  .alias 16 [8],
  .alias 17 [9],
  .global 18 58,
  .call 19 321 [some 18, none, none],
  .asRec 20 19 0,
  .alias 17 [20],
  .asRec 21 17 0,
  .call 22 188 [some 0, some 21, none],
  .call 23 211 [some 0],
  .pack 24 [],
  .shallow 25 [24],
  .global 26 60,
  .shallow 27 [26],
  .pack 28 [27],
  .call 29 169 [some 28],
  .asRec 30 28 0,
  .call 31 179 [some 0, some 30, none]]

def table_330 : Pts := [
  { top := [.root 0], kids := [.inner 0, .loc 14, .loc 22, .loc 31], deep := [.inner 0, .loc 14, .loc 22, .loc 31] },
  {},
  { top := [.loc 2], kids := [], deep := [] },
  { top := [.loc 3], kids := [], deep := [] },
  { top := [.loc 4], kids := [], deep := [] },
  { top := [.loc 5], kids := [], deep := [] },
  {},
  { top := [.loc 7], kids := [], deep := [] },
  {},
  { top := [.loc 11], kids := [.loc 11], deep := [] },
  { top := [.glob 57], kids := [.glob 57], deep := [.glob 57] },
  { top := [.loc 11], kids := [.loc 11], deep := [] },
  { top := [.loc 11], kids := [.loc 11], deep := [] },
  { top := [.loc 11], kids := [.loc 11], deep := [] },
  {},
  { top := [.loc 15], kids := [], deep := [] },
  {},
  { top := [.loc 11, .loc 19], kids := [.loc 11, .loc 19], deep := [] },
  { top := [.glob 58], kids := [.glob 58], deep := [.glob 58] },
  { top := [.loc 19], kids := [.loc 19], deep := [] },
  { top := [.loc 19], kids := [.loc 19], deep := [] },
  { top := [.loc 11, .loc 19], kids := [.loc 11, .loc 19], deep := [] },
  {},
  {},
  { top := [.loc 24], kids := [], deep := [] },
  { top := [.loc 25], kids := [], deep := [] },
  { top := [.glob 60], kids := [.glob 60], deep := [.glob 60] },
  { top := [.loc 27], kids := [.glob 60], deep := [.glob 60] },
  { top := [.loc 28], kids := [.loc 27], deep := [.glob 60] },
  {},
  { top := [.loc 28], kids := [.loc 27], deep := [.glob 60] },
  {}]

/-- peptacular.proforma.randomizer.top_down_randomizer -/
def prog_331 : List Stmt := [
  .param 0 0,
  .param 1 1,
  .pack 5 [],
  .gwrite 0,
  .shallow 6 [5],
  .call 7 328 [none, none, some 6],
  .asRec 8 7 0,
  .pack 9 [8],
  .asRec 10 9 1,
  .alias 11 [10],
  .shallow 12 [],
  .alias 13 [12],
  .asRec 14 11 1,
  .shallow 15 [13, 14],
  .elem 18 15,
  .elem 19 18,
  .alias 16 [19],
  .elem 20 18,
  .alias 17 [20],
  .call 21 181 [some 0, some 16, some 17, none]]

def table_331 : Pts := [
  { top := [.root 0], kids := [.inner 0, .loc 21], deep := [.inner 0, .loc 21] },
  { top := [.root 1], kids := [.inner 1], deep := [.inner 1] },
  {},
  {},
  {},
  { top := [.loc 5], kids := [], deep := [] },
  { top := [.loc 6], kids := [], deep := [] },
  { top := [.loc 7], kids := [.loc 7], deep := [] },
  { top := [.loc 7], kids := [.loc 7], deep := [] },
  { top := [.loc 9], kids := [.loc 7], deep := [.loc 7] },
  { top := [.loc 9], kids := [.loc 7], deep := [.loc 7] },
  { top := [.loc 9], kids := [.loc 7], deep := [.loc 7] },
  { top := [.loc 12], kids := [], deep := [] },
  { top := [.loc 12], kids := [], deep := [] },
  { top := [.loc 9], kids := [.loc 7], deep := [.loc 7] },
  { top := [.loc 15], kids := [.loc 7], deep := [.loc 7] },
  { top := [.loc 7], kids := [.loc 7], deep := [.loc 7] },
  { top := [.loc 7], kids := [.loc 7], deep := [.loc 7] },
  { top := [.loc 7], kids := [.loc 7], deep := [.loc 7] },
  { top := [.loc 7], kids := [.loc 7], deep := [.loc 7] },
  { top := [.loc 7], kids := [.loc 7], deep := [.loc 7] },
  {}]

def fns_0 : List (Nat × FnInfo) := [
  (320, { prog := prog_320, nparams := 3, ret := 3, fuel := 2, table := table_320 }),
  (321, { prog := prog_321, nparams := 3, ret := 3, fuel := 2, table := table_321 }),
  (322, { prog := prog_322, nparams := 3, ret := 3, fuel := 2, table := table_322 }),
  (323, { prog := prog_323, nparams := 5, ret := 5, fuel := 2, table := table_323 }),
  (324, { prog := prog_324, nparams := 1, ret := 1, fuel := 2, table := table_324 }),
  (325, { prog := prog_325, nparams := 2, ret := 2, fuel := 2, table := table_325 }),
  (326, { prog := prog_326, nparams := 3, ret := 3, fuel := 2, table := table_326 }),
  (327, { prog := prog_327, nparams := 3, ret := 3, fuel := 2, table := table_327 }),
  (328, { prog := prog_328, nparams := 3, ret := 3, fuel := 2, table := table_328 }),
  (329, { prog := prog_329, nparams := 4, ret := 4, fuel := 2, table := table_329 }),
  (330, { prog := prog_330, nparams := 1, ret := 1, fuel := 2, table := table_330 }),
  (331, { prog := prog_331, nparams := 2, ret := 2, fuel := 2, table := table_331 })]

def fns : List (Nat × FnInfo) := fns_0

theorem ok : fns.all (fun p => entryOK Gen.summaries Gen.verdicts p.1 p.2) = true :=
  all_entryOK_of_fast 8 (by decide +kernel)

end Gen.M_proforma_randomizer
