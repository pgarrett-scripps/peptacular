import PeptVerif.Generated.Effects.Core
import PeptVerif.Lemmas.EffectsFast
/-! GENERATED by harness/translate_effects.py - do not edit.  Source module: peptacular.sequence.combinatoric (4 functions).
`ok` is the kernel check of these functions against the global summary / verdict tables: every table is closed
under its program, the summary the program induces is within the summary table, and the write / sharing sets
read off the table are the claimed verdict.  The kernel evaluates it in the form `entryOKFast`
(Lemmas/EffectsFast.lean); 8 is the stride of its lookups, any stride gives the same value. -/
namespace Gen.M_sequence_combinatoric
open Effects
set_option maxRecDepth 100000
/-- peptacular.sequence.combinatoric.combinations -/
def prog_360 : List Stmt := [
  .param 0 0,
  .param 1 1,
  .call 3 387 [some 0],
  .alias 4 [3],
  .alias 5 [0],
  .alias 6 [4, 5],
  .call 7 195 [some 6, none],
  .elem 8 7,
  .alias 9 [8],
  .call 10 254 [some 9, none],
  .pack 11 [10],
  .leaf 12 11,
  .alias 2 [12]]

def table_360 : Pts := [
  { top := [.root 0], kids := [.inner 0], deep := [.inner 0] },
  { top := [.root 1], kids := [.inner 1], deep := [.inner 1] },
  { top := [.loc 11], kids := [], deep := [] },
  { top := [.loc 3], kids := [.loc 3], deep := [.loc 3] },
  { top := [.loc 3], kids := [.loc 3], deep := [.loc 3] },
  { top := [.root 0], kids := [.inner 0], deep := [.inner 0] },
  { top := [.loc 3, .root 0], kids := [.loc 3, .inner 0], deep := [.loc 3, .inner 0] },
  { top := [.loc 7], kids := [.loc 7], deep := [.loc 7] },
  { top := [.loc 7], kids := [.loc 7], deep := [.loc 7] },
  { top := [.loc 7], kids := [.loc 7], deep := [.loc 7] },
  {},
  { top := [.loc 11], kids := [], deep := [] },
  { top := [.loc 11], kids := [], deep := [] }]

/-- peptacular.sequence.combinatoric.combinations_with_replacement -/
def prog_361 : List Stmt := [
  .param 0 0,
  .param 1 1,
  .call 3 387 [some 0],
  .alias 4 [3],
  .alias 5 [0],
  .alias 6 [4, 5],
  .call 7 196 [some 6, none],
  .elem 8 7,
  .alias 9 [8],
  .call 10 254 [some 9, none],
  .pack 11 [10],
  .leaf 12 11,
  .alias 2 [12]]

def table_361 : Pts := [
  { top := [.root 0], kids := [.inner 0], deep := [.inner 0] },
  { top := [.root 1], kids := [.inner 1], deep := [.inner 1] },
  { top := [.loc 11], kids := [], deep := [] },
  { top := [.loc 3], kids := [.loc 3], deep := [.loc 3] },
  { top := [.loc 3], kids := [.loc 3], deep := [.loc 3] },
  { top := [.root 0], kids := [.inner 0], deep := [.inner 0] },
  { top := [.loc 3, .root 0], kids := [.loc 3, .inner 0], deep := [.loc 3, .inner 0] },
  { top := [.loc 7], kids := [.loc 7], deep := [.loc 7] },
  { top := [.loc 7], kids := [.loc 7], deep := [.loc 7] },
  { top := [.loc 7], kids := [.loc 7], deep := [.loc 7] },
  {},
  { top := [.loc 11], kids := [], deep := [] },
  { top := [.loc 11], kids := [], deep := [] }]

/-- peptacular.sequence.combinatoric.permutations -/
def prog_362 : List Stmt := [
  .param 0 0,
  .param 1 1,
  .call 3 387 [some 0],
  .alias 4 [3],
  .alias 5 [0],
  .alias 6 [4, 5],
  .call 7 236 [some 6, none],
  .elem 8 7,
  .alias 9 [8],
  .call 10 254 [some 9, none],
  .pack 11 [10],
  .leaf 12 11,
  .alias 2 [12]]

def table_362 : Pts := [
  { top := [.root 0], kids := [.inner 0], deep := [.inner 0] },
  { top := [.root 1], kids := [.inner 1], deep := [.inner 1] },
  { top := [.loc 11], kids := [], deep := [] },
  { top := [.loc 3], kids := [.loc 3], deep := [.loc 3] },
  { top := [.loc 3], kids := [.loc 3], deep := [.loc 3] },
  { top := [.root 0], kids := [.inner 0], deep := [.inner 0] },
  { top := [.loc 3, .root 0], kids := [.loc 3, .inner 0], deep := [.loc 3, .inner 0] },
  { top := [.loc 7], kids := [.loc 7], deep := [.loc 7] },
  { top := [.loc 7], kids := [.loc 7], deep := [.loc 7] },
  { top := [.loc 7], kids := [.loc 7], deep := [.loc 7] },
  {},
  { top := [.loc 11], kids := [], deep := [] },
  { top := [.loc 11], kids := [], deep := [] }]

/-- peptacular.sequence.combinatoric.product -/
def prog_363 : List Stmt := [
  .param 0 0,
  .param 1 1,
  .call 3 387 [some 0],
  .alias 4 [3],
  .alias 5 [0],
  .alias 6 [4, 5],
  .call 7 249 [some 6, none],
  .elem 8 7,
  .alias 9 [8],
  .call 10 254 [some 9, none],
  .pack 11 [10],
  .leaf 12 11,
  .alias 2 [12]]

def table_363 : Pts := [
  { top := [.root 0], kids := [.inner 0], deep := [.inner 0] },
  { top := [.root 1], kids := [.inner 1], deep := [.inner 1] },
  { top := [.loc 11], kids := [], deep := [] },
  { top := [.loc 3], kids := [.loc 3], deep := [.loc 3] },
  { top := [.loc 3], kids := [.loc 3], deep := [.loc 3] },
  { top := [.root 0], kids := [.inner 0], deep := [.inner 0] },
  { top := [.loc 3, .root 0], kids := [.loc 3, .inner 0], deep := [.loc 3, .inner 0] },
  { top := [.loc 7], kids := [.loc 7], deep := [.loc 7] },
  { top := [.loc 7], kids := [.loc 7], deep := [.loc 7] },
  { top := [.loc 7], kids := [.loc 7], deep := [.loc 7] },
  {},
  { top := [.loc 11], kids := [], deep := [] },
  { top := [.loc 11], kids := [], deep := [] }]

def fns_0 : List (Nat × FnInfo) := [
  (360, { prog := prog_360, nparams := 2, ret := 2, fuel := 2, table := table_360 }),
  (361, { prog := prog_361, nparams := 2, ret := 2, fuel := 2, table := table_361 }),
  (362, { prog := prog_362, nparams := 2, ret := 2, fuel := 2, table := table_362 }),
  (363, { prog := prog_363, nparams := 2, ret := 2, fuel := 2, table := table_363 })]

def fns : List (Nat × FnInfo) := fns_0

theorem ok : fns.all (fun p => entryOK Gen.summaries Gen.verdicts p.1 p.2) = true :=
  all_entryOK_of_fast 8 (by decide +kernel)

end Gen.M_sequence_combinatoric
