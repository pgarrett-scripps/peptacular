import PeptVerif.Generated.Effects.Core
import PeptVerif.Lemmas.EffectsFast
/-! GENERATED by harness/translate_effects.py - do not edit.  Source module: peptacular.element_setup (10 functions).
`ok` is the kernel check of these functions against the global summary / verdict tables: every table is closed
under its program, the summary the program induces is within the summary table, and the write / sharing sets
read off the table are the claimed verdict.  The kernel evaluates it in the form `entryOKFast`
(Lemmas/EffectsFast.lean); 8 is the stride of its lookups, any stride gives the same value. -/
namespace Gen.M_element_setup
open Effects
set_option maxRecDepth 100000
/-- peptacular.element_setup.ElementInfo.__str__ -/
def prog_27 : List Stmt := [
  .param 0 0,
  .elem 2 0,
  .elem 3 0]

def table_27 : Pts := [
  { top := [.root 0], kids := [.inner 0], deep := [.inner 0] },
  {},
  { top := [.inner 0], kids := [.inner 0], deep := [.inner 0] },
  { top := [.inner 0], kids := [.inner 0], deep := [.inner 0] }]

/-- peptacular.element_setup.ElementInfo.average_mass_component -/
def prog_28 : List Stmt := [
  .param 0 0,
  .elem 2 0,
  .elem 3 0,
  .shallow 4 [2, 3]]

def table_28 : Pts := [
  { top := [.root 0], kids := [.inner 0], deep := [.inner 0] },
  {},
  { top := [.inner 0], kids := [.inner 0], deep := [.inner 0] },
  { top := [.inner 0], kids := [.inner 0], deep := [.inner 0] },
  { top := [.loc 4], kids := [.inner 0], deep := [.inner 0] }]

/-- peptacular.element_setup._map_atomic_number_to_infos -/
def prog_29 : List Stmt := [
  .param 0 0,
  .pack 2 [],
  .alias 3 [2],
  .elem 5 0,
  .alias 4 [5],
  .elem 6 4,
  .pack 7 [4],
  .elem 8 4,
  .store 3 7,
  .elem 9 4,
  .elem 10 3,
  .store 10 4,
  .alias 1 [3]]

def table_29 : Pts := [
  { top := [.root 0], kids := [.inner 0], deep := [.inner 0] },
  { top := [.loc 2], kids := [.loc 7], deep := [.inner 0] },
  { top := [.loc 2], kids := [.loc 7], deep := [.inner 0] },
  { top := [.loc 2], kids := [.loc 7], deep := [.inner 0] },
  { top := [.inner 0], kids := [.inner 0], deep := [.inner 0] },
  { top := [.inner 0], kids := [.inner 0], deep := [.inner 0] },
  { top := [.inner 0], kids := [.inner 0], deep := [.inner 0] },
  { top := [.loc 7], kids := [.inner 0], deep := [.inner 0] },
  { top := [.inner 0], kids := [.inner 0], deep := [.inner 0] },
  { top := [.inner 0], kids := [.inner 0], deep := [.inner 0] },
  { top := [.loc 7], kids := [.inner 0], deep := [.inner 0] }]

/-- peptacular.element_setup.get_element_info -/
def prog_30 : List Stmt := [
  .param 0 0,
  .pack 2 [],
  .alias 3 [2],
  .alias 12 [5],
  .alias 13 [6],
  .alias 16 [9],
  .alias 19 [7],
  .alias 20 [11],
  .alias 21 [8],
  .alias 22 [10],
  .elem 24 4,
  .alias 18 [24],
  .call 25 269 [some 18, none],
  .alias 18 [25],
  .pack 26 [],
  .alias 14 [26],
  .store 3 14,
  .call 27 266 [some 18],
  .alias 15 [27],
  .elem 28 15,
  .elem 29 15,
  .alias 13 [23],
  .call 30 266 [some 23],
  .elem 31 30,
  .call 32 266 [some 23],
  .elem 33 32,
  .shallow 34 [23],
  .call 35 266 [some 34],
  .shallow 36 [35],
  .shallow 37 [36],
  .alias 22 [37],
  .call 38 266 [some 23],
  .elem 39 38,
  .alias 20 [23],
  .pack 40 [22],
  .alias 41 [40],
  .store 3 41,
  .alias 42 [41, 14],
  .alias 1 [3]]

def table_30 : Pts := [
  { top := [.root 0], kids := [.inner 0], deep := [.inner 0] },
  { top := [.loc 2], kids := [.loc 26, .loc 40], deep := [.loc 37, .loc 35] },
  { top := [.loc 2], kids := [.loc 26, .loc 40], deep := [.loc 37, .loc 35] },
  { top := [.loc 2], kids := [.loc 26, .loc 40], deep := [.loc 37, .loc 35] },
  {},
  {},
  {},
  {},
  {},
  {},
  {},
  {},
  {},
  {},
  { top := [.loc 26], kids := [], deep := [] },
  { top := [.loc 27], kids := [.loc 27], deep := [.loc 27] },
  {},
  {},
  { top := [.loc 25], kids := [], deep := [] },
  {},
  {},
  {},
  { top := [.loc 37], kids := [.loc 35], deep := [.loc 35] },
  {},
  {},
  { top := [.loc 25], kids := [], deep := [] },
  { top := [.loc 26], kids := [], deep := [] },
  { top := [.loc 27], kids := [.loc 27], deep := [.loc 27] },
  { top := [.loc 27], kids := [.loc 27], deep := [.loc 27] },
  { top := [.loc 27], kids := [.loc 27], deep := [.loc 27] },
  { top := [.loc 30], kids := [.loc 30], deep := [.loc 30] },
  { top := [.loc 30], kids := [.loc 30], deep := [.loc 30] },
  { top := [.loc 32], kids := [.loc 32], deep := [.loc 32] },
  { top := [.loc 32], kids := [.loc 32], deep := [.loc 32] },
  { top := [.loc 34], kids := [], deep := [] },
  { top := [.loc 35], kids := [.loc 35], deep := [.loc 35] },
  { top := [.loc 36], kids := [.loc 35], deep := [.loc 35] },
  { top := [.loc 37], kids := [.loc 35], deep := [.loc 35] },
  { top := [.loc 38], kids := [.loc 38], deep := [.loc 38] },
  { top := [.loc 38], kids := [.loc 38], deep := [.loc 38] },
  { top := [.loc 40], kids := [.loc 37], deep := [.loc 35] },
  { top := [.loc 40], kids := [.loc 37], deep := [.loc 35] },
  { top := [.loc 40, .loc 26], kids := [.loc 37], deep := [.loc 35] }]

/-- peptacular.element_setup.get_isotopic_atomic_masses -/
def prog_31 : List Stmt := [
  .param 0 0,
  .call 2 29 [some 0],
  .alias 3 [2],
  .pack 4 [],
  .alias 5 [4],
  .shallow 6 [3],
  .elem 11 6,
  .elem 12 11,
  .alias 9 [12],
  .elem 14 13,
  .write 9,
  .elem 15 9,
  .alias 10 [15],
  .elem 16 10,
  .elem 17 10,
  .store 5 16,
  .elem 18 9,
  .alias 8 [18],
  .elem 19 8,
  .store 5 19,
  .elem 20 5,
  .store 5 20,
  .elem 21 5,
  .store 5 21,
  .elem 22 5,
  .store 5 22,
  .elem 23 5,
  .store 5 23,
  .leaf 24 5,
  .alias 1 [24]]

def table_31 : Pts := [
  { top := [.root 0], kids := [.inner 0], deep := [.inner 0] },
  { top := [.loc 4], kids := [.inner 0], deep := [.inner 0] },
  { top := [.loc 2], kids := [.loc 2], deep := [.inner 0] },
  { top := [.loc 2], kids := [.loc 2], deep := [.inner 0] },
  { top := [.loc 4], kids := [.inner 0], deep := [.inner 0] },
  { top := [.loc 4], kids := [.inner 0], deep := [.inner 0] },
  { top := [.loc 6], kids := [.loc 2], deep := [.inner 0] },
  {},
  { top := [.inner 0], kids := [.inner 0], deep := [.inner 0] },
  { top := [.inner 0], kids := [.inner 0], deep := [.inner 0] },
  { top := [.inner 0], kids := [.inner 0], deep := [.inner 0] },
  { top := [.loc 2], kids := [.inner 0], deep := [.inner 0] },
  { top := [.inner 0], kids := [.inner 0], deep := [.inner 0] },
  {},
  {},
  { top := [.inner 0], kids := [.inner 0], deep := [.inner 0] },
  { top := [.inner 0], kids := [.inner 0], deep := [.inner 0] },
  { top := [.inner 0], kids := [.inner 0], deep := [.inner 0] },
  { top := [.inner 0], kids := [.inner 0], deep := [.inner 0] },
  { top := [.inner 0], kids := [.inner 0], deep := [.inner 0] },
  { top := [.inner 0], kids := [.inner 0], deep := [.inner 0] },
  { top := [.inner 0], kids := [.inner 0], deep := [.inner 0] },
  { top := [.inner 0], kids := [.inner 0], deep := [.inner 0] },
  { top := [.inner 0], kids := [.inner 0], deep := [.inner 0] },
  { top := [.loc 4], kids := [.inner 0], deep := [.inner 0] }]

/-- peptacular.element_setup.map_atomic_number_to_comp -/
def prog_32 : List Stmt := [
  .param 0 0,
  .call 2 29 [some 0],
  .alias 3 [2],
  .pack 4 [],
  .alias 5 [4],
  .shallow 6 [3],
  .elem 11 6,
  .elem 12 11,
  .alias 9 [12],
  .elem 14 13,
  .write 9,
  .elem 15 9,
  .alias 10 [15],
  .pack 16 [],
  .elem 17 10,
  .store 5 16,
  .elem 18 9,
  .alias 8 [18],
  .elem 19 8,
  .elem 20 10,
  .elem 21 5,
  .elem 22 8,
  .elem 23 8,
  .pack 24 [22, 23],
  .store 21 24,
  .elem 25 9,
  .alias 8 [25],
  .elem 26 8,
  .pack 27 [26],
  .pack 28 [27],
  .store 5 28,
  .elem 29 5,
  .store 5 29,
  .elem 30 5,
  .store 5 30,
  .elem 31 5,
  .store 5 31,
  .elem 32 5,
  .store 5 32,
  .alias 1 [5]]

def table_32 : Pts := [
  { top := [.root 0], kids := [.inner 0], deep := [.inner 0] },
  { top := [.loc 4], kids := [.loc 16, .loc 28], deep := [.loc 24, .inner 0, .loc 27] },
  { top := [.loc 2], kids := [.loc 2], deep := [.inner 0] },
  { top := [.loc 2], kids := [.loc 2], deep := [.inner 0] },
  { top := [.loc 4], kids := [.loc 16, .loc 28], deep := [.loc 24, .inner 0, .loc 27] },
  { top := [.loc 4], kids := [.loc 16, .loc 28], deep := [.loc 24, .inner 0, .loc 27] },
  { top := [.loc 6], kids := [.loc 2], deep := [.inner 0] },
  {},
  { top := [.inner 0], kids := [.inner 0], deep := [.inner 0] },
  { top := [.inner 0], kids := [.inner 0], deep := [.inner 0] },
  { top := [.inner 0], kids := [.inner 0], deep := [.inner 0] },
  { top := [.loc 2], kids := [.inner 0], deep := [.inner 0] },
  { top := [.inner 0], kids := [.inner 0], deep := [.inner 0] },
  {},
  {},
  { top := [.inner 0], kids := [.inner 0], deep := [.inner 0] },
  { top := [.loc 16], kids := [.loc 24], deep := [.inner 0] },
  { top := [.inner 0], kids := [.inner 0], deep := [.inner 0] },
  { top := [.inner 0], kids := [.inner 0], deep := [.inner 0] },
  { top := [.inner 0], kids := [.inner 0], deep := [.inner 0] },
  { top := [.inner 0], kids := [.inner 0], deep := [.inner 0] },
  { top := [.loc 16, .loc 28], kids := [.loc 24, .inner 0, .loc 27], deep := [.inner 0, .loc 24, .loc 27] },
  { top := [.inner 0], kids := [.inner 0], deep := [.inner 0] },
  { top := [.inner 0], kids := [.inner 0], deep := [.inner 0] },
  { top := [.loc 24], kids := [.inner 0], deep := [.inner 0] },
  { top := [.inner 0], kids := [.inner 0], deep := [.inner 0] },
  { top := [.inner 0], kids := [.inner 0], deep := [.inner 0] },
  { top := [.loc 27], kids := [.inner 0], deep := [.inner 0] },
  { top := [.loc 28], kids := [.loc 27, .loc 24], deep := [.inner 0] },
  { top := [.loc 16, .loc 28], kids := [.loc 24, .inner 0, .loc 27], deep := [.loc 24, .inner 0, .loc 27] },
  { top := [.loc 16, .loc 28], kids := [.loc 24, .inner 0, .loc 27], deep := [.loc 24, .inner 0, .loc 27] },
  { top := [.loc 16, .loc 28], kids := [.loc 24, .inner 0, .loc 27], deep := [.loc 24, .inner 0, .loc 27] },
  { top := [.loc 16, .loc 28], kids := [.loc 24, .inner 0, .loc 27], deep := [.loc 24, .inner 0, .loc 27] }]

/-- peptacular.element_setup.map_atomic_number_to_comp_neutron_offset -/
def prog_33 : List Stmt := [
  .param 0 0,
  .call 2 29 [some 0],
  .alias 3 [2],
  .pack 4 [],
  .alias 5 [4],
  .shallow 6 [3],
  .elem 11 6,
  .elem 12 11,
  .alias 9 [12],
  .elem 14 13,
  .write 9,
  .elem 15 9,
  .alias 10 [15],
  .pack 16 [],
  .elem 17 10,
  .store 5 16,
  .elem 18 9,
  .alias 8 [18],
  .elem 19 8,
  .elem 20 10,
  .elem 21 5,
  .elem 22 8,
  .elem 23 10,
  .shallow 24 [22, 23],
  .elem 25 8,
  .pack 26 [24, 25],
  .store 21 26,
  .elem 27 9,
  .alias 8 [27],
  .pack 28 [],
  .pack 29 [28],
  .store 5 29,
  .elem 30 5,
  .store 5 30,
  .elem 31 5,
  .store 5 31,
  .elem 32 5,
  .store 5 32,
  .elem 33 5,
  .store 5 33,
  .alias 1 [5]]

def table_33 : Pts := [
  { top := [.root 0], kids := [.inner 0], deep := [.inner 0] },
  { top := [.loc 4], kids := [.loc 16, .loc 29], deep := [.loc 26, .loc 24, .inner 0, .loc 28] },
  { top := [.loc 2], kids := [.loc 2], deep := [.inner 0] },
  { top := [.loc 2], kids := [.loc 2], deep := [.inner 0] },
  { top := [.loc 4], kids := [.loc 16, .loc 29], deep := [.loc 26, .loc 24, .inner 0, .loc 28] },
  { top := [.loc 4], kids := [.loc 16, .loc 29], deep := [.loc 26, .loc 24, .inner 0, .loc 28] },
  { top := [.loc 6], kids := [.loc 2], deep := [.inner 0] },
  {},
  { top := [.inner 0], kids := [.inner 0], deep := [.inner 0] },
  { top := [.inner 0], kids := [.inner 0], deep := [.inner 0] },
  { top := [.inner 0], kids := [.inner 0], deep := [.inner 0] },
  { top := [.loc 2], kids := [.inner 0], deep := [.inner 0] },
  { top := [.inner 0], kids := [.inner 0], deep := [.inner 0] },
  {},
  {},
  { top := [.inner 0], kids := [.inner 0], deep := [.inner 0] },
  { top := [.loc 16], kids := [.loc 26], deep := [.loc 24, .inner 0] },
  { top := [.inner 0], kids := [.inner 0], deep := [.inner 0] },
  { top := [.inner 0], kids := [.inner 0], deep := [.inner 0] },
  { top := [.inner 0], kids := [.inner 0], deep := [.inner 0] },
  { top := [.inner 0], kids := [.inner 0], deep := [.inner 0] },
  { top := [.loc 16, .loc 29], kids := [.loc 26, .loc 24, .inner 0, .loc 28], deep := [.loc 24, .inner 0, .loc 26, .loc 28] },
  { top := [.inner 0], kids := [.inner 0], deep := [.inner 0] },
  { top := [.inner 0], kids := [.inner 0], deep := [.inner 0] },
  { top := [.loc 24], kids := [.inner 0], deep := [.inner 0] },
  { top := [.inner 0], kids := [.inner 0], deep := [.inner 0] },
  { top := [.loc 26], kids := [.loc 24, .inner 0], deep := [.inner 0] },
  { top := [.inner 0], kids := [.inner 0], deep := [.inner 0] },
  { top := [.loc 28], kids := [], deep := [] },
  { top := [.loc 29], kids := [.loc 28, .loc 26], deep := [.loc 24, .inner 0] },
  { top := [.loc 16, .loc 29], kids := [.loc 26, .loc 24, .inner 0, .loc 28], deep := [.loc 26, .loc 24, .inner 0, .loc 28] },
  { top := [.loc 16, .loc 29], kids := [.loc 26, .loc 24, .inner 0, .loc 28], deep := [.loc 26, .loc 24, .inner 0, .loc 28] },
  { top := [.loc 16, .loc 29], kids := [.loc 26, .loc 24, .inner 0, .loc 28], deep := [.loc 26, .loc 24, .inner 0, .loc 28] },
  { top := [.loc 16, .loc 29], kids := [.loc 26, .loc 24, .inner 0, .loc 28], deep := [.loc 26, .loc 24, .inner 0, .loc 28] }]

/-- peptacular.element_setup.map_atomic_number_to_symbol -/
def prog_34 : List Stmt := [
  .param 0 0,
  .call 2 29 [some 0],
  .alias 3 [2],
  .pack 4 [],
  .alias 5 [4],
  .shallow 6 [3],
  .elem 10 6,
  .elem 11 10,
  .alias 8 [11],
  .elem 13 12,
  .write 8,
  .elem 14 8,
  .alias 9 [14],
  .elem 15 9,
  .elem 16 9,
  .store 5 15,
  .leaf 17 5,
  .alias 1 [17]]

def table_34 : Pts := [
  { top := [.root 0], kids := [.inner 0], deep := [.inner 0] },
  { top := [.loc 4], kids := [.inner 0], deep := [.inner 0] },
  { top := [.loc 2], kids := [.loc 2], deep := [.inner 0] },
  { top := [.loc 2], kids := [.loc 2], deep := [.inner 0] },
  { top := [.loc 4], kids := [.inner 0], deep := [.inner 0] },
  { top := [.loc 4], kids := [.inner 0], deep := [.inner 0] },
  { top := [.loc 6], kids := [.loc 2], deep := [.inner 0] },
  {},
  { top := [.inner 0], kids := [.inner 0], deep := [.inner 0] },
  { top := [.inner 0], kids := [.inner 0], deep := [.inner 0] },
  { top := [.loc 2], kids := [.inner 0], deep := [.inner 0] },
  { top := [.inner 0], kids := [.inner 0], deep := [.inner 0] },
  {},
  {},
  { top := [.inner 0], kids := [.inner 0], deep := [.inner 0] },
  { top := [.inner 0], kids := [.inner 0], deep := [.inner 0] },
  { top := [.inner 0], kids := [.inner 0], deep := [.inner 0] },
  { top := [.loc 4], kids := [.inner 0], deep := [.inner 0] }]

/-- peptacular.element_setup.map_atomic_symbol_to_average_mass -/
def prog_35 : List Stmt := [
  .param 0 0,
  .call 2 29 [some 0],
  .alias 3 [2],
  .pack 4 [],
  .alias 5 [4],
  .shallow 6 [3],
  .elem 12 6,
  .elem 13 12,
  .alias 10 [13],
  .elem 15 14,
  .write 10,
  .elem 16 10,
  .alias 11 [16],
  .elem 17 10,
  .alias 18 [17],
  .call 19 28 [some 18],
  .pack 20 [19],
  .elem 21 11,
  .alias 22 [21],
  .elem 23 11,
  .store 5 22,
  .leaf 24 5,
  .alias 1 [24]]

def table_35 : Pts := [
  { top := [.root 0], kids := [.inner 0], deep := [.inner 0] },
  { top := [.loc 4], kids := [.inner 0], deep := [.inner 0] },
  { top := [.loc 2], kids := [.loc 2], deep := [.inner 0] },
  { top := [.loc 2], kids := [.loc 2], deep := [.inner 0] },
  { top := [.loc 4], kids := [.inner 0], deep := [.inner 0] },
  { top := [.loc 4], kids := [.inner 0], deep := [.inner 0] },
  { top := [.loc 6], kids := [.loc 2], deep := [.inner 0] },
  {},
  {},
  {},
  { top := [.inner 0], kids := [.inner 0], deep := [.inner 0] },
  { top := [.inner 0], kids := [.inner 0], deep := [.inner 0] },
  { top := [.loc 2], kids := [.inner 0], deep := [.inner 0] },
  { top := [.inner 0], kids := [.inner 0], deep := [.inner 0] },
  {},
  {},
  { top := [.inner 0], kids := [.inner 0], deep := [.inner 0] },
  { top := [.inner 0], kids := [.inner 0], deep := [.inner 0] },
  { top := [.inner 0], kids := [.inner 0], deep := [.inner 0] },
  {},
  { top := [.loc 20], kids := [], deep := [] },
  { top := [.inner 0], kids := [.inner 0], deep := [.inner 0] },
  { top := [.inner 0], kids := [.inner 0], deep := [.inner 0] },
  { top := [.inner 0], kids := [.inner 0], deep := [.inner 0] },
  { top := [.loc 4], kids := [.inner 0], deep := [.inner 0] }]

/-- peptacular.element_setup.map_hill_order -/
def prog_36 : List Stmt := [
  .param 0 0,
  .call 2 29 [some 0],
  .alias 3 [2],
  .fresh 4,
  .alias 5 [4],
  .pack 6 [],
  .alias 7 [6],
  .write 5,
  .elem 8 5,
  .alias 9 [8],
  .elem 11 10,
  .write 9,
  .elem 12 9,
  .alias 13 [12],
  .elem 14 13,
  .store 7 14,
  .elem 15 9,
  .alias 16 [15],
  .pack 17 [],
  .leaf 18 17,
  .store 7 18,
  .elem 19 5,
  .alias 20 [19],
  .elem 22 21,
  .write 20,
  .elem 23 20,
  .alias 24 [23],
  .elem 25 24,
  .store 7 25,
  .elem 26 20,
  .alias 27 [26],
  .pack 28 [],
  .leaf 29 28,
  .store 7 29,
  .write 7,
  .shallow 30 [5],
  .elem 32 31,
  .elem 33 32,
  .elem 34 33,
  .shallow 35 [30],
  .elem 39 35,
  .elem 40 39,
  .alias 38 [40],
  .elem 42 41,
  .write 38,
  .elem 43 38,
  .elem 44 43,
  .store 7 44,
  .elem 45 38,
  .alias 37 [45],
  .shallow 46 [7],
  .elem 47 46,
  .elem 48 47,
  .alias 49 [48],
  .elem 50 47,
  .alias 51 [50],
  .pack 52 [49],
  .alias 53 [52],
  .leaf 54 53,
  .alias 1 [54]]

def table_36 : Pts := [
  { top := [.root 0], kids := [.inner 0], deep := [.inner 0] },
  { top := [.loc 52], kids := [], deep := [] },
  { top := [.loc 2], kids := [.loc 2], deep := [.inner 0] },
  { top := [.loc 2], kids := [.loc 2], deep := [.inner 0] },
  { top := [.loc 4], kids := [], deep := [] },
  { top := [.loc 4], kids := [], deep := [] },
  { top := [.loc 6], kids := [.loc 17, .loc 28], deep := [] },
  { top := [.loc 6], kids := [.loc 17, .loc 28], deep := [] },
  {},
  {},
  {},
  {},
  {},
  {},
  {},
  {},
  {},
  { top := [.loc 17], kids := [], deep := [] },
  { top := [.loc 17], kids := [], deep := [] },
  {},
  {},
  {},
  {},
  {},
  {},
  {},
  {},
  {},
  { top := [.loc 28], kids := [], deep := [] },
  { top := [.loc 28], kids := [], deep := [] },
  { top := [.loc 30], kids := [], deep := [] },
  {},
  {},
  {},
  {},
  { top := [.loc 35], kids := [], deep := [] },
  {},
  {},
  {},
  {},
  {},
  {},
  {},
  {},
  {},
  {},
  { top := [.loc 46], kids := [.loc 17, .loc 28], deep := [] },
  { top := [.loc 17, .loc 28], kids := [], deep := [] },
  {},
  {},
  {},
  {},
  { top := [.loc 52], kids := [], deep := [] },
  { top := [.loc 52], kids := [], deep := [] },
  { top := [.loc 52], kids := [], deep := [] }]

def fns_0 : List (Nat × FnInfo) := [
  (27, { prog := prog_27, nparams := 1, ret := 1, fuel := 2, table := table_27 }),
  (28, { prog := prog_28, nparams := 1, ret := 1, fuel := 2, table := table_28 }),
  (29, { prog := prog_29, nparams := 1, ret := 1, fuel := 2, table := table_29 }),
  (30, { prog := prog_30, nparams := 1, ret := 1, fuel := 2, table := table_30 }),
  (31, { prog := prog_31, nparams := 1, ret := 1, fuel := 3, table := table_31 }),
  (32, { prog := prog_32, nparams := 1, ret := 1, fuel := 3, table := table_32 }),
  (33, { prog := prog_33, nparams := 1, ret := 1, fuel := 3, table := table_33 }),
  (34, { prog := prog_34, nparams := 1, ret := 1, fuel := 3, table := table_34 }),
  (35, { prog := prog_35, nparams := 1, ret := 1, fuel := 3, table := table_35 }),
  (36, { prog := prog_36, nparams := 1, ret := 1, fuel := 2, table := table_36 })]

def fns : List (Nat × FnInfo) := fns_0

theorem ok : fns.all (fun p => entryOK Gen.summaries Gen.verdicts p.1 p.2) = true :=
  all_entryOK_of_fast 8 (by decide +kernel)

end Gen.M_element_setup
