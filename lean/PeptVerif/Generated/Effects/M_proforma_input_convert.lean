import PeptVerif.Generated.Effects.Core
import PeptVerif.Lemmas.EffectsFast
/-! GENERATED by harness/translate_effects.py - do not edit.  Source module: peptacular.proforma.input_convert (8 functions).
`ok` is the kernel check of these functions against the global summary / verdict tables: every table is closed
under its program, the summary the program induces is within the summary table, and the write / sharing sets
read off the table are the claimed verdict.  The kernel evaluates it in the form `entryOKFast`
(Lemmas/EffectsFast.lean); 8 is the stride of its lookups, any stride gives the same value. -/
namespace Gen.M_proforma_input_convert
open Effects
set_option maxRecDepth 100000
/-- peptacular.proforma.input_convert.convert_to_mod -/
def prog_154 : List Stmt := [
  .param 0 0,
  .asRec 2 0 0,
  .alias 1 [2],
  .pack 3 [],
  .pack 4 [0],
  .call 5 169 [some 4],
  .asRec 6 4 0,
  .alias 1 [6]]

def table_154 : Pts := [
  { top := [.root 0], kids := [.inner 0], deep := [.inner 0] },
  { top := [.recTop 0, .loc 4], kids := [.recd 0, .recTop 0], deep := [.recd 0] },
  { top := [.recTop 0], kids := [.recd 0], deep := [.recd 0] },
  { top := [.loc 3], kids := [], deep := [] },
  { top := [.loc 4], kids := [.root 0], deep := [.inner 0] },
  {},
  { top := [.loc 4], kids := [.recTop 0], deep := [.recd 0] }]

/-- peptacular.proforma.input_convert.fix_dict_of_mods -/
def prog_155 : List Stmt := [
  .param 0 0,
  .shallow 2 [0],
  .elem 3 2,
  .elem 5 3,
  .alias 6 [5],
  .call 7 159 [some 6],
  .asRec 8 7 1,
  .pack 9 [8],
  .asRec 10 9 2,
  .alias 1 [10]]

def table_155 : Pts := [
  { top := [.root 0], kids := [.inner 0], deep := [.inner 0] },
  { top := [.loc 9], kids := [.loc 7], deep := [.recd 0, .loc 7] },
  { top := [.loc 2], kids := [.inner 0], deep := [.inner 0] },
  { top := [.inner 0], kids := [.inner 0], deep := [.inner 0] },
  {},
  { top := [.inner 0], kids := [.inner 0], deep := [.inner 0] },
  { top := [.inner 0], kids := [.inner 0], deep := [.inner 0] },
  { top := [.loc 7], kids := [.recd 0, .loc 7], deep := [.recd 0] },
  { top := [.loc 7], kids := [.recd 0, .loc 7], deep := [.recd 0] },
  { top := [.loc 9], kids := [.loc 7], deep := [.recd 0, .loc 7] },
  { top := [.loc 9], kids := [.loc 7], deep := [.recd 0, .loc 7] }]

/-- peptacular.proforma.input_convert.fix_interval_input -/
def prog_156 : List Stmt := [
  .param 0 0,
  .asRec 2 0 0,
  .alias 1 [2],
  .elem 3 0,
  .elem 4 0,
  .call 5 159 [some 4],
  .asRec 6 5 1,
  .alias 7 [6],
  .asRec 8 7 1,
  .alias 9 [8],
  .elem 10 0,
  .elem 11 0,
  .elem 12 0,
  .asRec 13 9 1,
  .pack 14 [10, 11, 12, 13],
  .asRec 15 14 0,
  .alias 1 [15]]

def table_156 : Pts := [
  { top := [.root 0], kids := [.inner 0], deep := [.inner 0] },
  { top := [.recTop 0, .loc 14], kids := [.recd 0, .loc 5], deep := [.recd 0, .loc 5] },
  { top := [.recTop 0], kids := [.recd 0], deep := [.recd 0] },
  { top := [.inner 0], kids := [.inner 0], deep := [.inner 0] },
  { top := [.inner 0], kids := [.inner 0], deep := [.inner 0] },
  { top := [.loc 5], kids := [.recd 0, .loc 5], deep := [.recd 0] },
  { top := [.loc 5], kids := [.recd 0, .loc 5], deep := [.recd 0] },
  { top := [.loc 5], kids := [.recd 0, .loc 5], deep := [.recd 0] },
  { top := [.loc 5], kids := [.recd 0, .loc 5], deep := [.recd 0] },
  { top := [.loc 5], kids := [.recd 0, .loc 5], deep := [.recd 0] },
  { top := [.inner 0], kids := [.inner 0], deep := [.inner 0] },
  { top := [.inner 0], kids := [.inner 0], deep := [.inner 0] },
  { top := [.inner 0], kids := [.inner 0], deep := [.inner 0] },
  { top := [.loc 5], kids := [.recd 0, .loc 5], deep := [.recd 0] },
  { top := [.loc 14], kids := [.inner 0, .loc 5], deep := [.inner 0, .recd 0, .loc 5] },
  { top := [.loc 14], kids := [.recd 0, .loc 5], deep := [.recd 0, .loc 5] }]

/-- peptacular.proforma.input_convert.fix_intervals_input -/
def prog_157 : List Stmt := [
  .param 0 0,
  .pack 2 [],
  .call 3 156 [some 0],
  .asRec 4 3 0,
  .pack 5 [4],
  .asRec 6 5 1,
  .alias 1 [6],
  .elem 7 0,
  .alias 8 [7],
  .call 9 156 [some 8],
  .asRec 10 9 0,
  .pack 11 [10],
  .asRec 12 11 1,
  .alias 1 [12]]

def table_157 : Pts := [
  { top := [.root 0], kids := [.inner 0], deep := [.inner 0] },
  { top := [.loc 5, .loc 11], kids := [.recTop 0, .loc 3, .recd 0, .loc 9], deep := [.recd 0, .loc 3, .loc 9] },
  { top := [.loc 2], kids := [], deep := [] },
  { top := [.recTop 0, .loc 3], kids := [.recd 0, .loc 3], deep := [.recd 0, .loc 3] },
  { top := [.recTop 0, .loc 3], kids := [.recd 0, .loc 3], deep := [.recd 0, .loc 3] },
  { top := [.loc 5], kids := [.recTop 0, .loc 3], deep := [.recd 0, .loc 3] },
  { top := [.loc 5], kids := [.recTop 0, .loc 3], deep := [.recd 0, .loc 3] },
  { top := [.inner 0], kids := [.inner 0], deep := [.inner 0] },
  { top := [.inner 0], kids := [.inner 0], deep := [.inner 0] },
  { top := [.recd 0, .loc 9], kids := [.recd 0, .loc 9], deep := [.recd 0, .loc 9] },
  { top := [.recd 0, .loc 9], kids := [.recd 0, .loc 9], deep := [.recd 0, .loc 9] },
  { top := [.loc 11], kids := [.recd 0, .loc 9], deep := [.recd 0, .loc 9] },
  { top := [.loc 11], kids := [.recd 0, .loc 9], deep := [.recd 0, .loc 9] }]

/-- peptacular.proforma.input_convert.fix_list_of_list_of_mods -/
def prog_158 : List Stmt := [
  .param 0 0,
  .pack 2 [],
  .call 3 154 [some 0],
  .asRec 4 3 0,
  .pack 5 [4],
  .pack 6 [5],
  .asRec 7 6 2,
  .alias 1 [7],
  .elem 8 0,
  .alias 9 [8],
  .pack 10 [],
  .pack 11 [],
  .leaf 12 11,
  .call 13 159 [some 0],
  .asRec 14 13 1,
  .pack 15 [14],
  .asRec 16 15 2,
  .alias 1 [16],
  .elem 17 0,
  .alias 18 [17],
  .call 19 159 [some 18],
  .asRec 20 19 1,
  .pack 21 [20],
  .asRec 22 21 2,
  .alias 1 [22]]

def table_158 : Pts := [
  { top := [.root 0], kids := [.inner 0], deep := [.inner 0] },
  { top := [.loc 6, .loc 15, .loc 21], kids := [.loc 5, .loc 13, .loc 19], deep := [.recTop 0, .loc 3, .recd 0, .loc 13, .loc 19] },
  { top := [.loc 2], kids := [], deep := [] },
  { top := [.recTop 0, .loc 3], kids := [.recd 0, .recTop 0], deep := [.recd 0] },
  { top := [.recTop 0, .loc 3], kids := [.recd 0, .recTop 0], deep := [.recd 0] },
  { top := [.loc 5], kids := [.recTop 0, .loc 3], deep := [.recd 0, .recTop 0] },
  { top := [.loc 6], kids := [.loc 5], deep := [.recTop 0, .loc 3, .recd 0] },
  { top := [.loc 6], kids := [.loc 5], deep := [.recTop 0, .loc 3, .recd 0] },
  { top := [.inner 0], kids := [.inner 0], deep := [.inner 0] },
  { top := [.inner 0], kids := [.inner 0], deep := [.inner 0] },
  { top := [.loc 10], kids := [], deep := [] },
  { top := [.loc 11], kids := [], deep := [] },
  { top := [.loc 11], kids := [], deep := [] },
  { top := [.loc 13], kids := [.recTop 0, .loc 13, .recd 0], deep := [.recd 0, .recTop 0] },
  { top := [.loc 13], kids := [.recTop 0, .loc 13, .recd 0], deep := [.recd 0, .recTop 0] },
  { top := [.loc 15], kids := [.loc 13], deep := [.recTop 0, .loc 13, .recd 0] },
  { top := [.loc 15], kids := [.loc 13], deep := [.recTop 0, .loc 13, .recd 0] },
  { top := [.inner 0], kids := [.inner 0], deep := [.inner 0] },
  { top := [.inner 0], kids := [.inner 0], deep := [.inner 0] },
  { top := [.loc 19], kids := [.recd 0, .loc 19], deep := [.recd 0] },
  { top := [.loc 19], kids := [.recd 0, .loc 19], deep := [.recd 0] },
  { top := [.loc 21], kids := [.loc 19], deep := [.recd 0, .loc 19] },
  { top := [.loc 21], kids := [.loc 19], deep := [.recd 0, .loc 19] }]

/-- peptacular.proforma.input_convert.fix_list_of_mods -/
def prog_159 : List Stmt := [
  .param 0 0,
  .pack 2 [],
  .call 3 154 [some 0],
  .asRec 4 3 0,
  .pack 5 [4],
  .asRec 6 5 1,
  .alias 1 [6],
  .elem 7 0,
  .alias 8 [7],
  .call 9 154 [some 8],
  .asRec 10 9 0,
  .pack 11 [10],
  .asRec 12 11 1,
  .alias 1 [12]]

def table_159 : Pts := [
  { top := [.root 0], kids := [.inner 0], deep := [.inner 0] },
  { top := [.loc 5, .loc 11], kids := [.recTop 0, .loc 3, .recd 0, .loc 9], deep := [.recd 0, .recTop 0] },
  { top := [.loc 2], kids := [], deep := [] },
  { top := [.recTop 0, .loc 3], kids := [.recd 0, .recTop 0], deep := [.recd 0] },
  { top := [.recTop 0, .loc 3], kids := [.recd 0, .recTop 0], deep := [.recd 0] },
  { top := [.loc 5], kids := [.recTop 0, .loc 3], deep := [.recd 0, .recTop 0] },
  { top := [.loc 5], kids := [.recTop 0, .loc 3], deep := [.recd 0, .recTop 0] },
  { top := [.inner 0], kids := [.inner 0], deep := [.inner 0] },
  { top := [.inner 0], kids := [.inner 0], deep := [.inner 0] },
  { top := [.recd 0, .loc 9], kids := [.recd 0], deep := [.recd 0] },
  { top := [.recd 0, .loc 9], kids := [.recd 0], deep := [.recd 0] },
  { top := [.loc 11], kids := [.recd 0, .loc 9], deep := [.recd 0] },
  { top := [.loc 11], kids := [.recd 0, .loc 9], deep := [.recd 0] }]

/-- peptacular.proforma.input_convert.remove_empty_list_of_list_of_mods -/
def prog_160 : List Stmt := [
  .param 0 0,
  .pack 2 [],
  .alias 3 [2],
  .asRec 4 0 2,
  .elem 6 4,
  .asRec 7 6 1,
  .alias 5 [7],
  .asRec 8 5 1,
  .asRec 9 5 1,
  .shallow 10 [9],
  .asRec 11 10 1,
  .store 3 11,
  .asRec 12 3 2,
  .alias 1 [12]]

def table_160 : Pts := [
  { top := [.root 0], kids := [.inner 0], deep := [.inner 0] },
  { top := [.loc 2], kids := [.loc 10], deep := [.recd 0] },
  { top := [.loc 2], kids := [.loc 10], deep := [.recd 0] },
  { top := [.loc 2], kids := [.loc 10], deep := [.recd 0] },
  { top := [.root 0], kids := [.inner 0], deep := [.recd 0] },
  { top := [.inner 0], kids := [.recd 0], deep := [.recd 0] },
  { top := [.inner 0], kids := [.recd 0], deep := [.recd 0] },
  { top := [.inner 0], kids := [.recd 0], deep := [.recd 0] },
  { top := [.inner 0], kids := [.recd 0], deep := [.recd 0] },
  { top := [.inner 0], kids := [.recd 0], deep := [.recd 0] },
  { top := [.loc 10], kids := [.recd 0], deep := [.recd 0] },
  { top := [.loc 10], kids := [.recd 0], deep := [.recd 0] },
  { top := [.loc 2], kids := [.loc 10], deep := [.recd 0] }]

/-- peptacular.proforma.input_convert.remove_empty_list_of_mods -/
def prog_161 : List Stmt := [
  .param 0 0,
  .asRec 2 0 1,
  .asRec 3 0 1,
  .shallow 4 [3],
  .asRec 5 4 1,
  .alias 6 [5],
  .asRec 7 6 1,
  .alias 1 [7]]

def table_161 : Pts := [
  { top := [.root 0], kids := [.inner 0], deep := [.inner 0] },
  { top := [.loc 4], kids := [.recd 0], deep := [.recd 0] },
  { top := [.root 0], kids := [.recd 0], deep := [.recd 0] },
  { top := [.root 0], kids := [.recd 0], deep := [.recd 0] },
  { top := [.loc 4], kids := [.recd 0], deep := [.recd 0] },
  { top := [.loc 4], kids := [.recd 0], deep := [.recd 0] },
  { top := [.loc 4], kids := [.recd 0], deep := [.recd 0] },
  { top := [.loc 4], kids := [.recd 0], deep := [.recd 0] }]

def fns_0 : List (Nat × FnInfo) := [
  (154, { prog := prog_154, nparams := 1, ret := 1, fuel := 2, table := table_154 }),
  (155, { prog := prog_155, nparams := 1, ret := 1, fuel := 2, table := table_155 }),
  (156, { prog := prog_156, nparams := 1, ret := 1, fuel := 2, table := table_156 }),
  (157, { prog := prog_157, nparams := 1, ret := 1, fuel := 2, table := table_157 }),
  (158, { prog := prog_158, nparams := 1, ret := 1, fuel := 2, table := table_158 }),
  (159, { prog := prog_159, nparams := 1, ret := 1, fuel := 2, table := table_159 }),
  (160, { prog := prog_160, nparams := 1, ret := 1, fuel := 2, table := table_160 }),
  (161, { prog := prog_161, nparams := 1, ret := 1, fuel := 2, table := table_161 })]

def fns : List (Nat × FnInfo) := fns_0

theorem ok : fns.all (fun p => entryOK Gen.summaries Gen.verdicts p.1 p.2) = true :=
  all_entryOK_of_fast 8 (by decide +kernel)

end Gen.M_proforma_input_convert
