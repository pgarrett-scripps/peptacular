import PeptVerif.Generated.Effects.Core
import PeptVerif.Lemmas.EffectsFast
/-! GENERATED by harness/translate_effects.py - do not edit.  Source module: peptacular.digestion (9 functions).
`ok` is the kernel check of these functions against the global summary / verdict tables: every table is closed
under its program, the summary the program induces is within the summary table, and the write / sharing sets
read off the table are the claimed verdict.  The kernel evaluates it in the form `entryOKFast`
(Lemmas/EffectsFast.lean); 8 is the stride of its lookups, any stride gives the same value. -/
namespace Gen.M_digestion
open Effects
set_option maxRecDepth 100000
/-- peptacular.digestion._return_digested_sequences -/
def prog_18 : List Stmt := [
  .param 0 0,
  .param 1 1,
  .param 2 2,
  .leaf 4 1,
  .pack 6 [],
  .alias 3 [6],
  .call 7 219 [some 0],
  .leaf 8 1,
  .call 10 309 [none, none, none, none, none, none, none, none, none, none, none],
  .pack 11 [10],
  .alias 3 [11],
  .leaf 12 1,
  .call 14 262 [some 0, none, none, none],
  .pack 15 [14],
  .alias 3 [15],
  .call 16 219 [some 0],
  .leaf 17 1,
  .pack 19 [],
  .leaf 20 19,
  .alias 3 [20],
  .leaf 21 1,
  .call 23 262 [some 0, none, none, none],
  .call 24 254 [some 23, none],
  .pack 25 [24],
  .leaf 26 25,
  .alias 3 [26],
  .call 27 219 [some 0],
  .leaf 28 1,
  .pack 30 [],
  .pack 31 [30],
  .alias 3 [31],
  .leaf 32 1,
  .call 34 262 [some 0, none, none, none],
  .call 35 254 [some 34, none],
  .pack 36 [35],
  .pack 37 [36],
  .alias 3 [37],
  .call 38 219 [some 0],
  .leaf 39 1,
  .call 41 309 [none, none, none, none, none, none, none, none, none, none, none],
  .pack 42 [41],
  .pack 43 [42],
  .alias 3 [43],
  .leaf 44 1,
  .call 46 262 [some 0, none, none, none],
  .pack 47 [46],
  .pack 48 [47],
  .alias 3 [48]]

def table_18 : Pts := [
  { top := [.root 0], kids := [.inner 0], deep := [.inner 0] },
  { top := [.root 1], kids := [.inner 1], deep := [.inner 1] },
  { top := [.root 2], kids := [.inner 2], deep := [.inner 2] },
  { top := [.loc 6, .loc 11, .loc 15, .loc 19, .loc 25, .loc 31, .loc 37, .loc 43, .loc 48], kids := [.loc 10, .loc 14, .loc 30, .loc 36, .loc 42, .loc 47], deep := [.loc 10, .loc 14, .loc 41, .loc 46] },
  { top := [.root 1], kids := [], deep := [] },
  {},
  { top := [.loc 6], kids := [], deep := [] },
  {},
  { top := [.root 1], kids := [], deep := [] },
  {},
  { top := [.loc 10], kids := [.loc 10], deep := [.loc 10] },
  { top := [.loc 11], kids := [.loc 10], deep := [.loc 10] },
  { top := [.root 1], kids := [], deep := [] },
  {},
  { top := [.loc 14], kids := [.loc 14], deep := [.loc 14] },
  { top := [.loc 15], kids := [.loc 14], deep := [.loc 14] },
  {},
  { top := [.root 1], kids := [], deep := [] },
  {},
  { top := [.loc 19], kids := [], deep := [] },
  { top := [.loc 19], kids := [], deep := [] },
  { top := [.root 1], kids := [], deep := [] },
  {},
  { top := [.loc 23], kids := [.loc 23], deep := [.loc 23] },
  {},
  { top := [.loc 25], kids := [], deep := [] },
  { top := [.loc 25], kids := [], deep := [] },
  {},
  { top := [.root 1], kids := [], deep := [] },
  {},
  { top := [.loc 30], kids := [], deep := [] },
  { top := [.loc 31], kids := [.loc 30], deep := [] },
  { top := [.root 1], kids := [], deep := [] },
  {},
  { top := [.loc 34], kids := [.loc 34], deep := [.loc 34] },
  {},
  { top := [.loc 36], kids := [], deep := [] },
  { top := [.loc 37], kids := [.loc 36], deep := [] },
  {},
  { top := [.root 1], kids := [], deep := [] },
  {},
  { top := [.loc 41], kids := [.loc 41], deep := [.loc 41] },
  { top := [.loc 42], kids := [.loc 41], deep := [.loc 41] },
  { top := [.loc 43], kids := [.loc 42], deep := [.loc 41] },
  { top := [.root 1], kids := [], deep := [] },
  {},
  { top := [.loc 46], kids := [.loc 46], deep := [.loc 46] },
  { top := [.loc 47], kids := [.loc 46], deep := [.loc 46] },
  { top := [.loc 48], kids := [.loc 47], deep := [.loc 46] }]

/-- peptacular.digestion.digest -/
def prog_19 : List Stmt := [
  .param 0 0,
  .param 1 1,
  .param 2 2,
  .param 3 3,
  .param 4 4,
  .param 5 5,
  .param 6 6,
  .param 7 7,
  .param 8 8,
  .call 10 387 [some 0],
  .alias 11 [10],
  .alias 12 [0],
  .alias 13 [11, 12],
  .leaf 14 1,
  .leaf 15 1,
  .pack 16 [15],
  .alias 17 [16],
  .alias 18 [17, 1],
  .shallow 19 [],
  .alias 20 [19],
  .pack 21 [],
  .store 20 21,
  .pack 22 [],
  .alias 23 [22],
  .elem 25 18,
  .alias 24 [25],
  .call 26 21 [some 13, some 24],
  .leaf 27 26,
  .shallow 28 [27],
  .leaf 29 28,
  .store 23 29,
  .call 30 401 [none, some 23, none, none, none, none],
  .leaf 31 30,
  .alias 32 [31],
  .leaf 33 32,
  .store 20 33,
  .elem 35 34,
  .elem 36 34,
  .elem 37 34,
  .pack 38 [35, 36, 37],
  .shallow 39 [20],
  .alias 40 [39],
  .alias 41 [40, 20],
  .call 42 18 [some 13, some 41, none],
  .alias 9 [42]]

def table_19 : Pts := [
  { top := [.root 0], kids := [.inner 0], deep := [.inner 0] },
  { top := [.root 1], kids := [.inner 1], deep := [.inner 1] },
  { top := [.root 2], kids := [.inner 2], deep := [.inner 2] },
  { top := [.root 3], kids := [.inner 3], deep := [.inner 3] },
  { top := [.root 4], kids := [.inner 4], deep := [.inner 4] },
  { top := [.root 5], kids := [.inner 5], deep := [.inner 5] },
  { top := [.root 6], kids := [.inner 6], deep := [.inner 6] },
  { top := [.root 7], kids := [.inner 7], deep := [.inner 7] },
  { top := [.root 8], kids := [.inner 8], deep := [.inner 8] },
  { top := [.loc 42], kids := [.loc 42], deep := [.loc 42] },
  { top := [.loc 10], kids := [.loc 10], deep := [.loc 10] },
  { top := [.loc 10], kids := [.loc 10], deep := [.loc 10] },
  { top := [.root 0], kids := [.inner 0], deep := [.inner 0] },
  { top := [.loc 10, .root 0], kids := [.loc 10, .inner 0], deep := [.loc 10, .inner 0] },
  { top := [.root 1], kids := [], deep := [] },
  { top := [.root 1], kids := [], deep := [] },
  { top := [.loc 16], kids := [.root 1], deep := [] },
  { top := [.loc 16], kids := [.root 1], deep := [] },
  { top := [.loc 16, .root 1], kids := [.root 1, .inner 1], deep := [.inner 1] },
  { top := [.loc 19], kids := [.loc 21, .loc 30], deep := [] },
  { top := [.loc 19], kids := [.loc 21, .loc 30], deep := [] },
  { top := [.loc 21], kids := [], deep := [] },
  { top := [.loc 22], kids := [.loc 28], deep := [] },
  { top := [.loc 22], kids := [.loc 28], deep := [] },
  { top := [.root 1, .inner 1], kids := [.inner 1], deep := [.inner 1] },
  { top := [.root 1, .inner 1], kids := [.inner 1], deep := [.inner 1] },
  {},
  {},
  { top := [.loc 28], kids := [], deep := [] },
  { top := [.loc 28], kids := [], deep := [] },
  { top := [.loc 30], kids := [], deep := [] },
  { top := [.loc 30], kids := [], deep := [] },
  { top := [.loc 30], kids := [], deep := [] },
  { top := [.loc 30], kids := [], deep := [] },
  {},
  {},
  {},
  {},
  { top := [.loc 38], kids := [], deep := [] },
  { top := [.loc 39], kids := [.loc 21, .loc 30], deep := [] },
  { top := [.loc 39], kids := [.loc 21, .loc 30], deep := [] },
  { top := [.loc 39, .loc 19], kids := [.loc 21, .loc 30], deep := [] },
  { top := [.loc 42], kids := [.loc 42], deep := [.loc 42] }]

/-- peptacular.digestion.digest_from_config -/
def prog_20 : List Stmt := [
  .param 0 0,
  .param 1 1,
  .param 2 2,
  .param 3 3,
  .param 4 4,
  .param 5 5,
  .asRec 7 1 0,
  .elem 8 7,
  .asRec 9 1 0,
  .asRec 10 1 0,
  .asRec 11 1 0,
  .call 12 19 [some 0, some 8, none, none, none, none, none, none, none],
  .alias 6 [12]]

def table_20 : Pts := [
  { top := [.root 0], kids := [.inner 0], deep := [.inner 0] },
  { top := [.root 1], kids := [.inner 1], deep := [.inner 1] },
  { top := [.root 2], kids := [.inner 2], deep := [.inner 2] },
  { top := [.root 3], kids := [.inner 3], deep := [.inner 3] },
  { top := [.root 4], kids := [.inner 4], deep := [.inner 4] },
  { top := [.root 5], kids := [.inner 5], deep := [.inner 5] },
  { top := [.loc 12], kids := [.loc 12], deep := [.loc 12] },
  { top := [.recTop 1], kids := [.recd 1], deep := [.recd 1] },
  { top := [.recd 1], kids := [.recd 1], deep := [.recd 1] },
  { top := [.recTop 1], kids := [.recd 1], deep := [.recd 1] },
  { top := [.recTop 1], kids := [.recd 1], deep := [.recd 1] },
  { top := [.recTop 1], kids := [.recd 1], deep := [.recd 1] },
  { top := [.loc 12], kids := [.loc 12], deep := [.loc 12] }]

/-- peptacular.digestion.get_cleavage_sites -/
def prog_21 : List Stmt := [
  .param 0 0,
  .param 1 1,
  .call 3 387 [some 0],
  .alias 4 [3],
  .alias 5 [0],
  .alias 6 [4, 5],
  .global 7 30,
  .elem 8 7,
  .alias 9 [8],
  .call 10 404 [none, some 9, none],
  .leaf 11 10,
  .alias 2 [11]]

def table_21 : Pts := [
  { top := [.root 0], kids := [.inner 0], deep := [.inner 0] },
  { top := [.root 1], kids := [.inner 1], deep := [.inner 1] },
  {},
  { top := [.loc 3], kids := [.loc 3], deep := [.loc 3] },
  { top := [.loc 3], kids := [.loc 3], deep := [.loc 3] },
  { top := [.root 0], kids := [.inner 0], deep := [.inner 0] },
  { top := [.loc 3, .root 0], kids := [.loc 3, .inner 0], deep := [.loc 3, .inner 0] },
  { top := [.glob 30], kids := [.glob 30], deep := [.glob 30] },
  { top := [.glob 30], kids := [.glob 30], deep := [.glob 30] },
  { top := [.glob 30], kids := [.glob 30], deep := [.glob 30] },
  {},
  {}]

/-- peptacular.digestion.get_left_semi_enzymatic_sequences -/
def prog_22 : List Stmt := [
  .param 0 0,
  .param 1 1,
  .param 2 2,
  .param 3 3,
  .call 5 387 [some 0],
  .alias 6 [5],
  .alias 7 [0],
  .alias 8 [6, 7],
  .pack 9 [],
  .alias 10 [9],
  .call 11 397 [some 10, none, none],
  .leaf 12 11,
  .alias 13 [12],
  .leaf 14 13,
  .call 15 18 [some 8, some 14, none],
  .alias 4 [15]]

def table_22 : Pts := [
  { top := [.root 0], kids := [.inner 0], deep := [.inner 0] },
  { top := [.root 1], kids := [.inner 1], deep := [.inner 1] },
  { top := [.root 2], kids := [.inner 2], deep := [.inner 2] },
  { top := [.root 3], kids := [.inner 3], deep := [.inner 3] },
  { top := [.loc 15], kids := [.loc 15], deep := [.loc 15] },
  { top := [.loc 5], kids := [.loc 5], deep := [.loc 5] },
  { top := [.loc 5], kids := [.loc 5], deep := [.loc 5] },
  { top := [.root 0], kids := [.inner 0], deep := [.inner 0] },
  { top := [.loc 5, .root 0], kids := [.loc 5, .inner 0], deep := [.loc 5, .inner 0] },
  { top := [.loc 9], kids := [], deep := [] },
  { top := [.loc 9], kids := [], deep := [] },
  { top := [.loc 11], kids := [], deep := [] },
  { top := [.loc 11], kids := [], deep := [] },
  { top := [.loc 11], kids := [], deep := [] },
  { top := [.loc 11], kids := [], deep := [] },
  { top := [.loc 15], kids := [.loc 15], deep := [.loc 15] }]

/-- peptacular.digestion.get_non_enzymatic_sequences -/
def prog_23 : List Stmt := [
  .param 0 0,
  .param 1 1,
  .param 2 2,
  .param 3 3,
  .call 5 387 [some 0],
  .alias 6 [5],
  .alias 7 [0],
  .alias 8 [6, 7],
  .pack 9 [],
  .alias 10 [9],
  .call 11 398 [some 10, none, none],
  .leaf 12 11,
  .alias 13 [12],
  .leaf 14 13,
  .call 15 18 [some 8, some 14, none],
  .alias 4 [15]]

def table_23 : Pts := [
  { top := [.root 0], kids := [.inner 0], deep := [.inner 0] },
  { top := [.root 1], kids := [.inner 1], deep := [.inner 1] },
  { top := [.root 2], kids := [.inner 2], deep := [.inner 2] },
  { top := [.root 3], kids := [.inner 3], deep := [.inner 3] },
  { top := [.loc 15], kids := [.loc 15], deep := [.loc 15] },
  { top := [.loc 5], kids := [.loc 5], deep := [.loc 5] },
  { top := [.loc 5], kids := [.loc 5], deep := [.loc 5] },
  { top := [.root 0], kids := [.inner 0], deep := [.inner 0] },
  { top := [.loc 5, .root 0], kids := [.loc 5, .inner 0], deep := [.loc 5, .inner 0] },
  { top := [.loc 9], kids := [], deep := [] },
  { top := [.loc 9], kids := [], deep := [] },
  { top := [.loc 11], kids := [], deep := [] },
  { top := [.loc 11], kids := [], deep := [] },
  { top := [.loc 11], kids := [], deep := [] },
  { top := [.loc 11], kids := [], deep := [] },
  { top := [.loc 15], kids := [.loc 15], deep := [.loc 15] }]

/-- peptacular.digestion.get_right_semi_enzymatic_sequences -/
def prog_24 : List Stmt := [
  .param 0 0,
  .param 1 1,
  .param 2 2,
  .param 3 3,
  .call 5 387 [some 0],
  .alias 6 [5],
  .alias 7 [0],
  .alias 8 [6, 7],
  .pack 9 [],
  .alias 10 [9],
  .call 11 399 [some 10, none, none],
  .leaf 12 11,
  .alias 13 [12],
  .leaf 14 13,
  .call 15 18 [some 8, some 14, none],
  .alias 4 [15]]

def table_24 : Pts := [
  { top := [.root 0], kids := [.inner 0], deep := [.inner 0] },
  { top := [.root 1], kids := [.inner 1], deep := [.inner 1] },
  { top := [.root 2], kids := [.inner 2], deep := [.inner 2] },
  { top := [.root 3], kids := [.inner 3], deep := [.inner 3] },
  { top := [.loc 15], kids := [.loc 15], deep := [.loc 15] },
  { top := [.loc 5], kids := [.loc 5], deep := [.loc 5] },
  { top := [.loc 5], kids := [.loc 5], deep := [.loc 5] },
  { top := [.root 0], kids := [.inner 0], deep := [.inner 0] },
  { top := [.loc 5, .root 0], kids := [.loc 5, .inner 0], deep := [.loc 5, .inner 0] },
  { top := [.loc 9], kids := [], deep := [] },
  { top := [.loc 9], kids := [], deep := [] },
  { top := [.loc 11], kids := [], deep := [] },
  { top := [.loc 11], kids := [], deep := [] },
  { top := [.loc 11], kids := [], deep := [] },
  { top := [.loc 11], kids := [], deep := [] },
  { top := [.loc 15], kids := [.loc 15], deep := [.loc 15] }]

/-- peptacular.digestion.get_semi_enzymatic_sequences -/
def prog_25 : List Stmt := [
  .param 0 0,
  .param 1 1,
  .param 2 2,
  .param 3 3,
  .call 5 22 [some 0, none, none, none],
  .alias 4 [5],
  .call 6 24 [some 0, none, none, none],
  .alias 4 [6]]

def table_25 : Pts := [
  { top := [.root 0], kids := [.inner 0], deep := [.inner 0] },
  { top := [.root 1], kids := [.inner 1], deep := [.inner 1] },
  { top := [.root 2], kids := [.inner 2], deep := [.inner 2] },
  { top := [.root 3], kids := [.inner 3], deep := [.inner 3] },
  { top := [.loc 5, .loc 6], kids := [.loc 5, .loc 6], deep := [.loc 5, .loc 6] },
  { top := [.loc 5], kids := [.loc 5], deep := [.loc 5] },
  { top := [.loc 6], kids := [.loc 6], deep := [.loc 6] }]

/-- peptacular.digestion.sequential_digest -/
def prog_26 : List Stmt := [
  .param 0 0,
  .param 1 1,
  .param 2 2,
  .param 3 3,
  .param 4 4,
  .call 6 387 [some 0],
  .alias 7 [6],
  .alias 8 [0],
  .alias 9 [7, 8],
  .pack 10 [],
  .alias 11 [10],
  .asRec 12 1 1,
  .shallow 13 [12],
  .alias 17 [11],
  .elem 25 13,
  .elem 26 25,
  .alias 21 [26],
  .elem 27 25,
  .alias 19 [27],
  .elem 28 19,
  .elem 29 19,
  .elem 30 19,
  .elem 31 19,
  .call 32 19 [some 9, some 28, some 29, some 30, none, none, some 31, none, none],
  .shallow 33 [32],
  .alias 17 [33],
  .pack 34 [],
  .alias 23 [34],
  .elem 35 17,
  .elem 36 35,
  .alias 15 [36],
  .elem 37 35,
  .alias 24 [37],
  .elem 38 19,
  .elem 39 19,
  .elem 40 19,
  .elem 41 19,
  .call 42 19 [some 15, some 38, some 39, some 40, none, none, some 41, none, none],
  .shallow 43 [42],
  .alias 14 [43],
  .shallow 44 [14],
  .elem 45 44,
  .elem 46 45,
  .alias 22 [46],
  .elem 47 45,
  .alias 16 [47],
  .elem 48 16,
  .alias 18 [48],
  .elem 49 24,
  .elem 50 18,
  .shallow 51 [49, 50],
  .elem 52 24,
  .elem 53 18,
  .shallow 54 [52, 53],
  .elem 55 24,
  .pack 56 [51, 54, 55],
  .alias 20 [56],
  .elem 57 16,
  .pack 58 [57, 20],
  .store 14 58,
  .store 23 14,
  .alias 17 [23],
  .elem 59 17,
  .elem 60 59,
  .alias 61 [60],
  .elem 62 59,
  .alias 63 [62],
  .elem 64 63,
  .elem 65 63,
  .shallow 66 [64, 65],
  .pack 67 [61, 63],
  .pack 68 [67],
  .alias 69 [68],
  .alias 70 [69, 17],
  .elem 71 70,
  .elem 72 71,
  .alias 73 [72],
  .elem 74 71,
  .alias 75 [74],
  .pack 76 [75],
  .call 77 18 [some 9, some 76, none],
  .alias 5 [77]]

def table_26 : Pts := [
  { top := [.root 0], kids := [.inner 0], deep := [.inner 0] },
  { top := [.root 1], kids := [.inner 1], deep := [.inner 1] },
  { top := [.root 2], kids := [.inner 2], deep := [.inner 2] },
  { top := [.root 3], kids := [.inner 3], deep := [.inner 3] },
  { top := [.root 4], kids := [.inner 4], deep := [.inner 4] },
  { top := [.loc 77], kids := [.loc 77], deep := [.loc 77] },
  { top := [.loc 6], kids := [.loc 6], deep := [.loc 6] },
  { top := [.loc 6], kids := [.loc 6], deep := [.loc 6] },
  { top := [.root 0], kids := [.inner 0], deep := [.inner 0] },
  { top := [.loc 6, .root 0], kids := [.loc 6, .inner 0], deep := [.loc 6, .inner 0] },
  { top := [.loc 10], kids := [], deep := [] },
  { top := [.loc 10], kids := [], deep := [] },
  { top := [.root 1], kids := [.recd 1], deep := [.recd 1] },
  { top := [.loc 13], kids := [.recd 1], deep := [.recd 1] },
  { top := [.loc 43], kids := [.loc 42, .loc 58], deep := [.loc 42, .loc 56, .loc 51, .loc 54, .loc 32, .loc 58] },
  { top := [.loc 32, .loc 42, .loc 58, .loc 56, .loc 51, .loc 54], kids := [.loc 32, .loc 42, .loc 58, .loc 56, .loc 51, .loc 54], deep := [.loc 32, .loc 42, .loc 58, .loc 56, .loc 51, .loc 54] },
  { top := [.loc 42, .loc 56, .loc 51, .loc 54, .loc 32, .loc 58], kids := [.loc 42, .loc 56, .loc 51, .loc 54, .loc 32, .loc 58], deep := [.loc 42, .loc 56, .loc 51, .loc 54, .loc 32, .loc 58] },
  { top := [.loc 10, .loc 33, .loc 34], kids := [.loc 32, .loc 43], deep := [.loc 32, .loc 42, .loc 58, .loc 56, .loc 51, .loc 54] },
  { top := [.loc 42, .loc 56, .loc 51, .loc 54, .loc 32, .loc 58], kids := [.loc 42, .loc 56, .loc 51, .loc 54, .loc 32, .loc 58], deep := [.loc 42, .loc 56, .loc 51, .loc 54, .loc 32, .loc 58] },
  { top := [.recd 1], kids := [.recd 1], deep := [.recd 1] },
  { top := [.loc 56], kids := [.loc 51, .loc 54, .loc 32, .loc 42, .loc 58, .loc 56], deep := [.loc 32, .loc 42, .loc 58, .loc 56, .loc 51, .loc 54] },
  { top := [.recd 1], kids := [.recd 1], deep := [.recd 1] },
  { top := [.loc 42, .loc 56, .loc 51, .loc 54, .loc 32, .loc 58], kids := [.loc 42, .loc 56, .loc 51, .loc 54, .loc 32, .loc 58], deep := [.loc 42, .loc 56, .loc 51, .loc 54, .loc 32, .loc 58] },
  { top := [.loc 34], kids := [.loc 43], deep := [.loc 42, .loc 58, .loc 56, .loc 51, .loc 54, .loc 32] },
  { top := [.loc 32, .loc 42, .loc 58, .loc 56, .loc 51, .loc 54], kids := [.loc 32, .loc 42, .loc 58, .loc 56, .loc 51, .loc 54], deep := [.loc 32, .loc 42, .loc 58, .loc 56, .loc 51, .loc 54] },
  { top := [.recd 1], kids := [.recd 1], deep := [.recd 1] },
  { top := [.recd 1], kids := [.recd 1], deep := [.recd 1] },
  { top := [.recd 1], kids := [.recd 1], deep := [.recd 1] },
  { top := [.recd 1], kids := [.recd 1], deep := [.recd 1] },
  { top := [.recd 1], kids := [.recd 1], deep := [.recd 1] },
  { top := [.recd 1], kids := [.recd 1], deep := [.recd 1] },
  { top := [.recd 1], kids := [.recd 1], deep := [.recd 1] },
  { top := [.loc 32], kids := [.loc 32], deep := [.loc 32] },
  { top := [.loc 33], kids := [.loc 32], deep := [.loc 32] },
  { top := [.loc 34], kids := [.loc 43], deep := [.loc 42, .loc 58, .loc 56, .loc 51, .loc 54, .loc 32] },
  { top := [.loc 32, .loc 43], kids := [.loc 32, .loc 42, .loc 58, .loc 56, .loc 51, .loc 54], deep := [.loc 32, .loc 42, .loc 58, .loc 56, .loc 51, .loc 54] },
  { top := [.loc 32, .loc 42, .loc 58, .loc 56, .loc 51, .loc 54], kids := [.loc 32, .loc 42, .loc 58, .loc 56, .loc 51, .loc 54], deep := [.loc 32, .loc 42, .loc 58, .loc 56, .loc 51, .loc 54] },
  { top := [.loc 32, .loc 42, .loc 58, .loc 56, .loc 51, .loc 54], kids := [.loc 32, .loc 42, .loc 58, .loc 56, .loc 51, .loc 54], deep := [.loc 32, .loc 42, .loc 58, .loc 56, .loc 51, .loc 54] },
  { top := [.recd 1], kids := [.recd 1], deep := [.recd 1] },
  { top := [.recd 1], kids := [.recd 1], deep := [.recd 1] },
  { top := [.recd 1], kids := [.recd 1], deep := [.recd 1] },
  { top := [.recd 1], kids := [.recd 1], deep := [.recd 1] },
  { top := [.loc 42], kids := [.loc 42], deep := [.loc 42] },
  { top := [.loc 43], kids := [.loc 42, .loc 58], deep := [.loc 42, .loc 56, .loc 51, .loc 54, .loc 32, .loc 58] },
  { top := [.loc 44], kids := [.loc 42, .loc 58], deep := [.loc 42, .loc 56, .loc 51, .loc 54, .loc 32, .loc 58] },
  { top := [.loc 42, .loc 58], kids := [.loc 42, .loc 56, .loc 51, .loc 54, .loc 32, .loc 58], deep := [.loc 42, .loc 56, .loc 51, .loc 54, .loc 32, .loc 58] },
  { top := [.loc 42, .loc 56, .loc 51, .loc 54, .loc 32, .loc 58], kids := [.loc 42, .loc 56, .loc 51, .loc 54, .loc 32, .loc 58], deep := [.loc 42, .loc 56, .loc 51, .loc 54, .loc 32, .loc 58] },
  { top := [.loc 42, .loc 56, .loc 51, .loc 54, .loc 32, .loc 58], kids := [.loc 42, .loc 56, .loc 51, .loc 54, .loc 32, .loc 58], deep := [.loc 42, .loc 56, .loc 51, .loc 54, .loc 32, .loc 58] },
  { top := [.loc 42, .loc 56, .loc 51, .loc 54, .loc 32, .loc 58], kids := [.loc 42, .loc 56, .loc 51, .loc 54, .loc 32, .loc 58], deep := [.loc 42, .loc 56, .loc 51, .loc 54, .loc 32, .loc 58] },
  { top := [.loc 32, .loc 42, .loc 58, .loc 56, .loc 51, .loc 54], kids := [.loc 32, .loc 42, .loc 58, .loc 56, .loc 51, .loc 54], deep := [.loc 32, .loc 42, .loc 58, .loc 56, .loc 51, .loc 54] },
  { top := [.loc 42, .loc 56, .loc 51, .loc 54, .loc 32, .loc 58], kids := [.loc 42, .loc 56, .loc 51, .loc 54, .loc 32, .loc 58], deep := [.loc 42, .loc 56, .loc 51, .loc 54, .loc 32, .loc 58] },
  { top := [.loc 51], kids := [.loc 32, .loc 42, .loc 58, .loc 56, .loc 51, .loc 54], deep := [.loc 32, .loc 42, .loc 58, .loc 56, .loc 51, .loc 54] },
  { top := [.loc 32, .loc 42, .loc 58, .loc 56, .loc 51, .loc 54], kids := [.loc 32, .loc 42, .loc 58, .loc 56, .loc 51, .loc 54], deep := [.loc 32, .loc 42, .loc 58, .loc 56, .loc 51, .loc 54] },
  { top := [.loc 42, .loc 56, .loc 51, .loc 54, .loc 32, .loc 58], kids := [.loc 42, .loc 56, .loc 51, .loc 54, .loc 32, .loc 58], deep := [.loc 42, .loc 56, .loc 51, .loc 54, .loc 32, .loc 58] },
  { top := [.loc 54], kids := [.loc 32, .loc 42, .loc 58, .loc 56, .loc 51, .loc 54], deep := [.loc 32, .loc 42, .loc 58, .loc 56, .loc 51, .loc 54] },
  { top := [.loc 32, .loc 42, .loc 58, .loc 56, .loc 51, .loc 54], kids := [.loc 32, .loc 42, .loc 58, .loc 56, .loc 51, .loc 54], deep := [.loc 32, .loc 42, .loc 58, .loc 56, .loc 51, .loc 54] },
  { top := [.loc 56], kids := [.loc 51, .loc 54, .loc 32, .loc 42, .loc 58, .loc 56], deep := [.loc 32, .loc 42, .loc 58, .loc 56, .loc 51, .loc 54] },
  { top := [.loc 42, .loc 56, .loc 51, .loc 54, .loc 32, .loc 58], kids := [.loc 42, .loc 56, .loc 51, .loc 54, .loc 32, .loc 58], deep := [.loc 42, .loc 56, .loc 51, .loc 54, .loc 32, .loc 58] },
  { top := [.loc 58], kids := [.loc 42, .loc 56, .loc 51, .loc 54, .loc 32, .loc 58], deep := [.loc 42, .loc 51, .loc 54, .loc 32, .loc 56, .loc 58] },
  { top := [.loc 32, .loc 43], kids := [.loc 32, .loc 42, .loc 58, .loc 56, .loc 51, .loc 54], deep := [.loc 32, .loc 42, .loc 58, .loc 56, .loc 51, .loc 54] },
  { top := [.loc 32, .loc 42, .loc 58, .loc 56, .loc 51, .loc 54], kids := [.loc 32, .loc 42, .loc 58, .loc 56, .loc 51, .loc 54], deep := [.loc 32, .loc 42, .loc 58, .loc 56, .loc 51, .loc 54] },
  { top := [.loc 32, .loc 42, .loc 58, .loc 56, .loc 51, .loc 54], kids := [.loc 32, .loc 42, .loc 58, .loc 56, .loc 51, .loc 54], deep := [.loc 32, .loc 42, .loc 58, .loc 56, .loc 51, .loc 54] },
  { top := [.loc 32, .loc 42, .loc 58, .loc 56, .loc 51, .loc 54], kids := [.loc 32, .loc 42, .loc 58, .loc 56, .loc 51, .loc 54], deep := [.loc 32, .loc 42, .loc 58, .loc 56, .loc 51, .loc 54] },
  { top := [.loc 32, .loc 42, .loc 58, .loc 56, .loc 51, .loc 54], kids := [.loc 32, .loc 42, .loc 58, .loc 56, .loc 51, .loc 54], deep := [.loc 32, .loc 42, .loc 58, .loc 56, .loc 51, .loc 54] },
  { top := [.loc 32, .loc 42, .loc 58, .loc 56, .loc 51, .loc 54], kids := [.loc 32, .loc 42, .loc 58, .loc 56, .loc 51, .loc 54], deep := [.loc 32, .loc 42, .loc 58, .loc 56, .loc 51, .loc 54] },
  { top := [.loc 32, .loc 42, .loc 58, .loc 56, .loc 51, .loc 54], kids := [.loc 32, .loc 42, .loc 58, .loc 56, .loc 51, .loc 54], deep := [.loc 32, .loc 42, .loc 58, .loc 56, .loc 51, .loc 54] },
  { top := [.loc 66], kids := [.loc 32, .loc 42, .loc 58, .loc 56, .loc 51, .loc 54], deep := [.loc 32, .loc 42, .loc 58, .loc 56, .loc 51, .loc 54] },
  { top := [.loc 67], kids := [.loc 32, .loc 42, .loc 58, .loc 56, .loc 51, .loc 54], deep := [.loc 32, .loc 42, .loc 58, .loc 56, .loc 51, .loc 54] },
  { top := [.loc 68], kids := [.loc 67], deep := [.loc 32, .loc 42, .loc 58, .loc 56, .loc 51, .loc 54] },
  { top := [.loc 68], kids := [.loc 67], deep := [.loc 32, .loc 42, .loc 58, .loc 56, .loc 51, .loc 54] },
  { top := [.loc 68, .loc 10, .loc 33, .loc 34], kids := [.loc 67, .loc 32, .loc 43], deep := [.loc 32, .loc 42, .loc 58, .loc 56, .loc 51, .loc 54] },
  { top := [.loc 67, .loc 32, .loc 43], kids := [.loc 32, .loc 42, .loc 58, .loc 56, .loc 51, .loc 54], deep := [.loc 32, .loc 42, .loc 58, .loc 56, .loc 51, .loc 54] },
  { top := [.loc 32, .loc 42, .loc 58, .loc 56, .loc 51, .loc 54], kids := [.loc 32, .loc 42, .loc 58, .loc 56, .loc 51, .loc 54], deep := [.loc 32, .loc 42, .loc 58, .loc 56, .loc 51, .loc 54] },
  { top := [.loc 32, .loc 42, .loc 58, .loc 56, .loc 51, .loc 54], kids := [.loc 32, .loc 42, .loc 58, .loc 56, .loc 51, .loc 54], deep := [.loc 32, .loc 42, .loc 58, .loc 56, .loc 51, .loc 54] },
  { top := [.loc 32, .loc 42, .loc 58, .loc 56, .loc 51, .loc 54], kids := [.loc 32, .loc 42, .loc 58, .loc 56, .loc 51, .loc 54], deep := [.loc 32, .loc 42, .loc 58, .loc 56, .loc 51, .loc 54] },
  { top := [.loc 32, .loc 42, .loc 58, .loc 56, .loc 51, .loc 54], kids := [.loc 32, .loc 42, .loc 58, .loc 56, .loc 51, .loc 54], deep := [.loc 32, .loc 42, .loc 58, .loc 56, .loc 51, .loc 54] },
  { top := [.loc 76], kids := [.loc 32, .loc 42, .loc 58, .loc 56, .loc 51, .loc 54], deep := [.loc 32, .loc 42, .loc 58, .loc 56, .loc 51, .loc 54] },
  { top := [.loc 77], kids := [.loc 77], deep := [.loc 77] }]

def fns_0 : List (Nat × FnInfo) := [
  (18, { prog := prog_18, nparams := 3, ret := 3, fuel := 2, table := table_18 }),
  (19, { prog := prog_19, nparams := 9, ret := 9, fuel := 2, table := table_19 }),
  (20, { prog := prog_20, nparams := 6, ret := 6, fuel := 2, table := table_20 }),
  (21, { prog := prog_21, nparams := 2, ret := 2, fuel := 2, table := table_21 }),
  (22, { prog := prog_22, nparams := 4, ret := 4, fuel := 2, table := table_22 }),
  (23, { prog := prog_23, nparams := 4, ret := 4, fuel := 2, table := table_23 }),
  (24, { prog := prog_24, nparams := 4, ret := 4, fuel := 2, table := table_24 }),
  (25, { prog := prog_25, nparams := 4, ret := 4, fuel := 2, table := table_25 }),
  (26, { prog := prog_26, nparams := 5, ret := 5, fuel := 4, table := table_26 })]

def fns : List (Nat × FnInfo) := fns_0

theorem ok : fns.all (fun p => entryOK Gen.summaries Gen.verdicts p.1 p.2) = true :=
  all_entryOK_of_fast 8 (by decide +kernel)

end Gen.M_digestion
