import PeptVerif.Generated.Effects.Core
import PeptVerif.Lemmas.EffectsFast
/-! GENERATED by harness/translate_effects.py - do not edit.  Source module: peptacular.mods.mod_db (22 functions).
`ok` is the kernel check of these functions against the global summary / verdict tables: every table is closed
under its program, the summary the program induces is within the summary table, and the write / sharing sets
read off the table are the claimed verdict.  The kernel evaluates it in the form `entryOKFast`
(Lemmas/EffectsFast.lean); 8 is the stride of its lookups, any stride gives the same value. -/
namespace Gen.M_mods_mod_db
open Effects
set_option maxRecDepth 100000
/-- peptacular.mods.mod_db._get_comp -/
def prog_85 : List Stmt := [
  .param 0 0,
  .param 1 1,
  .param 2 2,
  .call 6 124 [some 0, none],
  .call 7 127 [some 0, none],
  .asRec 8 7 0,
  .alias 9 [8],
  .call 10 125 [some 0, none],
  .call 11 128 [some 0, none],
  .asRec 12 11 0,
  .alias 13 [12],
  .alias 15 [13, 14],
  .alias 16 [9, 15],
  .asRec 17 16 0,
  .asRec 18 16 0]

def table_85 : Pts := [
  { top := [.root 0], kids := [.inner 0], deep := [.inner 0] },
  { top := [.root 1], kids := [.inner 1], deep := [.inner 1] },
  { top := [.root 2], kids := [.inner 2], deep := [.inner 2] },
  {},
  {},
  {},
  {},
  { top := [.recd 0], kids := [.recd 0], deep := [.recd 0] },
  { top := [.recd 0], kids := [.recd 0], deep := [.recd 0] },
  { top := [.recd 0], kids := [.recd 0], deep := [.recd 0] },
  {},
  { top := [.recd 0], kids := [.recd 0], deep := [.recd 0] },
  { top := [.recd 0], kids := [.recd 0], deep := [.recd 0] },
  { top := [.recd 0], kids := [.recd 0], deep := [.recd 0] },
  {},
  { top := [.recd 0], kids := [.recd 0], deep := [.recd 0] },
  { top := [.recd 0], kids := [.recd 0], deep := [.recd 0] },
  { top := [.recd 0], kids := [.recd 0], deep := [.recd 0] },
  { top := [.recd 0], kids := [.recd 0], deep := [.recd 0] }]

/-- peptacular.mods.mod_db._get_mass -/
def prog_86 : List Stmt := [
  .param 0 0,
  .param 1 1,
  .param 2 2,
  .param 3 3,
  .param 4 4,
  .alias 7 [6],
  .alias 10 [8],
  .alias 9 [10],
  .call 12 124 [some 0, none],
  .call 13 127 [some 0, none],
  .asRec 14 13 0,
  .alias 15 [14],
  .call 16 125 [some 0, none],
  .call 17 128 [some 0, none],
  .asRec 18 17 0,
  .alias 19 [18],
  .alias 21 [19, 20],
  .alias 22 [15, 21],
  .asRec 23 22 0,
  .asRec 24 22 0,
  .asRec 26 22 0,
  .alias 28 [27, 25],
  .asRec 29 22 0,
  .asRec 31 22 0,
  .alias 33 [32, 30],
  .alias 34 [28, 33]]

def table_86 : Pts := [
  { top := [.root 0], kids := [.inner 0], deep := [.inner 0] },
  { top := [.root 1], kids := [.inner 1], deep := [.inner 1] },
  { top := [.root 2], kids := [.inner 2], deep := [.inner 2] },
  { top := [.root 3], kids := [.inner 3], deep := [.inner 3] },
  { top := [.root 4], kids := [.inner 4], deep := [.inner 4] },
  {},
  {},
  {},
  {},
  {},
  {},
  {},
  {},
  { top := [.recd 0], kids := [.recd 0], deep := [.recd 0] },
  { top := [.recd 0], kids := [.recd 0], deep := [.recd 0] },
  { top := [.recd 0], kids := [.recd 0], deep := [.recd 0] },
  {},
  { top := [.recd 0], kids := [.recd 0], deep := [.recd 0] },
  { top := [.recd 0], kids := [.recd 0], deep := [.recd 0] },
  { top := [.recd 0], kids := [.recd 0], deep := [.recd 0] },
  {},
  { top := [.recd 0], kids := [.recd 0], deep := [.recd 0] },
  { top := [.recd 0], kids := [.recd 0], deep := [.recd 0] },
  { top := [.recd 0], kids := [.recd 0], deep := [.recd 0] },
  { top := [.recd 0], kids := [.recd 0], deep := [.recd 0] },
  {},
  { top := [.recd 0], kids := [.recd 0], deep := [.recd 0] },
  {},
  {},
  { top := [.recd 0], kids := [.recd 0], deep := [.recd 0] },
  {},
  { top := [.recd 0], kids := [.recd 0], deep := [.recd 0] },
  {},
  {},
  {}]

/-- peptacular.mods.mod_db._strip_gno_str -/
def prog_87 : List Stmt := [
  .param 0 0]

def table_87 : Pts := [
  { top := [.root 0], kids := [.inner 0], deep := [.inner 0] }]

/-- peptacular.mods.mod_db._strip_psi_str -/
def prog_88 : List Stmt := [
  .param 0 0]

def table_88 : Pts := [
  { top := [.root 0], kids := [.inner 0], deep := [.inner 0] }]

/-- peptacular.mods.mod_db._strip_resid_str -/
def prog_89 : List Stmt := [
  .param 0 0]

def table_89 : Pts := [
  { top := [.root 0], kids := [.inner 0], deep := [.inner 0] }]

/-- peptacular.mods.mod_db._strip_unimod_str -/
def prog_90 : List Stmt := [
  .param 0 0]

def table_90 : Pts := [
  { top := [.root 0], kids := [.inner 0], deep := [.inner 0] }]

/-- peptacular.mods.mod_db._strip_xlmod_str -/
def prog_91 : List Stmt := [
  .param 0 0]

def table_91 : Pts := [
  { top := [.root 0], kids := [.inner 0], deep := [.inner 0] }]

/-- peptacular.mods.mod_db.is_gno_str -/
def prog_92 : List Stmt := [
  .param 0 0]

def table_92 : Pts := [
  { top := [.root 0], kids := [.inner 0], deep := [.inner 0] }]

/-- peptacular.mods.mod_db.is_psi_mod_str -/
def prog_93 : List Stmt := [
  .param 0 0,
  .global 3 43,
  .call 4 124 [some 3, none],
  .call 5 125 [some 3, none],
  .alias 6 [4, 5]]

def table_93 : Pts := [
  { top := [.root 0], kids := [.inner 0], deep := [.inner 0] },
  {},
  {},
  { top := [.glob 43], kids := [.glob 43], deep := [.glob 43] },
  {},
  {},
  {}]

/-- peptacular.mods.mod_db.is_resid_str -/
def prog_94 : List Stmt := [
  .param 0 0]

def table_94 : Pts := [
  { top := [.root 0], kids := [.inner 0], deep := [.inner 0] }]

/-- peptacular.mods.mod_db.is_unimod_str -/
def prog_95 : List Stmt := [
  .param 0 0,
  .global 3 42,
  .call 4 124 [some 3, none],
  .call 5 125 [some 3, none],
  .alias 6 [4, 5]]

def table_95 : Pts := [
  { top := [.root 0], kids := [.inner 0], deep := [.inner 0] },
  {},
  {},
  { top := [.glob 42], kids := [.glob 42], deep := [.glob 42] },
  {},
  {},
  {}]

/-- peptacular.mods.mod_db.is_xlmod_str -/
def prog_96 : List Stmt := [
  .param 0 0]

def table_96 : Pts := [
  { top := [.root 0], kids := [.inner 0], deep := [.inner 0] }]

/-- peptacular.mods.mod_db.parse_gno_comp -/
def prog_97 : List Stmt := [
  .param 0 0,
  .global 2 45,
  .call 3 87 [none],
  .call 4 85 [some 2, some 3, none]]

def table_97 : Pts := [
  { top := [.root 0], kids := [.inner 0], deep := [.inner 0] },
  {},
  { top := [.glob 45], kids := [.glob 45], deep := [.glob 45] },
  {},
  {}]

/-- peptacular.mods.mod_db.parse_gno_mass -/
def prog_98 : List Stmt := [
  .param 0 0,
  .param 1 1,
  .param 2 2,
  .global 4 45,
  .call 5 87 [none],
  .call 6 86 [some 4, some 5, none, none, none]]

def table_98 : Pts := [
  { top := [.root 0], kids := [.inner 0], deep := [.inner 0] },
  { top := [.root 1], kids := [.inner 1], deep := [.inner 1] },
  { top := [.root 2], kids := [.inner 2], deep := [.inner 2] },
  {},
  { top := [.glob 45], kids := [.glob 45], deep := [.glob 45] },
  {},
  {}]

/-- peptacular.mods.mod_db.parse_psi_comp -/
def prog_99 : List Stmt := [
  .param 0 0,
  .global 2 43,
  .call 3 88 [none],
  .call 4 85 [some 2, some 3, none]]

def table_99 : Pts := [
  { top := [.root 0], kids := [.inner 0], deep := [.inner 0] },
  {},
  { top := [.glob 43], kids := [.glob 43], deep := [.glob 43] },
  {},
  {}]

/-- peptacular.mods.mod_db.parse_psi_mass -/
def prog_100 : List Stmt := [
  .param 0 0,
  .param 1 1,
  .param 2 2,
  .global 4 43,
  .call 5 88 [none],
  .call 6 86 [some 4, some 5, none, none, none]]

def table_100 : Pts := [
  { top := [.root 0], kids := [.inner 0], deep := [.inner 0] },
  { top := [.root 1], kids := [.inner 1], deep := [.inner 1] },
  { top := [.root 2], kids := [.inner 2], deep := [.inner 2] },
  {},
  { top := [.glob 43], kids := [.glob 43], deep := [.glob 43] },
  {},
  {}]

/-- peptacular.mods.mod_db.parse_resid_comp -/
def prog_101 : List Stmt := [
  .param 0 0,
  .global 2 46,
  .call 3 89 [none],
  .call 4 85 [some 2, some 3, none]]

def table_101 : Pts := [
  { top := [.root 0], kids := [.inner 0], deep := [.inner 0] },
  {},
  { top := [.glob 46], kids := [.glob 46], deep := [.glob 46] },
  {},
  {}]

/-- peptacular.mods.mod_db.parse_resid_mass -/
def prog_102 : List Stmt := [
  .param 0 0,
  .param 1 1,
  .param 2 2,
  .global 4 46,
  .call 5 89 [none],
  .call 6 86 [some 4, some 5, none, none, none]]

def table_102 : Pts := [
  { top := [.root 0], kids := [.inner 0], deep := [.inner 0] },
  { top := [.root 1], kids := [.inner 1], deep := [.inner 1] },
  { top := [.root 2], kids := [.inner 2], deep := [.inner 2] },
  {},
  { top := [.glob 46], kids := [.glob 46], deep := [.glob 46] },
  {},
  {}]

/-- peptacular.mods.mod_db.parse_unimod_comp -/
def prog_103 : List Stmt := [
  .param 0 0,
  .global 2 42,
  .call 3 90 [none],
  .call 4 85 [some 2, some 3, none]]

def table_103 : Pts := [
  { top := [.root 0], kids := [.inner 0], deep := [.inner 0] },
  {},
  { top := [.glob 42], kids := [.glob 42], deep := [.glob 42] },
  {},
  {}]

/-- peptacular.mods.mod_db.parse_unimod_mass -/
def prog_104 : List Stmt := [
  .param 0 0,
  .param 1 1,
  .param 2 2,
  .global 4 42,
  .call 5 90 [none],
  .call 6 86 [some 4, some 5, none, none, none]]

def table_104 : Pts := [
  { top := [.root 0], kids := [.inner 0], deep := [.inner 0] },
  { top := [.root 1], kids := [.inner 1], deep := [.inner 1] },
  { top := [.root 2], kids := [.inner 2], deep := [.inner 2] },
  {},
  { top := [.glob 42], kids := [.glob 42], deep := [.glob 42] },
  {},
  {}]

/-- peptacular.mods.mod_db.parse_xlmod_comp -/
def prog_105 : List Stmt := [
  .param 0 0,
  .global 2 44,
  .call 3 91 [none],
  .call 4 85 [some 2, some 3, none]]

def table_105 : Pts := [
  { top := [.root 0], kids := [.inner 0], deep := [.inner 0] },
  {},
  { top := [.glob 44], kids := [.glob 44], deep := [.glob 44] },
  {},
  {}]

/-- peptacular.mods.mod_db.parse_xlmod_mass -/
def prog_106 : List Stmt := [
  .param 0 0,
  .param 1 1,
  .param 2 2,
  .global 4 44,
  .call 5 91 [none],
  .call 6 86 [some 4, some 5, none, none, none]]

def table_106 : Pts := [
  { top := [.root 0], kids := [.inner 0], deep := [.inner 0] },
  { top := [.root 1], kids := [.inner 1], deep := [.inner 1] },
  { top := [.root 2], kids := [.inner 2], deep := [.inner 2] },
  {},
  { top := [.glob 44], kids := [.glob 44], deep := [.glob 44] },
  {},
  {}]

def fns_0 : List (Nat × FnInfo) := [
  (85, { prog := prog_85, nparams := 3, ret := 3, fuel := 2, table := table_85 }),
  (86, { prog := prog_86, nparams := 5, ret := 5, fuel := 2, table := table_86 }),
  (87, { prog := prog_87, nparams := 1, ret := 1, fuel := 2, table := table_87 }),
  (88, { prog := prog_88, nparams := 1, ret := 1, fuel := 2, table := table_88 }),
  (89, { prog := prog_89, nparams := 1, ret := 1, fuel := 2, table := table_89 }),
  (90, { prog := prog_90, nparams := 1, ret := 1, fuel := 2, table := table_90 }),
  (91, { prog := prog_91, nparams := 1, ret := 1, fuel := 2, table := table_91 }),
  (92, { prog := prog_92, nparams := 1, ret := 1, fuel := 2, table := table_92 }),
  (93, { prog := prog_93, nparams := 1, ret := 1, fuel := 2, table := table_93 }),
  (94, { prog := prog_94, nparams := 1, ret := 1, fuel := 2, table := table_94 }),
  (95, { prog := prog_95, nparams := 1, ret := 1, fuel := 2, table := table_95 }),
  (96, { prog := prog_96, nparams := 1, ret := 1, fuel := 2, table := table_96 }),
  (97, { prog := prog_97, nparams := 1, ret := 1, fuel := 2, table := table_97 }),
  (98, { prog := prog_98, nparams := 3, ret := 3, fuel := 2, table := table_98 }),
  (99, { prog := prog_99, nparams := 1, ret := 1, fuel := 2, table := table_99 }),
  (100, { prog := prog_100, nparams := 3, ret := 3, fuel := 2, table := table_100 }),
  (101, { prog := prog_101, nparams := 1, ret := 1, fuel := 2, table := table_101 }),
  (102, { prog := prog_102, nparams := 3, ret := 3, fuel := 2, table := table_102 }),
  (103, { prog := prog_103, nparams := 1, ret := 1, fuel := 2, table := table_103 }),
  (104, { prog := prog_104, nparams := 3, ret := 3, fuel := 2, table := table_104 }),
  (105, { prog := prog_105, nparams := 1, ret := 1, fuel := 2, table := table_105 }),
  (106, { prog := prog_106, nparams := 3, ret := 3, fuel := 2, table := table_106 })]

def fns : List (Nat × FnInfo) := fns_0

theorem ok : fns.all (fun p => entryOK Gen.summaries Gen.verdicts p.1 p.2) = true :=
  all_entryOK_of_fast 8 (by decide +kernel)

end Gen.M_mods_mod_db
