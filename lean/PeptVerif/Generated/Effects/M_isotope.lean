import PeptVerif.Generated.Effects.Core
import PeptVerif.Lemmas.EffectsFast
/-! GENERATED by harness/translate_effects.py - do not edit.  Source module: peptacular.isotope (7 functions).
`ok` is the kernel check of these functions against the global summary / verdict tables: every table is closed
under its program, the summary the program induces is within the summary table, and the write / sharing sets
read off the table are the claimed verdict.  The kernel evaluates it in the form `entryOKFast`
(Lemmas/EffectsFast.lean); 8 is the stride of its lookups, any stride gives the same value. -/
namespace Gen.M_isotope
open Effects
set_option maxRecDepth 100000
/-- peptacular.isotope._calculate_elemental_distribution -/
def prog_58 : List Stmt := [
  .param 0 0,
  .param 1 1,
  .param 2 2,
  .param 3 3,
  .global 5 6,
  .elem 6 5,
  .alias 7 [6],
  .global 8 7,
  .elem 9 8,
  .alias 10 [9],
  .alias 11 [7, 10],
  .pack 12 [],
  .alias 13 [12],
  .alias 15 [13],
  .shallow 17 [11],
  .alias 16 [17],
  .call 18 59 [some 15, some 16, none, none, none],
  .leaf 19 18,
  .alias 15 [19],
  .leaf 20 15,
  .alias 4 [20]]

def table_58 : Pts := [
  { top := [.root 0], kids := [.inner 0], deep := [.inner 0] },
  { top := [.root 1], kids := [.inner 1], deep := [.inner 1] },
  { top := [.root 2], kids := [.inner 2], deep := [.inner 2] },
  { top := [.root 3], kids := [.inner 3], deep := [.inner 3] },
  { top := [.loc 12, .loc 18], kids := [], deep := [] },
  { top := [.glob 6], kids := [.glob 6], deep := [.glob 6] },
  { top := [.glob 6], kids := [.glob 6], deep := [.glob 6] },
  { top := [.glob 6], kids := [.glob 6], deep := [.glob 6] },
  { top := [.glob 7], kids := [.glob 7], deep := [.glob 7] },
  { top := [.glob 7], kids := [.glob 7], deep := [.glob 7] },
  { top := [.glob 7], kids := [.glob 7], deep := [.glob 7] },
  { top := [.glob 6, .glob 7], kids := [.glob 6, .glob 7], deep := [.glob 6, .glob 7] },
  { top := [.loc 12], kids := [], deep := [] },
  { top := [.loc 12], kids := [], deep := [] },
  {},
  { top := [.loc 12, .loc 18], kids := [], deep := [] },
  { top := [.loc 17], kids := [.glob 6, .glob 7], deep := [.glob 6, .glob 7] },
  { top := [.loc 17], kids := [.glob 6, .glob 7], deep := [.glob 6, .glob 7] },
  { top := [.loc 18], kids := [], deep := [] },
  { top := [.loc 18], kids := [], deep := [] },
  { top := [.loc 12, .loc 18], kids := [], deep := [] }]

/-- peptacular.isotope._convolve_distributions -/
def prog_59 : List Stmt := [
  .param 0 0,
  .param 1 1,
  .param 2 2,
  .param 3 3,
  .param 4 4,
  .alias 7 [6, 3],
  .alias 9 [8, 2],
  .pack 10 [],
  .alias 11 [10],
  .leaf 12 0,
  .shallow 13 [12],
  .elem 20 13,
  .leaf 21 1,
  .shallow 22 [21],
  .elem 23 22,
  .write 11,
  .shallow 24 [11],
  .elem 26 25,
  .shallow 27 [24],
  .alias 28 [27],
  .shallow 29 [28],
  .shallow 30 [29],
  .leaf 31 30,
  .alias 5 [31],
  .leaf 32 11,
  .alias 5 [32]]

def table_59 : Pts := [
  { top := [.root 0], kids := [.inner 0], deep := [.inner 0] },
  { top := [.root 1], kids := [.inner 1], deep := [.inner 1] },
  { top := [.root 2], kids := [.inner 2], deep := [.inner 2] },
  { top := [.root 3], kids := [.inner 3], deep := [.inner 3] },
  { top := [.root 4], kids := [.inner 4], deep := [.inner 4] },
  { top := [.loc 30, .loc 10], kids := [], deep := [] },
  {},
  { top := [.root 3], kids := [.inner 3], deep := [.inner 3] },
  {},
  { top := [.root 2], kids := [.inner 2], deep := [.inner 2] },
  { top := [.loc 10], kids := [], deep := [] },
  { top := [.loc 10], kids := [], deep := [] },
  { top := [.root 0], kids := [], deep := [] },
  { top := [.loc 13], kids := [], deep := [] },
  {},
  {},
  {},
  {},
  {},
  {},
  {},
  { top := [.root 1], kids := [], deep := [] },
  { top := [.loc 22], kids := [], deep := [] },
  {},
  { top := [.loc 24], kids := [], deep := [] },
  {},
  {},
  { top := [.loc 27], kids := [], deep := [] },
  { top := [.loc 27], kids := [], deep := [] },
  { top := [.loc 29], kids := [], deep := [] },
  { top := [.loc 30], kids := [], deep := [] },
  { top := [.loc 30], kids := [], deep := [] },
  { top := [.loc 10], kids := [], deep := [] }]

/-- peptacular.isotope._fix_chemical_formula -/
def prog_60 : List Stmt := [
  .param 0 0,
  .param 1 1,
  .leaf 3 0,
  .call 4 15 [some 3, none, none, none],
  .alias 5 [4],
  .leaf 6 0,
  .shallow 7 [6],
  .elem 8 7,
  .pack 11 [],
  .alias 12 [11],
  .write 12,
  .call 13 15 [some 12, none, none, none],
  .global 14 3,
  .elem 15 14,
  .leaf 16 12,
  .alias 2 [16]]

def table_60 : Pts := [
  { top := [.root 0], kids := [.inner 0], deep := [.inner 0] },
  { top := [.root 1], kids := [.inner 1], deep := [.inner 1] },
  { top := [.loc 11], kids := [], deep := [] },
  { top := [.root 0], kids := [], deep := [] },
  {},
  {},
  { top := [.root 0], kids := [], deep := [] },
  { top := [.loc 7], kids := [], deep := [] },
  {},
  {},
  {},
  { top := [.loc 11], kids := [], deep := [] },
  { top := [.loc 11], kids := [], deep := [] },
  {},
  { top := [.glob 3], kids := [.glob 3], deep := [.glob 3] },
  { top := [.glob 3], kids := [.glob 3], deep := [.glob 3] },
  { top := [.loc 11], kids := [], deep := [] }]

/-- peptacular.isotope._scale_isotope_abundances -/
def prog_61 : List Stmt := [
  .param 0 0,
  .param 1 1,
  .param 2 2,
  .param 3 3,
  .leaf 5 0,
  .pack 8 [7],
  .leaf 10 0,
  .pack 13 [11],
  .pack 14 [13],
  .alias 15 [14],
  .alias 16 [15, 0],
  .elem 17 16,
  .elem 18 17,
  .alias 19 [18],
  .elem 20 17,
  .alias 21 [20],
  .pack 22 [19],
  .pack 23 [22],
  .alias 24 [23],
  .elem 25 24,
  .elem 26 25,
  .alias 27 [26],
  .elem 28 25,
  .alias 29 [28],
  .pack 30 [],
  .pack 31 [30],
  .alias 32 [31],
  .alias 33 [32, 24],
  .leaf 34 33,
  .alias 4 [34]]

def table_61 : Pts := [
  { top := [.root 0], kids := [.inner 0], deep := [.inner 0] },
  { top := [.root 1], kids := [.inner 1], deep := [.inner 1] },
  { top := [.root 2], kids := [.inner 2], deep := [.inner 2] },
  { top := [.root 3], kids := [.inner 3], deep := [.inner 3] },
  { top := [.loc 31, .loc 23], kids := [], deep := [] },
  { top := [.root 0], kids := [], deep := [] },
  {},
  {},
  { top := [.loc 8], kids := [], deep := [] },
  {},
  { top := [.root 0], kids := [], deep := [] },
  {},
  {},
  { top := [.loc 13], kids := [], deep := [] },
  { top := [.loc 14], kids := [.loc 13], deep := [] },
  { top := [.loc 14], kids := [.loc 13], deep := [] },
  { top := [.loc 14, .root 0], kids := [.loc 13, .inner 0], deep := [.inner 0] },
  { top := [.loc 13, .inner 0], kids := [.inner 0], deep := [.inner 0] },
  { top := [.inner 0], kids := [.inner 0], deep := [.inner 0] },
  { top := [.inner 0], kids := [.inner 0], deep := [.inner 0] },
  { top := [.inner 0], kids := [.inner 0], deep := [.inner 0] },
  { top := [.inner 0], kids := [.inner 0], deep := [.inner 0] },
  { top := [.loc 22], kids := [.inner 0], deep := [.inner 0] },
  { top := [.loc 23], kids := [.loc 22], deep := [.inner 0] },
  { top := [.loc 23], kids := [.loc 22], deep := [.inner 0] },
  { top := [.loc 22], kids := [.inner 0], deep := [.inner 0] },
  { top := [.inner 0], kids := [.inner 0], deep := [.inner 0] },
  { top := [.inner 0], kids := [.inner 0], deep := [.inner 0] },
  { top := [.inner 0], kids := [.inner 0], deep := [.inner 0] },
  { top := [.inner 0], kids := [.inner 0], deep := [.inner 0] },
  { top := [.loc 30], kids := [], deep := [] },
  { top := [.loc 31], kids := [.loc 30], deep := [] },
  { top := [.loc 31], kids := [.loc 30], deep := [] },
  { top := [.loc 31, .loc 23], kids := [.loc 30, .loc 22], deep := [.inner 0] },
  { top := [.loc 31, .loc 23], kids := [], deep := [] }]

/-- peptacular.isotope.estimate_isotopic_distribution -/
def prog_62 : List Stmt := [
  .param 0 0,
  .param 1 1,
  .param 2 2,
  .param 3 3,
  .param 4 4,
  .param 5 5,
  .param 6 6,
  .param 7 7,
  .param 8 8,
  .param 9 9,
  .param 10 10,
  .call 12 8 [none, none],
  .leaf 13 12,
  .alias 14 [13],
  .leaf 15 14,
  .call 16 63 [some 15, none, none, none, none, none, none, none, none, none, none],
  .leaf 17 16,
  .alias 18 [17],
  .leaf 19 18,
  .alias 11 [19]]

def table_62 : Pts := [
  { top := [.root 0], kids := [.inner 0], deep := [.inner 0] },
  { top := [.root 1], kids := [.inner 1], deep := [.inner 1] },
  { top := [.root 2], kids := [.inner 2], deep := [.inner 2] },
  { top := [.root 3], kids := [.inner 3], deep := [.inner 3] },
  { top := [.root 4], kids := [.inner 4], deep := [.inner 4] },
  { top := [.root 5], kids := [.inner 5], deep := [.inner 5] },
  { top := [.root 6], kids := [.inner 6], deep := [.inner 6] },
  { top := [.root 7], kids := [.inner 7], deep := [.inner 7] },
  { top := [.root 8], kids := [.inner 8], deep := [.inner 8] },
  { top := [.root 9], kids := [.inner 9], deep := [.inner 9] },
  { top := [.root 10], kids := [.inner 10], deep := [.inner 10] },
  { top := [.loc 16], kids := [], deep := [] },
  { top := [.loc 12], kids := [], deep := [] },
  { top := [.loc 12], kids := [], deep := [] },
  { top := [.loc 12], kids := [], deep := [] },
  { top := [.loc 12], kids := [], deep := [] },
  { top := [.loc 16], kids := [], deep := [] },
  { top := [.loc 16], kids := [], deep := [] },
  { top := [.loc 16], kids := [], deep := [] },
  { top := [.loc 16], kids := [], deep := [] }]

/-- peptacular.isotope.isotopic_distribution -/
def prog_63 : List Stmt := [
  .param 0 0,
  .param 1 1,
  .param 2 2,
  .param 3 3,
  .param 4 4,
  .param 5 5,
  .param 6 6,
  .param 7 7,
  .param 8 8,
  .param 9 9,
  .param 10 10,
  .alias 13 [12, 2],
  .alias 15 [14, 1],
  .leaf 16 0,
  .shallow 17 [16],
  .alias 18 [17],
  .write 18,
  .elem 19 18,
  .alias 20 [19],
  .elem 21 18,
  .alias 22 [21],
  .elem 23 18,
  .alias 24 [23],
  .shallow 25 [22],
  .shallow 26 [24],
  .shallow 27 [25, 26],
  .shallow 28 [20],
  .shallow 29 [27, 28],
  .alias 30 [29],
  .shallow 31 [18],
  .elem 32 31,
  .alias 33 [32],
  .pack 34 [],
  .leaf 35 34,
  .shallow 36 [18],
  .leaf 37 36,
  .shallow 38 [37],
  .leaf 39 38,
  .elem 41 18,
  .shallow 43 [18],
  .elem 44 43,
  .alias 45 [44],
  .pack 46 [],
  .leaf 47 46,
  .call 48 15 [some 18, none, none, none],
  .alias 49 [48],
  .call 50 60 [some 18, none],
  .leaf 51 50,
  .alias 52 [51],
  .leaf 53 52,
  .call 54 15 [some 53, none, none, none],
  .alias 55 [54],
  .alias 57 [52, 18],
  .alias 58 [56, 42],
  .call 59 15 [some 57, none, none, none],
  .alias 60 [59],
  .shallow 61 [],
  .pack 62 [],
  .alias 63 [62],
  .shallow 64 [57],
  .alias 68 [63],
  .elem 69 64,
  .elem 70 69,
  .alias 66 [70],
  .elem 71 69,
  .alias 65 [71],
  .call 72 58 [some 66, some 65, none, none],
  .leaf 73 72,
  .alias 67 [73],
  .leaf 74 67,
  .call 75 59 [some 68, some 74, none, none, none],
  .leaf 76 75,
  .alias 68 [76],
  .shallow 77 [68],
  .elem 78 77,
  .alias 79 [78],
  .shallow 80 [68],
  .shallow 81 [80],
  .elem 82 81,
  .elem 83 82,
  .alias 84 [83],
  .elem 85 82,
  .alias 86 [85],
  .shallow 87 [86, 79],
  .shallow 88 [86, 79],
  .pack 89 [84, 88],
  .pack 90 [89],
  .alias 91 [90],
  .elem 92 91,
  .elem 93 92,
  .alias 94 [93],
  .elem 95 92,
  .alias 96 [95],
  .pack 97 [96],
  .pack 98 [97],
  .alias 99 [98],
  .elem 100 91,
  .elem 101 100,
  .alias 102 [101],
  .elem 103 100,
  .alias 104 [103],
  .pack 105 [104],
  .pack 106 [105],
  .alias 107 [106],
  .alias 108 [107, 91],
  .alias 109 [99, 108],
  .alias 110 [109, 91],
  .elem 111 110,
  .elem 112 111,
  .alias 113 [112],
  .elem 114 111,
  .alias 115 [114],
  .pack 116 [115],
  .pack 117 [116],
  .alias 118 [117],
  .alias 119 [118, 110],
  .elem 120 119,
  .elem 121 120,
  .alias 122 [121],
  .elem 123 120,
  .alias 124 [123],
  .shallow 125 [122, 30],
  .pack 126 [125, 124],
  .pack 127 [126],
  .alias 128 [127],
  .alias 129 [128, 119],
  .call 130 61 [some 129, none, none, none],
  .leaf 131 130,
  .alias 11 [131]]

def table_63 : Pts := [
  { top := [.root 0], kids := [.inner 0], deep := [.inner 0] },
  { top := [.root 1], kids := [.inner 1], deep := [.inner 1] },
  { top := [.root 2], kids := [.inner 2], deep := [.inner 2] },
  { top := [.root 3], kids := [.inner 3], deep := [.inner 3] },
  { top := [.root 4], kids := [.inner 4], deep := [.inner 4] },
  { top := [.root 5], kids := [.inner 5], deep := [.inner 5] },
  { top := [.root 6], kids := [.inner 6], deep := [.inner 6] },
  { top := [.root 7], kids := [.inner 7], deep := [.inner 7] },
  { top := [.root 8], kids := [.inner 8], deep := [.inner 8] },
  { top := [.root 9], kids := [.inner 9], deep := [.inner 9] },
  { top := [.root 10], kids := [.inner 10], deep := [.inner 10] },
  { top := [.loc 130], kids := [], deep := [] },
  {},
  { top := [.root 2], kids := [.inner 2], deep := [.inner 2] },
  {},
  { top := [.root 1], kids := [.inner 1], deep := [.inner 1] },
  { top := [.root 0], kids := [], deep := [] },
  { top := [.loc 17], kids := [], deep := [] },
  { top := [.loc 17], kids := [], deep := [] },
  {},
  {},
  {},
  {},
  {},
  {},
  { top := [.loc 25], kids := [], deep := [] },
  { top := [.loc 26], kids := [], deep := [] },
  { top := [.loc 27], kids := [], deep := [] },
  { top := [.loc 28], kids := [], deep := [] },
  { top := [.loc 29], kids := [], deep := [] },
  { top := [.loc 29], kids := [], deep := [] },
  { top := [.loc 31], kids := [], deep := [] },
  {},
  {},
  { top := [.loc 34], kids := [], deep := [] },
  { top := [.loc 34], kids := [], deep := [] },
  { top := [.loc 36], kids := [], deep := [] },
  { top := [.loc 36], kids := [], deep := [] },
  { top := [.loc 38], kids := [], deep := [] },
  { top := [.loc 38], kids := [], deep := [] },
  {},
  {},
  {},
  { top := [.loc 43], kids := [], deep := [] },
  {},
  {},
  { top := [.loc 46], kids := [], deep := [] },
  { top := [.loc 46], kids := [], deep := [] },
  {},
  {},
  { top := [.loc 50], kids := [], deep := [] },
  { top := [.loc 50], kids := [], deep := [] },
  { top := [.loc 50], kids := [], deep := [] },
  { top := [.loc 50], kids := [], deep := [] },
  {},
  {},
  {},
  { top := [.loc 50, .loc 17], kids := [], deep := [] },
  {},
  {},
  {},
  { top := [.loc 61], kids := [], deep := [] },
  { top := [.loc 62], kids := [], deep := [] },
  { top := [.loc 62], kids := [], deep := [] },
  { top := [.loc 64], kids := [], deep := [] },
  {},
  {},
  { top := [.loc 72], kids := [], deep := [] },
  { top := [.loc 62, .loc 75], kids := [], deep := [] },
  {},
  {},
  {},
  { top := [.loc 72], kids := [], deep := [] },
  { top := [.loc 72], kids := [], deep := [] },
  { top := [.loc 72], kids := [], deep := [] },
  { top := [.loc 75], kids := [], deep := [] },
  { top := [.loc 75], kids := [], deep := [] },
  { top := [.loc 77], kids := [], deep := [] },
  {},
  {},
  { top := [.loc 80], kids := [], deep := [] },
  { top := [.loc 81], kids := [], deep := [] },
  {},
  {},
  {},
  {},
  {},
  { top := [.loc 87], kids := [], deep := [] },
  { top := [.loc 88], kids := [], deep := [] },
  { top := [.loc 89], kids := [.loc 88], deep := [] },
  { top := [.loc 90], kids := [.loc 89], deep := [.loc 88] },
  { top := [.loc 90], kids := [.loc 89], deep := [.loc 88] },
  { top := [.loc 89], kids := [.loc 88], deep := [.loc 88] },
  { top := [.loc 88], kids := [.loc 88], deep := [.loc 88] },
  { top := [.loc 88], kids := [.loc 88], deep := [.loc 88] },
  { top := [.loc 88], kids := [.loc 88], deep := [.loc 88] },
  { top := [.loc 88], kids := [.loc 88], deep := [.loc 88] },
  { top := [.loc 97], kids := [.loc 88], deep := [.loc 88] },
  { top := [.loc 98], kids := [.loc 97], deep := [.loc 88] },
  { top := [.loc 98], kids := [.loc 97], deep := [.loc 88] },
  { top := [.loc 89], kids := [.loc 88], deep := [.loc 88] },
  { top := [.loc 88], kids := [.loc 88], deep := [.loc 88] },
  { top := [.loc 88], kids := [.loc 88], deep := [.loc 88] },
  { top := [.loc 88], kids := [.loc 88], deep := [.loc 88] },
  { top := [.loc 88], kids := [.loc 88], deep := [.loc 88] },
  { top := [.loc 105], kids := [.loc 88], deep := [.loc 88] },
  { top := [.loc 106], kids := [.loc 105], deep := [.loc 88] },
  { top := [.loc 106], kids := [.loc 105], deep := [.loc 88] },
  { top := [.loc 106, .loc 90], kids := [.loc 105, .loc 89], deep := [.loc 88] },
  { top := [.loc 98, .loc 106, .loc 90], kids := [.loc 97, .loc 105, .loc 89], deep := [.loc 88] },
  { top := [.loc 98, .loc 106, .loc 90], kids := [.loc 97, .loc 105, .loc 89], deep := [.loc 88] },
  { top := [.loc 97, .loc 105, .loc 89], kids := [.loc 88], deep := [.loc 88] },
  { top := [.loc 88], kids := [.loc 88], deep := [.loc 88] },
  { top := [.loc 88], kids := [.loc 88], deep := [.loc 88] },
  { top := [.loc 88], kids := [.loc 88], deep := [.loc 88] },
  { top := [.loc 88], kids := [.loc 88], deep := [.loc 88] },
  { top := [.loc 116], kids := [.loc 88], deep := [.loc 88] },
  { top := [.loc 117], kids := [.loc 116], deep := [.loc 88] },
  { top := [.loc 117], kids := [.loc 116], deep := [.loc 88] },
  { top := [.loc 117, .loc 98, .loc 106, .loc 90], kids := [.loc 116, .loc 97, .loc 105, .loc 89], deep := [.loc 88] },
  { top := [.loc 116, .loc 97, .loc 105, .loc 89], kids := [.loc 88], deep := [.loc 88] },
  { top := [.loc 88], kids := [.loc 88], deep := [.loc 88] },
  { top := [.loc 88], kids := [.loc 88], deep := [.loc 88] },
  { top := [.loc 88], kids := [.loc 88], deep := [.loc 88] },
  { top := [.loc 88], kids := [.loc 88], deep := [.loc 88] },
  { top := [.loc 125], kids := [.loc 88], deep := [.loc 88] },
  { top := [.loc 126], kids := [.loc 125, .loc 88], deep := [.loc 88] },
  { top := [.loc 127], kids := [.loc 126], deep := [.loc 125, .loc 88] },
  { top := [.loc 127], kids := [.loc 126], deep := [.loc 125, .loc 88] },
  { top := [.loc 127, .loc 117, .loc 98, .loc 106, .loc 90], kids := [.loc 126, .loc 116, .loc 97, .loc 105, .loc 89], deep := [.loc 125, .loc 88] },
  { top := [.loc 130], kids := [], deep := [] },
  { top := [.loc 130], kids := [], deep := [] }]

/-- peptacular.isotope.merge_isotopic_distributions -/
def prog_64 : List Stmt := [
  .param 0 0,
  .param 1 1,
  .pack 3 [],
  .alias 4 [3],
  .elem 8 0,
  .alias 6 [8],
  .elem 9 6,
  .elem 10 9,
  .alias 7 [10],
  .elem 11 9,
  .alias 5 [11],
  .store 4 5,
  .shallow 12 [4],
  .elem 14 13,
  .shallow 15 [12],
  .leaf 16 15,
  .alias 2 [16]]

def table_64 : Pts := [
  { top := [.root 0], kids := [.inner 0], deep := [.inner 0] },
  { top := [.root 1], kids := [.inner 1], deep := [.inner 1] },
  { top := [.loc 15], kids := [], deep := [] },
  { top := [.loc 3], kids := [.inner 0], deep := [.inner 0] },
  { top := [.loc 3], kids := [.inner 0], deep := [.inner 0] },
  { top := [.inner 0], kids := [.inner 0], deep := [.inner 0] },
  { top := [.inner 0], kids := [.inner 0], deep := [.inner 0] },
  { top := [.inner 0], kids := [.inner 0], deep := [.inner 0] },
  { top := [.inner 0], kids := [.inner 0], deep := [.inner 0] },
  { top := [.inner 0], kids := [.inner 0], deep := [.inner 0] },
  { top := [.inner 0], kids := [.inner 0], deep := [.inner 0] },
  { top := [.inner 0], kids := [.inner 0], deep := [.inner 0] },
  { top := [.loc 12], kids := [.inner 0], deep := [.inner 0] },
  {},
  {},
  { top := [.loc 15], kids := [.inner 0], deep := [.inner 0] },
  { top := [.loc 15], kids := [], deep := [] }]

def fns_0 : List (Nat × FnInfo) := [
  (58, { prog := prog_58, nparams := 4, ret := 4, fuel := 2, table := table_58 }),
  (59, { prog := prog_59, nparams := 5, ret := 5, fuel := 2, table := table_59 }),
  (60, { prog := prog_60, nparams := 2, ret := 2, fuel := 2, table := table_60 }),
  (61, { prog := prog_61, nparams := 4, ret := 4, fuel := 2, table := table_61 }),
  (62, { prog := prog_62, nparams := 11, ret := 11, fuel := 2, table := table_62 }),
  (63, { prog := prog_63, nparams := 11, ret := 11, fuel := 2, table := table_63 }),
  (64, { prog := prog_64, nparams := 2, ret := 2, fuel := 2, table := table_64 })]

def fns : List (Nat × FnInfo) := fns_0

theorem ok : fns.all (fun p => entryOK Gen.summaries Gen.verdicts p.1 p.2) = true :=
  all_entryOK_of_fast 8 (by decide +kernel)

end Gen.M_isotope
