import PeptVerif.Generated.Effects.Core
import PeptVerif.Lemmas.EffectsFast
/-! GENERATED by harness/translate_effects.py - do not edit.  Source module: peptacular.util (4 functions).
`ok` is the kernel check of these functions against the global summary / verdict tables: every table is closed
under its program, the summary the program induces is within the summary table, and the write / sharing sets
read off the table are the claimed verdict.  The kernel evaluates it in the form `entryOKFast`
(Lemmas/EffectsFast.lean); 8 is the stride of its lookups, any stride gives the same value. -/
namespace Gen.M_util
open Effects
set_option maxRecDepth 100000
/-- peptacular.util.convert_type -/
def prog_403 : List Stmt := [
  .param 0 0,
  .pack 2 []]

def table_403 : Pts := [
  { top := [.root 0], kids := [.inner 0], deep := [.inner 0] },
  {},
  { top := [.loc 2], kids := [], deep := [] }]

/-- peptacular.util.get_regex_match_indices -/
def prog_404 : List Stmt := [
  .param 0 0,
  .param 1 1,
  .param 2 2,
  .shallow 4 [1],
  .alias 5 [4],
  .alias 6 [1],
  .alias 7 [5, 6],
  .shallow 9 []]

def table_404 : Pts := [
  { top := [.root 0], kids := [.inner 0], deep := [.inner 0] },
  { top := [.root 1], kids := [.inner 1], deep := [.inner 1] },
  { top := [.root 2], kids := [.inner 2], deep := [.inner 2] },
  {},
  { top := [.loc 4], kids := [.inner 1], deep := [.inner 1] },
  { top := [.loc 4], kids := [.inner 1], deep := [.inner 1] },
  { top := [.root 1], kids := [.inner 1], deep := [.inner 1] },
  { top := [.loc 4, .root 1], kids := [.inner 1], deep := [.inner 1] },
  {},
  { top := [.loc 9], kids := [], deep := [] }]

/-- peptacular.util.get_regex_match_range -/
def prog_405 : List Stmt := [
  .param 0 0,
  .param 1 1,
  .param 2 2,
  .pack 5 [],
  .pack 6 [5],
  .leaf 7 6,
  .alias 3 [7],
  .shallow 8 [1],
  .elem 9 8,
  .alias 10 [9],
  .pack 11 [],
  .pack 12 [11],
  .leaf 13 12,
  .alias 3 [13]]

def table_405 : Pts := [
  { top := [.root 0], kids := [.inner 0], deep := [.inner 0] },
  { top := [.root 1], kids := [.inner 1], deep := [.inner 1] },
  { top := [.root 2], kids := [.inner 2], deep := [.inner 2] },
  { top := [.loc 6, .loc 12], kids := [], deep := [] },
  {},
  { top := [.loc 5], kids := [], deep := [] },
  { top := [.loc 6], kids := [.loc 5], deep := [] },
  { top := [.loc 6], kids := [], deep := [] },
  { top := [.loc 8], kids := [.inner 1], deep := [.inner 1] },
  { top := [.inner 1], kids := [.inner 1], deep := [.inner 1] },
  { top := [.inner 1], kids := [.inner 1], deep := [.inner 1] },
  { top := [.loc 11], kids := [], deep := [] },
  { top := [.loc 12], kids := [.loc 11], deep := [] },
  { top := [.loc 12], kids := [], deep := [] }]

/-- peptacular.util.merge_dicts -/
def prog_406 : List Stmt := [
  .param 0 0,
  .param 1 1,
  .pack 3 [],
  .alias 4 [3],
  .shallow 5 [0],
  .elem 8 5,
  .elem 9 8,
  .alias 7 [9],
  .store 4 7,
  .shallow 10 [1],
  .alias 11 [6],
  .alias 12 [7],
  .elem 13 10,
  .elem 14 13,
  .alias 12 [14],
  .elem 15 4,
  .write 4,
  .shallow 16 [4],
  .elem 17 16,
  .elem 19 17,
  .alias 20 [19],
  .pack 21 [20],
  .alias 22 [21],
  .alias 2 [22]]

def table_406 : Pts := [
  { top := [.root 0], kids := [.inner 0], deep := [.inner 0] },
  { top := [.root 1], kids := [.inner 1], deep := [.inner 1] },
  { top := [.loc 21], kids := [.inner 0], deep := [.inner 0] },
  { top := [.loc 3], kids := [.inner 0], deep := [.inner 0] },
  { top := [.loc 3], kids := [.inner 0], deep := [.inner 0] },
  { top := [.loc 5], kids := [.inner 0], deep := [.inner 0] },
  {},
  { top := [.inner 0], kids := [.inner 0], deep := [.inner 0] },
  { top := [.inner 0], kids := [.inner 0], deep := [.inner 0] },
  { top := [.inner 0], kids := [.inner 0], deep := [.inner 0] },
  { top := [.loc 10], kids := [.inner 1], deep := [.inner 1] },
  {},
  { top := [.inner 0, .inner 1], kids := [.inner 0, .inner 1], deep := [.inner 0, .inner 1] },
  { top := [.inner 1], kids := [.inner 1], deep := [.inner 1] },
  { top := [.inner 1], kids := [.inner 1], deep := [.inner 1] },
  { top := [.inner 0], kids := [.inner 0], deep := [.inner 0] },
  { top := [.loc 16], kids := [.inner 0], deep := [.inner 0] },
  { top := [.inner 0], kids := [.inner 0], deep := [.inner 0] },
  {},
  { top := [.inner 0], kids := [.inner 0], deep := [.inner 0] },
  { top := [.inner 0], kids := [.inner 0], deep := [.inner 0] },
  { top := [.loc 21], kids := [.inner 0], deep := [.inner 0] },
  { top := [.loc 21], kids := [.inner 0], deep := [.inner 0] }]

def fns_0 : List (Nat × FnInfo) := [
  (403, { prog := prog_403, nparams := 1, ret := 1, fuel := 2, table := table_403 }),
  (404, { prog := prog_404, nparams := 3, ret := 3, fuel := 2, table := table_404 }),
  (405, { prog := prog_405, nparams := 3, ret := 3, fuel := 2, table := table_405 }),
  (406, { prog := prog_406, nparams := 2, ret := 2, fuel := 2, table := table_406 })]

def fns : List (Nat × FnInfo) := fns_0

theorem ok : fns.all (fun p => entryOK Gen.summaries Gen.verdicts p.1 p.2) = true :=
  all_entryOK_of_fast 8 (by decide +kernel)

end Gen.M_util
