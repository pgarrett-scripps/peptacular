import PeptVerif.Generated.Effects.Core
import PeptVerif.Lemmas.EffectsFast
/-! GENERATED by harness/translate_effects.py - do not edit.  Source module: peptacular.glycan (4 functions).
`ok` is the kernel check of these functions against the global summary / verdict tables: every table is closed
under its program, the summary the program induces is within the summary table, and the write / sharing sets
read off the table are the claimed verdict.  The kernel evaluates it in the form `entryOKFast`
(Lemmas/EffectsFast.lean); 8 is the stride of its lookups, any stride gives the same value. -/
namespace Gen.M_glycan
open Effects
set_option maxRecDepth 100000
/-- peptacular.glycan.convert_glycan_formula_to_chem_formula -/
def prog_54 : List Stmt := [
  .param 0 0,
  .leaf 2 0,
  .call 3 55 [some 2],
  .leaf 4 3,
  .call 5 17 [some 4, none, none, none],
  .leaf 7 0]

def table_54 : Pts := [
  { top := [.root 0], kids := [.inner 0], deep := [.inner 0] },
  {},
  { top := [.root 0], kids := [], deep := [] },
  { top := [.loc 3], kids := [], deep := [] },
  { top := [.loc 3], kids := [], deep := [] },
  {},
  {},
  { top := [.root 0], kids := [], deep := [] }]

/-- peptacular.glycan.glycan_comp -/
def prog_55 : List Stmt := [
  .param 0 0,
  .leaf 2 0,
  .call 3 145 [some 2, none],
  .leaf 4 3,
  .alias 1 [4]]

def table_55 : Pts := [
  { top := [.root 0], kids := [.inner 0], deep := [.inner 0] },
  { top := [.loc 3], kids := [], deep := [] },
  { top := [.root 0], kids := [], deep := [] },
  { top := [.loc 3], kids := [], deep := [] },
  { top := [.loc 3], kids := [], deep := [] }]

/-- peptacular.glycan.parse_glycan_formula -/
def prog_56 : List Stmt := [
  .param 0 0,
  .param 1 1,
  .call 3 147 [none, none],
  .leaf 4 3,
  .alias 2 [4]]

def table_56 : Pts := [
  { top := [.root 0], kids := [.inner 0], deep := [.inner 0] },
  { top := [.root 1], kids := [.inner 1], deep := [.inner 1] },
  { top := [.loc 3], kids := [], deep := [] },
  { top := [.loc 3], kids := [], deep := [] },
  { top := [.loc 3], kids := [], deep := [] }]

/-- peptacular.glycan.write_glycan_formula -/
def prog_57 : List Stmt := [
  .param 0 0,
  .param 1 1,
  .leaf 3 0,
  .shallow 4 [3],
  .elem 5 4,
  .pack 8 [],
  .leaf 9 8]

def table_57 : Pts := [
  { top := [.root 0], kids := [.inner 0], deep := [.inner 0] },
  { top := [.root 1], kids := [.inner 1], deep := [.inner 1] },
  {},
  { top := [.root 0], kids := [], deep := [] },
  { top := [.loc 4], kids := [], deep := [] },
  {},
  {},
  {},
  { top := [.loc 8], kids := [], deep := [] },
  { top := [.loc 8], kids := [], deep := [] }]

def fns_0 : List (Nat × FnInfo) := [
  (54, { prog := prog_54, nparams := 1, ret := 1, fuel := 2, table := table_54 }),
  (55, { prog := prog_55, nparams := 1, ret := 1, fuel := 2, table := table_55 }),
  (56, { prog := prog_56, nparams := 2, ret := 2, fuel := 2, table := table_56 }),
  (57, { prog := prog_57, nparams := 2, ret := 2, fuel := 2, table := table_57 })]

def fns : List (Nat × FnInfo) := fns_0

theorem ok : fns.all (fun p => entryOK Gen.summaries Gen.verdicts p.1 p.2) = true :=
  all_entryOK_of_fast 8 (by decide +kernel)

end Gen.M_glycan
