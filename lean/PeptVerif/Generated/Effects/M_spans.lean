import PeptVerif.Generated.Effects.Core
import PeptVerif.Lemmas.EffectsFast
/-! GENERATED by harness/translate_effects.py - do not edit.  Source module: peptacular.spans (9 functions).
`ok` is the kernel check of these functions against the global summary / verdict tables: every table is closed
under its program, the summary the program induces is within the summary table, and the write / sharing sets
read off the table are the claimed verdict.  The kernel evaluates it in the form `entryOKFast`
(Lemmas/EffectsFast.lean); 8 is the stride of its lookups, any stride gives the same value. -/
namespace Gen.M_spans
open Effects
set_option maxRecDepth 100000
/-- peptacular.spans._grouped_left_semi_span_builder -/
def prog_394 : List Stmt := [
  .param 0 0,
  .param 1 1,
  .param 2 2,
  .alias 5 [4, 1],
  .leaf 6 0,
  .elem 8 7,
  .elem 9 7,
  .pack 10 [8],
  .shallow 11 [6],
  .leaf 12 11,
  .alias 13 [12],
  .leaf 14 13,
  .elem 16 15,
  .shallow 17 [14],
  .elem 27 17,
  .elem 28 27,
  .alias 18 [28],
  .elem 29 27,
  .alias 19 [29],
  .shallow 30 [19],
  .alias 19 [30],
  .shallow 31 [19],
  .elem 32 31,
  .elem 33 32,
  .alias 20 [33],
  .elem 34 32,
  .alias 25 [34],
  .elem 35 25,
  .elem 36 25,
  .shallow 37 [35, 36],
  .alias 26 [37],
  .alias 21 [38],
  .call 39 397 [some 25, none, none],
  .leaf 40 39,
  .alias 3 [40],
  .elem 41 19,
  .alias 23 [41],
  .elem 42 23,
  .elem 43 23,
  .shallow 44 [42, 43],
  .alias 24 [44],
  .alias 22 [45],
  .call 46 397 [some 25, some 22, none],
  .leaf 47 46,
  .alias 3 [47]]

def table_394 : Pts := [
  { top := [.root 0], kids := [.inner 0], deep := [.inner 0] },
  { top := [.root 1], kids := [.inner 1], deep := [.inner 1] },
  { top := [.root 2], kids := [.inner 2], deep := [.inner 2] },
  { top := [.loc 39, .loc 46], kids := [], deep := [] },
  {},
  { top := [.root 1], kids := [.inner 1], deep := [.inner 1] },
  { top := [.root 0], kids := [], deep := [] },
  {},
  {},
  {},
  { top := [.loc 10], kids := [], deep := [] },
  { top := [.loc 11], kids := [], deep := [] },
  { top := [.loc 11], kids := [], deep := [] },
  { top := [.loc 11], kids := [], deep := [] },
  { top := [.loc 11], kids := [], deep := [] },
  {},
  {},
  { top := [.loc 17], kids := [], deep := [] },
  {},
  { top := [.loc 30], kids := [], deep := [] },
  {},
  {},
  {},
  {},
  { top := [.loc 44], kids := [], deep := [] },
  {},
  { top := [.loc 37], kids := [], deep := [] },
  {},
  {},
  {},
  { top := [.loc 30], kids := [], deep := [] },
  { top := [.loc 31], kids := [], deep := [] },
  {},
  {},
  {},
  {},
  {},
  { top := [.loc 37], kids := [], deep := [] },
  {},
  { top := [.loc 39], kids := [], deep := [] },
  { top := [.loc 39], kids := [], deep := [] },
  {},
  {},
  {},
  { top := [.loc 44], kids := [], deep := [] },
  {},
  { top := [.loc 46], kids := [], deep := [] },
  { top := [.loc 46], kids := [], deep := [] }]

/-- peptacular.spans._grouped_right_semi_span_builder -/
def prog_395 : List Stmt := [
  .param 0 0,
  .param 1 1,
  .param 2 2,
  .alias 5 [4, 1],
  .leaf 6 0,
  .elem 8 7,
  .elem 9 7,
  .pack 10 [8],
  .shallow 11 [6],
  .leaf 12 11,
  .alias 13 [12],
  .leaf 14 13,
  .elem 16 15,
  .shallow 17 [14],
  .elem 27 17,
  .elem 28 27,
  .alias 18 [28],
  .elem 29 27,
  .alias 19 [29],
  .shallow 30 [19],
  .alias 19 [30],
  .shallow 31 [19],
  .elem 32 31,
  .elem 33 32,
  .alias 20 [33],
  .elem 34 32,
  .alias 25 [34],
  .elem 35 25,
  .elem 36 25,
  .shallow 37 [35, 36],
  .alias 26 [37],
  .alias 21 [38],
  .call 39 399 [some 25, none, none],
  .leaf 40 39,
  .alias 3 [40],
  .elem 41 19,
  .alias 23 [41],
  .elem 42 23,
  .elem 43 23,
  .shallow 44 [42, 43],
  .alias 24 [44],
  .alias 22 [45],
  .call 46 399 [some 25, some 22, none],
  .leaf 47 46,
  .alias 3 [47]]

def table_395 : Pts := [
  { top := [.root 0], kids := [.inner 0], deep := [.inner 0] },
  { top := [.root 1], kids := [.inner 1], deep := [.inner 1] },
  { top := [.root 2], kids := [.inner 2], deep := [.inner 2] },
  { top := [.loc 39, .loc 46], kids := [], deep := [] },
  {},
  { top := [.root 1], kids := [.inner 1], deep := [.inner 1] },
  { top := [.root 0], kids := [], deep := [] },
  {},
  {},
  {},
  { top := [.loc 10], kids := [], deep := [] },
  { top := [.loc 11], kids := [], deep := [] },
  { top := [.loc 11], kids := [], deep := [] },
  { top := [.loc 11], kids := [], deep := [] },
  { top := [.loc 11], kids := [], deep := [] },
  {},
  {},
  { top := [.loc 17], kids := [], deep := [] },
  {},
  { top := [.loc 30], kids := [], deep := [] },
  {},
  {},
  {},
  {},
  { top := [.loc 44], kids := [], deep := [] },
  {},
  { top := [.loc 37], kids := [], deep := [] },
  {},
  {},
  {},
  { top := [.loc 30], kids := [], deep := [] },
  { top := [.loc 31], kids := [], deep := [] },
  {},
  {},
  {},
  {},
  {},
  { top := [.loc 37], kids := [], deep := [] },
  {},
  { top := [.loc 39], kids := [], deep := [] },
  { top := [.loc 39], kids := [], deep := [] },
  {},
  {},
  {},
  { top := [.loc 44], kids := [], deep := [] },
  {},
  { top := [.loc 46], kids := [], deep := [] },
  { top := [.loc 46], kids := [], deep := [] }]

/-- peptacular.spans.build_enzymatic_spans -/
def prog_396 : List Stmt := [
  .param 0 0,
  .param 1 1,
  .param 2 2,
  .param 3 3,
  .param 4 4,
  .alias 7 [6, 3],
  .alias 9 [8, 4],
  .leaf 10 1,
  .shallow 11 [10],
  .leaf 12 11,
  .alias 13 [12],
  .leaf 14 13,
  .write 14,
  .leaf 15 13,
  .write 15,
  .leaf 16 13,
  .shallow 17 [16],
  .leaf 18 17,
  .alias 19 [18],
  .leaf 20 19,
  .shallow 21 [20],
  .elem 26 21,
  .elem 27 26,
  .alias 23 [27],
  .elem 28 26,
  .alias 25 [28],
  .leaf 29 19,
  .shallow 30 [29],
  .leaf 31 30,
  .shallow 32 [31],
  .elem 33 32,
  .elem 34 33,
  .alias 24 [34],
  .elem 35 33,
  .alias 22 [35],
  .shallow 36 [22, 25],
  .pack 37 [25, 22, 24],
  .pack 38 [37],
  .alias 5 [38]]

def table_396 : Pts := [
  { top := [.root 0], kids := [.inner 0], deep := [.inner 0] },
  { top := [.root 1], kids := [.inner 1], deep := [.inner 1] },
  { top := [.root 2], kids := [.inner 2], deep := [.inner 2] },
  { top := [.root 3], kids := [.inner 3], deep := [.inner 3] },
  { top := [.root 4], kids := [.inner 4], deep := [.inner 4] },
  { top := [.loc 38], kids := [.loc 37], deep := [] },
  {},
  { top := [.root 3], kids := [.inner 3], deep := [.inner 3] },
  {},
  { top := [.root 4], kids := [.inner 4], deep := [.inner 4] },
  { top := [.root 1], kids := [], deep := [] },
  { top := [.loc 11], kids := [], deep := [] },
  { top := [.loc 11], kids := [], deep := [] },
  { top := [.loc 11], kids := [], deep := [] },
  { top := [.loc 11], kids := [], deep := [] },
  { top := [.loc 11], kids := [], deep := [] },
  { top := [.loc 11], kids := [], deep := [] },
  { top := [.loc 17], kids := [], deep := [] },
  { top := [.loc 17], kids := [], deep := [] },
  { top := [.loc 17], kids := [], deep := [] },
  { top := [.loc 17], kids := [], deep := [] },
  { top := [.loc 21], kids := [], deep := [] },
  {},
  {},
  {},
  {},
  {},
  {},
  {},
  { top := [.loc 17], kids := [], deep := [] },
  { top := [.loc 30], kids := [], deep := [] },
  { top := [.loc 30], kids := [], deep := [] },
  { top := [.loc 32], kids := [], deep := [] },
  {},
  {},
  {},
  { top := [.loc 36], kids := [], deep := [] },
  { top := [.loc 37], kids := [], deep := [] },
  { top := [.loc 38], kids := [.loc 37], deep := [] }]

/-- peptacular.spans.build_left_semi_spans -/
def prog_397 : List Stmt := [
  .param 0 0,
  .param 1 1,
  .param 2 2,
  .alias 5 [4, 1],
  .alias 7 [6, 2],
  .alias 12 [11],
  .pack 14 [8, 10],
  .pack 15 [14],
  .leaf 16 15,
  .alias 3 [16]]

def table_397 : Pts := [
  { top := [.root 0], kids := [.inner 0], deep := [.inner 0] },
  { top := [.root 1], kids := [.inner 1], deep := [.inner 1] },
  { top := [.root 2], kids := [.inner 2], deep := [.inner 2] },
  { top := [.loc 15], kids := [], deep := [] },
  {},
  { top := [.root 1], kids := [.inner 1], deep := [.inner 1] },
  {},
  { top := [.root 2], kids := [.inner 2], deep := [.inner 2] },
  {},
  {},
  {},
  {},
  {},
  {},
  { top := [.loc 14], kids := [], deep := [] },
  { top := [.loc 15], kids := [.loc 14], deep := [] },
  { top := [.loc 15], kids := [], deep := [] }]

/-- peptacular.spans.build_non_enzymatic_spans -/
def prog_398 : List Stmt := [
  .param 0 0,
  .param 1 1,
  .param 2 2,
  .alias 5 [4, 1],
  .alias 8 [7, 2],
  .alias 10 [9],
  .pack 17 [],
  .pack 18 [17],
  .leaf 19 18,
  .alias 3 [19]]

def table_398 : Pts := [
  { top := [.root 0], kids := [.inner 0], deep := [.inner 0] },
  { top := [.root 1], kids := [.inner 1], deep := [.inner 1] },
  { top := [.root 2], kids := [.inner 2], deep := [.inner 2] },
  { top := [.loc 18], kids := [], deep := [] },
  {},
  { top := [.root 1], kids := [.inner 1], deep := [.inner 1] },
  {},
  {},
  { top := [.root 2], kids := [.inner 2], deep := [.inner 2] },
  {},
  {},
  {},
  {},
  {},
  {},
  {},
  {},
  { top := [.loc 17], kids := [], deep := [] },
  { top := [.loc 18], kids := [.loc 17], deep := [] },
  { top := [.loc 18], kids := [], deep := [] }]

/-- peptacular.spans.build_right_semi_spans -/
def prog_399 : List Stmt := [
  .param 0 0,
  .param 1 1,
  .param 2 2,
  .alias 5 [4, 1],
  .alias 7 [6, 2],
  .alias 12 [11],
  .pack 14 [9, 10],
  .pack 15 [14],
  .leaf 16 15,
  .alias 3 [16]]

def table_399 : Pts := [
  { top := [.root 0], kids := [.inner 0], deep := [.inner 0] },
  { top := [.root 1], kids := [.inner 1], deep := [.inner 1] },
  { top := [.root 2], kids := [.inner 2], deep := [.inner 2] },
  { top := [.loc 15], kids := [], deep := [] },
  {},
  { top := [.root 1], kids := [.inner 1], deep := [.inner 1] },
  {},
  { top := [.root 2], kids := [.inner 2], deep := [.inner 2] },
  {},
  {},
  {},
  {},
  {},
  {},
  { top := [.loc 14], kids := [], deep := [] },
  { top := [.loc 15], kids := [.loc 14], deep := [] },
  { top := [.loc 15], kids := [], deep := [] }]

/-- peptacular.spans.build_semi_spans -/
def prog_400 : List Stmt := [
  .param 0 0,
  .param 1 1,
  .param 2 2,
  .leaf 4 0,
  .call 5 394 [some 4, none, none],
  .leaf 6 5,
  .alias 3 [6],
  .leaf 7 0,
  .call 8 395 [some 7, none, none],
  .leaf 9 8,
  .alias 3 [9]]

def table_400 : Pts := [
  { top := [.root 0], kids := [.inner 0], deep := [.inner 0] },
  { top := [.root 1], kids := [.inner 1], deep := [.inner 1] },
  { top := [.root 2], kids := [.inner 2], deep := [.inner 2] },
  { top := [.loc 5, .loc 8], kids := [], deep := [] },
  { top := [.root 0], kids := [], deep := [] },
  { top := [.loc 5], kids := [], deep := [] },
  { top := [.loc 5], kids := [], deep := [] },
  { top := [.root 0], kids := [], deep := [] },
  { top := [.loc 8], kids := [], deep := [] },
  { top := [.loc 8], kids := [], deep := [] }]

/-- peptacular.spans.build_spans -/
def prog_401 : List Stmt := [
  .param 0 0,
  .param 1 1,
  .param 2 2,
  .param 3 3,
  .param 4 4,
  .param 5 5,
  .alias 8 [7, 3],
  .alias 10 [9, 4],
  .leaf 11 1,
  .shallow 12 [11],
  .leaf 13 12,
  .shallow 14 [13],
  .leaf 15 14,
  .alias 16 [15],
  .leaf 17 16,
  .pack 18 [],
  .call 19 398 [some 18, none, none],
  .leaf 20 19,
  .alias 6 [20],
  .leaf 21 16,
  .call 22 396 [none, some 21, none, none, none],
  .leaf 23 22,
  .shallow 24 [23],
  .leaf 25 24,
  .alias 26 [25],
  .leaf 27 26,
  .call 28 400 [some 27, none, none],
  .leaf 29 28,
  .alias 30 [29],
  .leaf 31 26,
  .leaf 33 30,
  .alias 6 [33],
  .leaf 34 26,
  .alias 6 [34]]

def table_401 : Pts := [
  { top := [.root 0], kids := [.inner 0], deep := [.inner 0] },
  { top := [.root 1], kids := [.inner 1], deep := [.inner 1] },
  { top := [.root 2], kids := [.inner 2], deep := [.inner 2] },
  { top := [.root 3], kids := [.inner 3], deep := [.inner 3] },
  { top := [.root 4], kids := [.inner 4], deep := [.inner 4] },
  { top := [.root 5], kids := [.inner 5], deep := [.inner 5] },
  { top := [.loc 19, .loc 28, .loc 24], kids := [], deep := [] },
  {},
  { top := [.root 3], kids := [.inner 3], deep := [.inner 3] },
  {},
  { top := [.root 4], kids := [.inner 4], deep := [.inner 4] },
  { top := [.root 1], kids := [], deep := [] },
  { top := [.loc 12], kids := [], deep := [] },
  { top := [.loc 12], kids := [], deep := [] },
  { top := [.loc 14], kids := [], deep := [] },
  { top := [.loc 14], kids := [], deep := [] },
  { top := [.loc 14], kids := [], deep := [] },
  { top := [.loc 14], kids := [], deep := [] },
  { top := [.loc 18], kids := [], deep := [] },
  { top := [.loc 19], kids := [], deep := [] },
  { top := [.loc 19], kids := [], deep := [] },
  { top := [.loc 14], kids := [], deep := [] },
  { top := [.loc 22], kids := [.loc 22], deep := [] },
  { top := [.loc 22], kids := [], deep := [] },
  { top := [.loc 24], kids := [], deep := [] },
  { top := [.loc 24], kids := [], deep := [] },
  { top := [.loc 24], kids := [], deep := [] },
  { top := [.loc 24], kids := [], deep := [] },
  { top := [.loc 28], kids := [], deep := [] },
  { top := [.loc 28], kids := [], deep := [] },
  { top := [.loc 28], kids := [], deep := [] },
  { top := [.loc 24], kids := [], deep := [] },
  {},
  { top := [.loc 28], kids := [], deep := [] },
  { top := [.loc 24], kids := [], deep := [] }]

/-- peptacular.spans.calculate_span_coverage -/
def prog_402 : List Stmt := [
  .param 0 0,
  .param 1 1,
  .param 2 2,
  .pack 4 [],
  .leaf 6 0]

def table_402 : Pts := [
  { top := [.root 0], kids := [.inner 0], deep := [.inner 0] },
  { top := [.root 1], kids := [.inner 1], deep := [.inner 1] },
  { top := [.root 2], kids := [.inner 2], deep := [.inner 2] },
  {},
  { top := [.loc 4], kids := [], deep := [] },
  {},
  { top := [.root 0], kids := [], deep := [] }]

def fns_0 : List (Nat × FnInfo) := [
  (394, { prog := prog_394, nparams := 3, ret := 3, fuel := 2, table := table_394 }),
  (395, { prog := prog_395, nparams := 3, ret := 3, fuel := 2, table := table_395 }),
  (396, { prog := prog_396, nparams := 5, ret := 5, fuel := 2, table := table_396 }),
  (397, { prog := prog_397, nparams := 3, ret := 3, fuel := 2, table := table_397 }),
  (398, { prog := prog_398, nparams := 3, ret := 3, fuel := 2, table := table_398 }),
  (399, { prog := prog_399, nparams := 3, ret := 3, fuel := 2, table := table_399 }),
  (400, { prog := prog_400, nparams := 3, ret := 3, fuel := 2, table := table_400 }),
  (401, { prog := prog_401, nparams := 6, ret := 6, fuel := 2, table := table_401 }),
  (402, { prog := prog_402, nparams := 3, ret := 3, fuel := 2, table := table_402 })]

def fns : List (Nat × FnInfo) := fns_0

theorem ok : fns.all (fun p => entryOK Gen.summaries Gen.verdicts p.1 p.2) = true :=
  all_entryOK_of_fast 8 (by decide +kernel)

end Gen.M_spans
