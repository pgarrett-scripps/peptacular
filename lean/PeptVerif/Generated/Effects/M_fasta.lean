import PeptVerif.Generated.Effects.Core
import PeptVerif.Lemmas.EffectsFast
/-! GENERATED by harness/translate_effects.py - do not edit.  Source module: peptacular.fasta (1 functions).
`ok` is the kernel check of these functions against the global summary / verdict tables: every table is closed
under its program, the summary the program induces is within the summary table, and the write / sharing sets
read off the table are the claimed verdict.  The kernel evaluates it in the form `entryOKFast`
(Lemmas/EffectsFast.lean); 8 is the stride of its lookups, any stride gives the same value. -/
namespace Gen.M_fasta
open Effects
set_option maxRecDepth 100000
/-- peptacular.fasta.parse_fasta -/
def prog_37 : List Stmt := [
  .param 0 0,
  .alias 5 [3],
  .alias 6 [4, 5],
  .shallow 7 [0],
  .alias 9 [2],
  .alias 9 [0],
  .alias 10 [0],
  .alias 11 [9, 10],
  .alias 13 [2],
  .alias 15 [8, 12],
  .alias 16 [11, 13],
  .alias 17 [6, 16],
  .pack 18 [],
  .alias 19 [18],
  .alias 22 [20],
  .alias 24 [21],
  .pack 25 [],
  .store 19 25,
  .alias 24 [24],
  .pack 26 [],
  .store 19 26,
  .alias 1 [19]]

def table_37 : Pts := [
  { top := [.root 0], kids := [.inner 0], deep := [.inner 0] },
  { top := [.loc 18], kids := [.loc 25, .loc 26], deep := [] },
  {},
  {},
  {},
  {},
  {},
  { top := [.loc 7], kids := [.inner 0], deep := [.inner 0] },
  {},
  { top := [.root 0], kids := [.inner 0], deep := [.inner 0] },
  { top := [.root 0], kids := [.inner 0], deep := [.inner 0] },
  { top := [.root 0], kids := [.inner 0], deep := [.inner 0] },
  {},
  {},
  {},
  {},
  { top := [.root 0], kids := [.inner 0], deep := [.inner 0] },
  { top := [.root 0], kids := [.inner 0], deep := [.inner 0] },
  { top := [.loc 18], kids := [.loc 25, .loc 26], deep := [] },
  { top := [.loc 18], kids := [.loc 25, .loc 26], deep := [] },
  {},
  {},
  {},
  {},
  {},
  { top := [.loc 25], kids := [], deep := [] },
  { top := [.loc 26], kids := [], deep := [] }]

def fns_0 : List (Nat × FnInfo) := [
  (37, { prog := prog_37, nparams := 1, ret := 1, fuel := 2, table := table_37 })]

def fns : List (Nat × FnInfo) := fns_0

theorem ok : fns.all (fun p => entryOK Gen.summaries Gen.verdicts p.1 p.2) = true :=
  all_entryOK_of_fast 8 (by decide +kernel)

end Gen.M_fasta
