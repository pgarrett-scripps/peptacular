import PeptVerif.Generated.Effects.Core
import PeptVerif.Lemmas.EffectsFast
/-! GENERATED by harness/translate_effects.py - do not edit.  Source module: peptacular.chem.chem_calc (11 functions).
`ok` is the kernel check of these functions against the global summary / verdict tables: every table is closed
under its program, the summary the program induces is within the summary table, and the write / sharing sets
read off the table are the claimed verdict.  The kernel evaluates it in the form `entryOKFast`
(Lemmas/EffectsFast.lean); 8 is the stride of its lookups, any stride gives the same value. -/
namespace Gen.M_chem_chem_calc
open Effects
set_option maxRecDepth 100000
/-- peptacular.chem.chem_calc._parse_adduct_comp -/
def prog_0 : List Stmt := [
  .param 0 0,
  .pack 2 [],
  .alias 3 [2],
  .call 4 313 [none],
  .elem 5 4,
  .alias 6 [5],
  .elem 7 4,
  .alias 8 [7],
  .elem 9 4,
  .alias 10 [9],
  .store 3 6,
  .write 3,
  .leaf 11 3,
  .alias 1 [11]]

def table_0 : Pts := [
  { top := [.root 0], kids := [.inner 0], deep := [.inner 0] },
  { top := [.loc 2], kids := [], deep := [] },
  { top := [.loc 2], kids := [], deep := [] },
  { top := [.loc 2], kids := [], deep := [] },
  {},
  {},
  {},
  {},
  {},
  {},
  {},
  { top := [.loc 2], kids := [], deep := [] }]

/-- peptacular.chem.chem_calc._parse_charge_adducts_comp -/
def prog_1 : List Stmt := [
  .param 0 0,
  .asRec 2 0 0,
  .call 3 1 [none],
  .leaf 4 3,
  .alias 1 [4],
  .pack 5 [],
  .call 6 266 [some 0],
  .alias 7 [6],
  .pack 8 [],
  .alias 9 [8],
  .elem 11 7,
  .alias 10 [11],
  .call 12 0 [some 10],
  .leaf 13 12,
  .store 9 13,
  .pack 14 [],
  .alias 15 [14],
  .elem 19 9,
  .alias 16 [19],
  .shallow 20 [16],
  .elem 21 20,
  .elem 22 21,
  .alias 17 [22],
  .elem 23 21,
  .alias 18 [23],
  .elem 24 15,
  .alias 24 [17],
  .write 15,
  .leaf 25 15,
  .alias 1 [25]]

def table_1 : Pts := [
  { top := [.root 0], kids := [.inner 0], deep := [.inner 0] },
  { top := [.loc 3, .loc 14], kids := [], deep := [] },
  { top := [.recTop 0], kids := [.recd 0], deep := [.recd 0] },
  { top := [.loc 3], kids := [], deep := [] },
  { top := [.loc 3], kids := [], deep := [] },
  { top := [.loc 5], kids := [], deep := [] },
  { top := [.loc 6], kids := [.loc 6], deep := [.loc 6] },
  { top := [.loc 6], kids := [.loc 6], deep := [.loc 6] },
  { top := [.loc 8], kids := [.loc 12], deep := [] },
  { top := [.loc 8], kids := [.loc 12], deep := [] },
  { top := [.loc 6], kids := [.loc 6], deep := [.loc 6] },
  { top := [.loc 6], kids := [.loc 6], deep := [.loc 6] },
  { top := [.loc 12], kids := [], deep := [] },
  { top := [.loc 12], kids := [], deep := [] },
  { top := [.loc 14], kids := [], deep := [] },
  { top := [.loc 14], kids := [], deep := [] },
  { top := [.loc 12], kids := [], deep := [] },
  {},
  {},
  { top := [.loc 12], kids := [], deep := [] },
  { top := [.loc 20], kids := [], deep := [] },
  {},
  {},
  {},
  {},
  { top := [.loc 14], kids := [], deep := [] }]

/-- peptacular.chem.chem_calc._parse_glycan_comp -/
def prog_2 : List Stmt := [
  .param 0 0,
  .alias 3 [2, 0],
  .global 4 41,
  .call 5 124 [some 4, none],
  .call 6 127 [some 4, none],
  .alias 7 [6],
  .call 8 125 [some 4, none],
  .call 9 128 [some 4, none],
  .alias 10 [9],
  .call 11 126 [some 4, none],
  .call 12 129 [some 4, none],
  .alias 13 [12],
  .call 14 9 [none],
  .call 15 16 [some 14, none],
  .leaf 16 15,
  .alias 1 [16],
  .alias 17 [10, 13],
  .alias 18 [7, 17],
  .elem 19 18,
  .call 20 16 [some 19, none],
  .leaf 21 20,
  .alias 1 [21]]

def table_2 : Pts := [
  { top := [.root 0], kids := [.inner 0], deep := [.inner 0] },
  { top := [.loc 15, .loc 20], kids := [], deep := [] },
  {},
  { top := [.root 0], kids := [.inner 0], deep := [.inner 0] },
  { top := [.glob 41], kids := [.glob 41], deep := [.glob 41] },
  {},
  { top := [.glob 41], kids := [.glob 41], deep := [.glob 41] },
  { top := [.glob 41], kids := [.glob 41], deep := [.glob 41] },
  {},
  { top := [.glob 41], kids := [.glob 41], deep := [.glob 41] },
  { top := [.glob 41], kids := [.glob 41], deep := [.glob 41] },
  {},
  { top := [.glob 41], kids := [.glob 41], deep := [.glob 41] },
  { top := [.glob 41], kids := [.glob 41], deep := [.glob 41] },
  {},
  { top := [.loc 15], kids := [], deep := [] },
  { top := [.loc 15], kids := [], deep := [] },
  { top := [.glob 41], kids := [.glob 41], deep := [.glob 41] },
  { top := [.glob 41], kids := [.glob 41], deep := [.glob 41] },
  { top := [.glob 41], kids := [.glob 41], deep := [.glob 41] },
  { top := [.loc 20], kids := [], deep := [] },
  { top := [.loc 20], kids := [], deep := [] }]

/-- peptacular.chem.chem_calc._parse_mod_comp -/
def prog_3 : List Stmt := [
  .param 0 0,
  .pack 2 [],
  .call 3 403 [none],
  .alias 4 [3],
  .pack 5 [],
  .pack 6 [],
  .leaf 7 6,
  .alias 1 [7],
  .alias 9 [8, 0],
  .call 11 2 [none],
  .leaf 12 11,
  .alias 1 [12],
  .call 13 92 [none],
  .call 14 97 [none],
  .call 15 16 [some 14, none],
  .leaf 16 15,
  .alias 1 [16],
  .call 17 96 [none],
  .call 18 105 [none],
  .call 19 16 [some 18, none],
  .leaf 20 19,
  .alias 1 [20],
  .call 21 94 [none],
  .call 22 101 [none],
  .call 23 16 [some 22, none],
  .leaf 24 23,
  .alias 1 [24],
  .call 25 93 [none],
  .call 26 99 [none],
  .call 27 16 [some 26, none],
  .leaf 28 27,
  .alias 1 [28],
  .call 29 95 [none],
  .call 30 103 [none],
  .call 31 16 [some 30, none],
  .leaf 32 31,
  .alias 1 [32],
  .call 33 16 [none, none],
  .leaf 34 33,
  .alias 1 [34]]

def table_3 : Pts := [
  { top := [.root 0], kids := [.inner 0], deep := [.inner 0] },
  { top := [.loc 6, .loc 11, .loc 15, .loc 19, .loc 23, .loc 27, .loc 31, .loc 33], kids := [], deep := [] },
  { top := [.loc 2], kids := [], deep := [] },
  {},
  {},
  { top := [.loc 5], kids := [], deep := [] },
  { top := [.loc 6], kids := [], deep := [] },
  { top := [.loc 6], kids := [], deep := [] },
  {},
  { top := [.root 0], kids := [.inner 0], deep := [.inner 0] },
  {},
  { top := [.loc 11], kids := [], deep := [] },
  { top := [.loc 11], kids := [], deep := [] },
  {},
  {},
  { top := [.loc 15], kids := [], deep := [] },
  { top := [.loc 15], kids := [], deep := [] },
  {},
  {},
  { top := [.loc 19], kids := [], deep := [] },
  { top := [.loc 19], kids := [], deep := [] },
  {},
  {},
  { top := [.loc 23], kids := [], deep := [] },
  { top := [.loc 23], kids := [], deep := [] },
  {},
  {},
  { top := [.loc 27], kids := [], deep := [] },
  { top := [.loc 27], kids := [], deep := [] },
  {},
  {},
  { top := [.loc 31], kids := [], deep := [] },
  { top := [.loc 31], kids := [], deep := [] },
  { top := [.loc 33], kids := [], deep := [] },
  { top := [.loc 33], kids := [], deep := [] }]

/-- peptacular.chem.chem_calc._parse_mod_delta_mass -/
def prog_4 : List Stmt := [
  .param 0 0,
  .pack 2 [],
  .alias 4 [3]]

def table_4 : Pts := [
  { top := [.root 0], kids := [.inner 0], deep := [.inner 0] },
  {},
  { top := [.loc 2], kids := [], deep := [] },
  {},
  {}]

/-- peptacular.chem.chem_calc._parse_mod_delta_mass_only -/
def prog_5 : List Stmt := [
  .param 0 0,
  .asRec 2 0 0,
  .pack 3 [],
  .asRec 4 0 0,
  .asRec 5 0 0,
  .asRec 6 0 0,
  .call 7 5 [none],
  .asRec 8 0 0,
  .elem 13 9,
  .alias 12 [13],
  .call 14 3 [some 12],
  .leaf 15 14,
  .alias 10 [15],
  .leaf 16 10,
  .call 17 4 [some 12],
  .alias 11 [17],
  .asRec 18 0 0]

def table_5 : Pts := [
  { top := [.root 0], kids := [.inner 0], deep := [.inner 0] },
  {},
  { top := [.recTop 0], kids := [.recd 0], deep := [.recd 0] },
  { top := [.loc 3], kids := [], deep := [] },
  { top := [.recTop 0], kids := [.recd 0], deep := [.recd 0] },
  { top := [.recTop 0], kids := [.recd 0], deep := [.recd 0] },
  { top := [.recTop 0], kids := [.recd 0], deep := [.recd 0] },
  {},
  { top := [.recTop 0], kids := [.recd 0], deep := [.recd 0] },
  {},
  { top := [.loc 14], kids := [], deep := [] },
  {},
  {},
  {},
  { top := [.loc 14], kids := [], deep := [] },
  { top := [.loc 14], kids := [], deep := [] },
  { top := [.loc 14], kids := [], deep := [] },
  {},
  { top := [.recTop 0], kids := [.recd 0], deep := [.recd 0] }]

/-- peptacular.chem.chem_calc._sequence_comp -/
def prog_6 : List Stmt := [
  .param 0 0,
  .param 1 1,
  .param 2 2,
  .param 3 3,
  .call 5 387 [some 0],
  .alias 6 [5],
  .alias 7 [6, 0],
  .alias 10 [9, 8],
  .elem 11 7,
  .asRec 12 11 1,
  .alias 13 [12],
  .asRec 14 13 1,
  .elem 15 7,
  .asRec 16 15 1,
  .elem 17 7,
  .asRec 18 17 1,
  .elem 19 18,
  .asRec 20 19 0,
  .alias 21 [20],
  .elem 22 7,
  .asRec 23 22 1,
  .elem 24 7,
  .asRec 25 24 1,
  .elem 26 25,
  .asRec 28 26 0,
  .alias 27 [28],
  .asRec 29 27 0,
  .asRec 30 27 0,
  .asRec 31 27 0,
  .alias 32 [31],
  .pack 33 [],
  .leaf 34 33,
  .alias 37 [35, 36],
  .alias 38 [21, 37],
  .alias 39 [38, 13],
  .pack 40 [],
  .global 42 12,
  .elem 43 42,
  .alias 45 [41, 44],
  .alias 46 [45, 39],
  .pack 47 [],
  .shallow 48 [],
  .pack 49 [],
  .alias 50 [49],
  .global 55 17,
  .elem 56 55,
  .alias 52 [56],
  .shallow 58 [52],
  .elem 59 58,
  .elem 60 59,
  .alias 53 [60],
  .elem 61 59,
  .alias 54 [61],
  .elem 62 50,
  .alias 62 [53],
  .write 50,
  .global 63 15,
  .elem 64 63,
  .shallow 65 [64],
  .alias 66 [53],
  .alias 67 [54],
  .elem 68 65,
  .elem 69 68,
  .alias 66 [69],
  .elem 70 68,
  .alias 67 [70],
  .elem 71 50,
  .alias 71 [66],
  .call 72 1 [some 46],
  .leaf 73 72,
  .alias 74 [73],
  .leaf 75 74,
  .shallow 76 [75],
  .alias 77 [66],
  .alias 78 [67],
  .elem 79 76,
  .elem 80 50,
  .pack 81 [],
  .alias 82 [81],
  .call 83 223 [some 7],
  .elem 84 7,
  .asRec 85 84 1,
  .alias 86 [77],
  .alias 88 [78],
  .elem 89 85,
  .asRec 90 89 0,
  .alias 87 [90],
  .asRec 91 87 0,
  .call 92 10 [some 91],
  .leaf 93 92,
  .shallow 94 [93],
  .elem 95 94,
  .elem 96 82,
  .write 82,
  .alias 97 [86, 77],
  .alias 98 [88, 78],
  .call 99 216 [some 7],
  .elem 100 7,
  .asRec 101 100 1,
  .alias 104 [97],
  .alias 105 [98],
  .elem 106 101,
  .asRec 107 106 0,
  .alias 102 [107],
  .asRec 108 102 0,
  .call 109 165 [some 108],
  .asRec 110 102 0,
  .elem 111 110,
  .asRec 112 111 1,
  .elem 113 112,
  .asRec 114 113 0,
  .alias 103 [114],
  .asRec 115 103 0,
  .call 116 10 [some 115],
  .leaf 117 116,
  .shallow 118 [117],
  .elem 119 118,
  .elem 120 82,
  .alias 121 [104, 97],
  .alias 122 [105, 98],
  .call 123 218 [some 7],
  .alias 124 [123],
  .elem 125 7,
  .asRec 126 125 1,
  .alias 127 [121],
  .alias 129 [122],
  .elem 130 126,
  .asRec 131 130 0,
  .alias 128 [131],
  .asRec 132 128 0,
  .call 133 10 [some 132],
  .leaf 134 133,
  .shallow 135 [134],
  .elem 136 135,
  .elem 137 82,
  .alias 138 [127, 121],
  .alias 139 [129, 122],
  .call 140 220 [some 7],
  .elem 141 7,
  .asRec 142 141 1,
  .alias 143 [138],
  .alias 145 [139],
  .elem 146 142,
  .asRec 147 146 0,
  .alias 144 [147],
  .asRec 148 144 0,
  .call 149 10 [some 148],
  .leaf 150 149,
  .shallow 151 [150],
  .elem 152 151,
  .elem 153 82,
  .alias 154 [143, 138],
  .alias 155 [145, 139],
  .call 156 213 [some 7],
  .elem 157 7,
  .asRec 158 157 1,
  .alias 160 [154],
  .alias 161 [155],
  .elem 162 158,
  .asRec 163 162 0,
  .alias 159 [163],
  .asRec 164 159 0,
  .call 165 10 [some 164],
  .leaf 166 165,
  .shallow 167 [166],
  .elem 168 167,
  .elem 169 82,
  .alias 170 [160, 154],
  .alias 171 [161, 155],
  .call 172 214 [some 7],
  .elem 173 7,
  .shallow 174 [173],
  .alias 178 [170],
  .alias 179 [171],
  .elem 180 174,
  .elem 181 180,
  .alias 177 [181],
  .elem 182 177,
  .alias 176 [182],
  .call 183 10 [some 176],
  .leaf 184 183,
  .shallow 185 [184],
  .elem 186 185,
  .elem 187 82,
  .alias 188 [178, 170],
  .alias 189 [179, 171],
  .call 190 222 [some 7],
  .elem 191 7,
  .asRec 192 191 1,
  .call 193 315 [some 192],
  .asRec 194 193 2,
  .alias 195 [194],
  .asRec 196 195 2,
  .elem 197 196,
  .alias 198 [197],
  .alias 199 [188],
  .alias 201 [189],
  .elem 202 198,
  .alias 200 [202],
  .elem 203 200,
  .call 204 10 [some 203],
  .leaf 205 204,
  .shallow 206 [205],
  .elem 207 206,
  .elem 208 82,
  .alias 209 [199, 188],
  .alias 210 [201, 189],
  .asRec 211 195 2,
  .elem 212 211,
  .alias 213 [212],
  .alias 214 [209],
  .alias 215 [200],
  .alias 216 [210],
  .elem 217 213,
  .alias 215 [217],
  .elem 218 215,
  .call 219 10 [some 218],
  .leaf 220 219,
  .shallow 221 [220],
  .elem 222 221,
  .elem 223 82,
  .alias 224 [214, 209],
  .alias 225 [215, 200],
  .alias 226 [216, 210],
  .asRec 227 195 2,
  .shallow 228 [227],
  .alias 229 [51],
  .alias 231 [224],
  .alias 232 [225],
  .alias 234 [226],
  .elem 235 228,
  .elem 236 235,
  .asRec 237 236 1,
  .alias 233 [237],
  .pack 238 [],
  .asRec 239 233 1,
  .elem 240 239,
  .asRec 241 240 0,
  .alias 232 [241],
  .asRec 242 232 0,
  .call 243 10 [none],
  .leaf 244 243,
  .shallow 245 [244],
  .elem 246 245,
  .elem 247 82,
  .alias 248 [229, 51],
  .alias 249 [231, 188],
  .alias 250 [234, 189],
  .elem 251 82,
  .call 252 217 [some 7],
  .elem 253 7,
  .asRec 254 253 1,
  .call 255 7 [some 50, some 254],
  .leaf 256 255,
  .alias 257 [256],
  .elem 258 7,
  .asRec 259 258 1,
  .call 260 7 [some 82, some 259],
  .leaf 261 260,
  .alias 262 [261],
  .elem 263 7,
  .asRec 264 263 1,
  .call 265 7 [some 50, some 264],
  .leaf 266 265,
  .alias 267 [266],
  .alias 268 [262, 82],
  .alias 269 [257, 267],
  .alias 270 [268, 82],
  .alias 271 [269, 50],
  .pack 272 [],
  .alias 273 [272],
  .shallow 274 [271],
  .alias 275 [249],
  .alias 276 [250],
  .elem 277 274,
  .elem 278 277,
  .alias 275 [278],
  .elem 279 277,
  .alias 276 [279],
  .elem 280 273,
  .write 273,
  .shallow 281 [270],
  .alias 282 [275],
  .alias 283 [276],
  .elem 284 281,
  .elem 285 284,
  .alias 282 [285],
  .elem 286 284,
  .alias 283 [286],
  .elem 287 273,
  .shallow 288 [273],
  .elem 289 288,
  .elem 291 289,
  .alias 292 [291],
  .pack 293 [292],
  .alias 294 [293],
  .leaf 295 294,
  .alias 4 [295]]

def table_6 : Pts := [
  { top := [.root 0], kids := [.inner 0], deep := [.inner 0] },
  { top := [.root 1], kids := [.inner 1], deep := [.inner 1] },
  { top := [.root 2], kids := [.inner 2], deep := [.inner 2] },
  { top := [.root 3], kids := [.inner 3], deep := [.inner 3] },
  { top := [.loc 293], kids := [], deep := [] },
  { top := [.loc 5], kids := [.loc 5], deep := [.loc 5] },
  { top := [.loc 5], kids := [.loc 5], deep := [.loc 5] },
  { top := [.loc 5, .root 0], kids := [.loc 5, .inner 0], deep := [.loc 5, .inner 0] },
  {},
  {},
  {},
  { top := [.loc 5, .inner 0], kids := [.loc 5, .inner 0], deep := [.loc 5, .inner 0] },
  { top := [.loc 5, .inner 0], kids := [.loc 5, .recd 0], deep := [.loc 5, .recd 0] },
  { top := [.loc 5, .inner 0], kids := [.loc 5, .recd 0], deep := [.loc 5, .recd 0] },
  { top := [.loc 5, .inner 0], kids := [.loc 5, .recd 0], deep := [.loc 5, .recd 0] },
  { top := [.loc 5, .inner 0], kids := [.loc 5, .inner 0], deep := [.loc 5, .inner 0] },
  { top := [.loc 5, .inner 0], kids := [.loc 5, .recd 0], deep := [.loc 5, .recd 0] },
  { top := [.loc 5, .inner 0], kids := [.loc 5, .inner 0], deep := [.loc 5, .inner 0] },
  { top := [.loc 5, .inner 0], kids := [.loc 5, .recd 0], deep := [.loc 5, .recd 0] },
  { top := [.loc 5, .recd 0], kids := [.loc 5, .recd 0], deep := [.loc 5, .recd 0] },
  { top := [.loc 5, .recd 0], kids := [.loc 5, .recd 0], deep := [.loc 5, .recd 0] },
  { top := [.loc 5, .recd 0], kids := [.loc 5, .recd 0], deep := [.loc 5, .recd 0] },
  { top := [.loc 5, .inner 0], kids := [.loc 5, .inner 0], deep := [.loc 5, .inner 0] },
  { top := [.loc 5, .inner 0], kids := [.loc 5, .recd 0], deep := [.loc 5, .recd 0] },
  { top := [.loc 5, .inner 0], kids := [.loc 5, .inner 0], deep := [.loc 5, .inner 0] },
  { top := [.loc 5, .inner 0], kids := [.loc 5, .recd 0], deep := [.loc 5, .recd 0] },
  { top := [.loc 5, .recd 0], kids := [.loc 5, .recd 0], deep := [.loc 5, .recd 0] },
  { top := [.loc 5, .recd 0], kids := [.loc 5, .recd 0], deep := [.loc 5, .recd 0] },
  { top := [.loc 5, .recd 0], kids := [.loc 5, .recd 0], deep := [.loc 5, .recd 0] },
  { top := [.loc 5, .recd 0], kids := [.loc 5, .recd 0], deep := [.loc 5, .recd 0] },
  { top := [.loc 5, .recd 0], kids := [.loc 5, .recd 0], deep := [.loc 5, .recd 0] },
  { top := [.loc 5, .recd 0], kids := [.loc 5, .recd 0], deep := [.loc 5, .recd 0] },
  { top := [.loc 5, .recd 0], kids := [.loc 5, .recd 0], deep := [.loc 5, .recd 0] },
  { top := [.loc 33], kids := [], deep := [] },
  { top := [.loc 33], kids := [], deep := [] },
  {},
  {},
  {},
  { top := [.loc 5, .recd 0], kids := [.loc 5, .recd 0], deep := [.loc 5, .recd 0] },
  { top := [.loc 5, .recd 0, .inner 0], kids := [.loc 5, .recd 0], deep := [.loc 5, .recd 0] },
  { top := [.loc 40], kids := [], deep := [] },
  {},
  { top := [.glob 12], kids := [.glob 12], deep := [.glob 12] },
  { top := [.glob 12], kids := [.glob 12], deep := [.glob 12] },
  {},
  {},
  { top := [.loc 5, .recd 0, .inner 0], kids := [.loc 5, .recd 0], deep := [.loc 5, .recd 0] },
  { top := [.loc 47], kids := [], deep := [] },
  { top := [.loc 48], kids := [], deep := [] },
  { top := [.loc 49], kids := [], deep := [] },
  { top := [.loc 49], kids := [], deep := [] },
  {},
  { top := [.glob 17], kids := [.glob 17], deep := [.glob 17] },
  { top := [.glob 17], kids := [.glob 17], deep := [.glob 17] },
  { top := [.glob 17], kids := [.glob 17], deep := [.glob 17] },
  { top := [.glob 17], kids := [.glob 17], deep := [.glob 17] },
  { top := [.glob 17], kids := [.glob 17], deep := [.glob 17] },
  {},
  { top := [.loc 58], kids := [.glob 17], deep := [.glob 17] },
  { top := [.glob 17], kids := [.glob 17], deep := [.glob 17] },
  { top := [.glob 17], kids := [.glob 17], deep := [.glob 17] },
  { top := [.glob 17], kids := [.glob 17], deep := [.glob 17] },
  { top := [.glob 17], kids := [.glob 17], deep := [.glob 17] },
  { top := [.glob 15], kids := [.glob 15], deep := [.glob 15] },
  { top := [.glob 15], kids := [.glob 15], deep := [.glob 15] },
  { top := [.loc 65], kids := [.glob 15], deep := [.glob 15] },
  { top := [.glob 17, .glob 15], kids := [.glob 17, .glob 15], deep := [.glob 17, .glob 15] },
  { top := [.glob 17, .glob 15], kids := [.glob 17, .glob 15], deep := [.glob 17, .glob 15] },
  { top := [.glob 15], kids := [.glob 15], deep := [.glob 15] },
  { top := [.glob 15], kids := [.glob 15], deep := [.glob 15] },
  { top := [.glob 15], kids := [.glob 15], deep := [.glob 15] },
  { top := [.glob 17, .glob 15], kids := [.glob 17, .glob 15], deep := [.glob 17, .glob 15] },
  { top := [.loc 72], kids := [], deep := [] },
  { top := [.loc 72], kids := [], deep := [] },
  { top := [.loc 72], kids := [], deep := [] },
  { top := [.loc 72], kids := [], deep := [] },
  { top := [.loc 76], kids := [], deep := [] },
  { top := [.glob 17, .glob 15], kids := [.glob 17, .glob 15], deep := [.glob 17, .glob 15] },
  { top := [.glob 17, .glob 15], kids := [.glob 17, .glob 15], deep := [.glob 17, .glob 15] },
  {},
  {},
  { top := [.loc 81], kids := [], deep := [] },
  { top := [.loc 81], kids := [], deep := [] },
  {},
  { top := [.loc 5, .inner 0], kids := [.loc 5, .inner 0], deep := [.loc 5, .inner 0] },
  { top := [.loc 5, .inner 0], kids := [.loc 5, .recd 0], deep := [.loc 5, .recd 0] },
  { top := [.glob 17, .glob 15], kids := [.glob 17, .glob 15], deep := [.glob 17, .glob 15] },
  { top := [.loc 5, .recd 0], kids := [.loc 5, .recd 0], deep := [.loc 5, .recd 0] },
  { top := [.glob 17, .glob 15], kids := [.glob 17, .glob 15], deep := [.glob 17, .glob 15] },
  { top := [.loc 5, .recd 0], kids := [.loc 5, .recd 0], deep := [.loc 5, .recd 0] },
  { top := [.loc 5, .recd 0], kids := [.loc 5, .recd 0], deep := [.loc 5, .recd 0] },
  { top := [.loc 5, .recd 0], kids := [.loc 5, .recd 0], deep := [.loc 5, .recd 0] },
  { top := [.loc 92], kids := [], deep := [] },
  { top := [.loc 92], kids := [], deep := [] },
  { top := [.loc 94], kids := [], deep := [] },
  {},
  {},
  { top := [.glob 17, .glob 15], kids := [.glob 17, .glob 15], deep := [.glob 17, .glob 15] },
  { top := [.glob 17, .glob 15], kids := [.glob 17, .glob 15], deep := [.glob 17, .glob 15] },
  {},
  { top := [.loc 5, .inner 0], kids := [.loc 5, .inner 0], deep := [.loc 5, .inner 0] },
  { top := [.loc 5, .inner 0], kids := [.loc 5, .recd 0], deep := [.loc 5, .recd 0] },
  { top := [.loc 5, .recd 0], kids := [.loc 5, .recd 0], deep := [.loc 5, .recd 0] },
  { top := [.loc 5, .recd 0], kids := [.loc 5, .recd 0], deep := [.loc 5, .recd 0] },
  { top := [.glob 17, .glob 15], kids := [.glob 17, .glob 15], deep := [.glob 17, .glob 15] },
  { top := [.glob 17, .glob 15], kids := [.glob 17, .glob 15], deep := [.glob 17, .glob 15] },
  { top := [.loc 5, .recd 0], kids := [.loc 5, .recd 0], deep := [.loc 5, .recd 0] },
  { top := [.loc 5, .recd 0], kids := [.loc 5, .recd 0], deep := [.loc 5, .recd 0] },
  { top := [.loc 5, .recd 0], kids := [.loc 5, .recd 0], deep := [.loc 5, .recd 0] },
  {},
  { top := [.loc 5, .recd 0], kids := [.loc 5, .recd 0], deep := [.loc 5, .recd 0] },
  { top := [.loc 5, .recd 0], kids := [.loc 5, .recd 0], deep := [.loc 5, .recd 0] },
  { top := [.loc 5, .recd 0], kids := [.loc 5, .recd 0], deep := [.loc 5, .recd 0] },
  { top := [.loc 5, .recd 0], kids := [.loc 5, .recd 0], deep := [.loc 5, .recd 0] },
  { top := [.loc 5, .recd 0], kids := [.loc 5, .recd 0], deep := [.loc 5, .recd 0] },
  { top := [.loc 5, .recd 0], kids := [.loc 5, .recd 0], deep := [.loc 5, .recd 0] },
  { top := [.loc 116], kids := [], deep := [] },
  { top := [.loc 116], kids := [], deep := [] },
  { top := [.loc 118], kids := [], deep := [] },
  {},
  {},
  { top := [.glob 17, .glob 15], kids := [.glob 17, .glob 15], deep := [.glob 17, .glob 15] },
  { top := [.glob 17, .glob 15], kids := [.glob 17, .glob 15], deep := [.glob 17, .glob 15] },
  {},
  {},
  { top := [.loc 5, .inner 0], kids := [.loc 5, .inner 0], deep := [.loc 5, .inner 0] },
  { top := [.loc 5, .inner 0], kids := [.loc 5, .recd 0], deep := [.loc 5, .recd 0] },
  { top := [.glob 17, .glob 15], kids := [.glob 17, .glob 15], deep := [.glob 17, .glob 15] },
  { top := [.loc 5, .recd 0], kids := [.loc 5, .recd 0], deep := [.loc 5, .recd 0] },
  { top := [.glob 17, .glob 15], kids := [.glob 17, .glob 15], deep := [.glob 17, .glob 15] },
  { top := [.loc 5, .recd 0], kids := [.loc 5, .recd 0], deep := [.loc 5, .recd 0] },
  { top := [.loc 5, .recd 0], kids := [.loc 5, .recd 0], deep := [.loc 5, .recd 0] },
  { top := [.loc 5, .recd 0], kids := [.loc 5, .recd 0], deep := [.loc 5, .recd 0] },
  { top := [.loc 133], kids := [], deep := [] },
  { top := [.loc 133], kids := [], deep := [] },
  { top := [.loc 135], kids := [], deep := [] },
  {},
  {},
  { top := [.glob 17, .glob 15], kids := [.glob 17, .glob 15], deep := [.glob 17, .glob 15] },
  { top := [.glob 17, .glob 15], kids := [.glob 17, .glob 15], deep := [.glob 17, .glob 15] },
  {},
  { top := [.loc 5, .inner 0], kids := [.loc 5, .inner 0], deep := [.loc 5, .inner 0] },
  { top := [.loc 5, .inner 0], kids := [.loc 5, .recd 0], deep := [.loc 5, .recd 0] },
  { top := [.glob 17, .glob 15], kids := [.glob 17, .glob 15], deep := [.glob 17, .glob 15] },
  { top := [.loc 5, .recd 0], kids := [.loc 5, .recd 0], deep := [.loc 5, .recd 0] },
  { top := [.glob 17, .glob 15], kids := [.glob 17, .glob 15], deep := [.glob 17, .glob 15] },
  { top := [.loc 5, .recd 0], kids := [.loc 5, .recd 0], deep := [.loc 5, .recd 0] },
  { top := [.loc 5, .recd 0], kids := [.loc 5, .recd 0], deep := [.loc 5, .recd 0] },
  { top := [.loc 5, .recd 0], kids := [.loc 5, .recd 0], deep := [.loc 5, .recd 0] },
  { top := [.loc 149], kids := [], deep := [] },
  { top := [.loc 149], kids := [], deep := [] },
  { top := [.loc 151], kids := [], deep := [] },
  {},
  {},
  { top := [.glob 17, .glob 15], kids := [.glob 17, .glob 15], deep := [.glob 17, .glob 15] },
  { top := [.glob 17, .glob 15], kids := [.glob 17, .glob 15], deep := [.glob 17, .glob 15] },
  {},
  { top := [.loc 5, .inner 0], kids := [.loc 5, .inner 0], deep := [.loc 5, .inner 0] },
  { top := [.loc 5, .inner 0], kids := [.loc 5, .recd 0], deep := [.loc 5, .recd 0] },
  { top := [.loc 5, .recd 0], kids := [.loc 5, .recd 0], deep := [.loc 5, .recd 0] },
  { top := [.glob 17, .glob 15], kids := [.glob 17, .glob 15], deep := [.glob 17, .glob 15] },
  { top := [.glob 17, .glob 15], kids := [.glob 17, .glob 15], deep := [.glob 17, .glob 15] },
  { top := [.loc 5, .recd 0], kids := [.loc 5, .recd 0], deep := [.loc 5, .recd 0] },
  { top := [.loc 5, .recd 0], kids := [.loc 5, .recd 0], deep := [.loc 5, .recd 0] },
  { top := [.loc 5, .recd 0], kids := [.loc 5, .recd 0], deep := [.loc 5, .recd 0] },
  { top := [.loc 165], kids := [], deep := [] },
  { top := [.loc 165], kids := [], deep := [] },
  { top := [.loc 167], kids := [], deep := [] },
  {},
  {},
  { top := [.glob 17, .glob 15], kids := [.glob 17, .glob 15], deep := [.glob 17, .glob 15] },
  { top := [.glob 17, .glob 15], kids := [.glob 17, .glob 15], deep := [.glob 17, .glob 15] },
  {},
  { top := [.loc 5, .inner 0], kids := [.loc 5, .inner 0], deep := [.loc 5, .inner 0] },
  { top := [.loc 174], kids := [.loc 5, .inner 0], deep := [.loc 5, .inner 0] },
  {},
  { top := [.loc 5, .inner 0], kids := [.loc 5, .inner 0], deep := [.loc 5, .inner 0] },
  { top := [.loc 5, .inner 0], kids := [.loc 5, .inner 0], deep := [.loc 5, .inner 0] },
  { top := [.glob 17, .glob 15], kids := [.glob 17, .glob 15], deep := [.glob 17, .glob 15] },
  { top := [.glob 17, .glob 15], kids := [.glob 17, .glob 15], deep := [.glob 17, .glob 15] },
  { top := [.loc 5, .inner 0], kids := [.loc 5, .inner 0], deep := [.loc 5, .inner 0] },
  { top := [.loc 5, .inner 0], kids := [.loc 5, .inner 0], deep := [.loc 5, .inner 0] },
  { top := [.loc 5, .inner 0], kids := [.loc 5, .inner 0], deep := [.loc 5, .inner 0] },
  { top := [.loc 183], kids := [], deep := [] },
  { top := [.loc 183], kids := [], deep := [] },
  { top := [.loc 185], kids := [], deep := [] },
  {},
  {},
  { top := [.glob 17, .glob 15], kids := [.glob 17, .glob 15], deep := [.glob 17, .glob 15] },
  { top := [.glob 17, .glob 15], kids := [.glob 17, .glob 15], deep := [.glob 17, .glob 15] },
  {},
  { top := [.loc 5, .inner 0], kids := [.loc 5, .inner 0], deep := [.loc 5, .inner 0] },
  { top := [.loc 5, .inner 0], kids := [.loc 5, .recd 0], deep := [.loc 5, .recd 0] },
  { top := [.loc 193], kids := [.loc 193], deep := [.loc 193] },
  { top := [.loc 193], kids := [.loc 193], deep := [.loc 193] },
  { top := [.loc 193], kids := [.loc 193], deep := [.loc 193] },
  { top := [.loc 193], kids := [.loc 193], deep := [.loc 193] },
  { top := [.loc 193], kids := [.loc 193], deep := [.loc 193] },
  { top := [.loc 193], kids := [.loc 193], deep := [.loc 193] },
  { top := [.glob 17, .glob 15], kids := [.glob 17, .glob 15], deep := [.glob 17, .glob 15] },
  { top := [.loc 193], kids := [.loc 193], deep := [.loc 193] },
  { top := [.glob 17, .glob 15], kids := [.glob 17, .glob 15], deep := [.glob 17, .glob 15] },
  { top := [.loc 193], kids := [.loc 193], deep := [.loc 193] },
  { top := [.loc 193], kids := [.loc 193], deep := [.loc 193] },
  { top := [.loc 204], kids := [], deep := [] },
  { top := [.loc 204], kids := [], deep := [] },
  { top := [.loc 206], kids := [], deep := [] },
  {},
  {},
  { top := [.glob 17, .glob 15], kids := [.glob 17, .glob 15], deep := [.glob 17, .glob 15] },
  { top := [.glob 17, .glob 15], kids := [.glob 17, .glob 15], deep := [.glob 17, .glob 15] },
  { top := [.loc 193], kids := [.loc 193], deep := [.loc 193] },
  { top := [.loc 193], kids := [.loc 193], deep := [.loc 193] },
  { top := [.loc 193], kids := [.loc 193], deep := [.loc 193] },
  { top := [.glob 17, .glob 15], kids := [.glob 17, .glob 15], deep := [.glob 17, .glob 15] },
  { top := [.loc 193], kids := [.loc 193], deep := [.loc 193] },
  { top := [.glob 17, .glob 15], kids := [.glob 17, .glob 15], deep := [.glob 17, .glob 15] },
  { top := [.loc 193], kids := [.loc 193], deep := [.loc 193] },
  { top := [.loc 193], kids := [.loc 193], deep := [.loc 193] },
  { top := [.loc 219], kids := [], deep := [] },
  { top := [.loc 219], kids := [], deep := [] },
  { top := [.loc 221], kids := [], deep := [] },
  {},
  {},
  { top := [.glob 17, .glob 15], kids := [.glob 17, .glob 15], deep := [.glob 17, .glob 15] },
  { top := [.loc 193], kids := [.loc 193], deep := [.loc 193] },
  { top := [.glob 17, .glob 15], kids := [.glob 17, .glob 15], deep := [.glob 17, .glob 15] },
  { top := [.loc 193], kids := [.loc 193], deep := [.loc 193] },
  { top := [.loc 228], kids := [.loc 193], deep := [.loc 193] },
  {},
  {},
  { top := [.glob 17, .glob 15], kids := [.glob 17, .glob 15], deep := [.glob 17, .glob 15] },
  { top := [.loc 193], kids := [.loc 193], deep := [.loc 193] },
  { top := [.loc 193], kids := [.loc 193], deep := [.loc 193] },
  { top := [.glob 17, .glob 15], kids := [.glob 17, .glob 15], deep := [.glob 17, .glob 15] },
  { top := [.loc 193], kids := [.loc 193], deep := [.loc 193] },
  { top := [.loc 193], kids := [.loc 193], deep := [.loc 193] },
  { top := [.loc 193], kids := [.loc 193], deep := [.loc 193] },
  { top := [.loc 238], kids := [], deep := [] },
  { top := [.loc 193], kids := [.loc 193], deep := [.loc 193] },
  { top := [.loc 193], kids := [.loc 193], deep := [.loc 193] },
  { top := [.loc 193], kids := [.loc 193], deep := [.loc 193] },
  { top := [.loc 193], kids := [.loc 193], deep := [.loc 193] },
  { top := [.loc 243], kids := [], deep := [] },
  { top := [.loc 243], kids := [], deep := [] },
  { top := [.loc 245], kids := [], deep := [] },
  {},
  {},
  {},
  { top := [.glob 17, .glob 15], kids := [.glob 17, .glob 15], deep := [.glob 17, .glob 15] },
  { top := [.glob 17, .glob 15], kids := [.glob 17, .glob 15], deep := [.glob 17, .glob 15] },
  {},
  {},
  { top := [.loc 5, .inner 0], kids := [.loc 5, .inner 0], deep := [.loc 5, .inner 0] },
  { top := [.loc 5, .inner 0], kids := [.loc 5, .recd 0], deep := [.loc 5, .recd 0] },
  { top := [.loc 255], kids := [], deep := [] },
  { top := [.loc 255], kids := [], deep := [] },
  { top := [.loc 255], kids := [], deep := [] },
  { top := [.loc 5, .inner 0], kids := [.loc 5, .inner 0], deep := [.loc 5, .inner 0] },
  { top := [.loc 5, .inner 0], kids := [.loc 5, .recd 0], deep := [.loc 5, .recd 0] },
  { top := [.loc 260], kids := [], deep := [] },
  { top := [.loc 260], kids := [], deep := [] },
  { top := [.loc 260], kids := [], deep := [] },
  { top := [.loc 5, .inner 0], kids := [.loc 5, .inner 0], deep := [.loc 5, .inner 0] },
  { top := [.loc 5, .inner 0], kids := [.loc 5, .recd 0], deep := [.loc 5, .recd 0] },
  { top := [.loc 265], kids := [], deep := [] },
  { top := [.loc 265], kids := [], deep := [] },
  { top := [.loc 265], kids := [], deep := [] },
  { top := [.loc 260, .loc 81], kids := [], deep := [] },
  { top := [.loc 255, .loc 265], kids := [], deep := [] },
  { top := [.loc 260, .loc 81], kids := [], deep := [] },
  { top := [.loc 255, .loc 265, .loc 49], kids := [], deep := [] },
  { top := [.loc 272], kids := [], deep := [] },
  { top := [.loc 272], kids := [], deep := [] },
  { top := [.loc 274], kids := [], deep := [] },
  { top := [.glob 17, .glob 15], kids := [.glob 17, .glob 15], deep := [.glob 17, .glob 15] },
  { top := [.glob 17, .glob 15], kids := [.glob 17, .glob 15], deep := [.glob 17, .glob 15] },
  {},
  {},
  {},
  {},
  { top := [.loc 281], kids := [], deep := [] },
  { top := [.glob 17, .glob 15], kids := [.glob 17, .glob 15], deep := [.glob 17, .glob 15] },
  { top := [.glob 17, .glob 15], kids := [.glob 17, .glob 15], deep := [.glob 17, .glob 15] },
  {},
  {},
  {},
  {},
  { top := [.loc 288], kids := [], deep := [] },
  {},
  {},
  {},
  {},
  { top := [.loc 293], kids := [], deep := [] },
  { top := [.loc 293], kids := [], deep := [] },
  { top := [.loc 293], kids := [], deep := [] }]

/-- peptacular.chem.chem_calc.apply_isotope_mods_to_composition -/
def prog_7 : List Stmt := [
  .param 0 0,
  .param 1 1,
  .leaf 3 0,
  .leaf 4 0,
  .call 5 16 [some 4, none],
  .leaf 6 5,
  .alias 7 [6],
  .leaf 8 0,
  .shallow 9 [8],
  .leaf 10 9,
  .alias 11 [10],
  .alias 12 [7, 11],
  .leaf 13 12,
  .alias 2 [13],
  .call 14 314 [some 1],
  .leaf 15 14,
  .alias 16 [15],
  .leaf 17 16,
  .shallow 18 [17],
  .elem 21 18,
  .leaf 22 12,
  .leaf 23 12,
  .leaf 24 12,
  .leaf 25 12,
  .write 25,
  .leaf 26 12,
  .leaf 27 12,
  .write 27,
  .leaf 28 12,
  .write 28,
  .leaf 29 12,
  .alias 2 [29]]

def table_7 : Pts := [
  { top := [.root 0], kids := [.inner 0], deep := [.inner 0] },
  { top := [.root 1], kids := [.inner 1], deep := [.inner 1] },
  { top := [.loc 5, .loc 9], kids := [], deep := [] },
  { top := [.root 0], kids := [], deep := [] },
  { top := [.root 0], kids := [], deep := [] },
  { top := [.loc 5], kids := [], deep := [] },
  { top := [.loc 5], kids := [], deep := [] },
  { top := [.loc 5], kids := [], deep := [] },
  { top := [.root 0], kids := [], deep := [] },
  { top := [.loc 9], kids := [], deep := [] },
  { top := [.loc 9], kids := [], deep := [] },
  { top := [.loc 9], kids := [], deep := [] },
  { top := [.loc 5, .loc 9], kids := [], deep := [] },
  { top := [.loc 5, .loc 9], kids := [], deep := [] },
  { top := [.loc 14], kids := [.recd 1], deep := [.recd 1] },
  { top := [.loc 14], kids := [], deep := [] },
  { top := [.loc 14], kids := [], deep := [] },
  { top := [.loc 14], kids := [], deep := [] },
  { top := [.loc 18], kids := [], deep := [] },
  {},
  {},
  {},
  { top := [.loc 5, .loc 9], kids := [], deep := [] },
  { top := [.loc 5, .loc 9], kids := [], deep := [] },
  { top := [.loc 5, .loc 9], kids := [], deep := [] },
  { top := [.loc 5, .loc 9], kids := [], deep := [] },
  { top := [.loc 5, .loc 9], kids := [], deep := [] },
  { top := [.loc 5, .loc 9], kids := [], deep := [] },
  { top := [.loc 5, .loc 9], kids := [], deep := [] },
  { top := [.loc 5, .loc 9], kids := [], deep := [] }]

/-- peptacular.chem.chem_calc.estimate_comp -/
def prog_8 : List Stmt := [
  .param 0 0,
  .param 1 1,
  .global 3 28,
  .shallow 4 [3],
  .elem 5 4,
  .elem 6 5,
  .alias 7 [6],
  .elem 8 5,
  .alias 9 [8],
  .pack 10 [],
  .alias 11 [10],
  .call 12 7 [some 11, some 1],
  .leaf 13 12,
  .alias 14 [13],
  .alias 15 [14, 11],
  .leaf 16 15,
  .alias 2 [16]]

def table_8 : Pts := [
  { top := [.root 0], kids := [.inner 0], deep := [.inner 0] },
  { top := [.root 1], kids := [.inner 1], deep := [.inner 1] },
  { top := [.loc 12, .loc 10], kids := [], deep := [] },
  { top := [.glob 28], kids := [.glob 28], deep := [.glob 28] },
  { top := [.loc 4], kids := [.glob 28], deep := [.glob 28] },
  { top := [.glob 28], kids := [.glob 28], deep := [.glob 28] },
  { top := [.glob 28], kids := [.glob 28], deep := [.glob 28] },
  { top := [.glob 28], kids := [.glob 28], deep := [.glob 28] },
  { top := [.glob 28], kids := [.glob 28], deep := [.glob 28] },
  { top := [.glob 28], kids := [.glob 28], deep := [.glob 28] },
  { top := [.loc 10], kids := [], deep := [] },
  { top := [.loc 10], kids := [], deep := [] },
  { top := [.loc 12], kids := [], deep := [] },
  { top := [.loc 12], kids := [], deep := [] },
  { top := [.loc 12], kids := [], deep := [] },
  { top := [.loc 12, .loc 10], kids := [], deep := [] },
  { top := [.loc 12, .loc 10], kids := [], deep := [] }]

/-- peptacular.chem.chem_calc.glycan_to_chem -/
def prog_9 : List Stmt := [
  .param 0 0,
  .leaf 2 0,
  .call 3 55 [some 2],
  .leaf 4 3,
  .call 5 17 [some 4, none, none, none]]

def table_9 : Pts := [
  { top := [.root 0], kids := [.inner 0], deep := [.inner 0] },
  {},
  { top := [.root 0], kids := [], deep := [] },
  { top := [.loc 3], kids := [], deep := [] },
  { top := [.loc 3], kids := [], deep := [] },
  {}]

/-- peptacular.chem.chem_calc.mod_comp -/
def prog_10 : List Stmt := [
  .param 0 0,
  .asRec 2 0 0,
  .call 3 10 [none],
  .leaf 4 3,
  .shallow 5 [4],
  .elem 6 5,
  .pack 9 [],
  .leaf 10 9,
  .alias 1 [10],
  .pack 11 [],
  .call 12 266 [some 0],
  .alias 13 [12],
  .elem 15 13,
  .alias 14 [15],
  .call 16 3 [some 14],
  .leaf 17 16,
  .alias 14 [17],
  .leaf 18 14,
  .leaf 19 14,
  .alias 1 [19]]

def table_10 : Pts := [
  { top := [.root 0], kids := [.inner 0], deep := [.inner 0] },
  { top := [.loc 9, .loc 12, .loc 16], kids := [], deep := [] },
  { top := [.recTop 0], kids := [.recd 0], deep := [.recd 0] },
  { top := [.loc 3], kids := [], deep := [] },
  { top := [.loc 3], kids := [], deep := [] },
  { top := [.loc 5], kids := [], deep := [] },
  {},
  {},
  {},
  { top := [.loc 9], kids := [], deep := [] },
  { top := [.loc 9], kids := [], deep := [] },
  { top := [.loc 11], kids := [], deep := [] },
  { top := [.loc 12], kids := [.loc 12], deep := [.loc 12] },
  { top := [.loc 12], kids := [.loc 12], deep := [.loc 12] },
  { top := [.loc 12, .loc 16], kids := [.loc 12], deep := [.loc 12] },
  { top := [.loc 12], kids := [.loc 12], deep := [.loc 12] },
  { top := [.loc 16], kids := [], deep := [] },
  { top := [.loc 16], kids := [], deep := [] },
  { top := [.loc 12, .loc 16], kids := [], deep := [] },
  { top := [.loc 12, .loc 16], kids := [], deep := [] }]

def fns_0 : List (Nat × FnInfo) := [
  (0, { prog := prog_0, nparams := 1, ret := 1, fuel := 2, table := table_0 }),
  (1, { prog := prog_1, nparams := 1, ret := 1, fuel := 2, table := table_1 }),
  (2, { prog := prog_2, nparams := 1, ret := 1, fuel := 2, table := table_2 }),
  (3, { prog := prog_3, nparams := 1, ret := 1, fuel := 2, table := table_3 }),
  (4, { prog := prog_4, nparams := 1, ret := 1, fuel := 2, table := table_4 }),
  (5, { prog := prog_5, nparams := 1, ret := 1, fuel := 2, table := table_5 }),
  (6, { prog := prog_6, nparams := 4, ret := 4, fuel := 2, table := table_6 }),
  (7, { prog := prog_7, nparams := 2, ret := 2, fuel := 2, table := table_7 }),
  (8, { prog := prog_8, nparams := 2, ret := 2, fuel := 2, table := table_8 }),
  (9, { prog := prog_9, nparams := 1, ret := 1, fuel := 2, table := table_9 }),
  (10, { prog := prog_10, nparams := 1, ret := 1, fuel := 2, table := table_10 })]

def fns : List (Nat × FnInfo) := fns_0

theorem ok : fns.all (fun p => entryOK Gen.summaries Gen.verdicts p.1 p.2) = true :=
  all_entryOK_of_fast 8 (by decide +kernel)

end Gen.M_chem_chem_calc
