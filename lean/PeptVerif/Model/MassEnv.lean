import PeptVerif.Model.CompCalc
import PeptVerif.Model.StaticMods
/-!
The `parse_static_mods` parameter of the mass / composition models instantiated with the rule parser of
`Model/StaticMods.lean` (`Static.parseStaticMods`): the static-rule theorems of C02 / C03 then hold for the modelled rule
parser, not for an arbitrary one.  Mathlib-free.
-/
namespace Pept

def staticErr : Static.Err → Err
  | .valueError => .valueError
  | .typeError => .typeError
  | .keyError => .keyError
  | .unmodelled => .named "unmodelled".toList

/-- `parse_static_mods(annotation.static_mods)` by the concrete model -/
def parseStaticConcrete (st : List Mod) : Except Err (List (List Char × List Mod)) :=
  match Static.parseStaticMods (some st) with
  | .ok m => .ok m
  | .error e => .error (staticErr e)

/-- an environment whose rule parser is the modelled `parse_static_mods`; only the per-value resolution stays a parameter -/
def Env.concrete (res : ModVal → Res) : Env := ⟨res, parseStaticConcrete⟩

theorem Env.concrete_parse (res : ModVal → Res) (st : List Mod) (map : List (List Char × List Mod))
    (h : Static.parseStaticMods (some st) = .ok map) : (Env.concrete res).parseStatic st = .ok map := by
  show parseStaticConcrete st = _
  unfold parseStaticConcrete
  rw [h]

end Pept
