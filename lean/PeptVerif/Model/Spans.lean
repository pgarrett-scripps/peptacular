/-!
Model of `/repo/src/peptacular/spans.py` (span builders used by `digest`).

Every function follows the Python branch for branch. Python integers that are
subtracted are `Int`; `None` arguments are `Option Int`. Generators become lists
(in generation order). Mathlib-free so the driver can be compiled.
-/
namespace Spans

abbrev Span := Int × Int × Int

/-- Python `range(a, b)` -/
def range (a b : Int) : List Int := (List.range (b - a).toNat).map (fun (k : Nat) => a + (k : Int))

/-- Python `range(a, b, -1)` -/
def rangeDown (a b : Int) : List Int := (List.range (a - b).toNat).map (fun (k : Nat) => a - (k : Int))

/-- `build_non_enzymatic_spans(span, min_len, max_len)` -/
def buildNonEnzymatic (span : Span) (minLen maxLen : Option Int) : List Span :=
  let minLen := minLen.getD 1
  let maxSpan := span.2.1 - span.1 - 1
  let maxLen := min (maxLen.getD maxSpan) maxSpan
  let start := span.1
  let stop := span.2.1
  (range start stop).flatMap fun i =>
    (range (i + minLen) (min (stop + 1) (i + maxLen + 1))).map fun j => (i, j, 0)

/-- `build_left_semi_spans(span, min_len, max_len)` -/
def buildLeftSemi (span : Span) (minLen maxLen : Option Int) : List Span :=
  let minLen := minLen.getD 1
  let maxLen := maxLen.getD (span.2.1 - span.1)
  let start := span.1
  let stop := span.2.1
  let value := span.2.2
  let newEnd := min (start + maxLen) (stop - 1)
  ((rangeDown newEnd (start - 1)).filter fun i => i - start ≥ minLen).map fun i => (start, i, value)

/-- `build_right_semi_spans(span, min_len, max_len)` -/
def buildRightSemi (span : Span) (minLen maxLen : Option Int) : List Span :=
  let minLen := minLen.getD 1
  let maxLen := maxLen.getD (span.2.1 - span.1)
  let start := span.1
  let stop := span.2.1
  let value := span.2.2
  let newStart := max (start + 1) (stop - maxLen)
  ((range newStart (stop + 1)).filter fun i => stop - i ≥ minLen).map fun i => (i, stop, value)

/-- Python `l[a:b]` for non-negative `a`, `b` (used by the mechanically translated definitions) -/
def pySlice {α} (l : List α) (a b : Int) : List α := (l.take b.toNat).drop a.toNat

/-- insertion into a strictly increasing list, dropping duplicates (`sorted(set(..))`) -/
def insertSorted (x : Int) : List Int → List Int
  | [] => [x]
  | y :: ys => if x < y then x :: y :: ys else if x = y then y :: ys else y :: insertSorted x ys

/-- `sorted(set(l))` -/
def sortDedup (l : List Int) : List Int := l.foldr insertSorted []

/-- the double loop of `build_enzymatic_spans` over the sorted site list -/
def enzGo (mc : Nat) (lo hi : Int) : List Int → List Span
  | [] => []
  | s :: rest =>
    (((rest.take (mc+1)).zipIdx).filterMap fun p =>
       if lo ≤ p.1 - s ∧ p.1 - s ≤ hi then some (s, p.1, (p.2 : Int)) else none) ++ enzGo mc lo hi rest

/-- `build_enzymatic_spans(max_index, enzyme_sites, missed_cleavages, min_len, max_len)`.
A negative `missed_cleavages` makes the Python slice `[i+1 : i+mc+2]` empty (or, below −1, wrap
around); the model takes `mc : Nat` and the driver rejects negative values. -/
def buildEnzymatic (n : Int) (sites : List Int) (mc : Nat) (minLen maxLen : Option Int) : List Span :=
  enzGo mc (minLen.getD 1) (maxLen.getD n) (sortDedup (0 :: n :: sites))

/-- stable insertion sort by a Boolean `le` -/
def insertBy {α} (le : α → α → Bool) (x : α) : List α → List α
  | [] => [x]
  | y :: ys => if le x y then x :: y :: ys else y :: insertBy le x ys

def sortBy {α} (le : α → α → Bool) (l : List α) : List α := l.foldr (insertBy le) []

/-- `itertools.groupby` on consecutive equal keys -/
def groupByKey {α} (key : α → Int) : List α → List (List α)
  | [] => []
  | x :: xs =>
    match groupByKey key xs with
    | [] => [[x]]
    | g :: gs =>
      match g with
      | [] => [x] :: gs
      | y :: _ => if key x = key y then (x :: g) :: gs else [x] :: g :: gs

def spanLen (s : Span) : Int := s.2.1 - s.1

/-- `new_max_len = span_len - 1; if max_len is not None: new_max_len = min(max_len, new_max_len)` -/
def newMaxLen (maxLen : Option Int) (len : Int) : Int :=
  match maxLen with
  | none => len - 1
  | some m => min m (len - 1)

/-- the per-group loop of `_grouped_left_semi_span_builder` (`strictBreak` chooses `<` vs `<=`) -/
def groupLoop (build : Span → Option Int → Option Int → List Span) (strictBreak : Bool)
    (minLen : Int) (maxLen : Option Int) : List Span → List Span
  | [] => []
  | span :: rest =>
    let len := spanLen span
    if (if strictBreak then len < minLen else len ≤ minLen) then []
    else
      let newMax := newMaxLen maxLen len
      match rest with
      | [] => build span (some minLen) (some newMax)
      | next :: _ =>
        let newMin := max minLen (spanLen next + 1)
        build span (some newMin) (some newMax) ++ groupLoop build strictBreak minLen maxLen rest

/-- `_grouped_left_semi_span_builder` -/
def groupedLeft (spans : List Span) (minLen maxLen : Option Int) : List Span :=
  let minLen := minLen.getD 1
  let sorted := sortBy (fun (a b : Span) => a.1 < b.1 || (a.1 == b.1 && -a.2.2 ≤ -b.2.2)) spans
  (groupByKey (fun s : Span => s.1) sorted).flatMap (groupLoop buildLeftSemi false minLen maxLen)

/-- `_grouped_right_semi_span_builder` -/
def groupedRight (spans : List Span) (minLen maxLen : Option Int) : List Span :=
  let minLen := minLen.getD 1
  let sorted := sortBy (fun (a b : Span) => a.2.1 < b.2.1 || (a.2.1 == b.2.1 && -a.2.2 ≤ -b.2.2)) spans
  (groupByKey (fun s : Span => s.2.1) sorted).flatMap (groupLoop buildRightSemi true minLen maxLen)

/-- `build_semi_spans` -/
def buildSemi (spans : List Span) (minLen maxLen : Option Int) : List Span :=
  groupedLeft spans minLen maxLen ++ groupedRight spans minLen maxLen

/-- `build_spans(max_index, enzyme_sites, missed_cleavages, min_len, max_len, semi)` -/
def buildSpans (n : Int) (sites : List Int) (mc : Nat) (minLen maxLen : Option Int) (semi : Bool) : List Span :=
  let minL := minLen.getD 1
  let maxL := maxLen.getD n
  let sites' := sortDedup sites
  if (sites'.length : Int) = n + 1 then
    buildNonEnzymatic (0, n, 0) (some minL) (some maxL)
  else
    let spans := buildEnzymatic n sites' mc (some minL) (if semi then none else some maxL)
    if semi then
      spans.filter (fun s => maxL ≥ spanLen s && spanLen s ≥ minL) ++ buildSemi spans (some minL) (some maxL)
    else spans

/-! ### `digest` at the level of spans (sites are an input; the regex is outside the model) -/

def spanLt (a b : Span) : Bool :=
  a.1 < b.1 || (a.1 == b.1 && (a.2.1 < b.2.1 || (a.2.1 == b.2.1 && a.2.2 < b.2.2)))

def insertSpan (x : Span) : List Span → List Span
  | [] => [x]
  | y :: ys => if spanLt x y then x :: y :: ys else if x == y then y :: ys else y :: insertSpan x ys

/-- `sorted(set(spans))` -/
def sortDedupSpans (l : List Span) : List Span := l.foldr insertSpan []

/-- span list of `digest(..., sort_output=True)` given the concatenated site lists of its rules -/
def digestSpans (n : Int) (sites : List Int) (mc : Nat) (minLen maxLen : Option Int) (semi complete : Bool) :
    List Span :=
  sortDedupSpans ((if complete then [] else [(0, n, 0)]) ++ buildSpans n sites mc minLen maxLen semi)

/-! ### set specification (what property C06 demands) -/

/-- number of cleavage points of `S⁺ = S ∪ {0,n}` strictly inside `(s,e)` -/
def inside (l : List Int) (s e : Int) : Nat := (l.filter (fun x => decide (s < x) && decide (x < e))).length

def showSpan (s : Span) : String := s!"{s.1}:{s.2.1}:{s.2.2}"
def showSpans (l : List Span) : String := ";".intercalate (l.map showSpan)

end Spans
