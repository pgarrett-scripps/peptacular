import PeptVerif.Model.ModText
/-!
# The three-phase ProForma parser (`_ProFormaParser`, proforma_parser.py:2040-2418)

The cursor is the remaining input (`List Char`); `self.position >= self.length` is `s = []`,
`self._current()` is the head. Every loop is a well-founded recursion on the length of the remaining input:
the termination proofs inside the definitions are the "never hangs" half of C09 for the inner loops. The outer
chain loop (`_ProFormaParser.parse`) carries an explicit progress test; `Err.hang` is returned when an iteration
consumed nothing, and `Props/C09.parseChains_never_hangs` proves that this never happens.

`fixed : Bool` selects the code before (`false`) / after (`true`) the two `fix:` commits of C09
(IndexError on a bracket group that ends the input, TypeError on a numeric global modification), i.e. the current
tree with commit 4c2ce90 reverted; everything else (including the later fix 0b351bb) is identical. The current `/repo`
is `fixed = true`.
-/
namespace Pept

/-- `c in AMINO_ACIDS` (the 26 upper-case letters) -/
def isAA (c : Char) : Bool := 65 ≤ c.toNat && c.toNat ≤ 90

/-! ### `_parse_modification` -/

/-- bracket-depth scan: depth starts at 1 after the opening bracket; the loop runs until depth 0;
the body excludes the closing bracket; `none` = "Unmatched" (ProFormaFormatError) -/
def scan (o c : Char) : Nat → List Char → Option (List Char × List Char)
  | _, [] => none
  | d, x :: xs =>
    if x = o then (scan o c (d+1) xs).map (fun r => (x :: r.1, r.2))
    else if x = c then
      if d = 1 then some ([], xs)
      else (scan o c (d-1) xs).map (fun r => (x :: r.1, r.2))
    else (scan o c d xs).map (fun r => (x :: r.1, r.2))

theorem scan_length (o c : Char) (d : Nat) (s b r : List Char) (h : scan o c d s = some (b, r)) :
    r.length < s.length := by
  induction s generalizing d b r with
  | nil => simp [scan] at h
  | cons x xs ih =>
    -- every recursive branch returns the rest of the recursive call
    have hrec : ∀ d', (scan o c d' xs).map (fun p => (x :: p.1, p.2)) = some (b, r) → r.length < (x :: xs).length := by
      intro d' h'
      obtain ⟨p, hp, he⟩ := Option.map_eq_some_iff.mp h'
      cases he
      exact Nat.lt_succ_of_lt (ih d' p.1 p.2 hp)
    simp only [scan] at h
    split at h
    · exact hrec _ h
    · split at h
      · split at h
        · cases h; exact Nat.lt_succ_self _
        · exact hrec _ h
      · exact hrec _ h

/-- `_parse_modification` after `self.position += 1` (the opening bracket has been skipped):
scan to the matching bracket, optional `^digits` multiplier (`int('')` is a ValueError), `Mod(text, mult)` -/
def parseModBody (o c : Char) (s : List Char) : Except Err (Mod × List Char) :=
  match scan o c 1 s with
  | none => .error .format
  | some (body, rest) =>
    match rest with
    | '^' :: r =>
      if r.takeWhile Char.isDigit = [] then .error .value
      else if Nat.ofDigitChars 10 (r.takeWhile Char.isDigit) 0 < 1 then .error .format   -- `^0` (fix 0b351bb)
      else .ok (⟨convertType body, Int.ofNat (Nat.ofDigitChars 10 (r.takeWhile Char.isDigit) 0)⟩,
                r.dropWhile Char.isDigit)
    | _ => .ok (⟨convertType body, 1⟩, rest)

theorem dropWhile_length_le {α} (p : α → Bool) (l : List α) : (l.dropWhile p).length ≤ l.length := by
  induction l with
  | nil => simp
  | cons x xs ih => simp only [List.dropWhile]; split <;> simp <;> omega

theorem parseModBody_length (o c : Char) (s : List Char) (m : Mod) (r : List Char)
    (h : parseModBody o c s = .ok (m, r)) : r.length < s.length := by
  unfold parseModBody at h
  split at h
  · simp at h
  · rename_i body rest hs
    have hl := scan_length _ _ _ _ _ _ hs
    split at h
    · rename_i r'
      split at h
      · simp at h
      · split at h
        · simp at h
        · simp only [Except.ok.injEq, Prod.mk.injEq] at h
          have := dropWhile_length_le Char.isDigit r'
          rw [← h.2]; simp at hl; omega
    · simp only [Except.ok.injEq, Prod.mk.injEq] at h
      rw [← h.2]; exact hl

/-- `_parse_modifications`: while not at the end and the current character is the opening bracket -/
def parseMods (o c : Char) (s : List Char) : Except Err (List Mod × List Char) :=
  match s with
  | [] => .ok ([], [])
  | x :: xs =>
    if x = o then
      match h : parseModBody o c xs with
      | .error e => .error e
      | .ok (m, rest) =>
        have : rest.length < (x :: xs).length := by
          have := parseModBody_length _ _ _ _ _ h; simp; omega
        match parseMods o c rest with
        | .error e => .error e
        | .ok (ms, rest') => .ok (m :: ms, rest')
    else .ok ([], x :: xs)
termination_by s.length

theorem parseMods_length (o c : Char) (s : List Char) (ms : List Mod) (r : List Char)
    (h : parseMods o c s = .ok (ms, r)) : r.length ≤ s.length := by
  induction hn : s.length using Nat.strongRecOn generalizing s ms r with
  | _ n ih =>
    rw [parseMods.eq_def] at h
    split at h
    · simp at h; simp [h.2]
    · rename_i x xs
      subst hn
      split at h
      · split at h
        · simp at h
        · rename_i m rest hb
          have h1 := parseModBody_length _ _ _ _ _ hb
          split at h
          · simp at h
          · rename_i ms' rest' hr
            have h2 := ih rest.length (by simp; omega) rest ms' rest' hr rfl
            simp only [Except.ok.injEq, Prod.mk.injEq] at h
            rw [← h.2]; simp; omega
      · simp only [Except.ok.injEq, Prod.mk.injEq] at h
        rw [← h.2]; simp

/-- a bracket group at the cursor is consumed: strict progress -/
theorem parseMods_length_lt (o c : Char) (s : List Char) (ms : List Mod) (r : List Char)
    (ho : s.head? = some o) (h : parseMods o c s = .ok (ms, r)) : r.length < s.length := by
  cases s with
  | nil => simp at ho
  | cons x xs =>
    simp only [List.head?_cons, Option.some.injEq] at ho
    subst ho
    rw [parseMods] at h
    simp only [↓reduceIte] at h
    split at h
    · simp at h
    · rename_i m rest hb
      have h1 := parseModBody_length _ _ _ _ _ hb
      split at h
      · simp at h
      · rename_i ms' rest' hr
        have h2 := parseMods_length _ _ _ _ _ hr
        simp only [Except.ok.injEq, Prod.mk.injEq] at h
        rw [← h.2]; simp; omega

/-! ### accumulators (`_add_*`) -/

/-- `if self._x is None: self._x = []` then `extend` -/
def addMods (cur : Option (List Mod)) (mods : List Mod) : Option (List Mod) :=
  some (cur.getD [] ++ mods)

/-- extend the list stored under `k`, creating the entry at the end (dict insertion order) -/
def dictExtend (k : Int) (mods : List Mod) : List (Int × List Mod) → List (Int × List Mod)
  | [] => [(k, mods)]
  | (k', v) :: t => if k' = k then (k', v ++ mods) :: t else (k', v) :: dictExtend k mods t

/-- `_add_internal_mod`: position `len(self._amino_acids) - 1` (−1 before the first residue) -/
def addInternal (a : Annotation) (mods : List Mod) : Annotation :=
  { a with internal := some (dictExtend (Int.ofNat a.seq.length - 1) mods (a.internal.getD [])) }

def addInterval (a : Annotation) (iv : Interval) : Annotation :=
  { a with intervals := some (a.intervals.getD [] ++ [iv]) }

/-- the `<…>` branch of `_parse_sequence_start`: static when the text contains `@`, isotope otherwise;
a multiplier above 1 is a ValueError re-raised as ProFormaFormatError;
a numeric value: `'@' in 13` is a TypeError before the fix, a ProFormaFormatError after it -/
def addGlobals (fixed : Bool) (a : Annotation) : List Mod → Except Err Annotation
  | [] => .ok a
  | m :: ms =>
    match m.val with
    | .str t =>
      if t.contains '@' then
        if m.mult > 1 then .error .format
        else addGlobals fixed { a with static := addMods a.static [m] } ms
      else
        if m.mult > 1 then .error .format
        else addGlobals fixed { a with isotope := addMods a.isotope [m] } ms
    | _ => .error (if fixed then .format else .type)

/-! ### `_parse_sequence_start` -/

def parseStart (fixed : Bool) (a : Annotation) (s : List Char) : Except Err (Annotation × List Char) :=
  match s with
  | [] => .ok (a, [])
  | cur :: xs =>
    if isAA cur ∨ cur = '(' then .ok (a, cur :: xs)
    else if hc : cur = '[' then
      match h : parseMods '[' ']' (cur :: xs) with
      | .error e => .error e
      | .ok (mods, rest) =>
        match rest with
        | [] => .error (if fixed then .format else .index)
        | nc :: rest' =>
          have : rest'.length < (cur :: xs).length := by
            have := parseMods_length _ _ _ _ _ h; simp at this ⊢; omega
          if nc = '-' then parseStart fixed { a with nterm := addMods a.nterm mods } rest'
          else if nc = '?' then parseStart fixed { a with unknown := addMods a.unknown mods } rest'
          else .error .format
    else if hc : cur = '<' then
      match h : parseMods '<' '>' (cur :: xs) with
      | .error e => .error e
      | .ok (mods, rest) =>
        have : rest.length < (cur :: xs).length :=
          parseMods_length_lt _ _ _ _ _ (by simp [hc]) h
        match addGlobals fixed a mods with
        | .error e => .error e
        | .ok a' => parseStart fixed a' rest
    else if cur = '{' then
      match h : parseModBody '{' '}' xs with
      | .error e => .error e
      | .ok (m, rest) =>
        have : rest.length < (cur :: xs).length := by
          have := parseModBody_length _ _ _ _ _ h; simp; omega
        parseStart fixed { a with labile := addMods a.labile [m] } rest
    else .error .format
termination_by s.length

/-! ### `_parse_sequence_middle` -/

/-- `dummy` = the open interval `[start, None, ambiguous, None]`, if any.
Since fix 0b351bb the phase rejects (ProFormaFormatError): a bracket group before the first residue, a `-` without a
modification, an interval that is still open when the phase ends, an empty interval. -/
def parseMiddle (a : Annotation) (dummy : Option (Int × Bool)) (s : List Char) :
    Except Err (Annotation × List Char) :=
  match s with
  | [] => if dummy.isSome then .error .format else .ok (a, [])
  | cur :: xs =>
    if isAA cur then parseMiddle { a with seq := a.seq ++ [cur] } dummy xs
    else if hc : cur = '[' then
      if a.seq = [] then .error .format
      else
      match h : parseMods '[' ']' (cur :: xs) with
      | .error e => .error e
      | .ok (mods, rest) =>
        have : rest.length < (cur :: xs).length :=
          parseMods_length_lt _ _ _ _ _ (by simp [hc]) h
        parseMiddle (addInternal a mods) dummy rest
    else if cur = '-' then
      if dummy.isSome then .error .format
      else
      match parseMods '[' ']' xs with
      | .error e => .error e
      | .ok (mods, rest) =>
        if mods = [] then .error .format
        else .ok ({ a with cterm := addMods a.cterm mods }, rest)
    else if cur = '/' ∨ cur = '+' then
      if dummy.isSome then .error .format else .ok (a, cur :: xs)
    else if cur = '(' then
      match dummy with
      | some _ => .error .format
      | none => parseMiddle a (some (Int.ofNat a.seq.length, false)) xs
    else if cur = ')' then
      match dummy with
      | none => .error .format
      | some (st, amb) =>
        if st = Int.ofNat a.seq.length then .error .format
        else if hb : xs.head? = some '[' then
          match h : parseMods '[' ']' xs with
          | .error e => .error e
          | .ok (mods, rest) =>
            have : rest.length < (cur :: xs).length := by
              have := parseMods_length_lt _ _ _ _ _ hb h; simp; omega
            parseMiddle (addInterval a ⟨st, Int.ofNat a.seq.length, amb, some mods⟩) none rest
        else parseMiddle (addInterval a ⟨st, Int.ofNat a.seq.length, amb, none⟩) none xs
    else if cur = '?' then
      match dummy with
      | none => .error .format
      | some (st, _) => parseMiddle a (some (st, true)) xs
    else .error .format
termination_by s.length

/-! ### `_parse_integer` and `_parse_sequence_end` -/

/-- the span accepted by `_parse_integer`: signs are accepted only before the first digit -/
def intSpan : Nat → List Char → List Char × List Char
  | _, [] => ([], [])
  | n, c :: r =>
    if c.isDigit then
      let p := intSpan (n + 1) r
      (c :: p.1, p.2)
    else if n = 0 ∧ (c = '+' ∨ c = '-') then
      let p := intSpan 0 r
      (c :: p.1, p.2)
    else ([], c :: r)

theorem intSpan_length (n : Nat) (s : List Char) : (intSpan n s).2.length ≤ s.length := by
  induction s generalizing n with
  | nil => simp [intSpan]
  | cons c r ih =>
    simp only [intSpan]
    split
    · have := ih (n + 1); simp; omega
    · split
      · have := ih 0; simp; omega
      · simp

def parseInteger (s : List Char) : Except Err (Int × List Char) :=
  match pyInt? (intSpan 0 s).1 with
  | some i => .ok (i, (intSpan 0 s).2)
  | none => .error .value

theorem parseInteger_length (s : List Char) (i : Int) (r : List Char) (h : parseInteger s = .ok (i, r)) :
    r.length ≤ s.length := by
  unfold parseInteger at h
  split at h
  · simp only [Except.ok.injEq, Prod.mk.injEq] at h
    rw [← h.2]; exact intSpan_length 0 s
  · simp at h

/-- returns the annotation, `self._current_connection`, the remaining input -/
def parseEnd (a : Annotation) (conn : Option Bool) (s : List Char) :
    Except Err (Annotation × Option Bool × List Char) :=
  match s with
  | [] => .ok (a, conn, [])
  | cur :: xs =>
    if cur = '/' then
      if xs.head? = some '/' then .ok (a, some true, xs.tail)
      else
        match h : parseInteger xs with
        | .error e => .error e
        | .ok (ch, rest) =>
          have hr : rest.length ≤ xs.length := parseInteger_length _ _ _ h
          if rest.head? = some '[' then
            match h2 : parseMods '[' ']' rest with
            | .error e => .error e
            | .ok (mods, rest') =>
              have : rest'.length < (cur :: xs).length := by
                have := parseMods_length _ _ _ _ _ h2; simp; omega
              if mods.any (fun m => m.mult > 1) then .error .value
              else parseEnd { a with charge := some ch, adducts := addMods a.adducts mods } conn rest'
          else
            have : rest.length < (cur :: xs).length := by simp; omega
            parseEnd { a with charge := some ch } conn rest
    else if cur = '+' then .ok (a, some false, xs)
    else .error .format
termination_by s.length

/-! ### the chain loop and `parse` -/

/-- `_ProFormaParser.parse`: one `(annotation, connection)` per chain. The progress test stands for the
Python `while` (an iteration that consumed nothing would repeat forever). -/
def parseChains (fixed : Bool) (conn : Option Bool) (s : List Char) :
    Except Err (List (Annotation × Option Bool)) :=
  match s with
  | [] => .ok []
  | c :: cs =>
    match parseStart fixed { seq := [] } (c :: cs) with
    | .error e => .error e
    | .ok (a1, r1) =>
      match parseMiddle a1 none r1 with
      | .error e => .error e
      | .ok (a2, r2) =>
        match parseEnd a2 conn r2 with
        | .error e => .error e
        | .ok (a3, conn', r3) =>
          if _h : r3.length < (c :: cs).length then
            match parseChains fixed conn' r3 with
            | .error e => .error e
            | .ok l => .ok ((a3, conn') :: l)
          else .error .hang
termination_by s.length

inductive Parsed where
  | single (a : Annotation)
  | multi (as : List Annotation) (conns : List (Option Bool))
  deriving DecidableEq, Repr, Inhabited

/-- `_is_unmodified` -/
def isUnmodified (s : List Char) : Bool := s.all isAA

/-- `peptacular.parse` -/
def parse (fixed : Bool) (s : List Char) : Except Err Parsed :=
  if isUnmodified s then .ok (.single { seq := s })
  else
    match parseChains fixed none s with
    | .error e => .error e
    | .ok l =>
      match l with
      | [(a, _)] => .ok (.single a)
      | _ => .ok (.multi (l.map (·.1)) ((l.map (·.2)).dropLast))

end Pept
