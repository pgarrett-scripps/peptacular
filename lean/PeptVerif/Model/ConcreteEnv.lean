import PeptVerif.Model.CompCalc
import PeptVerif.Model.CondenseMass
/-!
The concrete instance of the abstract mass environment (`AbsMass.Env`, C12 / C18) over the tables generated from /repo
(`Generated/Constants.lean`, `Generated/Elements.lean` through `Model/Chem.lean`) and a modification resolver
(`Pept.Env`, the same parameter C02 / C03 use). Mathlib-free.

`Model/Chem.lean` keys compositions by packed ASCII (`Nat`); the abstract model keys them by text (`List Char`, the label
parser needs the text). `decodeKey` unpacks a key; packing the result again gives the key back for every key below 256^8
(`keyOfChars_decodeKey`, `Lemmas/ConcreteKeys.lean`); that the keys of the tables are that small is checked on them
(`Lemmas/ConcreteEnv.lean`).
-/
namespace Pept
namespace Concrete
open Chem

/-- bytes of a packed key, most significant first (structural: at most `fuel` bytes) -/
def decodeAux : Nat → Nat → List Char → List Char
  | 0, _, acc => acc
  | fuel + 1, k, acc => if k = 0 then acc else decodeAux fuel (k / 256) (Char.ofNat (k % 256) :: acc)

def decodeKey (k : Nat) : List Char := decodeAux 8 k []

def decodeComp (c : Chem.Comp) : AbsMass.Comp := c.map fun p => (decodeKey p.1, p.2)

/-- mass of one dict key of a composition, by its text: `chem_mass({x: 1})` -/
def emOf (mono : Bool) (k : List Char) : Rat := (elemMass mono (keyOfChars k)).getD 0

/-- `mod_mass(val, monoisotopic)` as resolved (0 when it does not resolve: outside every domain below) -/
def muOf (env : Pept.Env) (mono : Bool) (v : ModVal) : Rat :=
  match (if mono then (env.res v).mono else (env.res v).avg) with
  | .ok x => x
  | .error _ => 0

/-- `_parse_mod_delta_mass_only(val)` / `mod_comp(val)` as resolved -/
def modResOf (env : Pept.Env) (v : ModVal) : AbsMass.ModRes :=
  match (env.res v).delta with
  | .ok (some d) => .delta d
  | .ok none =>
    (match (env.res v).comp with
     | .ok c => .comp (decodeComp c)
     | .error _ => .bad)
  | .error _ => .bad

def okOr0 : Except Pept.Err Rat → Rat
  | .ok v => v
  | .error _ => 0

def compOrNil : Except Pept.Err Chem.Comp → Chem.Comp
  | .ok c => c
  | .error _ => []

/-- the environment of one `mass` / `comp_mass` query without stated adducts: ion type, mode, charge, isotope offset, loss -/
def envFor (env : Pept.Env) (ion : Key) (mono : Bool) (charge : Int) (isotope : Int) (loss : Rat) : AbsMass.Env :=
  { res := fun c => (aaMass mono c.toNat).getD 0,
    mu := muOf env mono,
    adj := okOr0 (Mass.adjustMass 0 (some charge) ion mono isotope loss none none),
    aaComp := fun c => decodeComp ((lookup c.toNat Gen.aaComp).getD []),
    modRes := modResOf env,
    ionAdj := decodeComp ((lookup ion neutralAdj).getD []),
    chargeComp := decodeComp (compOrNil (CompCalc.defaultCarrier charge ion)),
    em := emOf mono,
    ntermComp := decodeComp ((lookup ion Gen.neutralStart).getD []),
    ctermComp := decodeComp ((lookup ion Gen.neutralEnd).getD []),
    knownLabel := fun k => (lookup (keyOfChars k) isotopicMasses).isSome,
    isotope := isotope,
    ionP := ion == Mass.ionP,
    useIsotopeOnMods := false }

/-- the environment of the plain call `mass(x)` (what `condense_to_mass_mods` uses for its pieces): precursor, neutral -/
def envOf (env : Pept.Env) (mono : Bool := true) : AbsMass.Env := envFor env Mass.ionP mono 0 0 0

end Concrete
end Pept
