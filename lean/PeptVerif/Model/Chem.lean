import PeptVerif.Generated.Constants
import PeptVerif.Generated.Elements
/-!
Model of `chem/chem_util.py::chem_mass`, `util.py::merge_dicts`, `element_setup.py` (the tables derived from
`data/chem.txt`) and `chem/chem_constants.py` (the derived mass tables).  Mathlib-free.

String keys (element symbols such as `H`, `Na`, `13C`, residue letters, ion types) are `Nat`: the big-endian
base-256 packing of their ASCII bytes (see `harness/translate_tables.py`).  Counts and masses are `Rat`.
A composition is an insertion-ordered association list (a Python dict).
-/
namespace Pept

inductive Err where
  | ambiguousAA          -- AmbiguousAminoAcidError
  | unknownAA            -- UnknownAminoAcidError
  | keyError             -- KeyError (unknown ion type, unknown adduct element)
  | typeError            -- TypeError
  | indexError           -- IndexError
  | valueError           -- ValueError
  | invalidChemFormula   -- InvalidChemFormulaError (unknown element in chem_mass)
  | named (cls : List Char)  -- an exception raised by the modification resolver (outside this model)
  deriving DecidableEq, Repr, Inhabited

def Err.show : Err → String
  | .ambiguousAA => "ERR:AmbiguousAminoAcidError"
  | .unknownAA => "ERR:UnknownAminoAcidError"
  | .keyError => "ERR:KeyError"
  | .typeError => "ERR:TypeError"
  | .indexError => "ERR:IndexError"
  | .valueError => "ERR:ValueError"
  | .invalidChemFormula => "ERR:InvalidChemFormulaError"
  | .named c => "ERR:" ++ String.ofList c

namespace Chem

abbrev Key := Nat
abbrev Elem := Nat
abbrev Comp := List (Elem × Rat)

/-! ### keys -/
def keyOfCodes (s : List Nat) : Key := s.foldl (fun a c => a * 256 + c) 0
def keyOfChars (s : List Char) : Key := s.foldl (fun a c => a * 256 + c.toNat) 0

/-- number of bytes of a packed key -/
def keyLen (k : Key) : Nat := if h : k = 0 then 0 else 1 + keyLen (k / 256)
decreasing_by exact Nat.div_lt_self (Nat.pos_of_ne_zero h) (by decide)

/-- bytes of a packed key, most significant first -/
def keyBytes (k : Key) : List Nat := go k []
where go (k : Nat) (acc : List Nat) : List Nat := if h : k = 0 then acc else go (k / 256) (k % 256 :: acc)
decreasing_by exact Nat.div_lt_self (Nat.pos_of_ne_zero h) (by decide)

def keyToString (k : Key) : String := String.ofList ((keyBytes k).map Char.ofNat)

/-- concatenation of two packed keys -/
def keyCat (a b : Key) : Key := a * 256 ^ keyLen b + b

/-- first byte -/
def keyHead (k : Key) : Nat := (keyBytes k).headD 0

def isDigitCode (c : Nat) : Bool := 48 ≤ c && c ≤ 57

/-- decimal digits of a natural number, as ASCII codes -/
def natDigits (n : Nat) : List Nat := go n (n + 1) []
where go (n fuel : Nat) (acc : List Nat) : List Nat :=
  match fuel with
  | 0 => acc
  | fuel + 1 => if n < 10 then (48 + n) :: acc else go (n / 10) fuel ((48 + n % 10) :: acc)

def kH : Elem := 72
def kD : Elem := 68
def kT : Elem := 84
def kC : Elem := 67
def kN : Elem := 78
def kO : Elem := 79
def kS : Elem := 83
def kE : Elem := 101   -- 'e'
def kPp : Elem := 112  -- 'p'
def kNn : Elem := 110  -- 'n'

/-! ### dictionaries -/

def lookup {β} (k : Nat) : List (Nat × β) → Option β
  | [] => none
  | (k', v) :: r => if k' = k then some v else lookup k r

/-- `d[k] = v` on an insertion-ordered dict -/
def setKey {β} (c : List (Nat × β)) (e : Nat) (v : β) : List (Nat × β) :=
  match c with
  | [] => [(e, v)]
  | (e', v') :: rest => if e' = e then (e', v) :: rest else (e', v') :: setKey rest e v

def delKey {β} (c : List (Nat × β)) (e : Nat) : List (Nat × β) := c.filter (fun p => p.1 != e)

/-- `d[e] = d.get(e, 0) + k` -/
def addKey (c : Comp) (e : Elem) (k : Rat) : Comp :=
  match c with
  | [] => [(e, k)]
  | (e', k') :: rest => if e' = e then (e', k' + k) :: rest else (e', k') :: addKey rest e k

/-- `for k, v in b.items(): a[k] = a.get(k, 0) + v` -/
def addAll (a b : Comp) : Comp := b.foldl (fun acc p => addKey acc p.1 p.2) a

def dropZeros (c : Comp) : Comp := c.filter (fun p => p.2 != 0)

/-- `util.merge_dicts`: add counts per key (first-seen order), then drop zero counts -/
def merge (a b : Comp) : Comp := dropZeros (addAll (addAll [] a) b)

def scale (k : Rat) (c : Comp) : Comp := c.map (fun p => (p.1, p.2 * k))

/-- linear part of `chem_mass` for a total mass assignment -/
def chemMassL (μ : Elem → Rat) (c : Comp) : Rat := c.foldl (fun acc p => acc + μ p.1 * p.2) 0

/-! ### element tables (element_setup.py over Generated.nuclides) -/

abbrev Nuclide := Nat × Nat × Nat × Rat × Rat
def Nuclide.z (n : Nuclide) : Nat := n.1
def Nuclide.sym (n : Nuclide) : Nat := n.2.1
def Nuclide.a (n : Nuclide) : Nat := n.2.2.1
def Nuclide.mass (n : Nuclide) : Rat := n.2.2.2.1
def Nuclide.abund (n : Nuclide) : Rat := n.2.2.2.2

/-- `_map_atomic_number_to_infos`: group by atomic number, groups in first-seen order, members in file order -/
def groupByZ (l : List Nuclide) : List (Nat × List Nuclide) :=
  (l.foldl (fun acc n =>
    match lookup n.z acc with
    | none => acc ++ [(n.z, [n])]
    | some g => setKey acc n.z (n :: g)) []).map (fun p => (p.1, p.2.reverse))

/-- head of `infos.sort(key=isotopic_composition, reverse=True)`: the first nuclide of maximal abundance (stable) -/
def monoOf : List Nuclide → Option Nuclide
  | [] => none
  | n :: r => some (r.foldl (fun best x => if best.abund < x.abund then x else best) n)

/-- `str(info)` = mass number followed by the symbol -/
def isotopeKey (n : Nuclide) : Key := keyCat (keyOfCodes (natDigits n.a)) n.sym

/-- `get_isotopic_atomic_masses` in write order (later writes win: `isotopicMasses` below is this list reversed) -/
def isotopicWrites (l : List Nuclide) : List (Key × Rat) :=
  let base := (groupByZ l).flatMap (fun g =>
    match monoOf g.2 with
    | none => []
    | some m => (m.sym, m.mass) :: g.2.map (fun n => (isotopeKey n, n.mass)))
  let get (k : Key) : List Rat := match lookup k base.reverse with | some v => [v] | none => []
  let t := get (keyOfCodes [51, 84])  -- '3T'
  let d := get (keyOfCodes [50, 68])  -- '2D'
  base ++ t.map (fun v => (kT, v)) ++ d.map (fun v => (kD, v)) ++ t.map (fun v => (keyOfCodes [51, 72], v))
    ++ d.map (fun v => (keyOfCodes [50, 72], v))

/-- `map_atomic_symbol_to_average_mass` -/
def averageWrites (l : List Nuclide) : List (Key × Rat) :=
  (groupByZ l).flatMap (fun g =>
    match monoOf g.2 with
    | none => []
    | some m =>
      let avg := g.2.foldl (fun acc n => acc + n.mass * n.abund) 0
      [(m.sym, if avg = 0 then m.mass else avg)])

/-- `ISOTOPIC_ATOMIC_MASSES` (reversed write order, so that `lookup` returns the last write) -/
def isotopicMasses : List (Key × Rat) := (isotopicWrites Gen.nuclides).reverse
/-- `AVERAGE_ATOMIC_MASSES` -/
def averageMasses : List (Key × Rat) := (averageWrites Gen.nuclides).reverse

-- the two tables are large closed terms: keep the elaborator's unifier from unfolding them (the kernel and the
-- compiler are unaffected)
attribute [irreducible] isotopicMasses averageMasses

def isIsotopeKey (e : Elem) : Bool := isDigitCode (keyHead e) || decide (e = kD) || decide (e = kT)

/-- the mass `chem_mass` uses for one dict key; `none` = "Unknown element" -/
def elemMass (mono : Bool) (e : Elem) : Option Rat :=
  match lookup e isotopicMasses with
  | none =>
    if e = kE then some Gen.electronMass
    else if e = kPp then some Gen.protonMass
    else if e = kNn then some Gen.neutronMass
    else none
  | some m =>
    if mono then some m
    else if isIsotopeKey e then some m
    else lookup e averageMasses

/-! ### rounding -/

def pow10 (n : Nat) : Rat := ((10 ^ n : Nat) : Rat)

/-- round-half-even to an integer -/
def roundHalfEvenInt (q : Rat) : Int :=
  let f := q.floor
  let r := q - (f : Rat)
  if r < 1 / 2 then f else if 1 / 2 < r then f + 1 else if f % 2 = 0 then f else f + 1

/-- Python `round(x, p)` on the exact rational (round-half-even) -/
def pyRound (q : Rat) (p : Int) : Rat :=
  if 0 ≤ p then ((roundHalfEvenInt (q * pow10 p.toNat) : Int) : Rat) / pow10 p.toNat
  else ((roundHalfEvenInt (q / pow10 (-p).toNat) : Int) : Rat) * pow10 (-p).toNat

def roundOpt (q : Rat) : Option Int → Rat
  | none => q
  | some p => pyRound q p

/-- one step of the loop of `chem_mass`: an unknown key raises -/
def chemStep (mono : Bool) (acc : Rat) (p : Elem × Rat) : Except Err Rat :=
  match elemMass mono p.1 with
  | none => Except.error Err.invalidChemFormula
  | some μ => pure (acc + μ * p.2)

/-- `chem_mass(composition, monoisotopic, precision)` -/
def chemMass (mono : Bool) (c : Comp) (precision : Option Int := none) : Except Err Rat := do
  let m ← c.foldlM (chemStep mono) (0 : Rat)
  pure (roundOpt m precision)

/-! ### derived constant tables (constants.py / chem_constants.py) -/

def tableGet (t : List (Key × Comp)) (k : Key) : Except Err Comp :=
  match lookup k t with
  | some c => pure c
  | none => Except.error Err.keyError

/-- evaluate one `merge_dicts(T1[k1], T2[k2])` recipe; `adj` is table 2 (the neutral adjustments) -/
def evalRecipe (adj : List (Key × Comp)) (r : (Nat × Nat) × (Nat × Nat)) : Comp :=
  let src (p : Nat × Nat) : Comp :=
    let t := if p.1 = 0 then Gen.neutralStart else if p.1 = 1 then Gen.neutralEnd
             else if p.1 = 2 then adj else Gen.ionComp
    (lookup p.2 t).getD []
  merge (src r.1) (src r.2)

/-- `NEUTRAL_FRAGMENT_COMPOSITION_ADJUSTMENTS`: the transcribed `merge_dicts` recipes evaluated here, or - when the source is not
of that shape (`Gen.neutralAdjByValue = some _`) - the table the module evaluates to -/
def neutralAdj : List (Key × Comp) :=
  match Gen.neutralAdjByValue with
  | some t => t
  | none => Gen.neutralAdjRecipe.map (fun r => (r.1, evalRecipe [] r.2))
/-- `FRAGMENT_ION_COMPOSITION_ADJUSTMENTS` -/
def ionAdj : List (Key × Comp) :=
  match Gen.ionAdjByValue with
  | some t => t
  | none => Gen.ionAdjRecipe.map (fun r => (r.1, evalRecipe neutralAdj r.2))

/-- mass of a constant composition (`chem_mass` at import time; the constants contain known elements only) -/
def constMass (mono : Bool) (c : Comp) : Rat := chemMassL (fun e => (elemMass mono e).getD 0) c

/-- `MONOISOTOPIC_AA_MASSES` / `AVERAGE_AA_MASSES` -/
def aaMass (mono : Bool) (aa : Key) : Option Rat := (lookup aa Gen.aaComp).map (constMass mono)
/-- `MONOISOTOPIC_FRAGMENT_ADJUSTMENTS` / `AVERAGE_FRAGMENT_ADJUSTMENTS` -/
def fragmentAdjMass (mono : Bool) (t : Key) : Option Rat := (lookup t neutralAdj).map (constMass mono)
/-- `MONOISOTOPIC_FRAGMENT_ION_ADJUSTMENTS` / `AVERAGE_FRAGMENT_ION_ADJUSTMENTS` -/
def fragmentIonAdjMass (mono : Bool) (t : Key) : Option Rat := (lookup t Gen.ionComp).map (constMass mono)
/-- `MONOISOTOPIC_ION_ADJUSTMENTS` / `AVERAGE_ION_ADJUSTMENTS` -/
def ionAdjMass (mono : Bool) (t : Key) : Option Rat := (lookup t ionAdj).map (constMass mono)
/-- `ISOTOPIC_AVERAGINE_MASS` -/
def isotopicAveragineMass : Rat := constMass true Gen.averagine

end Chem
end Pept
