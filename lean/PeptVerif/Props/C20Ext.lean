import PeptVerif.Props.C20
/-!
# C20 - the modification dictionary is a faithful description of the modifications

`Props/C20.lean` proves the round trip `add_mod_dict(strip(a), mod_dict(a)) = a`. Here the converse direction of the
clause "taking the modification dictionary and adding it to the stripped sequence reproduces the original": the pair
(stripped sequence, `mod_dict()`) *determines* the annotation - two annotations with the same residues and the same
dictionary are the same annotation (field by field when neither has an empty internal dict `{}`, `==` and text-equal
without any side condition), hence every difference between two annotations on the same residues shows in their
dictionaries. Plus: adding an empty dictionary changes nothing (either append mode).
-/
namespace Pept.C20Ext
open Pept Pept.C20

/-- same residues and same `mod_dict()` => the same annotation, field by field. Side condition as in
`add_get_inverse`: an empty internal dict `{}` is not represented in the dictionary. -/
theorem mod_dict_determines (a b : Annotation) (hs : a.seq = b.seq) (hd : modDict a = modDict b)
    (ha : a.internal ≠ some []) (hb : b.internal ≠ some []) : a = b := by
  rw [← add_get_inverse a false ha, ← add_get_inverse b false hb, addModDict_strip_congr hs hd]

/-- without the side condition the two annotations are still `==` (in both directions) -/
theorem mod_dict_determines_eq (a b : Annotation) (hs : a.seq = b.seq) (hd : modDict a = modDict b) :
    annEq a b = true ∧ annEq b a = true := by
  have h1 := add_get_inverse_eq a false
  rw [addModDict_strip_congr hs hd, eq_symm] at h1
  have hab : annEq a b = true := eq_trans a _ b h1 (add_get_inverse_eq b false)
  exact ⟨hab, eq_symm a b ▸ hab⟩

/-- ... and are written as the same string, in every `include_plus` convention -/
theorem mod_dict_determines_text (plus : Plus) (a b : Annotation) (hs : a.seq = b.seq) (hd : modDict a = modDict b) :
    serialize plus a = serialize plus b := by
  rw [← add_get_inverse_text plus a false, ← add_get_inverse_text plus b false, addModDict_strip_congr hs hd]

/-- sensitivity of the dictionary: two annotations on the same residues that are not `==` (they differ in a value, a
multiplier, a position, an interval, the charge, ...) have different modification dictionaries -/
theorem mod_dict_sensitive (a b : Annotation) (hs : a.seq = b.seq) (hne : annEq a b = false) : modDict a ≠ modDict b := by
  intro hd
  exact Bool.eq_false_iff.1 hne (mod_dict_determines_eq a b hs hd).1

example : exA.seq = exB.seq ∧ annEq exA { exA with charge := some 3 } = false ∧
    modDict exA ≠ modDict { exA with charge := some 3 } ∧
    modDict exA ≠ modDict { exA with nterm := some [⟨.str "Acetyl".toList, 2⟩] } := by decide +kernel

example : exA.internal ≠ some [] ∧ modDict exA = modDict { exA with seq := exA.seq } := by decide +kernel

/-- `add_mod_dict({})` changes nothing, in either append mode -/
theorem add_empty_dict (a : Annotation) (app : Bool) : addModDict a [] app = a :=
  -- every key lookup in the empty dictionary fails and there are no integer entries
  rfl

example : addModDict exA [] true = exA ∧ addModDict exA [] false = exA ∧ modDict exA ≠ [] := by decide +kernel

/-! ## the method-level `pop_mods()` dictionary is not accepted back in full

`ProFormaAnnotation.pop_mods()` files the residue modifications under the string key `'internal'`, which `add_mod_dict`
does not read (it collects integer keys). Exact statement of what comes back (notes/C20.md, Observations): every named
field, the intervals and the charge are restored; the residue modifications are lost. The property's dictionary is
`mod_dict()` / `pt.get_mods` / `pt.pop_mods`, for which `add_get_inverse` holds. -/

theorem lookup_popMods (a : Annotation) :
    (popMods a).1.lookup .isotope = a.isotope.map .mods ∧ (popMods a).1.lookup .static = a.static.map .mods ∧
    (popMods a).1.lookup .labile = a.labile.map .mods ∧ (popMods a).1.lookup .unknown = a.unknown.map .mods ∧
    (popMods a).1.lookup .nterm = a.nterm.map .mods ∧ (popMods a).1.lookup .cterm = a.cterm.map .mods ∧
    (popMods a).1.lookup .intervals = a.intervals.map .ivs ∧ (popMods a).1.lookup .charge = a.charge.map .charge ∧
    (popMods a).1.lookup .adducts = a.adducts.map .mods :=
  have h := namedFields_popMods a
  ⟨h.isotope, h.static, h.labile, h.unknown, h.nterm, h.cterm, h.intervals, h.charge, h.adducts⟩

theorem intEntries_popMods (a : Annotation) : intEntries (popMods a).1 = [] := by
  simp only [popMods, intEntries_append, intEntries_optSeg, List.append_nil, ne_eq, reduceCtorEq, not_false_eq_true,
    implies_true]

/-- `d = a.pop_mods(); a.add_mod_dict(d, append)` (the object is stripped by `pop_mods`): everything except the residue
modifications comes back, in either append mode -/
theorem pop_mods_add_back (a : Annotation) (app : Bool) :
    addModDict (popMods a).2 (popMods a).1 app = { a with internal := none } := by
  rw [show (popMods a).2 = { seq := a.seq } from rfl, addModDict_of_namedFields (namedFields_popMods a), intEntries_popMods]
  rfl

/-- hence the method-level round trip is exact precisely when there are no residue modifications -/
theorem pop_mods_add_back_iff (a : Annotation) (app : Bool) :
    addModDict (popMods a).2 (popMods a).1 app = a ↔ a.internal = none := by
  rw [pop_mods_add_back]
  constructor
  · intro h; rw [← h]
  · intro h; rw [← h]

example : addModDict (popMods exA).2 (popMods exA).1 = { exA with internal := none } ∧ exA.internal ≠ none ∧
    addModDict (popMods exA).2 (popMods exA).1 ≠ exA := by decide +kernel

end Pept.C20Ext
