import PeptVerif.Lemmas.EffectsNested
import PeptVerif.Lemmas.EffectsGenerated
/-!
# C08 — queries never change their arguments or depend on call history

Objects of the theorems: the effect model `Effects` (Model/Effects.lean) and the programs `Gen.*` regenerated from the
current /repo source on every run.

* `postfix_bounds_every_trace`, `mayWrite_sound`, `mayWriteGlobalIn_sound` hold for **any** program, summary table,
  trace (any order / repetition / prefix of the statements) and initial versions: they are the unbounded part.
* `history_independent`, `later_query_same_result`: histories of any length.
* `generated_*`, `summaries_closed`, `getters_pure`, `api_covered`: decided by the kernel over the regenerated modules
  (one generated file and one kernel check per Python source module, assembled in `Gen.all_ok`); a change in /repo that
  introduces a write into a query, or lets a result share state with an argument, breaks them (the driver names the function).

What this does **not** state: that a returned object is not identical to (part of) an argument — checked dynamically only.
Trusted: the translator's classification of Python statements (harness/translate_effects.py, header), and the step from
closed summaries to nested execution (calls are executed by their summaries; `summaries_closed` checks the table against
the bodies).
-/

namespace C08
open Effects

/-- Any name table closed under the statements of `p` bounds every execution: whatever the order, repetition or early exit,
the names stay below it and only objects in its write set ever change version. -/
theorem postfix_bounds_every_trace (S : List Summary) (p : List Stmt) (A : Pts)
    (hpost : ∀ s, s ∈ p → Le (step S s A) A) (tr : List Nat) (ver : Obj → Nat) :
    Le (execTrace S p tr (entry ver)).pts A ∧
      ∀ o, o ∉ writeSet S p A → (execTrace S p tr (entry ver)).ver o = ver o :=
  trace_bounded S p A hpost tr (entry ver) (nil_le A)

/-- the three executable closedness checks establish the hypothesis of `postfix_bounds_every_trace` -/
theorem closedness_checks_sound (S : List Summary) (p : List Stmt) (A : Pts) :
    (isPost S p A = true → ∀ s, s ∈ p → Le (step S s A) A) ∧
    (passClosed S p A = true → ∀ s, s ∈ p → Le (step S s A) A) ∧
    (closedB S p A = true → ∀ s, s ∈ p → Le (step S s A) A) :=
  ⟨isPost_sound, passClosed_sound, closedB_sound⟩

example : isPost [] [.param 0 0, .elem 1 0, .shallow 2 [0], .write 2] (analyse [] [.param 0 0, .elem 1 0, .shallow 2 [0], .write 2] 2) = true := by
  decide

/-- **Soundness of the analysis (parameters).** For any table `A` closed under the program: if no parameter object is in the
write set bounded by `A`, then no execution of the program — any trace, any initial versions — changes the version of any
parameter object, of anything below it, or of a record the caller handed in (`root`, `inner`, `recd`, `recTop`). -/
theorem mayWriteIn_sound (S : List Summary) (p : List Stmt) (A : Pts)
    (hclosed : ∀ s, s ∈ p → Le (step S s A) A) (h : mayWriteIn S p A = [])
    (tr : List Nat) (ver : Obj → Nat) (o : Obj) (ho : paramOf o ≠ none) :
    (execTrace S p tr (entry ver)).ver o = ver o :=
  (postfix_bounds_every_trace S p A hclosed tr ver).2 o fun hmem => ho (kind_none_of_dedup_nil h o hmem)

/-- the same with the table computed by the analysis itself (`fuel` passes, then checked closed) -/
theorem mayWrite_sound (S : List Summary) (p : List Stmt) (fuel : Nat)
    (hok : analysisOK S p fuel = true) (h : mayWrite S p fuel = []) :
    ∀ (tr : List Nat) (ver : Obj → Nat) (i : Nat),
      (execTrace S p tr (entry ver)).ver (.root i) = ver (.root i) ∧
      (execTrace S p tr (entry ver)).ver (.inner i) = ver (.inner i) :=
  fun tr ver i => ⟨mayWriteIn_sound S p _ (passClosed_sound hok) h tr ver (.root i) nofun,
    mayWriteIn_sound S p _ (passClosed_sound hok) h tr ver (.inner i) nofun⟩

/-- … and the same for the records the caller handed in (objects `recd i`, `recTop i`) -/
theorem mayWriteIn_sound_records (S : List Summary) (p : List Stmt) (A : Pts)
    (hclosed : ∀ s, s ∈ p → Le (step S s A) A) (h : mayWriteIn S p A = []) :
    ∀ (tr : List Nat) (ver : Obj → Nat) (i : Nat),
      (execTrace S p tr (entry ver)).ver (.recd i) = ver (.recd i) ∧
      (execTrace S p tr (entry ver)).ver (.recTop i) = ver (.recTop i) :=
  fun tr ver i => ⟨mayWriteIn_sound S p A hclosed h tr ver (.recd i) nofun,
    mayWriteIn_sound S p A hclosed h tr ver (.recTop i) nofun⟩

example : analysisOK [] [.param 0 0, .shallow 1 [0], .write 1] 2 = true ∧ mayWrite [] [.param 0 0, .shallow 1 [0], .write 1] 2 = [] := by
  decide

/-- the analysis does flag the two aliasing patterns `x = param; x.pop()` and writing an element of a shallow copy -/
theorem mayWrite_flags_alias_and_element_writes :
    mayWrite [] [.param 0 0, .alias 1 [0], .write 1] 2 = [0] ∧
    mayWrite [] [.param 0 0, .shallow 1 [0], .elem 2 1, .write 2] 2 = [0] := by
  decide

/-- **Soundness of the analysis (process-wide objects).** For any table `A` closed under the program: if no process-wide
object is in the write set bounded by `A`, no execution of the program changes the version of one. -/
theorem mayWriteGlobalIn_sound (S : List Summary) (p : List Stmt) (A : Pts)
    (hclosed : ∀ s, s ∈ p → Le (step S s A) A) (h : mayWriteGlobalIn S p A = [])
    (tr : List Nat) (ver : Obj → Nat) (g : Nat) :
    (execTrace S p tr (entry ver)).ver (.glob g) = ver (.glob g) :=
  (postfix_bounds_every_trace S p A hclosed tr ver).2 _ fun hmem => nomatch kind_none_of_dedup_nil h _ hmem

example : mayWriteGlobal [] [.global 0 3, .elem 1 0] 2 = [] ∧ mayWriteGlobal [] [.gwrite 0] 1 = [0] := by decide

/-- **Soundness of the sharing analysis.** For any table closed under the program: if `mayShareIn A ret = []`, then in every
execution (any trace, any initial versions) nothing the result name may denote, hold or reach is a parameter object or a
container / annotation below a parameter. -/
theorem mayShareIn_sound (S : List Summary) (p : List Stmt) (A : Pts) (ret : Nat)
    (hclosed : ∀ s, s ∈ p → Le (step S s A) A) (h : mayShareIn A ret = []) :
    ∀ (tr : List Nat) (ver : Obj → Nat) (o : Obj),
      o ∈ cellObjs ((execTrace S p tr (entry ver)).pts.get ret) → shareParamOf o = none :=
  fun tr ver o ho =>
    kind_none_of_dedup_nil h o (cellObjs_mono ((postfix_bounds_every_trace S p A hclosed tr ver).1 ret) ho)

/-- the same for process-wide objects: the result is not, and does not contain, a module-level table or database -/
theorem mayShareGlobalIn_sound (S : List Summary) (p : List Stmt) (A : Pts) (ret : Nat)
    (hclosed : ∀ s, s ∈ p → Le (step S s A) A) (h : mayShareGlobalIn A ret = []) :
    ∀ (tr : List Nat) (ver : Obj → Nat) (o : Obj),
      o ∈ cellObjs ((execTrace S p tr (entry ver)).pts.get ret) → globOf o = none :=
  fun tr ver o ho =>
    kind_none_of_dedup_nil h o (cellObjs_mono ((postfix_bounds_every_trace S p A hclosed tr ver).1 ret) ho)

/-- together: the returned object and everything below it is allocated by the call itself, or is a record the caller handed
in (Mod, Interval, Fragment …: the reading decision) -/
theorem result_fresh (S : List Summary) (p : List Stmt) (A : Pts) (ret : Nat)
    (hclosed : ∀ s, s ∈ p → Le (step S s A) A) (h1 : mayShareIn A ret = []) (h2 : mayShareGlobalIn A ret = [])
    (tr : List Nat) (ver : Obj → Nat) (o : Obj)
    (ho : o ∈ cellObjs ((execTrace S p tr (entry ver)).pts.get ret)) :
    (∃ s, o = .loc s) ∨ (∃ i, o = .recd i) ∨ (∃ i, o = .recTop i) := by
  have a := mayShareIn_sound S p A ret hclosed h1 tr ver o ho
  have b := mayShareGlobalIn_sound S p A ret hclosed h2 tr ver o ho
  cases o with
  | root i => cases a
  | inner i => cases a
  | recd i => exact Or.inr (Or.inl ⟨i, rfl⟩)
  | recTop i => exact Or.inr (Or.inr ⟨i, rfl⟩)
  | glob g => cases b
  | loc s => exact Or.inl ⟨s, rfl⟩

/-- the sharing analysis sees the patterns it is meant to see: returning the argument, returning a shallow copy whose
elements are the caller's containers, storing a caller's list into a new object, returning a module table; and it accepts a
deep copy and a new list of the caller's records -/
theorem mayShare_flags_and_accepts :
    mayShareIn (analyse [] [.param 0 0, .alias 1 [0]] 2) 1 = [0] ∧
    mayShareIn (analyse [] [.param 0 0, .shallow 1 [0]] 2) 1 = [0] ∧
    mayShareIn (analyse [] [.param 0 0, .fresh 1, .elem 2 0, .store 1 2] 3) 1 = [0] ∧
    mayShareGlobalIn (analyse [] [.global 0 5, .alias 1 [0]] 2) 1 = [5] ∧
    mayShareIn (analyse [] [.param 0 0, .fresh 1] 2) 1 = [] ∧
    mayShareIn (analyse [] [.param 0 0, .asRec 2 0 1, .shallow 1 [2]] 3) 1 = [] := by
  decide

/-- a call that the analysis finds free of parameter and global writes -/
def PureCall (S : List Summary) (c : Call) : Prop :=
  ∃ A, closedB S c.prog A = true ∧ mayWriteIn S c.prog A = [] ∧ mayWriteGlobalIn S c.prog A = []

theorem pure_call_frame (S : List Summary) (c : Call) (hc : PureCall S c) (ver : Obj → Nat) :
    ∀ o, isCaller o = true → runCall S c ver o = ver o := by
  obtain ⟨A, hok, hw, hg⟩ := hc
  intro o ho
  rcases caller_kinds ho with hp | ⟨g, rfl⟩
  · exact mayWriteIn_sound S c.prog A (closedB_sound hok) hw c.trace ver o hp
  · exact mayWriteGlobalIn_sound S c.prog A (closedB_sound hok) hg c.trace ver g

/-- **History independence**: after any history (any length, any traces) of pure calls every caller-visible object has the
version it had before. -/
theorem history_independent (S : List Summary) (h : List Call) (hq : ∀ c, c ∈ h → PureCall S c) :
    ∀ (ver : Obj → Nat) (o : Obj), isCaller o = true → runHistory S h ver o = ver o := by
  induction h with
  | nil => intro ver o _; rfl
  | cons c h ih =>
    intro ver o ho
    simp only [runHistory]
    rw [ih (fun c' hc' => hq c' (List.mem_cons_of_mem _ hc')) (runCall S c ver) o ho]
    exact pure_call_frame S c (hq c List.mem_cons_self) ver o ho

/-- hence any deterministic result that depends only on the caller-visible objects is the same after the history as on the
fresh store -/
theorem later_query_same_result {β : Type} (S : List Summary) (h : List Call) (hq : ∀ c, c ∈ h → PureCall S c)
    (result : (Obj → Nat) → β)
    (hres : ∀ v v' : Obj → Nat, (∀ o, isCaller o = true → v o = v' o) → result v = result v')
    (ver : Obj → Nat) :
    result (runHistory S h ver) = result ver :=
  hres _ _ (fun o ho => history_independent S h hq ver o ho)

example : PureCall [] ⟨[.param 0 0, .shallow 1 [0], .write 1], [2, 1, 0, 2, 2]⟩ :=
  ⟨analyse [] [.param 0 0, .shallow 1 [0], .write 1] 2, by decide, by decide, by decide⟩

/-- **Nested calls.** In `execTrace` a call is executed by the callee's summary. `execN` really runs the callee's body (any
nested trace, fresh frame) and applies what that run did. If the summary table is closed under every body (`closedAt`, the
content of `summaries_closed`), nested execution of any body, from any state below its table, stays below the table and
writes only objects of the write set computed with summaries — so every statement proved about `writeSet` / `mayWriteIn`
holds for real nested calls. -/
theorem nested_calls_bounded (S : List Summary) (fns : List FnInfo)
    (hclosed : (List.range fns.length).all (fun f => closedAt S fns f) = true)
    (tr : NTrace) (p : List Stmt) (A : Pts) (hA : closedB S p A = true) (σ : NState) (hσ : Le σ.pts A) :
    Le (execN fns p tr σ).pts A ∧ ∀ o, o ∈ (execN fns p tr σ).log → o ∈ σ.log ∨ o ∈ writeSet S p A :=
  nested_bounded S fns
    (fun f _ hf => List.all_eq_true.1 hclosed f (List.mem_range.2 (List.getElem?_eq_some_iff.1 hf).1)) tr p A hA σ hσ

/-- a program whose table shows no parameter and no global in the write set writes, under nested execution from a fresh
frame, nothing the caller can see -/
theorem nested_pure_call_writes_nothing (S : List Summary) (fns : List FnInfo)
    (hclosed : (List.range fns.length).all (fun f => closedAt S fns f) = true)
    (p : List Stmt) (A : Pts) (hA : closedB S p A = true)
    (hw : mayWriteIn S p A = []) (hg : mayWriteGlobalIn S p A = []) (tr : NTrace) :
    ∀ o, o ∈ (execN fns p tr ⟨[], []⟩).log → isCaller o = false := by
  intro o ho
  have hmem : o ∈ writeSet S p A :=
    ((nested_calls_bounded S fns hclosed tr p A hA ⟨[], []⟩ (nil_le A)).2 o ho).resolve_left List.not_mem_nil
  refine Bool.eq_false_iff.2 fun hc => ?_
  rcases caller_kinds hc with hp | ⟨g, rfl⟩
  · exact hp (kind_none_of_dedup_nil hw o hmem)
  · cases kind_none_of_dedup_nil hg _ hmem

/-- non-vacuity: a callee that pops from its parameter, called on a shallow copy of the caller's parameter and on the
parameter itself; the nested run of the second caller does write the caller's object -/
example :
    let callee : FnInfo := { prog := [.param 0 0, .write 0], nparams := 1, ret := 1, fuel := 1,
                             table := [{ top := [.root 0], kids := [.inner 0], deep := [.inner 0] }] }
    let S : List Summary := [{ writes := [(0, false)] }]
    closedAt S [callee] 0 = true ∧
    (execN [callee] [.param 0 0, .shallow 1 [0], .call 2 0 [some 1]] (.step 0 .done (.step 1 .done (.step 2 (.step 0 .done (.step 1 .done .done)) .done))) ⟨[], []⟩).log = [.loc 1] ∧
    (execN [callee] [.param 0 0, .call 2 0 [some 0]] (.step 0 .done (.step 1 (.step 0 .done (.step 1 .done .done)) .done)) ⟨[], []⟩).log = [.root 0] := by
  decide

/-! ## obligations over the regenerated modules

The translator writes one Lean file per Python source module (`Generated/Effects/M_<module>.lean`) holding the programs and
tables of that module's functions and one theorem `Gen.M_<module>.ok`, decided by the kernel: for each of these functions the
table is closed under the program, the summary the program induces is within the global summary table, and the write / sharing
sets read off the table are the verdict claimed in the global verdict table (`Generated/Effects/Core.lean`).  `Gen.all_ok`
assembles them.  A change of one function body therefore re-checks one module; the obligations below are decided over the
small verdict table (in one evaluation, `verdict_table_checked` in Lemmas/EffectsGenerated.lean) and tied to the programs by
`generated_verdicts_correct`. -/

/-- the code-point lists used below are the explicit name lists of Model/EffectsApi.lean -/
theorem declared_lists_spelled :
    declaredOutsideCodes = declaredOutside.map (fun s => s.toList.map Char.toNat) ∧
    declaredSharingCodes = declaredSharing.map (fun s => s.toList.map Char.toNat) ∧
    declaredDbEditorCodes = declaredDbEditors.map (fun s => s.toList.map Char.toNat) :=
  ⟨declaredOutsideCodes_spelled, declaredSharingCodes_spelled, declaredDbEditorCodes_spelled⟩

/-- every translated function passed the kernel check of its source module's generated file -/
theorem generated_functions_checked :
    Gen.fnsIdx.all (fun p => entryOK Gen.summaries Gen.verdicts p.1 p.2) = true := Gen.all_ok

theorem generated_ids_are_positions : Gen.fnsIdx.map (·.1) = List.range Gen.fnsIdx.length := by
  decide +kernel

/-- the same by function id: `Gen.fns[f]` is the entry `(f, ·)` of `Gen.fnsIdx` (`generated_ids_are_positions`) -/
theorem generated_entry (f : Nat) (i : FnInfo) (h : Gen.fns[f]? = some i) :
    entryOK Gen.summaries Gen.verdicts f i = true :=
  List.all_eq_true.1 generated_functions_checked (f, i) (mem_of_ids_eq_range Gen.fnsIdx generated_ids_are_positions f i h)

theorem generated_tables_closed (f : Nat) (i : FnInfo) (hf : Gen.fns[f]? = some i) :
    closedB Gen.summaries i.prog i.table = true :=
  (entryOK_iff.1 (generated_entry f i hf)).1

/-- the summary table the calls are executed by is closed under every body -/
theorem summaries_closed : (List.range Gen.fns.length).all (fun f => closedAt Gen.summaries Gen.fns f) = true := by
  rw [List.all_eq_true]
  intro f hf
  rw [List.mem_range] at hf
  have hi : Gen.fns[f]? = some Gen.fns[f] := List.getElem?_eq_getElem hf
  have h := entryOK_iff.1 (generated_entry f _ hi)
  rw [closedAt, hi, Bool.and_eq_true]
  exact ⟨h.1, h.2.1⟩

/-- the verdict table says what the analysis reads off the (closed) tables -/
theorem generated_verdicts_correct (f : Nat) (i : FnInfo) (hf : Gen.fns[f]? = some i) :
    sameSet (mayWriteIn Gen.summaries i.prog i.table) (V f).writes = true ∧
    sameSet (mayWriteGlobalIn Gen.summaries i.prog i.table) (V f).globals = true ∧
    sameSet (mayShareIn i.table i.ret) (V f).share = true ∧
    sameSet (mayShareGlobalIn i.table i.ret) (V f).shareGlobals = true :=
  (entryOK_iff.1 (generated_entry f i hf)).2.2

/-- every API member that is not a declared editor writes no parameter and no process-wide object -/
theorem generated_queries_pure :
    Gen.api.all (fun e => e.editor || e.random || isOutside e ||
      (fidOK e && ((V e.fid).writes == []) && ((V e.fid).globals == []))) = true :=
  verdict_table_checked.1

/-- declared editors (add_*, pop_*, clear_*, setters, inplace=True, constructors) write nothing but their own object
(parameter 0) and no process-wide object -/
theorem generated_editors_write_only_target :
    Gen.api.all (fun e => !e.editor || e.random || isOutside e ||
      (fidOK e && (V e.fid).writes.all (fun j => j == 0) && ((V e.fid).globals == []))) = true :=
  verdict_table_checked.2.1

/-- `shuffle` is random by contract: it may consume the module generator (object 0) and nothing else; its non-inplace
form writes no parameter -/
theorem generated_random_only_rng :
    Gen.api.all (fun e => !e.random ||
      (fidOK e && (V e.fid).writes.all (fun j => e.editor && j == 0) && (V e.fid).globals.all (fun g => g == 0))) = true :=
  verdict_table_checked.2.2.1

/-- **Results are fresh.** Every API member that is not an editor, not declared outside and not in the explicit
`declaredSharing` list returns an object that is not, and does not contain, a parameter object, a container or annotation
below a parameter, or a process-wide object (records handed in by the caller excepted, see `shareParamOf`). -/
theorem generated_results_fresh :
    Gen.api.all (fun e => e.editor || isOutside e || isDeclaredSharing e ||
      (fidOK e && ((V e.fid).share == []) && ((V e.fid).shareGlobals == []))) = true :=
  verdict_table_checked.2.2.2.1

/-- the members of `declaredSharing` are there for a reason: the analysis does flag each of them -/
theorem declared_sharing_is_flagged :
    Gen.api.all (fun e => !isDeclaredSharing e || (fidOK e && !((V e.fid).share == []))) = true :=
  verdict_table_checked.2.2.2.2.1

/-- **The modification databases are untouched.** No public function or annotation method - editors, members declared
outside and random ones included, only the three explicit database editors (`declaredDbEditors`) excepted - may write one of
the module-level EntryDb objects or hand one back; and the only process-wide object any of them may write at all is the
module random generator (object 0: `shuffle` and the randomizers). -/
theorem generated_db_untouched :
    Gen.api.all (fun e => isDbEditor e || (fidOK e &&
      (V e.fid).globals.all (fun g => !Gen.dbGlobals.contains g && g == 0) &&
      (V e.fid).shareGlobals.all (fun g => !Gen.dbGlobals.contains g))) = true :=
  verdict_table_checked.2.2.2.2.2.1

/-- non-vacuity of `generated_db_untouched`: the analysis does see database writes - the explicit database editors
(`reload_all_databases`, `reset_all_databases`) are flagged as writing EntryDb objects -/
theorem db_editors_are_flagged :
    (!Gen.dbEditors.isEmpty && !Gen.dbGlobals.isEmpty &&
      Gen.dbEditors.all (fun f => f < Gen.fnsIdx.length && (V f).globals.any (fun g => Gen.dbGlobals.contains g))) = true :=
  verdict_table_checked.2.2.2.2.2.2.1

/-- property getters and implicitly invoked special methods are read as plain field access / not seen as calls by the
translator; they are analysed too and write nothing -/
theorem getters_pure :
    Gen.getters.all (fun f => f < Gen.fnsIdx.length && ((V f).writes == []) && ((V f).globals == [])) = true :=
  verdict_table_checked.2.2.2.2.2.2.2

/-- every public callable that accepts an annotation / dict / list is analysed or explicitly declared outside -/
theorem api_covered :
    Gen.apiSurface.all (fun s => Gen.analysed.contains s.1 || declaredOutsideCodes.contains s.1) = true :=
  all_contains_of_coveredInOrder (by decide +kernel)

/-- a checked table without parameter / global writes makes every trace of the body a `PureCall`, so the history theorems
apply to the regenerated pure API members -/
theorem generated_query_is_pure_call (i : FnInfo)
    (hok : closedB Gen.summaries i.prog i.table = true) (hw : mayWriteIn Gen.summaries i.prog i.table = [])
    (hg : mayWriteGlobalIn Gen.summaries i.prog i.table = []) (tr : List Nat) :
    PureCall Gen.summaries ⟨i.prog, tr⟩ :=
  ⟨i.table, hok, hw, hg⟩

/-- **End to end for the regenerated module**: an API member that is not a declared editor, not random by contract and not
declared outside leaves every caller-visible object (parameters, everything below them, records handed in, process-wide
objects) at its version, for every trace of its translated body. -/
theorem generated_query_frame (e : Gen.ApiEntry) (he : e ∈ Gen.api)
    (h1 : e.editor = false) (h2 : e.random = false) (h3 : isOutside e = false)
    (i : FnInfo) (hi : Gen.fns[e.fid]? = some i) (tr : List Nat) (ver : Obj → Nat) (o : Obj) (ho : isCaller o = true) :
    (execTrace Gen.summaries i.prog tr (entry ver)).ver o = ver o := by
  have hq := List.all_eq_true.1 generated_queries_pure e he
  simp only [h1, h2, h3, Bool.false_or, Bool.and_eq_true, beq_iff_eq] at hq
  obtain ⟨hw, hg, _, _⟩ := generated_verdicts_correct e.fid i hi
  rw [hq.1.2] at hw
  rw [hq.2] at hg
  exact pure_call_frame Gen.summaries ⟨i.prog, tr⟩
    (generated_query_is_pure_call i (generated_tables_closed e.fid i hi) (sameSet_nil hw) (sameSet_nil hg) tr) ver o ho

/-- **End to end, results**: for a member that is not an editor, not declared outside and not in `declaredSharing`, in every
trace, whatever the result may denote, hold or reach is allocated by the call or is a record handed in by the caller. -/
theorem generated_result_frame (e : Gen.ApiEntry) (he : e ∈ Gen.api)
    (h1 : e.editor = false) (h2 : isOutside e = false) (h3 : isDeclaredSharing e = false)
    (i : FnInfo) (hi : Gen.fns[e.fid]? = some i) (tr : List Nat) (ver : Obj → Nat) (o : Obj)
    (ho : o ∈ cellObjs ((execTrace Gen.summaries i.prog tr (entry ver)).pts.get i.ret)) :
    (∃ s, o = .loc s) ∨ (∃ j, o = .recd j) ∨ (∃ j, o = .recTop j) := by
  have hq := List.all_eq_true.1 generated_results_fresh e he
  simp only [h1, h2, h3, Bool.false_or, Bool.and_eq_true, beq_iff_eq] at hq
  obtain ⟨_, _, hs, hsg⟩ := generated_verdicts_correct e.fid i hi
  rw [hq.1.2] at hs
  rw [hq.2] at hsg
  exact result_fresh Gen.summaries i.prog i.table i.ret (closedB_sound (generated_tables_closed e.fid i hi))
    (sameSet_nil hs) (sameSet_nil hsg) tr ver o ho

/-- nested execution of the regenerated bodies is bounded by their tables (instance of `nested_calls_bounded`) -/
theorem generated_nested_calls_bounded (tr : NTrace) (p : List Stmt) (A : Pts) (hA : closedB Gen.summaries p A = true)
    (σ : NState) (hσ : Le σ.pts A) :
    Le (execN Gen.fns p tr σ).pts A ∧ ∀ o, o ∈ (execN Gen.fns p tr σ).log → o ∈ σ.log ∨ o ∈ writeSet Gen.summaries p A :=
  nested_calls_bounded Gen.summaries Gen.fns summaries_closed tr p A hA σ hσ

end C08
