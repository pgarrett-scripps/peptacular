import PeptVerif.Lemmas.ModTablesBridge
import PeptVerif.Model.MassEnv
import PeptVerif.Props.C02
/-!
C03 — mass calculator ≡ composition calculator + residual delta.  Property theorems only.
-/
namespace Pept.C03
open Pept Pept.Chem Pept.Mass Pept.CompCalc

/-- the two encodings of the +1 ion agree: the composition of `FRAGMENT_ION_BASE_CHARGE_ADDUCTS[t]` (parsed by the
adduct parser model) is `FRAGMENT_ION_COMPOSITIONS[t]`, for every ion type except `n` (whose adduct text is empty and
never parsed: `n` takes the precursor branch) -/
theorem ion_tables_agree : CompCalc.ionTablesOk = true := C02.ion_tables_ok

/-- Python builds the default charge carrier as the text `f'{n}H+'` and parses it back; for |n| ≤ 9 the parser model
returns exactly `protonsComp n` -/
theorem protons_text_roundtrip :
    ([-9, -8, -7, -6, -5, -4, -3, -2, -1, 0, 1, 2, 3, 4, 5, 6, 7, 8, 9] : List Int).all (fun n =>
      let txt : List Nat := (if n < 0 then [45] else []) ++ natDigits n.natAbs ++ [72, 43]
      match adductComp txt with
      | .ok c => decide (c = protonsComp n)
      | .error _ => false) = true := by
  simp only [adductComp, parseIonElements, isotopic_lit_ok]
  decide +kernel


/-! ### linearity of `chem_mass` (`chemMassL μ` = the sum Σ μ(element)·count that `chem_mass` computes) -/

/-- adding the counts of a second dict (`d[k] = d.get(k, 0) + v`) adds the masses -/
theorem chemMass_add (μ : Elem → Rat) (a b : Comp) : chemMassL μ (addAll a b) = chemMassL μ a + chemMassL μ b :=
  chemMassL_addAll μ a b

/-- scaling every count (a multiplier, a residue count) scales the mass -/
theorem chemMass_smul (μ : Elem → Rat) (k : Rat) (c : Comp) : chemMassL μ (scale k c) = k * chemMassL μ c :=
  chemMassL_scale μ k c

/-- `merge_dicts` (add counts per key, drop zero counts) is mass-additive: dropping zero counts is mass-neutral -/
theorem chemMass_merge (μ : Elem → Rat) (a b : Comp) : chemMassL μ (merge a b) = chemMassL μ a + chemMassL μ b := by
  unfold merge
  rw [chemMassL_dropZeros, chemMassL_addAll, chemMassL_addAll, chemMassL_nil]; ring

/-- the final `{k: v for k, v in composition.items() if v != 0}` of `_sequence_comp` does not change the mass -/
theorem chemMass_dropZeros (μ : Elem → Rat) (c : Comp) : chemMassL μ (dropZeros c) = chemMassL μ c :=
  chemMassL_dropZeros μ c

example : chemMassL (fun e => (e : Rat)) (merge [(1, 2), (2, 3)] [(2, -3), (1, 1 / 2)]) = 5 / 2 := by decide +kernel

/-- `chem_mass` itself (the function that may raise) succeeds on known elements and equals that sum -/
theorem chemMass_eq_linear (mono : Bool) (c : Comp) (h : c.all (fun p => (elemMass mono p.1).isSome) = true) :
    chemMass mono c none = .ok (chemMassL (fun e => (elemMass mono e).getD 0) c) :=
  chemMass_ok mono c h

/-- **averagine estimation is mass-exact**: the composition `estimate_comp(δ)` has monoisotopic mass exactly δ over ℚ,
so `comp(..., estimate_delta=True)` has the same monoisotopic mass as composition + residual delta -/
theorem estimate_comp_mass (δ : Rat) :
    ∃ c, estimateComp δ none = .ok c ∧ chemMass true c none = .ok δ := by
  refine ⟨_, rfl, ?_⟩
  have hk : (Gen.averagine.map (fun p => (p.1, p.2 * δ / isotopicAveragineMass))).all
      (fun p => (elemMass true p.1).isSome) = true := by
    rw [List.all_map]
    simp only [Function.comp_def, elemMass_eq_lit]
    decide +kernel
  rw [chemMass_ok true _ hk, chemMassL_averagine]

/-- and adding it to a composition adds exactly δ to the monoisotopic mass (`comp` with `estimate_delta=True`) -/
theorem comp_estimate_mass (c : Comp) (δ : Rat) :
    chemMassL (fun e => (elemMass true e).getD 0)
      (addAll c (Gen.averagine.map (fun p => (p.1, p.2 * δ / isotopicAveragineMass))))
      = chemMassL (fun e => (elemMass true e).getD 0) c + δ := by
  rw [chemMassL_addAll, chemMassL_averagine]


/-- **mass calculator = composition calculator + residual delta, exactly over ℚ up to `k·ε`** with
`ε = PROTON_MASS − (m(H) − mₑ)` and `k` = the number of charges the fast path adds as `PROTON_MASS` where the
composition adds `H − e` (`charge` for `p`/`n`, `charge − 1` for the 16 fragment types):

for every annotation whose written modifications resolve (a plain shift, or a composition together with a tabulated
mass: `AllConsistent`), every placement (labile, unknown,
termini, intervals, residues) and multiplier, every known ion type, any charge (argument or annotation, any sign), any
isotope offset and loss, both modes.  `gapSum` = Σ over the written modifications of multiplier × (tabulated mass −
mass of the tabulated composition): 0 for exactly self-consistent rows (`gapSum_exact`), bounded row by row for the
vocabularies by `unimod_mono_consistent`, `unimod_avg_chnops_consistent`, `psimod_mono_excluded` through `row_gap`.
|ε| ≤ 2·10⁻⁸ in monoisotopic mode (`C02.particles_ok`); in average mode
`m(H)` is the average hydrogen mass and ε = −1.157·10⁻⁴.

Partial: this theorem is the case without global static rules (`a.static = none`); `mass_eq_compMass_static` is the
case with rules, `mass_eq_compMass_adducts` the case with an explicit adduct list.  With isotope labels in force `mass`
IS the composition path (`mass_label_path`). -/
theorem mass_eq_compMass_partial (env : Env) (a : Annotation) (o : Opts)
    (hstatic : a.static = none) (hl : o.isotopeMods = none) (hl' : a.isotope = none)
    (had : o.adducts = none) (had' : a.adducts = none) (hprec : o.precision = none)
    (hres : KnownResidues a.seq) (hcons : AllConsistent env o.mono (writtenMods a))
    (hadj : (lookup o.ion neutralAdj).isSome = true)
    (hion : o.ion = ionP ∨ o.ion = ionN ∨ (lookup o.ion Gen.ionComp).isSome = true) :
    ∃ c d, compMass env a o.ion o.charge o.isotope none none o.useIsotopeOnMods = .ok (c, d) ∧
      mass env a o = .ok (chemMassL (μ o.mono) c + d + o.loss + kProtons a o * (Gen.protonMass - hplus o.mono)
        + gapSum env o.mono (Spec.placedMods a o.ion)) := by
  have h0 : mapGap env o.mono a.seq [] = 0 := mapSum_nil _ _
  have := mass_eq_compMass_default ion_tables_agree env a o [] (rulesParse_none env a hstatic) hl hl' had had' hprec hres
    (by rw [mapMods_nil, List.append_nil]; exact hcons) hadj hion
  rwa [h0, add_zero] at this

/-- **the same identity with global static rules** (`<[mods]@targets>`, including `N-Term`, `C-Term` and multi-residue
targets, any multiplier): `comp_mass` condenses the rules into terminal / per-residue modifications, `mass` adds
`mods × number of matching residues`; both routes agree exactly.  `map` is what `parse_static_mods` returns for the
annotation's rules; its modifications must resolve self-consistently like the written ones.  Together with
`mass_eq_compMass_partial` (no rules) this covers every annotation without an explicit adduct list. -/
theorem mass_eq_compMass_static (env : Env) (a : Annotation) (o : Opts)
    (st : List Mod) (map : List (List Char × List Mod)) (hs : a.static = some st) (hp : env.parseStatic st = .ok map)
    (hl : o.isotopeMods = none) (hl' : a.isotope = none)
    (had : o.adducts = none) (had' : a.adducts = none) (hprec : o.precision = none)
    (hres : KnownResidues a.seq) (hcons : AllConsistent env o.mono (writtenMods a ++ mapMods map))
    (hadj : (lookup o.ion neutralAdj).isSome = true)
    (hion : o.ion = ionP ∨ o.ion = ionN ∨ (lookup o.ion Gen.ionComp).isSome = true) :
    ∃ c d, compMass env a o.ion o.charge o.isotope none none o.useIsotopeOnMods = .ok (c, d) ∧
      mass env a o = .ok (chemMassL (μ o.mono) c + d + o.loss + kProtons a o * (Gen.protonMass - hplus o.mono)
        + (gapSum env o.mono (Spec.placedMods a o.ion) + mapGap env o.mono a.seq map)) :=
  mass_eq_compMass_default ion_tables_agree env a o map ((rulesParse_some hs).2 hp) hl hl' had had' hprec
    hres hcons hadj hion

/-- **… for the modelled `parse_static_mods`**: the rule parser is the concrete model `Static.parseStaticMods` (bracket
groups with multipliers, `@`, comma-separated targets); only the per-value resolution `res` is a parameter (C10) -/
theorem mass_eq_compMass_static_concrete (res : ModVal → Res) (a : Annotation) (o : Opts)
    (st : List Mod) (map : List (List Char × List Mod)) (hs : a.static = some st)
    (hp : Static.parseStaticMods (some st) = .ok map)
    (hl : o.isotopeMods = none) (hl' : a.isotope = none)
    (had : o.adducts = none) (had' : a.adducts = none) (hprec : o.precision = none)
    (hres : KnownResidues a.seq) (hcons : AllConsistent (Env.concrete res) o.mono (writtenMods a ++ mapMods map))
    (hadj : (lookup o.ion neutralAdj).isSome = true)
    (hion : o.ion = ionP ∨ o.ion = ionN ∨ (lookup o.ion Gen.ionComp).isSome = true) :
    ∃ c d, compMass (Env.concrete res) a o.ion o.charge o.isotope none none o.useIsotopeOnMods = .ok (c, d) ∧
      mass (Env.concrete res) a o = .ok (chemMassL (μ o.mono) c + d + o.loss
        + kProtons a o * (Gen.protonMass - hplus o.mono)
        + (gapSum (Env.concrete res) o.mono (Spec.placedMods a o.ion) + mapGap (Env.concrete res) o.mono a.seq map)) :=
  mass_eq_compMass_static (Env.concrete res) a o st map hs (Env.concrete_parse res st map hp)
    hl hl' had had' hprec hres hcons hadj hion

-- non-vacuity: the rule `[+10][Acetyl]^2@T,N-Term` parses to T ↦ [10, Acetyl×2], N-Term ↦ [10, Acetyl×2]
example : Static.parseStaticMods (some [⟨.str "[+10][Acetyl]^2@T,N-Term".toList, 1⟩])
    = .ok [("T".toList, [⟨.int 10, 1⟩, ⟨.str "Acetyl".toList, 2⟩]),
           ("N-Term".toList, [⟨.int 10, 1⟩, ⟨.str "Acetyl".toList, 2⟩])] := by decide +kernel

/-- **the identity with an explicit adduct list** — from the `charge_adducts` argument or written in the annotation
(`PEPTIDE/2[+Na+,+K+]`), for every ion type (the list replaces the whole charge carrier in both calculators), any
charge / isotope / loss, both modes: `mass = chem_mass(comp) + δ + loss + adductGap + gapSum` with
`adductGap` = Σ q·mₑ·(count − 1) over the stated non-electron ions (and `PROTON_MASS − (m(H) − mₑ)` for the literal `+H+`).
The known finding KF-C03-adduct-electron-count is exactly a non-zero `adductGap`; it vanishes when every ion is stated
once (`adductGap_counts_one`).  (No global static rules in this statement.) -/
theorem mass_eq_compMass_adducts (env : Env) (a : Annotation) (o : Opts) (s : List Char)
    (hsrc : AdductSource a o s)
    (hstatic : a.static = none) (hl : o.isotopeMods = none) (hl' : a.isotope = none) (hprec : o.precision = none)
    (hres : KnownResidues a.seq) (hcons : AllConsistent env o.mono (writtenMods a))
    (hadj : (lookup o.ion neutralAdj).isSome = true)
    (hions : (splitComma (s.map Char.toNat)).all (Spec.adductIonOk o.mono) = true) :
    ∃ c d, compMass env a o.ion o.charge o.isotope o.adducts none o.useIsotopeOnMods = .ok (c, d) ∧
      mass env a o = .ok (chemMassL (μ o.mono) c + d + o.loss + adductGap o.mono (s.map Char.toNat)
        + gapSum env o.mono (Spec.placedMods a o.ion)) := by
  have h0 : mapGap env o.mono a.seq [] = 0 := mapSum_nil _ _
  have := mass_eq_compMass_adductList env a o s [] hsrc (rulesParse_none env a hstatic) hl hl' hprec hres
    (by rw [mapMods_nil, List.append_nil]; exact hcons) hadj hions
  rwa [h0, add_zero] at this

/-- every ion stated once (electrons as `e-`) and not the literal `+H+`: the two calculators agree exactly -/
theorem adductGap_counts_one (mono : Bool) (s : List Nat) (hs : s ≠ [43, 72, 43])
    (h : ∀ x ∈ splitComma s, ∀ cnt sym q, parseIonElements x = .ok (cnt, sym, q) →
      (sym = kE ∧ q = -1) ∨ (sym ≠ kE ∧ cnt = 1)) :
    adductGap mono s = 0 := by
  unfold adductGap
  simp only [hs, if_false]
  apply Spec.sumR_map_eq_zero
  intro x hx
  unfold ionGap
  cases hp : parseIonElements x with
  | error e => rfl
  | ok r =>
    obtain ⟨cnt, sym, q⟩ := r
    rcases h x hx cnt sym q hp with ⟨he, hq⟩ | ⟨he, hc⟩
    · simp [he, hq]
    · simp [he, hc]

-- non-vacuity: PEPTIDE/2[+Na+,+2K+] (annotation) and the argument form
example : AdductSource { seq := "PEPTIDE".toList, charge := some 2, adducts := some [⟨.str "+Na+,+2K+".toList, 1⟩] } {}
    "+Na+,+2K+".toList := Or.inr ⟨rfl, 1, rfl⟩
example : (splitComma ("+Na+,+2K+".toList.map Char.toNat)).all (Spec.adductIonOk false) = true := by
  unfold Spec.adductIonOk parseIonElements
  simp only [isotopic_lit_ok, average_lit_ok]
  decide +kernel

/-- with exactly self-consistent rows (tabulated mass = mass of the composition in the mode; every numeric, formula and
glycan modification is such a row) the gap term vanishes and the identity is `mass = chem_mass(comp) + δ + loss + k·ε` -/
theorem gapSum_exact (env : Env) (mono : Bool) (l : List Mod) (h : ∀ m ∈ l, ExactlyConsistent env mono m.val) :
    gapSum env mono l = 0 := by
  refine Spec.sumR_map_eq_zero _ l fun m hm => ?_
  rcases h m hm with ⟨d, hd, _⟩ | ⟨c, hd, hc, hx⟩
  · exact gapOf_shift mono hd
  · rw [gapOf_comp hd hc hx, sub_self, zero_mul]

/-! ### exhaustive clause: every vocabulary row against the element table of `Model/Chem.lean` -/

open Pept.ModTables in
/-- **every Unimod entry** (1522): |tabulated monoisotopic mass − chem_mass(tabulated composition)| ≤ 1e-4, with the
composition text read by the formula model and the masses of `Model/Chem.lean` (recomputed from data/chem.txt) -/
theorem unimod_mono_consistent : Gen.Unimod.entries.all monoOk = true := unimod_rows.1

open Pept.ModTables ModDb in
/-- **average mode, exact excluded set**: the Unimod entries whose tabulated average mass is NOT within 1e-3 + 5 ppm of
the average mass of their composition are exactly these six (Hg, Mo ×3, Cu/Mo, Zn: the upstream table uses other
standard atomic weights for metals) -/
theorem unimod_avg_excluded :
    failing avgOk Gen.Unimod.entries = [str% "291", str% "391", str% "415", str% "424", str% "444", str% "954"] :=
  unimod_rows.2.1

open Pept.ModTables in
/-- … and every Unimod entry composed of C, H, N, O, P, S and their isotopes is within 1e-3 + 5 ppm -/
theorem unimod_avg_chnops_consistent : Gen.Unimod.entries.all (fun e => avgOk e || !isChnops e) = true :=
  unimod_rows.2.2.1

open Pept.ModTables in
/-- **PSI-MOD**: of the 1541 rows that carry a monoisotopic mass and a composition, the rows that are not self-consistent
within 1e-4 are exactly the 63 of `psimodMonoExcluded` (charged species off by one electron mass, iron-sulfur clusters …);
every other row is consistent -/
theorem psimod_mono_excluded : failing monoOk (rows Gen.PsiMod.entries) = psimodMonoExcluded := psimod_rows.1

open Pept.ModTables in
/-- PSI-MOD average masses are tabulated with other atomic weights (often 2 decimals): 1048 of the 1541 rows are outside
1e-3 + 5 ppm; the property quantifies over the self-consistent rows only -/
theorem psimod_avg_counts :
    (rows Gen.PsiMod.entries).length = 1541 ∧ (failing avgOk (rows Gen.PsiMod.entries)).length = 1048 :=
  psimod_rows.2

open Pept.ModTables in
/-- **from a checked row to the gap term**: if the resolver answers a value with the row's composition and tabulated
monoisotopic mass, `k` copies of it contribute exactly `k·(m − chem_mass(c))` to `gapSum`, at most `|k|·1e-4` -/
theorem row_gap_mono (env : Env) (e : ModDb.Entry) (he : monoOk e = true) (v : ModVal) (k : Int) :
    ∃ c m, entryComp e = some c ∧ e.mono = some m ∧
      ((env.res v).delta = .ok none → (env.res v).comp = .ok c → (env.res v).mono = .ok m.toRat →
        gapOf env true ⟨v, k⟩ ≤ 1 / 10000 * Mass.absQ (k : Rat) ∧
        -(1 / 10000 * Mass.absQ (k : Rat)) ≤ gapOf env true ⟨v, k⟩) := by
  obtain ⟨c, m, x, hc, hm, hx, hb⟩ := monoOk_unfold e he
  exact ⟨c, m, hc, hm, row_gap env true v k c m x _ hx hb⟩

open Pept.ModTables in
/-- the same in average mode with the row's own tolerance 1e-3 + 5 ppm·|m| -/
theorem row_gap_avg (env : Env) (e : ModDb.Entry) (he : avgOk e = true) (v : ModVal) (k : Int) :
    ∃ c m, entryComp e = some c ∧ e.avg = some m ∧
      ((env.res v).delta = .ok none → (env.res v).comp = .ok c → (env.res v).avg = .ok m.toRat →
        gapOf env false ⟨v, k⟩ ≤ (1 / 1000 + 5 / 1000000 * ModTables.absQ m.toRat) * Mass.absQ (k : Rat) ∧
        -((1 / 1000 + 5 / 1000000 * ModTables.absQ m.toRat) * Mass.absQ (k : Rat)) ≤ gapOf env false ⟨v, k⟩) := by
  obtain ⟨c, m, x, hc, hm, hx, hb⟩ := avgOk_unfold e he
  exact ⟨c, m, hc, hm, row_gap env false v k c m x _ hx hb⟩

/-- the size of ε: monoisotopic |ε| ≤ 2·10⁻⁸, average |ε| ≤ 1.2·10⁻⁴ — so the two calculators differ by at most
`|k|·2·10⁻⁸` Da (mono) resp. `|k|·1.2·10⁻⁴` Da (average), inside the property's 10⁻⁴ / 10⁻³ for |k| ≤ 8 -/
theorem epsilon_bound :
    (-(2 / 100000000 : Rat) ≤ Gen.protonMass - hplus true ∧ Gen.protonMass - hplus true ≤ 2 / 100000000) ∧
    (-(12 / 100000 : Rat) ≤ Gen.protonMass - hplus false ∧ Gen.protonMass - hplus false ≤ 12 / 100000) := by
  simp only [hplus, μ, elemMass_eq_lit]
  decide +kernel

/-- with isotope labels in force (argument or annotation) `mass` is by definition the composition path:
`chem_mass(comp_mass(...).composition) + delta + loss`, rounded last -/
theorem mass_label_path (env : Env) (a : Annotation) (o : Opts) (r : Resolved) (m : Mod) (ms : List Mod)
    (hr : resolveArgs a o = .ok r) (hlab : r.isotopeMods = some (m :: ms))
    (hB : a.seq.contains 'B' = false) (hZ : a.seq.contains 'Z' = false) :
    mass env a o = (do
      let (c, d) ← compMass env a o.ion r.charge o.isotope r.adducts (some (m :: ms)) o.useIsotopeOnMods
      let cm ← chemMass o.mono c none
      pure (roundOpt (cm + d + o.loss) o.precision)) :=
  massWith_labels compMass env a o r m ms hr hlab hB hZ

-- non-vacuity: PEPTIDE with a numeric shift ×2 on a residue, a composition-bearing N-terminal mod, a labile shift;
-- y-type ion, charge 2, average mode
example : AllConsistent ⟨fun v => if v = .int 7 then ⟨.ok 7, .ok 7, .ok (some 7), .error .valueError⟩
      else ⟨.ok (chemMassL (μ true) [(kO, 1)]), .ok (chemMassL (μ false) [(kO, 1)]), .ok none, .ok [(kO, 1)]⟩, fun _ => .ok []⟩ false
    (writtenMods { seq := "PEPTIDE".toList, labile := some [⟨.int 7, 1⟩], nterm := some [⟨.str "Oxidation".toList, 1⟩],
                   internal := some [(2, [⟨.int 7, 2⟩])] }) := by
  intro m hm
  simp only [writtenMods, ivMods, intMods, Option.getD_some, Option.getD_none, List.flatMap_cons, List.flatMap_nil,
    List.append_nil, List.nil_append, List.cons_append, List.mem_cons, List.mem_nil_iff, or_false] at hm
  rcases hm with rfl | rfl | rfl
  · exact Or.inl ⟨7, rfl, rfl⟩
  · exact Or.inr ⟨[(kO, 1)], _, rfl, rfl, rfl⟩
  · exact Or.inl ⟨7, rfl, rfl⟩
example : KnownResidues ['P', 'E', 'P', 'T', 'I', 'D', 'E'] := by
  intro ch hch
  simp only [List.mem_cons, List.mem_nil_iff, or_false] at hch
  rcases hch with rfl | rfl | rfl | rfl | rfl | rfl | rfl <;> exact Option.isSome_iff_exists.mp (by decide +kernel)
example : (lookup (Spec.k "y") neutralAdj).isSome = true ∧ (lookup (Spec.k "y") Gen.ionComp).isSome = true := by
  constructor <;> decide +kernel

end Pept.C03
