import PeptVerif.Props.C05
import PeptVerif.Lemmas.C05Ext
/-!
C05, further relations: complementary pairs, loss / isotope / charge shifts, internal ions as differences of prefix ions,
growth of a series, terminal modifications.  Property theorems only; same objects as `Props/C05.lean`: the executable
model of `mass(ion_type=…)` / `mz(…)` (driver ops `mass`, `mz`, run against the real code on every check) over the
regenerated tables.
-/
namespace Pept.C05
open Pept Pept.Chem Pept.Mass Pept.Spec

/-- the middle piece of a double cleavage: residues `s₂` with their residue mods, no terminus -/
def midAnn (s₂ : List Char) (I₂ : List (Int × List Mod)) : Annotation := { seq := s₂, internal := some I₂ }

/-- **complementary pairs, all nine**: for a cleavage `s₁ | s₂`, forward type `f ∈ {a,b,c}` on the N-terminal piece and backward
type `g ∈ {x,y,z}` on the C-terminal piece, at any charges, isotope offsets and losses:
`f + g = M + 2h⁺ + off(f) + off(g) + (z₁+z₂−2)·proton + (iso₁+iso₂)·neutron + loss₁ + loss₂` -/
theorem complementary_pairs (env : Env) (mono : Bool) (s₁ s₂ : List Char) (nt ct : Option (List Mod))
    (I₁ I₂ : List (Int × List Mod))
    (hb : fragDomain env (prefixAnn s₁ nt I₁) mono) (hy : fragDomain env (suffixAnn s₂ ct I₂) mono)
    (hM : inDomain env (wholeAnn s₁ s₂ nt ct I₁ I₂) ionP mono none = true)
    (f g : Key) (hf : f ∈ [k "a", k "b", k "c"]) (hg : g ∈ [k "x", k "y", k "z"])
    (z₁ z₂ iso₁ iso₂ : Int) (l₁ l₂ : Rat) :
    ∃ mf mg M, mass env (prefixAnn s₁ nt I₁) (ionQuery f z₁ mono iso₁ l₁) = .ok mf ∧
      mass env (suffixAnn s₂ ct I₂) (ionQuery g z₂ mono iso₂ l₂) = .ok mg ∧
      mass env (wholeAnn s₁ s₂ nt ct I₁ I₂) (ionQuery ionP 0 mono 0 0) = .ok M ∧
      mf + mg = M + 2 * lib.hplus mono + (seriesOffset lib mono f).getD 0 + (seriesOffset lib mono g).getD 0
        + ((z₁ : Rat) + (z₂ : Rat) - 2) * Gen.protonMass + ((iso₁ : Rat) + (iso₂ : Rat)) * Gen.neutronMass + l₁ + l₂ :=
  cleavage_pair_mass env mono rfl rfl rfl hb hy hM f g hf hg z₁ z₂ iso₁ iso₂ l₁ l₂

/-- **a_i + x_(n−i) = M + 2h⁺ − H2 and c_i + z_(n−i) = M + 2h⁺** (singly charged; b/y is `b_plus_y`) -/
theorem complementary_ax_cz (env : Env) (mono : Bool) (s₁ s₂ : List Char) (nt ct : Option (List Mod))
    (I₁ I₂ : List (Int × List Mod))
    (hb : fragDomain env (prefixAnn s₁ nt I₁) mono) (hy : fragDomain env (suffixAnn s₂ ct I₂) mono)
    (hM : inDomain env (wholeAnn s₁ s₂ nt ct I₁ I₂) ionP mono none = true) :
    ∃ ma mx mc mz M, mass env (prefixAnn s₁ nt I₁) (ionQuery (k "a") 1 mono 0 0) = .ok ma ∧
      mass env (suffixAnn s₂ ct I₂) (ionQuery (k "x") 1 mono 0 0) = .ok mx ∧
      mass env (prefixAnn s₁ nt I₁) (ionQuery (k "c") 1 mono 0 0) = .ok mc ∧
      mass env (suffixAnn s₂ ct I₂) (ionQuery (k "z") 1 mono 0 0) = .ok mz ∧
      mass env (wholeAnn s₁ s₂ nt ct I₁ I₂) (ionQuery ionP 0 mono 0 0) = .ok M ∧
      ma + mx = M + 2 * lib.hplus mono - lib.compMass mono fH2 ∧ mc + mz = M + 2 * lib.hplus mono := by
  obtain ⟨ma, mx, M, h1, h2, h3, h4⟩ := complementary_pairs env mono s₁ s₂ nt ct I₁ I₂ hb hy hM (k "a") (k "x")
    (by decide) (by decide) 1 1 0 0 0 0
  obtain ⟨mc, mz, M', h5, h6, h7, h8⟩ := complementary_pairs env mono s₁ s₂ nt ct I₁ I₂ hb hy hM (k "c") (k "z")
    (by decide) (by decide) 1 1 0 0 0 0
  have hMM : M' = M := by rw [h3] at h7; exact (Except.ok.inj h7).symm
  subst hMM
  refine ⟨ma, mx, mc, mz, M', h1, h2, h5, h6, h3, ?_, ?_⟩
  · rw [h4, seriesOffset_a, seriesOffset_x]; push_cast; ring
  · rw [h8, seriesOffset_c, seriesOffset_z]; push_cast; ring

/-- **a neutral loss and an isotope offset shift every ion by exactly `loss` and `isotope · NEUTRON_MASS`**: every ion
type (precursor included), every charge -/
theorem loss_isotope_shift (env : Env) (a : Annotation) (t : Key) (mono : Bool) (hl : a.isotope = none)
    (had : a.adducts = none) (hdom : inDomain env a t mono none = true) (z iso : Int) (loss : Rat) :
    ∃ m, mass env a (ionQuery t z mono 0 0) = .ok m ∧
      mass env a (ionQuery t z mono iso loss) = .ok (m + (iso : Rat) * Gen.neutronMass + loss) := by
  obtain ⟨m, h₀, h₁⟩ := mass_ionQuery_shift env a t mono hl had hdom z z 0 iso 0 loss
  refine ⟨m, h₀, h₁.trans (congrArg Except.ok ?_)⟩
  push_cast
  ring

/-- **charge relation in closed form**: for any two charges `z₀`, `z` (zero and negative included) the masses of the same
ion differ by `(z − z₀) · PROTON_MASS` -/
theorem charge_difference (env : Env) (a : Annotation) (t : Key) (mono : Bool) (hl : a.isotope = none)
    (had : a.adducts = none) (hdom : inDomain env a t mono none = true) (z₀ z iso : Int) (loss : Rat) :
    ∃ m, mass env a (ionQuery t z₀ mono iso loss) = .ok m ∧
      mass env a (ionQuery t z mono iso loss) = .ok (m + ((z : Rat) - (z₀ : Rat)) * Gen.protonMass) := by
  obtain ⟨m, h₀, h₁⟩ := mass_ionQuery_shift env a t mono hl had hdom z₀ z iso iso loss loss
  refine ⟨m, h₀, h₁.trans (congrArg Except.ok ?_)⟩
  ring

/-- **m/z for every charge z ≠ 0, negative included**: `mz` of a fragment ion is
`(m₁ + (z − 1) · PROTON_MASS) / z` with `m₁` its singly charged mass (the code divides by the signed charge) -/
theorem mz_charge_relation (env : Env) (a : Annotation) (t : Key) (mono : Bool) (hl : a.isotope = none)
    (had : a.adducts = none) (hdom : inDomain env a t mono none = true) (z iso : Int) (hz : z ≠ 0) (loss : Rat) :
    ∃ m₁, mass env a (ionQuery t 1 mono iso loss) = .ok m₁ ∧
      mz env a (ionQuery t z mono iso loss) = .ok ((m₁ + ((z : Rat) - 1) * Gen.protonMass) / (z : Rat)) := by
  obtain ⟨m₁, h1, h2⟩ := charge_difference env a t mono hl had hdom 1 z iso loss
  refine ⟨m₁, h1, ?_⟩
  rw [mz_of_mass env a t z mono iso loss _ h2, if_neg hz]
  push_cast
  rfl

/-- **an internal ion is a difference of two prefix ions**: for `s₁ | s₂ | …`, forward `f`, backward `g`:
`fg[s₂] (z) = b[s₁ ++ s₂] (z) − b[s₁] (1) + h⁺ + off(f) + off(g)`, N-terminal mods and residue mods of `s₁` cancel -/
theorem internal_prefix_difference (env : Env) (mono : Bool) (s₁ s₂ : List Char) (nt : Option (List Mod))
    (I₁ I₂ : List (Int × List Mod))
    (h₁ : fragDomain env (prefixAnn s₁ nt I₁) mono)
    (h₂ : fragDomain env (prefixAnn (s₁ ++ s₂) nt (I₁ ++ I₂.map (fun p => (p.1 + (s₁.length : Int), p.2)))) mono)
    (hm : fragDomain env (midAnn s₂ I₂) mono)
    (f g : Key) (hf : f ∈ [k "a", k "b", k "c"]) (hg : g ∈ [k "x", k "y", k "z"]) (z iso : Int) (loss : Rat) :
    ∃ b₁ b₂, mass env (prefixAnn s₁ nt I₁) (ionQuery (k "b") 1 mono 0 0) = .ok b₁ ∧
      mass env (prefixAnn (s₁ ++ s₂) nt (I₁ ++ I₂.map (fun p => (p.1 + (s₁.length : Int), p.2))))
        (ionQuery (k "b") z mono iso loss) = .ok b₂ ∧
      mass env (midAnn s₂ I₂) (ionQuery (f * 256 + g) z mono iso loss)
        = .ok (b₂ - b₁ + lib.hplus mono + (seriesOffset lib mono f).getD 0 + (seriesOffset lib mono g).getD 0) := by
  obtain ⟨_, ob, _, _, _, _, _⟩ := offsets mono
  obtain ⟨hfg, hp, hn⟩ := offset_internal lib mono f g hf hg
  refine ⟨_, _, mass_fragment env _ mono h₁ (k "b") (by decide) (by decide) _ ob 1 0 0,
    mass_fragment env _ mono h₂ (k "b") (by decide) (by decide) _ ob z iso loss, ?_⟩
  rw [mass_fragment env _ mono hm (f * 256 + g) hp hn _ hfg z iso loss]
  apply congrArg Except.ok
  rw [prefixAnn, ionBase_append]
  simp only [prefixAnn, midAnn, ionBase_plain, Option.getD_none, Option.getD_some, modsValue_nil]
  push_cast
  ring

/-- every residue of the table has a non-negative mass in both modes, positive unless it is `X` (empty composition in
`AA_COMPOSITIONS`, mass 0) — kernel evaluation over the generated element tables -/
theorem residues_positive : residuesPositive = true := by
  delta residuesPositive lib
  rw [elemMass_fast]
  decide +kernel

/-- **a forward series grows with the fragment number**: extending the N-terminal piece `s₁` by a non-empty run of known
residues `s₂` whose residue mods have a non-negative total makes every forward ion (same type, charge, isotope, loss)
heavier by exactly the residues and mods gained; never lighter, and strictly heavier unless the run contains `X`
(full statement "strictly heavier" fails in the code as it is: `X` weighs 0, so b_i = b_(i+1) across an `X`) -/
theorem forward_series_monotone (env : Env) (mono : Bool) (s₁ s₂ : List Char) (nt : Option (List Mod))
    (I₁ I₂ : List (Int × List Mod)) (hs : s₂ ≠ [])
    (h₁ : fragDomain env (prefixAnn s₁ nt I₁) mono)
    (h₂ : fragDomain env (prefixAnn (s₁ ++ s₂) nt (I₁ ++ I₂.map (fun p => (p.1 + (s₁.length : Int), p.2)))) mono)
    (hpos : 0 ≤ modsValue env mono (I₂.flatMap (·.2)))
    (f : Key) (hf : f ∈ [k "a", k "b", k "c"]) (z iso : Int) (loss : Rat) :
    ∃ m₁ m₂, mass env (prefixAnn s₁ nt I₁) (ionQuery f z mono iso loss) = .ok m₁ ∧
      mass env (prefixAnn (s₁ ++ s₂) nt (I₁ ++ I₂.map (fun p => (p.1 + (s₁.length : Int), p.2))))
        (ionQuery f z mono iso loss) = .ok m₂ ∧
      m₂ = m₁ + residueSum lib mono s₂ + modsValue env mono (I₂.flatMap (·.2)) ∧ m₁ ≤ m₂ ∧ ('X' ∉ s₂ → m₁ < m₂) := by
  obtain ⟨of, hfp, hfn⟩ := offset_forward lib mono f hf
  refine ⟨_, _, mass_fragment env _ mono h₁ f hfp hfn _ of z iso loss,
    mass_fragment env _ mono h₂ f hfp hfn _ of z iso loss, ?_⟩
  have hk : s₂.all (fun c => (lookup c.toNat residueFormula).isSome) = true := by
    have := inDomain_residues h₂.2.2
    simp only [prefixAnn, List.all_append, Bool.and_eq_true] at this
    exact this.2
  have hr0 := residueSum_nonneg residues_positive mono s₂ hk
  have heq : ionBase env (prefixAnn (s₁ ++ s₂) nt (I₁ ++ I₂.map (fun p => (p.1 + (s₁.length : Int), p.2)))) mono
      = ionBase env (prefixAnn s₁ nt I₁) mono + residueSum lib mono s₂ + modsValue env mono (I₂.flatMap (·.2)) :=
    ionBase_append env mono s₁ s₂ nt I₁ I₂
  refine ⟨?_, ?_, fun hx => ?_⟩
  · rw [heq]; ring
  · rw [heq]; linarith
  · have hr := residueSum_pos residues_positive mono s₂ hs hx hk
    rw [heq]; linarith

/-- the counter-example to strict growth, in the code as it is: the residue `X` is in the table and weighs nothing -/
theorem x_residue_massless (mono : Bool) :
    ∃ f, lookup 'X'.toNat Gen.aaComp = some f ∧ lib.compMass mono f = 0 := ⟨[], by decide +kernel, rfl⟩

/-- **which pieces carry a terminal modification**: an N-terminal modification list `nt` is carried by every N-terminal piece
(each forward ion is heavier by exactly its value) — the C-terminal and the internal pieces (`suffixAnn`, `midAnn`) have no
N-terminal field at all, so none of their ions can depend on it; symmetrically for the C-terminus -/
theorem terminal_mod_locality (env : Env) (mono : Bool) (s : List Char) (nt ct : List Mod) (I : List (Int × List Mod))
    (hN : fragDomain env (prefixAnn s (some nt) I) mono) (hN₀ : fragDomain env (prefixAnn s none I) mono)
    (hC : fragDomain env (suffixAnn s (some ct) I) mono) (hC₀ : fragDomain env (suffixAnn s none I) mono)
    (f g : Key) (hf : f ∈ [k "a", k "b", k "c"]) (hg : g ∈ [k "x", k "y", k "z"]) (z iso : Int) (loss : Rat) :
    ∃ mf mg, mass env (prefixAnn s none I) (ionQuery f z mono iso loss) = .ok mf ∧
      mass env (prefixAnn s (some nt) I) (ionQuery f z mono iso loss) = .ok (mf + modsValue env mono nt) ∧
      mass env (suffixAnn s none I) (ionQuery g z mono iso loss) = .ok mg ∧
      mass env (suffixAnn s (some ct) I) (ionQuery g z mono iso loss) = .ok (mg + modsValue env mono ct) := by
  obtain ⟨of, hfp, hfn⟩ := offset_forward lib mono f hf
  obtain ⟨og, hgp, hgn⟩ := offset_backward lib mono g hg
  refine ⟨_, _, mass_fragment env _ mono hN₀ f hfp hfn _ of z iso loss, ?_,
    mass_fragment env _ mono hC₀ g hgp hgn _ og z iso loss, ?_⟩
  · rw [mass_fragment env _ mono hN f hfp hfn _ of z iso loss]
    apply congrArg Except.ok
    simp only [prefixAnn, ionBase_plain, Option.getD_none, Option.getD_some, modsValue_nil]
    ring
  · rw [mass_fragment env _ mono hC g hgp hgn _ og z iso loss]
    apply congrArg Except.ok
    simp only [suffixAnn, ionBase_plain, Option.getD_none, Option.getD_some, modsValue_nil]
    ring

-- complementary pairs / ax-cz / internal difference / monotone: PEP | TIDE with mods in each piece
example : fragDomain exEnv (prefixAnn "PEP".toList (some [⟨.int 42, 1⟩]) [(1, [⟨.int 7, 2⟩])]) true ∧
    fragDomain exEnv (suffixAnn "TIDE".toList (some [⟨.int 1, 1⟩]) [(0, [⟨.int 80, 1⟩])]) true ∧
    inDomain exEnv (wholeAnn "PEP".toList "TIDE".toList (some [⟨.int 42, 1⟩]) (some [⟨.int 1, 1⟩])
      [(1, [⟨.int 7, 2⟩])] [(0, [⟨.int 80, 1⟩])]) ionP true none = true :=
  ⟨⟨rfl, rfl, by decide +kernel⟩, ⟨rfl, rfl, by decide +kernel⟩, by decide +kernel⟩
example : fragDomain exEnv (prefixAnn ("PEP".toList ++ "TI".toList) (some [⟨.int 42, 1⟩])
      ([(1, [⟨.int 7, 2⟩])] ++ [((0 : Int), [(⟨.int 80, 1⟩ : Mod)])].map (fun p => (p.1 + ("PEP".toList.length : Int), p.2)))) false ∧
    fragDomain exEnv (midAnn "TI".toList [(0, [⟨.int 80, 1⟩])]) false ∧ "TI".toList ≠ [] ∧ 'X' ∉ "TI".toList ∧
    (0 : Rat) ≤ modsValue exEnv false ([((0 : Int), [(⟨.int 80, 1⟩ : Mod)])].flatMap (·.2)) :=
  ⟨⟨rfl, rfl, by decide +kernel⟩, ⟨rfl, rfl, by decide +kernel⟩, by decide, by decide, by decide +kernel⟩
-- loss / isotope / charge / m-over-z: an internal ion type of a modified peptide, charge −2 ≠ 0
example : exAnn.isotope = none ∧ exAnn.adducts = none ∧ inDomain exEnv exAnn (k "cz") false none = true ∧ (-2 : Int) ≠ 0 :=
  ⟨rfl, rfl, by decide +kernel, by decide⟩
-- terminal locality: PEPTIDE with / without a terminal mod
example : fragDomain exEnv (prefixAnn "PEPTIDE".toList (some [⟨.int 42, 1⟩]) [(2, [⟨.int 7, 2⟩])]) true ∧
    fragDomain exEnv (prefixAnn "PEPTIDE".toList none [(2, [⟨.int 7, 2⟩])]) true ∧
    fragDomain exEnv (suffixAnn "PEPTIDE".toList (some [⟨.int 1, 1⟩]) [(2, [⟨.int 7, 2⟩])]) true ∧
    fragDomain exEnv (suffixAnn "PEPTIDE".toList none [(2, [⟨.int 7, 2⟩])]) true :=
  ⟨⟨rfl, rfl, by decide +kernel⟩, ⟨rfl, rfl, by decide +kernel⟩, ⟨rfl, rfl, by decide +kernel⟩, ⟨rfl, rfl, by decide +kernel⟩⟩

end Pept.C05
