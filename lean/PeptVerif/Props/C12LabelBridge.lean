import PeptVerif.Lemmas.ConcreteLabel
import PeptVerif.Props.C12Concrete
/-!
# C12: bridge lemma on the label path

Apart from `Props/C12Concrete.lean` because it depends on `Lemmas/FragmentLabel.lean` (C04's closed form
`Fragment.massOf_labelled`) and `Model/CompCalc.lean` (C03), which the other theorems of C12 do not need.
-/
namespace Pept
namespace C12LabelBridge
open Chem AbsMass Static CondenseMass Concrete

/-- **bridge lemma (label path)**, precursor ion, the property's labels (single or pair), plain annotation -/
theorem mass_bridge_label (env : Pept.Env) (mono : Bool) (dl : Mod → Option ℚ) (cp : Mod → Chem.Comp)
    (b : Annotation) (L : List Mod) (ch : Int) (hL : L ∈ labelLists) (hpl : Fragment.PlainL b L)
    (hseq : CompCalc.KnownResidues b.seq)
    (hmods : Fragment.ModsResolve env (Fragment.knownOf mono) dl cp) (hsm : ∀ m, dl m = none → SmallKeys (cp m)) :
    ∃ X, Mass.mass env b { charge := some ch, mono := mono } = .ok X ∧
      AbsMass.massLabel (envFor env Mass.ionP mono ch 0 0) b = .ok X :=
  mass_bridge_label_precursor env mono dl cp b L ch hL hpl hseq hmods hsm

example : Concrete.propLabels = C12Concrete.labels8.map (·.1) := rfl

/-- non-vacuity: `<13C><15N>PEP[1]` is a plain labelled annotation with a label pair of the property -/
example : [(⟨.str ['1', '3', 'C'], 1⟩ : Mod), ⟨.str ['1', '5', 'N'], 1⟩] ∈ labelLists := by decide


end C12LabelBridge
end Pept
