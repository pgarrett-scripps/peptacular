import PeptVerif.Lemmas.ModDbGeneric
import PeptVerif.Lemmas.GlycanRT
import PeptVerif.Model.ModDbGen
/-!
C09 (deferred validation) on the resolver model: "an unresolvable modification makes mass / comp raise a
ValueError-family error instead of silently counting as zero".

* `massForm T a` / `compForm T a` (defined in `Lemmas/ModDbGeneric.lean`): the decidable predicate "alternative `a` is of
  a documented resolvable form" (tag only; number; `glycan:`; a gno / xlmod / resid prefix; and — unless it starts with
  `info:` — a PSI-MOD string, a Unimod string, `formula:`, `obs:`; for compositions numbers, `obs:` and `info:` are not
  forms).
* an alternative that is not of such a form has no value (`None`), a string none of whose alternatives is of such a form
  raises; a value always comes from a reader of the text or from a vocabulary — the only constant is the `0` of a bare tag.
* inside a vocabulary family an unknown key is an error.
* every error of the resolver is of the `ValueError` family (for the generated tables; for arbitrary tables up to three
  precisely located table defects).
-/
namespace C10Resolve
open ModDb Formula ModDbGeneric

/-- a tiny table for the non-vacuity examples -/
def T0 : Tables :=
  { unimod := [⟨str% "1", str% "Acetyl", [], some ⟨42010565, 6⟩, none, some (str% "C2H2O")⟩,
               ⟨str% "2", str% "NoMass", [], none, none, none⟩],
    psimod := [], xlmod := [], resid := [], gno := [], mono := [],
    mass := { elems := [], electron := ⟨0, 0⟩, proton := ⟨1, 0⟩, neutron := ⟨1, 0⟩ } }

/-! ## an alternative outside the documented forms has no value; a value implies a documented form -/

theorem parseModMass_not_form (T : Tables) (a : Str) (mono : Bool) (h : massForm T a = false) :
    parseModMass T a mono = .ok none := by
  rw [massForm_eq] at h
  rw [parseModMass_eq]
  by_cases htag : (a.contains 35 && startsWith a [35]) = true
  · rw [if_pos htag] at h
    cases h
  · rw [if_neg htag] at h ⊢
    cases hs : convertType (if a.contains 35 then beforeHash a else a) with
    | num n =>
      rw [hs] at h
      cases h
    | special =>
      rw [hs] at h
      cases h
    | str =>
      rw [hs] at h
      rw [massBody_str hs]
      exact runMassBranch_not_form T _ mono h

theorem parseModMass_some_form (T : Tables) (a : Str) (mono : Bool) (x : Mass)
    (h : parseModMass T a mono = .ok (some x)) : massForm T a = true := by
  cases hf : massForm T a with
  | true => rfl
  | false => rw [parseModMass_not_form T a mono hf] at h; cases h

theorem parseModComp_not_form (T : Tables) (a : Str) (h : compForm T a = false) :
    parseModComp T a = .ok none := by
  rw [compForm_eq] at h
  rw [parseModComp_eq]
  cases hs : convertType a with
  | num n => rfl
  | special => rfl
  | str =>
    rw [hs] at h
    dsimp only at h ⊢
    by_cases htag : (a.contains 35 && startsWith a [35]) = true
    · rw [if_pos htag] at h
      cases h
    · rw [if_neg htag] at h ⊢
      rw [compStrBody_eq]
      exact runCompBranch_not_form T _ h

theorem parseModComp_some_form (T : Tables) (a : Str) (x : Comp)
    (h : parseModComp T a = .ok (some x)) : compForm T a = true := by
  cases hf : compForm T a with
  | true => rfl
  | false => rw [parseModComp_not_form T a hf] at h; cases h

example : massForm T0 (str% "Oxidation") = false := by decide +kernel
example : massForm T0 (str% "Acetyl") = true := by decide +kernel
example : massForm T0 (str% "+15.99") = true ∧ compForm T0 (str% "+15.99") = false := by decide +kernel
example : massForm T0 (str% "INFO:Acetyl") = false := by decide +kernel

/-! ## no silent zero -/

/-- a value of `mod_mass` is the value of one alternative of a documented form: there is no default branch -/
theorem resolve_no_silent_zero (T : Tables) (s : Str) (mono : Bool) (x : Mass) (h : modMass T s mono = .ok x) :
    ∃ a ∈ splitBar s, massForm T a = true ∧ parseModMass T a mono = .ok (some x) := by
  rw [modMass, firstMass_eq] at h
  obtain ⟨a, ha, hp⟩ := firstOf_ok _ h
  exact ⟨a, ha, parseModMass_some_form T a mono x hp, hp⟩

theorem resolve_no_silent_zero_comp (T : Tables) (s : Str) (x : Comp) (h : modComp T s = .ok x) :
    ∃ a ∈ splitBar s, compForm T a = true ∧ parseModComp T a = .ok (some x) := by
  rw [modComp, firstComp_eq] at h
  obtain ⟨a, ha, hp⟩ := firstOf_ok _ h
  exact ⟨a, ha, parseModComp_some_form T a x hp, hp⟩

/-- a modification none of whose alternatives is of a documented form raises `InvalidModificationMassError` -/
theorem unresolvable_mass_raises (T : Tables) (s : Str) (mono : Bool)
    (h : ∀ a ∈ splitBar s, massForm T a = false) : modMass T s mono = .error .invalidModMass := by
  rw [modMass, firstMass_eq]
  exact firstOf_all_none _ fun a ha => parseModMass_not_form T a mono (h a ha)

/-- … and `InvalidCompositionError` for compositions -/
theorem unresolvable_comp_raises (T : Tables) (s : Str)
    (h : ∀ a ∈ splitBar s, compForm T a = false) : modComp T s = .error .invalidComp := by
  rw [modComp, firstComp_eq]
  exact firstOf_all_none _ fun a ha => parseModComp_not_form T a (h a ha)

example : ∀ a ∈ splitBar (str% "Oxidation|INFO:x"), massForm T0 a = false := by decide +kernel
example : modMass T0 (str% "Oxidation|INFO:x") true = .error .invalidModMass := by decide +kernel
example : modComp T0 (str% "Oxidation|+15.99") = .error .invalidComp := by decide +kernel

/-- The only branch that returns a constant not read from the text or a table is the bare tag: a value of an
alternative that does not start with `#` is the number the text spells, or what a vocabulary / the glycan reader /
the formula reader / the observed-mass reader returned for it. -/
theorem zero_default_only_for_tag (T : Tables) (a : Str) (mono : Bool) (x : Mass)
    (ht : startsWith a [35] = false) (h : parseModMass T a mono = .ok (some x)) :
    let m := if a.contains 35 then beforeHash a else a
    (∃ n, convertType m = .num n ∧ x = some n.val) ∨ (convertType m = .special ∧ x = none) ∨
    glycanMassProforma T m mono = .ok (some x) ∨
    getMass T T.gno (stripPrefix pGno m) mono = .ok x ∨
    getMass T T.xlmod (stripPrefix pXlmod m) mono = .ok x ∨
    getMass T T.resid (stripPrefix pResid m) mono = .ok x ∨
    getMass T T.psimod (stripPrefix pPsi m) mono = .ok x ∨
    getMass T T.unimod (stripPrefix pUnimod m) mono = .ok x ∨
    chemMassProforma T m mono = .ok x ∨
    obsMassProforma m = .ok x := by
  intro m
  rw [parseModMass_eq] at h
  simp only [ht, Bool.and_false, Bool.false_eq_true, if_false] at h
  change massBody T m mono = .ok (some x) at h
  cases hn : convertType m with
  | num n =>
    rw [massBody_num hn] at h
    simp only [Except.ok.injEq, Option.some.injEq] at h
    exact .inl ⟨n, rfl, h.symm⟩
  | special =>
    rw [massBody_special hn] at h
    simp only [Except.ok.injEq, Option.some.injEq] at h
    exact .inr (.inl ⟨rfl, h.symm⟩)
  | str =>
    rw [massBody_str hn] at h
    exact .inr (.inr (runMassBranch_ok_cases T m mono _ x h))

/-! ## inside a vocabulary family an unknown key is an error, never a value -/

theorem getMass_ok_cases (T : Tables) (db : List Entry) (k : Str) (mono : Bool) (x : Mass)
    (h : getMass T db k mono = .ok x) :
    (signed k = true ∧ parseFloat k ≠ .bad) ∨ ∃ e, findEntry db k = some e ∧ entryMass T e mono = .ok x := by
  cases hs : signed k with
  | true =>
    left
    refine ⟨rfl, ?_⟩
    intro hb
    rw [getMass_signed T db k mono hs, hb] at h
    cases h
  | false =>
    right
    rw [getMass_unsigned T db k mono hs] at h
    cases hf : findEntry db k with
    | none => rw [hf] at h; cases h
    | some e => rw [hf] at h; exact ⟨e, rfl, h⟩

theorem unknown_key_raises (T : Tables) (db : List Entry) (k : Str) (mono : Bool)
    (hs : signed k = false) (hf : findEntry db k = none) : getMass T db k mono = .error .unknownMod := by
  rw [getMass_unsigned T db k mono hs, hf]

theorem unknown_key_raises_comp (db : List Entry) (k : Str)
    (hs : signed k = false) (hf : findEntry db k = none) : getComp db k = .error .unknownMod := by
  rw [getComp_unsigned db k hs, hf]

theorem getComp_ok_cases (db : List Entry) (k : Str) (f : Str) (h : getComp db k = .ok f) :
    signed k = false ∧ ∃ e, findEntry db k = some e ∧ e.comp = some f := by
  cases hs : signed k with
  | true =>
    rw [getComp_signed db k hs] at h
    cases hp : parseFloat k <;> (rw [hp] at h; cases h)
  | false =>
    refine ⟨rfl, ?_⟩
    rw [getComp_unsigned db k hs] at h
    cases hf : findEntry db k with
    | none => rw [hf] at h; cases h
    | some e =>
      rw [hf] at h
      cases hc : e.comp with
      | none => simp only [hc] at h; cases h
      | some c =>
        simp only [hc, Except.ok.injEq] at h
        exact ⟨e, rfl, by rw [← h, hc]⟩

/-- an entry without a stored mass and without a composition: `UnknownModificationMassError` -/
theorem entry_without_mass_raises (T : Tables) (e : Entry) (mono : Bool)
    (hm : (if mono then e.mono else e.avg) = none) (hc : e.comp = none) :
    entryMass T e mono = .error .unknownModMass := by
  simp only [entryMass, hm, hc]

/-- an entry without a composition: `InvalidCompositionError` -/
theorem entry_without_comp_raises (db : List Entry) (k : Str) (e : Entry)
    (hs : signed k = false) (hf : findEntry db k = some e) (hc : e.comp = none) :
    getComp db k = .error .invalidComp := by
  rw [getComp_unsigned db k hs, hf]; simp only [hc]

/-- a signed text inside a family that is not a number: `InvalidDeltaMassError` -/
theorem bad_shift_raises (T : Tables) (db : List Entry) (k : Str) (mono : Bool)
    (hs : signed k = true) (hb : parseFloat k = .bad) : getMass T db k mono = .error .invalidDeltaMass := by
  rw [getMass_signed T db k mono hs, hb]

example : modMass T0 (str% "U:Oxidation") true = .error .unknownMod := by decide +kernel
example : modComp T0 (str% "U:Oxidation") = .error .unknownMod := by decide +kernel
example : modMass T0 (str% "U:NoMass") true = .error .unknownModMass := by decide +kernel
example : modComp T0 (str% "U:NoMass") = .error .invalidComp := by decide +kernel
example : modMass T0 (str% "U:+1x") true = .error .invalidDeltaMass := by decide +kernel

/-! ## every error of the resolver is of the `ValueError` family

`Err.isValueErrorFamily` (in `Lemmas/ModDbGeneric.lean`) is true exactly for `unknownMod`, `unknownModMass`,
`invalidDeltaMass`, `invalidComp`, `deltaMassComp`, `invalidModMass`, `invalidChemFormula`, `invalidGlycanFormula`
(all subclasses of `ValueError`) and `valueError` (the plain `ValueError` of `str.index`). -/

example : [Err.unknownMod, .unknownModMass, .invalidDeltaMass, .invalidComp, .deltaMassComp, .invalidModMass,
    .invalidChemFormula, .invalidGlycanFormula, .valueError].all Err.isValueErrorFamily = true := by decide
example : [Err.typeError, .keyError, .hang, .special].all (fun e => !e.isValueErrorFamily) = true := by decide

/-- For ALL tables: an error of `mod_mass` is of the `ValueError` family, or a `TypeError` / `KeyError` / endless loop —
and each of these three is traced to a defect of the tables (next three theorems). `Err.special` (the opaque inf / nan
count of the separated formula form) cannot occur: `mod_mass` never uses a separator. -/
theorem resolver_errors_are_value_errors (T : Tables) (s : Str) (mono : Bool) (e : Err)
    (h : modMass T s mono = .error e) :
    e.isValueErrorFamily = true ∨ e = .typeError ∨ e = .keyError ∨ e = .hang :=
  (modMass_err T s mono e h).classes

theorem resolver_errors_are_value_errors_comp (T : Tables) (s : Str) (e : Err) (h : modComp T s = .error e) :
    e.isValueErrorFamily = true ∨ e = .typeError ∨ e = .keyError ∨ e = .hang :=
  (modComp_err T s e h).classes

/-- `TypeError` only from a monosaccharide entry without mono mass, average mass or composition -/
theorem typeError_provenance (T : Tables) (s : Str) (mono : Bool)
    (h : modMass T s mono = .error .typeError ∨ modComp T s = .error .typeError) :
    ∃ en ∈ T.mono, en.mono = none ∨ en.avg = none ∨ en.comp = none :=
  (h.elim (modMass_err T s mono _) (modComp_err T s _)).typeError

/-- `KeyError` only from an element row (not an isotope key) without an average mass -/
theorem keyError_provenance (T : Tables) (s : Str) (mono : Bool)
    (h : modMass T s mono = .error .keyError ∨ modComp T s = .error .keyError) :
    ∃ el ∈ T.mass.elems, el.avg = none ∧ isIsoKey el.sym = false :=
  (h.elim (modMass_err T s mono _) (modComp_err T s _)).keyError

/-- an endless loop only from an empty monosaccharide name / synonym -/
theorem hang_provenance (T : Tables) (s : Str) (mono : Bool)
    (h : modMass T s mono = .error .hang ∨ modComp T s = .error .hang) :
    [] ∈ namesSorted T.mono :=
  (h.elim (modMass_err T s mono _) (modComp_err T s _)).hang

/-- the readers below the resolver never produce the opaque `special` error without a separator -/
theorem no_special (T : Tables) (s : Str) (mono : Bool) :
    parseChem s [] ≠ .error .special ∧ chemMassStr T.mass mono s [] ≠ .error .special ∧
    glycanMassStr T.mono mono s ≠ .error .special ∧ glycanCompStr T.mono s ≠ .error .special ∧
    modMass T s mono ≠ .error .special ∧ modComp T s ≠ .error .special := by
  have hs : ¬ ErrOK T .special := ErrOK.not_special
  refine ⟨fun h => ?_, fun h => ?_, fun h => ?_, fun h => ?_, fun h => ?_, fun h => ?_⟩
  · exact absurd (parseChem_err _ _ h) (by decide)
  · exact hs (chemMassStr_err T mono _ _ h)
  · exact hs (glycanMassStr_err T mono _ _ h)
  · exact hs (glycanCompStr_err T _ _ h)
  · exact hs (modMass_err T s mono _ h)
  · exact hs (modComp_err T s _ h)

/-! ### the generated tables have none of the three defects -/

/-- every monosaccharide entry of the generated table has mono mass, average mass and composition -/
theorem gen_mono_complete : ∀ en ∈ Gen.Mono.entries, en.mono ≠ none ∧ en.avg ≠ none ∧ en.comp ≠ none := by
  decide +kernel

/-- every monosaccharide name / synonym of the generated table is non-empty -/
theorem gen_names_nonempty : [] ∉ namesSorted Gen.Mono.entries :=
  fun h => gen_nonempty [] h rfl

/-- every element row of the generated table is an isotope key or has an average mass -/
theorem gen_elems_avg : ∀ el ∈ Gen.ElementsC15.elems, el.avg ≠ none ∨ isIsoKey el.sym = true := by
  decide +kernel

/-- **Generated tables**: every error of `mod_mass` is of the `ValueError` family -/
theorem resolver_errors_gen (s : Str) (mono : Bool) (e : Err) (h : modMass Gen.tables s mono = .error e) :
    e.isValueErrorFamily = true :=
  (modMass_err Gen.tables s mono e h).ve_of_complete gen_mono_complete gen_names_nonempty gen_elems_avg

/-- **Generated tables**: every error of `mod_comp` is of the `ValueError` family -/
theorem resolver_errors_gen_comp (s : Str) (e : Err) (h : modComp Gen.tables s = .error e) :
    e.isValueErrorFamily = true :=
  (modComp_err Gen.tables s e h).ve_of_complete gen_mono_complete gen_names_nonempty gen_elems_avg

/-- Together with `unresolvable_mass_raises`: on the generated tables a modification none of whose alternatives is of a documented form raises a
`ValueError`-family error, and *every* failure of `mod_mass` / `mod_comp` is of that family — never a silent zero. -/
theorem unresolvable_raises_value_error (s : Str) (mono : Bool)
    (h : ∀ a ∈ splitBar s, massForm Gen.tables a = false) :
    ∃ e, modMass Gen.tables s mono = .error e ∧ e.isValueErrorFamily = true :=
  ⟨.invalidModMass, unresolvable_mass_raises Gen.tables s mono h, rfl⟩

-- the three defects, on toy tables (non-vacuity of the provenance theorems)
def Tbad : Tables :=
  { T0 with mono := [⟨str% "X", str% "Hex", [], none, none, none⟩],
            mass := { T0.mass with elems := [⟨str% "C", ⟨12, 0⟩, none, none⟩] } }
example : modMass Tbad (str% "Glycan:Hex2") true = .error .typeError := by decide +kernel
example : modMass Tbad (str% "Formula:C") false = .error .keyError := by decide +kernel
example : modMass { T0 with mono := [⟨str% "X", [], [], none, none, none⟩] } (str% "Glycan:Q") true = .error .hang := by
  decide +kernel
example : modMass T0 (str% "Formula:[C") true = .error .valueError := by decide +kernel
example : modMass T0 (str% "Formula:C]") true = .error .invalidChemFormula := by decide +kernel

end C10Resolve
