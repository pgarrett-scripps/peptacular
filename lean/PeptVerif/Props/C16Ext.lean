import PeptVerif.Props.C16
/-!
# C16 — the ordered containment tests and coverage with modifications ignored

Theorems about `isSubsequenceM` (`ProFormaAnnotation.is_subsequence`), `isSubsequenceOrdered`
(`is_subsequence(…, order=True)`) and `coverage` with `ignore_mods=True` (`Model/Search.lean`; compared with the
implementation by the correspondence stages of `harness/props/c16.py`).
-/
namespace Pept
namespace Search

/-- the offsets at which the query `q` occurs in the target `t` *with its modifications*: the residues occur at `i`
and the slice of the target on that stretch `==` the query -/
def OccursAt (q t : Annotation) (i : Nat) : Prop :=
  i + q.seq.length ≤ t.seq.length ∧ (t.seq.drop i).take q.seq.length = q.seq ∧
    annEq (sliceAt t i q.seq.length) q = true

/-- `ProFormaAnnotation.is_subsequence(q, t)` is true exactly when the query occurs (residues and modifications) at
some offset of the target — any offset, overlapping or not, not only the first. All annotations. -/
theorem isSubsequenceM_iff (q t : Annotation) : isSubsequenceM q t = true ↔ ∃ i, OccursAt q t i := by
  rw [isSubsequenceM_eq_any, List.any_eq_true]
  simp only [mem_occurrences, OccursAt, and_assoc]

/-- the occurrence that matches is the *second*, overlapping one: `A[1]A` in `AA[1]A` (offset 1 only) -/
example : isSubsequenceM { seq := ['A', 'A'], internal := some [(0, [⟨.str ['1'], 1⟩])] }
    { seq := ['A', 'A', 'A'], internal := some [(1, [⟨.str ['1'], 1⟩])] } = true := by decide +kernel

/-- `is_subsequence(q, t, order=True)` (`len(find_subsequence_indices(t, q)) != 0`) for a non-empty query: true exactly
when the query occurs, residues and modifications, at some offset of the target. (For the empty query the function
answers `False`: `ordered_empty_query`.) -/
theorem isSubsequenceOrdered_iff (q t : Annotation) (hq : 0 < q.seq.length) :
    isSubsequenceOrdered q t = true ↔ ∃ i, OccursAt q t i := by
  rw [isSubsequenceOrdered_iff_exists_mem, findSubsequenceIndices_of_ne t q false (List.ne_nil_of_length_pos hq)]
  exact exists_congr (findIndices_spec_slice q t hq)

/-- the empty query is never contained (the `has_sequence()` guard of `find_subsequence_indices`) -/
theorem ordered_empty_query (q t : Annotation) (hq : q.seq = []) : isSubsequenceOrdered q t = false := by
  rw [isSubsequenceOrdered, findSubsequenceIndices_of_nil t q false hq]
  rfl

/-- the free function and the method agree: for a non-empty query `is_subsequence(q, t, order=True)` is
`ProFormaAnnotation.is_subsequence(q, t)` — the re-slicing done by `find_indices` loses nothing -/
theorem ordered_eq_method (q t : Annotation) (hq : 0 < q.seq.length) :
    isSubsequenceOrdered q t = isSubsequenceM q t := by
  rw [Bool.eq_iff_iff, isSubsequenceOrdered_iff q t hq, isSubsequenceM_iff]

example : isSubsequenceOrdered { seq := ['A', 'A'], internal := some [(0, [⟨.str ['1'], 1⟩])] }
    { seq := ['A', 'A', 'A'], internal := some [(1, [⟨.str ['1'], 1⟩])] } = true := by decide +kernel
example : isSubsequenceOrdered { seq := ['A', 'A'], internal := some [(0, [⟨.str ['1'], 1⟩])] }
    { seq := ['A', 'A', 'A'], internal := some [(2, [⟨.str ['1'], 1⟩])] } = false := by decide +kernel

/-- `coverage(…, accumulate=False, ignore_mods=True)`: position `j` is marked (1) iff some listed non-empty
subsequence has a plain *substring* occurrence of its residues that contains `j`; otherwise it is 0. Target and
subsequences may carry any modifications. -/
theorem coverage_ignore_mods_iff (t : Annotation) (subs : List Annotation) (j : Nat) (hj : j < t.seq.length) :
    ((coverage t subs false true)[j]? = some 1 ↔
      ∃ q ∈ subs, q.seq ≠ [] ∧ ∃ i, i ≤ j ∧ j < i + q.seq.length ∧
        i + q.seq.length ≤ t.seq.length ∧ (t.seq.drop i).take q.seq.length = q.seq) ∧
    ((coverage t subs false true)[j]? = some 1 ∨ (coverage t subs false true)[j]? = some 0) := by
  have key : (∃ q ∈ subs, ∃ i ∈ findSubsequenceIndices t q true, i ≤ j ∧ j < i + q.seq.length) ↔
      ∃ q ∈ subs, q.seq ≠ [] ∧ ∃ i, i ≤ j ∧ j < i + q.seq.length ∧
        i + q.seq.length ≤ t.seq.length ∧ (t.seq.drop i).take q.seq.length = q.seq := by
    refine exists_congr fun q => and_congr_right fun _ => ?_
    constructor
    · rintro ⟨i, hi, h1, h2⟩
      obtain ⟨hq, h3, h4⟩ := (mem_findSubsequenceIndices_true t q i).mp hi
      exact ⟨hq, i, h1, h2, h3, h4⟩
    · rintro ⟨hq, i, h1, h2, h3, h4⟩
      exact ⟨i, (mem_findSubsequenceIndices_true t q i).mpr ⟨hq, h3, h4⟩, h1, h2⟩
  rw [coverage_iff t subs true j hj, ← key]
  split
  · rename_i h
    exact ⟨iff_of_true rfl h, Or.inl rfl⟩
  · rename_i h
    exact ⟨iff_of_false (fun hh => absurd (Option.some.inj hh) (by decide)) h, Or.inr rfl⟩

/-- modified target, modified subsequence, overlapping substring occurrences at 0 and 1 -/
example : coverage { seq := ['A', 'A', 'A', 'K'], internal := some [(0, [⟨.str ['1'], 1⟩])] }
    [{ seq := ['A', 'A'], internal := some [(1, [⟨.str ['2'], 1⟩])] }] false true = [1, 1, 1, 0] := by decide +kernel

end Search
end Pept
