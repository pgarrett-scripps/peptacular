import PeptVerif.Props.C02
import PeptVerif.Lemmas.C05Ext
/-!
C05 — fragment ion series obey the chemistry of peptide backbone cleavage.  Property theorems only.

All relations are exact identities over ℚ between values of the executable model of `mass(ion_type=…)` (tied to
`fragment()` by correspondence: every fragment's mass is re-computed by the model from the fragment's own sequence).
`h⁺ := m(H) − mₑ` in the mode's hydrogen mass is the carrier of the first charge that the ion tables encode
(`particles_ok` of C02: |PROTON_MASS − h⁺| ≤ 2·10⁻⁸ in monoisotopic mode); every further charge adds `PROTON_MASS`.
-/
namespace Pept.C05
open Pept Pept.Chem Pept.Mass Pept.Spec

/-- every entry of the library's +1 ion table (`MONOISOTOPIC_ION_ADJUSTMENTS` / `AVERAGE_ION_ADJUSTMENTS`, recomputed
from the generated compositions) is the backbone-chemistry offset built from CO, NH3, H2, H2O and h⁺ = H − e:
a = b − CO, c = b + NH3, x = y + CO − H2, z = y − NH3, immonium = −CO, internal = pair of terminal offsets -/
theorem ion_offsets_ok :
    [true, false].all (fun mono => ionAdj.all (fun p =>
      match ionOffset lib mono p.1 with
      | some v => decide (constMass mono p.2 = v)
      | none => false)) = true := by
  delta ionOffset neutralOffset lib constMass
  rw [elemMass_fast]
  decide +kernel

/-- what `adjust_mass` adds for a singly charged fragment (neutral adjustment + ion adjustment) is the same offset,
for each of the 18 ion types and both modes; a table statement of its own, in `ionOffset` form (the series theorems below
rest on `Mass.adjust_tables`) -/
theorem adjust_tables_ok :
    [true, false].all (fun mono => Gen.ionComp.all (fun p =>
      match fragmentAdjMass mono p.1, fragmentIonAdjMass mono p.1, ionOffset lib mono p.1 with
      | some a, some b, some v => decide (a + b = v)
      | _, _, _ => false)) = true := by
  delta fragmentAdjMass fragmentIonAdjMass ionOffset neutralOffset lib constMass
  rw [elemMass_fast]
  decide +kernel

/-- **a = b − CO, c = b + NH3** for the same peptide, charge, isotope offset and loss -/
theorem forward_series_offsets (env : Env) (a : Annotation) (mono : Bool) (hd : fragDomain env a mono)
    (z iso : Int) (loss : Rat) :
    ∃ mb, mass env a (ionQuery (k "b") z mono iso loss) = .ok mb ∧
      mass env a (ionQuery (k "a") z mono iso loss) = .ok (mb - lib.compMass mono fCO) ∧
      mass env a (ionQuery (k "c") z mono iso loss) = .ok (mb + lib.compMass mono fNH3) := by
  obtain ⟨oa, ob, oc, _, _, _, _⟩ := offsets mono
  refine ⟨_, mass_fragment env a mono hd (k "b") (by decide) (by decide) 0 ob z iso loss, ?_, ?_⟩
  · rw [mass_fragment env a mono hd (k "a") (by decide) (by decide) _ oa z iso loss]
    apply congrArg Except.ok; ring
  · rw [mass_fragment env a mono hd (k "c") (by decide) (by decide) _ oc z iso loss]
    apply congrArg Except.ok; ring

/-- **x = y + CO − H2, z = y − NH3** -/
theorem backward_series_offsets (env : Env) (a : Annotation) (mono : Bool) (hd : fragDomain env a mono)
    (z iso : Int) (loss : Rat) :
    ∃ my, mass env a (ionQuery (k "y") z mono iso loss) = .ok my ∧
      mass env a (ionQuery (k "x") z mono iso loss) = .ok (my + lib.compMass mono fCO - lib.compMass mono fH2) ∧
      mass env a (ionQuery (k "z") z mono iso loss) = .ok (my - lib.compMass mono fNH3) := by
  obtain ⟨_, _, _, ox, oy, oz, _⟩ := offsets mono
  refine ⟨_, mass_fragment env a mono hd (k "y") (by decide) (by decide) _ oy z iso loss, ?_, ?_⟩
  · rw [mass_fragment env a mono hd (k "x") (by decide) (by decide) _ ox z iso loss]
    apply congrArg Except.ok; ring
  · rw [mass_fragment env a mono hd (k "z") (by decide) (by decide) _ oz z iso loss]
    apply congrArg Except.ok; ring

/-- **each internal ion `fb` = `by` + off(f) + off(b)** with off(a) = −CO, off(b) = 0, off(c) = +NH3,
off(x) = +CO − H2, off(y) = 0, off(z) = −NH3 (`seriesOffset`), for all nine internal series -/
theorem internal_offsets (env : Env) (a : Annotation) (mono : Bool) (hd : fragDomain env a mono)
    (f b : Key) (hf : f ∈ [k "a", k "b", k "c"]) (hb : b ∈ [k "x", k "y", k "z"]) (z iso : Int) (loss : Rat) :
    ∃ mby, mass env a (ionQuery (k "by") z mono iso loss) = .ok mby ∧
      mass env a (ionQuery (f * 256 + b) z mono iso loss)
        = .ok (mby + (seriesOffset lib mono f).getD 0 + (seriesOffset lib mono b).getD 0) := by
  obtain ⟨hby, -, -⟩ := offset_internal lib mono (k "b") (k "y") (by decide) (by decide)
  obtain ⟨hfb, hp, hn⟩ := offset_internal lib mono f b hf hb
  refine ⟨_, mass_fragment env a mono hd (k "by") (by decide) (by decide) _ hby z iso loss, ?_⟩
  rw [mass_fragment env a mono hd (f * 256 + b) hp hn _ hfb z iso loss]
  apply congrArg Except.ok
  have h0 : (seriesOffset lib mono (k "b")).getD 0 = 0 := rfl
  have h1 : (seriesOffset lib mono (k "y")).getD 0 = 0 := rfl
  rw [h0, h1]; ring

/-- **immonium = residue − CO + h⁺** (singly charged, unmodified residue) -/
theorem immonium_mass (env : Env) (c : Char) (f : Comp) (mono : Bool) (hc : lookup c.toNat residueFormula = some f) :
    mass env { seq := [c] } (ionQuery (k "i") 1 mono 0 0)
      = .ok (lib.compMass mono f - lib.compMass mono fCO + lib.hplus mono) := by
  obtain ⟨_, _, _, _, _, _, oi⟩ := offsets mono
  have hd : fragDomain env { seq := [c] } mono := by
    refine ⟨rfl, rfl, (inDomain_iff ..).2 ⟨?_, rfl, rfl, rfl, rfl⟩⟩
    simp [hc]
  rw [mass_fragment env _ mono hd (k "i") (by decide) (by decide) _ oi 1 0 0, ionBase_plain env mono _ rfl rfl rfl,
    residueSum_cons, residueSum_nil, hc]
  apply congrArg Except.ok
  simp only [Option.getD_none, Option.getD_some, List.flatMap_nil, modsValue_nil]
  push_cast
  ring

/-- **higher charge states add one proton each** (`PROTON_MASS`), for every ion type (precursor included) and every
charge, also negative -/
theorem charge_step (env : Env) (a : Annotation) (t : Key) (mono : Bool) (hl : a.isotope = none) (had : a.adducts = none)
    (hdom : inDomain env a t mono none = true) (z iso : Int) (loss : Rat) :
    ∃ m, mass env a (ionQuery t z mono iso loss) = .ok m ∧
      mass env a (ionQuery t (z + 1) mono iso loss) = .ok (m + Gen.protonMass) := by
  obtain ⟨m, h₀, h₁⟩ := mass_ionQuery_shift env a t mono hl had hdom z (z + 1) iso iso loss loss
  refine ⟨m, h₀, h₁.trans (congrArg Except.ok ?_)⟩
  push_cast
  ring


/-- the N-terminal piece, the C-terminal piece and the whole peptide of one cleavage: residues `s₁ ++ s₂`, N-terminal
mods `nt`, C-terminal mods `ct`, residue mods `I₁` (keys into `s₁`) and `I₂` (keys into `s₂`, shifted in the whole) -/
def prefixAnn (s₁ : List Char) (nt : Option (List Mod)) (I₁ : List (Int × List Mod)) : Annotation :=
  { seq := s₁, nterm := nt, internal := some I₁ }
def suffixAnn (s₂ : List Char) (ct : Option (List Mod)) (I₂ : List (Int × List Mod)) : Annotation :=
  { seq := s₂, cterm := ct, internal := some I₂ }
def wholeAnn (s₁ s₂ : List Char) (nt ct : Option (List Mod)) (I₁ I₂ : List (Int × List Mod)) : Annotation :=
  { seq := s₁ ++ s₂, nterm := nt, cterm := ct, internal := some (I₁ ++ I₂.map (fun p => (p.1 + (s₁.length : Int), p.2))) }

/-- **b_i + y_(n−i) = M + 2·h⁺** (singly charged ions, neutral peptide mass `M`), for every cleavage position of
every peptide with numeric / formula / named modifications on residues and termini, both modes -/
theorem b_plus_y (env : Env) (mono : Bool) (s₁ s₂ : List Char) (nt ct : Option (List Mod)) (I₁ I₂ : List (Int × List Mod))
    (hb : fragDomain env (prefixAnn s₁ nt I₁) mono) (hy : fragDomain env (suffixAnn s₂ ct I₂) mono)
    (hM : inDomain env (wholeAnn s₁ s₂ nt ct I₁ I₂) ionP mono none = true) :
    ∃ b y M, mass env (prefixAnn s₁ nt I₁) (ionQuery (k "b") 1 mono 0 0) = .ok b ∧
      mass env (suffixAnn s₂ ct I₂) (ionQuery (k "y") 1 mono 0 0) = .ok y ∧
      mass env (wholeAnn s₁ s₂ nt ct I₁ I₂) (ionQuery ionP 0 mono 0 0) = .ok M ∧
      b + y = M + 2 * lib.hplus mono := by
  obtain ⟨b, y, M, h1, h2, h3, h4⟩ := cleavage_pair_mass env mono rfl rfl rfl hb hy hM (k "b") (k "y")
    (by decide) (by decide) 1 1 0 0 0 0
  refine ⟨b, y, M, h1, h2, h3, h4.trans ?_⟩
  rw [show (seriesOffset lib mono (k "b")).getD 0 = 0 from rfl, show (seriesOffset lib mono (k "y")).getD 0 = 0 from rfl]
  push_cast; ring


/-- **a modification shifts exactly the ions that contain it**: if two annotations of the same residues and global
rules differ by one written modification `m` (on a residue, a terminus, an interval, of unknown position, or labile for
the precursor), every ion type / charge / isotope / loss computed from the one containing `m` is heavier by exactly
`mult·μ(m)`; an ion whose annotation does not contain `m` is computed from the same data and is not shifted at all.
(Which fragment annotations contain the residue is slicing, C07/C11; checked on `fragment()` by the oracle.) -/
theorem mod_locality (env : Env) (a₀ a₁ : Annotation) (t : Key) (mono : Bool) (m : Mod) (pre post : List Mod)
    (hseq : a₁.seq = a₀.seq) (hstat : a₁.static = a₀.static)
    (h₁ : placedMods a₁ t = pre ++ m :: post) (h₀ : placedMods a₀ t = pre ++ post)
    (hl₀ : a₀.isotope = none) (had₀ : a₀.adducts = none) (hl₁ : a₁.isotope = none) (had₁ : a₁.adducts = none)
    (hd₀ : inDomain env a₀ t mono none = true) (hd₁ : inDomain env a₁ t mono none = true) (z iso : Int) (loss : Rat) :
    ∃ m₀, mass env a₀ (ionQuery t z mono iso loss) = .ok m₀ ∧
      mass env a₁ (ionQuery t z mono iso loss) = .ok (m₀ + modValue env mono m) := by
  refine ⟨_, mass_ionQuery env a₀ t mono hl₀ had₀ hd₀ z iso loss, ?_⟩
  rw [mass_ionQuery env a₁ t mono hl₁ had₁ hd₁ z iso loss]
  apply congrArg Except.ok
  have hs : staticValue env mono a₁ = staticValue env mono a₀ := by unfold staticValue; rw [hstat, hseq]
  unfold specMassT
  rw [hseq, hs, h₁, h₀]
  simp only [modsValue, List.map_append, List.map_cons, sumR_append, sumR_cons]
  ring


def exEnv : Env := ⟨fun _ => ⟨.ok 15, .ok 16, .ok none, .ok [(kO, 1)]⟩, fun _ => .ok []⟩
def exAnn : Annotation :=
  { seq := "PEPTIDE".toList, nterm := some [⟨.str "Acetyl".toList, 1⟩], internal := some [(2, [⟨.int 7, 2⟩])] }

-- series / internal / charge-step hypotheses (both modes)
example : fragDomain exEnv exAnn true := ⟨rfl, rfl, by decide +kernel⟩
example : fragDomain exEnv exAnn false := ⟨rfl, rfl, by decide +kernel⟩
example : inDomain exEnv exAnn (k "cz") false none = true := by decide +kernel
-- b_plus_y: PEP | TIDE with an N-terminal mod, a residue mod in each piece and a C-terminal mod
example : fragDomain exEnv (prefixAnn "PEP".toList (some [⟨.int 42, 1⟩]) [(1, [⟨.int 7, 2⟩])]) true ∧
    fragDomain exEnv (suffixAnn "TIDE".toList (some [⟨.int 1, 1⟩]) [(0, [⟨.int 80, 1⟩])]) true ∧
    inDomain exEnv (wholeAnn "PEP".toList "TIDE".toList (some [⟨.int 42, 1⟩]) (some [⟨.int 1, 1⟩])
      [(1, [⟨.int 7, 2⟩])] [(0, [⟨.int 80, 1⟩])]) ionP true none = true :=
  ⟨⟨rfl, rfl, by decide +kernel⟩, ⟨rfl, rfl, by decide +kernel⟩, by decide +kernel⟩
-- mod_locality: the residue mod of exAnn against the same peptide without it, y-type ions
example : placedMods exAnn (k "y") = [⟨.str "Acetyl".toList, 1⟩] ++ ⟨.int 7, 2⟩ :: [] ∧
    placedMods { exAnn with internal := some [(2, [])] } (k "y") = [⟨.str "Acetyl".toList, 1⟩] ++ [] := by
  constructor <;> decide +kernel
-- immonium: tryptophan
example : lookup 'W'.toNat residueFormula = some [(kC, 11), (kH, 10), (kN, 2), (kO, 1)] := by decide +kernel

end Pept.C05
