import PeptVerif.Lemmas.ModDbGeneric
/-!
C10 (generic forms): "a prefixed signed number is a mass shift, Formula/Glycan/Obs strings give the mass of what they
spell, '|'-separated alternatives take the first resolvable one, localisation tags do not change the mass, and a
multiplier multiplies it."

All theorems are table-independent (`T : Tables` universally quantified); hypotheses about `T` appear only where the
Python consults the PSI-MOD / Unimod vocabulary *before* it reaches the branch in question.
-/
namespace C10Generic
open ModDb Formula ModDbGeneric

/-- a tiny table for the non-vacuity examples -/
def T0 : Tables :=
  { unimod := [], psimod := [], xlmod := [], resid := [], gno := [], mono := [],
    mass := { elems := [], electron := ⟨0, 0⟩, proton := ⟨1, 0⟩, neutron := ⟨1, 0⟩ } }

/-! ## `|`-separated alternatives: the first resolvable one -/

/-- `mod_mass("a|rest")`: an error of the first alternative propagates, a mass of the first alternative is the answer,
and only when the first alternative has no mass (`None`) the remaining alternatives are consulted. -/
theorem alternatives_first_resolvable (T : Tables) (a rest : Str) (mono : Bool) (h : 124 ∉ a) :
    modMass T (a ++ 124 :: rest) mono =
      match parseModMass T a mono with
      | .error e => .error e
      | .ok (some m) => .ok m
      | .ok none => modMass T rest mono := by
  simp only [modMass, splitBar_cons a rest h, firstMass]
  rcases parseModMass T a mono with _ | _ | _ <;> rfl

/-- a string without `|` is its only alternative; no mass at all = `InvalidModificationMassError` -/
theorem modMass_single (T : Tables) (a : Str) (mono : Bool) (h : 124 ∉ a) :
    modMass T a mono =
      match parseModMass T a mono with
      | .error e => .error e
      | .ok (some m) => .ok m
      | .ok none => .error .invalidModMass := by
  simp only [modMass, splitBar_single h, firstMass]
  rcases parseModMass T a mono with _ | _ | _ <;> rfl

theorem alternatives_first_resolvable_comp (T : Tables) (a rest : Str) (h : 124 ∉ a) :
    modComp T (a ++ 124 :: rest) =
      match parseModComp T a with
      | .error e => .error e
      | .ok (some c) => .ok c
      | .ok none => modComp T rest := by
  simp only [modComp, splitBar_cons a rest h, firstComp]
  rcases parseModComp T a with _ | _ | _ <;> rfl

theorem modComp_single (T : Tables) (a : Str) (h : 124 ∉ a) :
    modComp T a =
      match parseModComp T a with
      | .error e => .error e
      | .ok (some c) => .ok c
      | .ok none => .error .invalidComp := by
  simp only [modComp, splitBar_single h, firstComp]
  rcases parseModComp T a with _ | _ | _ <;> rfl

-- "info:x|+1.5" : the first alternative has no mass, the second is the number 1.5
example : modMass T0 (str% "info:x|+1.5") true = .ok (some (3 / 2)) := by decide +kernel
example : (124 : Nat) ∉ (str% "info:x") := by decide

/-! ## a bare localisation tag `#g1` carries no mass and the empty composition -/

theorem tag_only_zero (T : Tables) (t : Str) (mono : Bool) :
    parseModMass T (35 :: t) mono = .ok (some (some 0)) := by
  simp [parseModMass, startsWith, List.isPrefixOf]

theorem tag_only_empty_comp (T : Tables) (t : Str) : parseModComp T (35 :: t) = .ok (some []) := by
  have hc : convertType (35 :: t) = .str := convertType_hash (by simp)
  rw [parseModComp_eq, hc]
  simp [startsWith, List.isPrefixOf]

example : modMass T0 (str% "#g1") true = .ok (some 0) := by decide +kernel
example : modComp T0 (str% "#g1") = .ok [] := by decide +kernel

/-! ## a localisation tag after a modification does not change its mass / composition -/

theorem tag_neutral (T : Tables) (b t : Str) (mono : Bool) (h : 35 ∉ b) (hne : b ≠ []) :
    parseModMass T (b ++ 35 :: t) mono = parseModMass T b mono := by
  rw [parseModMass_eq, parseModMass_noTag T mono h]
  simp [startsWith_hash_tag t h hne, beforeHash_tag b t h]

theorem tag_neutral_modMass (T : Tables) (b t : Str) (mono : Bool) (h : 35 ∉ b) (hne : b ≠ [])
    (hb : 124 ∉ b) (ht : 124 ∉ t) :
    modMass T (b ++ 35 :: t) mono = modMass T b mono := by
  have h1 : 124 ∉ b ++ 35 :: t := by simp [hb, ht]
  rw [modMass_single T _ mono h1, modMass_single T _ mono hb, tag_neutral T b t mono h hne]

theorem tag_neutral_modMass_alt (T : Tables) (b t rest : Str) (mono : Bool) (h : 35 ∉ b) (hne : b ≠ [])
    (hb : 124 ∉ b) (ht : 124 ∉ t) :
    modMass T ((b ++ 35 :: t) ++ 124 :: rest) mono = modMass T (b ++ 124 :: rest) mono := by
  have h1 : 124 ∉ b ++ 35 :: t := by simp [hb, ht]
  rw [alternatives_first_resolvable T _ rest mono h1, alternatives_first_resolvable T _ rest mono hb,
    tag_neutral T b t mono h hne]

example : modMass T0 (str% "+1.5#g1") true = modMass T0 (str% "+1.5") true := by decide +kernel

/-- what the tagged text of a *numeric* `b` does: it is treated as a name / id (branch chain), while the bare number
has no composition. ODDITY of the code: `mod_comp('42#g1')` looks up Unimod id 42, `mod_comp('42')` is "a mass shift,
no composition". -/
theorem tag_numeric_comp (T : Tables) (b t : Str) (h : 35 ∉ b) (hne : b ≠ []) :
    parseModComp T (b ++ 35 :: t) = compStrBody T b := by
  have hc : convertType (b ++ 35 :: t) = .str := convertType_hash (by simp)
  rw [parseModComp_eq, hc]
  simp [startsWith_hash_tag t h hne, beforeHash_tag b t h]

/-- Compositions: `_parse_mod_comp` calls `convert_type` on the text *with* its tag (which is never a number) and cuts the
tag afterwards. So the tag is neutral exactly when the tag-free text is not a number either. -/
theorem tag_neutral_comp (T : Tables) (b t : Str) (h : 35 ∉ b) (hne : b ≠ []) (hs : convertType b = .str) :
    parseModComp T (b ++ 35 :: t) = parseModComp T b := by
  rw [tag_numeric_comp T b t h hne, parseModComp_eq_branch T b h hs, compStrBody_eq]

theorem tag_neutral_modComp (T : Tables) (b t : Str) (h : 35 ∉ b) (hne : b ≠ []) (hs : convertType b = .str)
    (hb : 124 ∉ b) (ht : 124 ∉ t) :
    modComp T (b ++ 35 :: t) = modComp T b := by
  have h1 : 124 ∉ b ++ 35 :: t := by simp [hb, ht]
  rw [modComp_single T _ h1, modComp_single T _ hb, tag_neutral_comp T b t h hne hs]

/-- a table with one Unimod entry: id 42, composition H2 -/
def T1 : Tables := { T0 with unimod := [⟨str% "42", str% "Foo", [], none, none, some (str% "H2")⟩] }

example : convertType (str% "Foo") = .str := by decide
example : modComp T1 (str% "Foo#g1") = modComp T1 (str% "Foo") := by decide +kernel
-- the oddity, on the model: with the tag the number is an id, without it has no composition
example : modComp T1 (str% "42#g1") = .ok [(str% "H", Num.ofInt 2)] := by decide +kernel
example : modComp T1 (str% "42") = .error .invalidComp := by decide +kernel

/-! ## a multiplier multiplies -/

/-- `mod_mass(Mod(s, k))` is `mod_mass(s)` with the finite mass multiplied by `k`; errors and non-finite results pass -/
theorem multiplier_scales (T : Tables) (s : Str) (k : Int) (mono : Bool) :
    modMassMult T s k mono = (modMass T s mono).map (fun m => m.map (· * (k : Rat))) := rfl

theorem multiplier_finite (T : Tables) (s : Str) (k : Int) (mono : Bool) (m : Rat)
    (h : modMass T s mono = .ok (some m)) : modMassMult T s k mono = .ok (some (m * (k : Rat))) := by
  simp [modMassMult, h, Except.map]

theorem multiplier_error (T : Tables) (s : Str) (k : Int) (mono : Bool) (e : Err)
    (h : modMass T s mono = .error e) : modMassMult T s k mono = .error e := by
  simp [modMassMult, h, Except.map]

theorem multiplier_one (T : Tables) (s : Str) (mono : Bool) : modMassMult T s 1 mono = modMass T s mono := by
  rw [multiplier_scales]
  cases modMass T s mono with
  | error e => rfl
  | ok o => cases o <;> simp [Except.map]

theorem multiplier_zero (T : Tables) (s : Str) (mono : Bool) (m : Rat) (h : modMass T s mono = .ok (some m)) :
    modMassMult T s 0 mono = .ok (some 0) := by
  simp [modMassMult, h, Except.map]

theorem multiplier_add (T : Tables) (s : Str) (a b : Int) (mono : Bool) (x y : Rat)
    (ha : modMassMult T s a mono = .ok (some x)) (hb : modMassMult T s b mono = .ok (some y)) :
    modMassMult T s (a + b) mono = .ok (some (x + y)) := by
  rw [multiplier_scales] at ha hb ⊢
  cases hm : modMass T s mono with
  | error e => rw [hm] at ha; cases ha
  | ok o =>
    cases o with
    | none => rw [hm] at ha; cases ha
    | some m =>
      rw [hm] at ha hb
      simp only [Except.map, Option.map, Except.ok.injEq, Option.some.injEq] at ha hb ⊢
      rw [← ha, ← hb, rat_mul_add]

theorem multiplier_mul (T : Tables) (s : Str) (a b : Int) (mono : Bool) :
    modMassMult T s (a * b) mono = (modMassMult T s a mono).map (fun m => m.map (· * (b : Rat))) := by
  rw [multiplier_scales, multiplier_scales]
  cases modMass T s mono with
  | error e => rfl
  | ok o => cases o <;> simp [Except.map, Rat.mul_assoc]

example : modMassMult T0 (str% "+1.5") 3 true = .ok (some (9 / 2)) := by decide +kernel

/-- `mod_comp(Mod(s, k))` multiplies every count by `k` (`Num.mul`: the float flag of a count is kept) -/
theorem multiplier_scales_comp (T : Tables) (s : Str) (k : Int) :
    modCompMult T s k = (modComp T s).map (scaleComp k) := rfl

theorem multiplier_comp_keys_vals (T : Tables) (s : Str) (k : Int) (c : Comp) (h : modComp T s = .ok c) :
    ∃ c', modCompMult T s k = .ok c' ∧ c'.map (·.1) = c.map (·.1) ∧
      c'.map (·.2.val) = c.map (fun kv => kv.2.val * (k : Rat)) := by
  refine ⟨scaleComp k c, ?_, scaleComp_keys k c, scaleComp_vals k c⟩
  simp [multiplier_scales_comp, h, Except.map]

theorem multiplier_one_comp (T : Tables) (s : Str) : modCompMult T s 1 = modComp T s := by
  rw [multiplier_scales_comp]
  cases modComp T s with
  | error e => rfl
  | ok c => simp [Except.map, scaleComp_one]

/-- consistency of the two multipliers: the chemical mass of the `k`-fold composition is `k` times the mass of the
composition (`chem_mass` is linear in the counts) -/
theorem multiplier_comp_mass (T : Tables) (s : Str) (k : Int) (mono : Bool) (c : Comp) (h : modComp T s = .ok c) :
    ∃ c', modCompMult T s k = .ok c' ∧
      chemMassComp T.mass mono c' = (chemMassComp T.mass mono c).map (· * (k : Rat)) := by
  refine ⟨scaleComp k c, ?_, chemMassComp_scale T.mass mono k c⟩
  simp [multiplier_scales_comp, h, Except.map]

example : modCompMult T1 (str% "Foo") 3 = .ok [(str% "H", Num.ofInt 6)] := by decide +kernel

/-! ## Glycan / INFO / Obs / Formula strings -/

/-- `Glycan:…` (any letter case) is resolved by the glycan reader, whatever the vocabularies contain: it is the first
branch after the number test, and a text with a colon is never a number. -/
theorem glycan_mass (T : Tables) (s : Str) (mono : Bool) (hp : startsWith (lower s) (str% "glycan:") = true)
    (h35 : 35 ∉ s) : parseModMass T s mono = glycanMassProforma T s mono := by
  rw [(parseMod_of_startsWith T (by decide) hp h35).1 mono, spelledBranch_glycan]
  rfl

/-- … and what is looked up / parsed is the text it spells: everything after the first colon (further colons dropped) -/
theorem glycan_mass_spelled (T : Tables) (p' t : Str) (mono : Bool) (hp : lower p' = str% "glycan:") (h35 : 35 ∉ t) :
    parseModMass T (p' ++ t) mono =
      (match monoLookup T.mono (t.filter (· != 58)) with
       | some e =>
         match (if mono then e.mono else e.avg) with
         | some m => .ok (some (some m.toRat))
         | none => .ok none
       | none =>
         match glycanMassStr T.mono mono (t.filter (· != 58)) with
         | .ok m => .ok (some (some m))
         | .error e => .error e) := by
  have hr : lower p' ∈ reserved := by rw [hp]; decide
  have hg := reserved_good _ hr
  have hs := startsWith_spelled p' t
  rw [hp] at hs
  rw [glycan_mass T _ mono hs (spelled_str t hr h35).1]
  simp only [glycanMassProforma, hs, joinAfterColon_spelled t hg, if_true]
  rfl

example : startsWith (lower (str% "GLYCAN:Hex2")) (str% "glycan:") = true := by decide

/-- `INFO:…` never has a mass (so `mod_mass` goes on to the next alternative) -/
theorem info_skipped (T : Tables) (m : Str) (mono : Bool) (hp : startsWith (lower m) (str% "info:") = true)
    (h35 : 35 ∉ m) : parseModMass T m mono = .ok none := by
  rw [(parseMod_of_startsWith T (by decide) hp h35).1 mono, spelledBranch_info]
  rfl

theorem info_skipped_comp (T : Tables) (m : Str) (hp : startsWith (lower m) (str% "info:") = true)
    (h35 : 35 ∉ m) : parseModComp T m = .ok none := by
  rw [(parseMod_of_startsWith T (by decide) hp h35).2, spelledBranch_info]
  rfl

example : modMass T0 (str% "Info:anything|Obs:+12.5") true = .ok (some (25 / 2)) := by decide +kernel

/-- `Obs:x` is the number `x` (Python `float`), provided the whole text is not a PSI-MOD / Unimod id or name (the two
`is_*_str` tests come first in `_parse_mod_mass`; that no vocabulary key starts with a reserved prefix is a table fact) -/
theorem obs_mass (T : Tables) (p' t : Str) (mono : Bool) (hp : lower p' = str% "obs:") (h35 : 35 ∉ t)
    (hP : isDbStr pPsi T.psimod (p' ++ t) = false) (hU : isDbStr pUnimod T.unimod (p' ++ t) = false) :
    parseModMass T (p' ++ t) mono =
      (match parseFloat (t.filter (· != 58)) with
       | .val r => .ok (some (some r))
       | .special => .ok (some none)
       | .bad => .error .invalidDeltaMass) := by
  have hr : lower p' ∈ reserved := by rw [hp]; decide
  have hg := reserved_good _ hr
  have hs := startsWith_spelled p' t
  rw [parseModMass_spelled T t mono hr h35, hP, hU, hp, spelledBranch_obs_mass]
  rw [hp] at hs
  simp only [runMassBranch, obsMassProforma, hs, joinAfterColon_spelled t hg, if_true]
  cases parseFloat (t.filter (· != 58)) <;> rfl

/-- an observed mass has no composition — here no table hypothesis is needed (`obs:` is tested before the vocabularies) -/
theorem obs_no_comp (T : Tables) (p' t : Str) (hp : lower p' = str% "obs:") (h35 : 35 ∉ t) :
    parseModComp T (p' ++ t) = .ok none := by
  rw [parseModComp_spelled T t (by rw [hp]; decide) h35, hp, spelledBranch_obs_comp]
  rfl

example : parseModMass T0 (str% "OBS:-3.25") true = .ok (some (some (-13 / 4))) := by decide +kernel

/-- `Formula:…` is resolved by the formula reader (same table proviso as `obs_mass`) -/
theorem formula_mass_proforma (T : Tables) (p' t : Str) (mono : Bool) (hp : lower p' = str% "formula:")
    (h35 : 35 ∉ t) (hP : isDbStr pPsi T.psimod (p' ++ t) = false)
    (hU : isDbStr pUnimod T.unimod (p' ++ t) = false) :
    parseModMass T (p' ++ t) mono = (chemMassProforma T (p' ++ t) mono).map some := by
  rw [parseModMass_spelled T t mono (by rw [hp]; decide) h35, hP, hU, hp, spelledBranch_formula]
  rfl

/-- … so `Formula:f` has the chemical mass of `f` -/
theorem formula_mass (T : Tables) (p' t : Str) (mono : Bool) (hp : lower p' = str% "formula:") (h35 : 35 ∉ t)
    (hP : isDbStr pPsi T.psimod (p' ++ t) = false) (hU : isDbStr pUnimod T.unimod (p' ++ t) = false) :
    parseModMass T (p' ++ t) mono =
      (match chemMassStr T.mass mono (t.filter (· != 58)) [] with
       | .ok m => .ok (some (some m))
       | .error e => .error e) := by
  have hg : goodPrefix (lower p') = true := by rw [hp]; decide
  have hs := startsWith_spelled p' t
  rw [hp] at hs
  rw [formula_mass_proforma T p' t mono hp h35 hP hU]
  simp only [chemMassProforma, hs, joinAfterColon_spelled t hg, if_true]
  cases chemMassStr T.mass mono (t.filter (· != 58)) [] <;> rfl

/-! ## a prefixed signed number is a mass shift -/

/-- a family prefix sends the text after its colon to that family's resolver (`_get_mass`) -/
theorem prefixed_resolves_in_family (T : Tables) (p' t : Str) (mono : Bool) (h35 : 35 ∉ t) :
    (lower p' ∈ pGno → parseModMass T (p' ++ t) mono = (getMass T T.gno t mono).map some) ∧
    (lower p' ∈ pXlmod → parseModMass T (p' ++ t) mono = (getMass T T.xlmod t mono).map some) ∧
    (lower p' ∈ pResid → parseModMass T (p' ++ t) mono = (getMass T T.resid t mono).map some) ∧
    (lower p' ∈ pPsi → parseModMass T (p' ++ t) mono = (getMass T T.psimod t mono).map some) ∧
    (lower p' ∈ pUnimod → isDbStr pPsi T.psimod (p' ++ t) = false →
      parseModMass T (p' ++ t) mono = (getMass T T.unimod t mono).map some) := by
  exact ⟨fun h => (parseMod_prefixed .gno h h35 nofun).1 mono, fun h => (parseMod_prefixed .xlmod h h35 nofun).1 mono,
    fun h => (parseMod_prefixed .resid h h35 nofun).1 mono, fun h => (parseMod_prefixed .psi h h35 nofun).1 mono,
    fun h hP => (parseMod_prefixed .unimod h h35 fun _ => hP).1 mono⟩

/-- XLMOD:+x / X:-x -/
theorem prefixed_number_is_shift_xlmod (T : Tables) (p' : Str) (c : Nat) (ds : Str) (mono : Bool)
    (hp : lower p' ∈ pXlmod) (hc : c = 43 ∨ c = 45) (h35 : 35 ∉ c :: ds) :
    parseModMass T (p' ++ c :: ds) mono =
      (match parseFloat (c :: ds) with
       | .val r => .ok (some (some r))
       | .special => .ok (some none)
       | .bad => .error .invalidDeltaMass) :=
  (parseMod_prefixed_number .xlmod hp hc h35 nofun).1 mono

/-- MOD:+x / M:+x / PSI-MOD:+x (no table hypothesis: a text with the prefix *is* a PSI-MOD string) -/
theorem prefixed_number_is_shift_psi (T : Tables) (p' : Str) (c : Nat) (ds : Str) (mono : Bool)
    (hp : lower p' ∈ pPsi) (hc : c = 43 ∨ c = 45) (h35 : 35 ∉ c :: ds) :
    parseModMass T (p' ++ c :: ds) mono =
      (match parseFloat (c :: ds) with
       | .val r => .ok (some (some r))
       | .special => .ok (some none)
       | .bad => .error .invalidDeltaMass) :=
  (parseMod_prefixed_number .psi hp hc h35 nofun).1 mono

/-- UNIMOD:+x / U:+x, provided the whole text is not a bare PSI-MOD id / name (tested first by the code) -/
theorem prefixed_number_is_shift_unimod (T : Tables) (p' : Str) (c : Nat) (ds : Str) (mono : Bool)
    (hp : lower p' ∈ pUnimod) (hc : c = 43 ∨ c = 45) (h35 : 35 ∉ c :: ds)
    (hP : isDbStr pPsi T.psimod (p' ++ c :: ds) = false) :
    parseModMass T (p' ++ c :: ds) mono =
      (match parseFloat (c :: ds) with
       | .val r => .ok (some (some r))
       | .special => .ok (some none)
       | .bad => .error .invalidDeltaMass) :=
  (parseMod_prefixed_number .unimod hp hc h35 fun _ => hP).1 mono

/-- RESID:+x / R:+x -/
theorem prefixed_number_is_shift_resid (T : Tables) (p' : Str) (c : Nat) (ds : Str) (mono : Bool)
    (hp : lower p' ∈ pResid) (hc : c = 43 ∨ c = 45) (h35 : 35 ∉ c :: ds) :
    parseModMass T (p' ++ c :: ds) mono =
      (match parseFloat (c :: ds) with
       | .val r => .ok (some (some r))
       | .special => .ok (some none)
       | .bad => .error .invalidDeltaMass) :=
  (parseMod_prefixed_number .resid hp hc h35 nofun).1 mono

/-- GNO:+x / G:+x -/
theorem prefixed_number_is_shift_gno (T : Tables) (p' : Str) (c : Nat) (ds : Str) (mono : Bool)
    (hp : lower p' ∈ pGno) (hc : c = 43 ∨ c = 45) (h35 : 35 ∉ c :: ds) :
    parseModMass T (p' ++ c :: ds) mono =
      (match parseFloat (c :: ds) with
       | .val r => .ok (some (some r))
       | .special => .ok (some none)
       | .bad => .error .invalidDeltaMass) :=
  (parseMod_prefixed_number .gno hp hc h35 nofun).1 mono

example : lower (str% "XLMOD:") ∈ pXlmod := by decide
example : parseModMass T0 (str% "XLMOD:+7.25") true = .ok (some (some (29 / 4))) := by decide +kernel
example : parseModMass T0 (str% "u:-2") false = .ok (some (some (-2))) := by decide +kernel
example : parseModMass T0 (str% "PSI-MOD:+x") true = .error .invalidDeltaMass := by decide +kernel

/-! ## the bare number, and agreement of the bare and the prefixed form -/

/-- every text Python's `float()` accepts is a mass shift of that value (`int()` and `float()` agree on the value) -/
theorem number_is_shift (T : Tables) (s : Str) (mono : Bool) (h35 : 35 ∉ s) (hb : parseFloat s ≠ .bad) :
    parseModMass T s mono =
      (match parseFloat s with
       | .val r => .ok (some (some r))
       | .special => .ok (some none)
       | .bad => .error .invalidDeltaMass) := by
  rw [parseModMass_noTag T mono h35, massBody_number]
  cases hf : parseFloat s with
  | bad => exact absurd hf hb
  | val r => rfl
  | special => rfl

/-- `int(s)` succeeding implies `float(s)` gives the same value (so `convert_type` and `_get_mass` read a signed
number alike) -/
theorem int_float_agree (s : Str) (i : Int) (h : parseInt s = some i) : parseFloat s = .val (i : Rat) :=
  parseFloat_of_parseInt h

/-- consistency: `U:+x`, `M:+x`, `X:+x`, `R:+x`, `G:+x` have the mass of the bare `+x`, for every `+x` that is a number -/
theorem prefixed_shift_equals_bare (T : Tables) (p' : Str) (c : Nat) (ds : Str) (mono : Bool)
    (hc : c = 43 ∨ c = 45) (h35 : 35 ∉ c :: ds) (hb : parseFloat (c :: ds) ≠ .bad) :
    (lower p' ∈ pGno → parseModMass T (p' ++ c :: ds) mono = parseModMass T (c :: ds) mono) ∧
    (lower p' ∈ pXlmod → parseModMass T (p' ++ c :: ds) mono = parseModMass T (c :: ds) mono) ∧
    (lower p' ∈ pResid → parseModMass T (p' ++ c :: ds) mono = parseModMass T (c :: ds) mono) ∧
    (lower p' ∈ pPsi → parseModMass T (p' ++ c :: ds) mono = parseModMass T (c :: ds) mono) ∧
    (lower p' ∈ pUnimod → isDbStr pPsi T.psimod (p' ++ c :: ds) = false →
      parseModMass T (p' ++ c :: ds) mono = parseModMass T (c :: ds) mono) := by
  rw [number_is_shift T (c :: ds) mono h35 hb]
  exact ⟨fun h => prefixed_number_is_shift_gno T p' c ds mono h hc h35,
    fun h => prefixed_number_is_shift_xlmod T p' c ds mono h hc h35,
    fun h => prefixed_number_is_shift_resid T p' c ds mono h hc h35,
    fun h => prefixed_number_is_shift_psi T p' c ds mono h hc h35,
    fun h hP => prefixed_number_is_shift_unimod T p' c ds mono h hc h35 hP⟩

example : parseFloat (str% "+1_0.5e1") ≠ .bad := by decide +kernel
example : parseModMass T0 (str% "R:+1_0.5e1") true = parseModMass T0 (str% "+1_0.5e1") true := by decide +kernel

/-- a prefixed signed number has no composition: `DeltaMassCompositionError` (`InvalidDeltaMassError` if unreadable) -/
theorem prefixed_number_no_comp (T : Tables) (p' : Str) (c : Nat) (ds : Str)
    (hc : c = 43 ∨ c = 45) (h35 : 35 ∉ c :: ds)
    (hp : lower p' ∈ pGno ∨ lower p' ∈ pXlmod ∨ lower p' ∈ pResid ∨ lower p' ∈ pPsi ∨
      (lower p' ∈ pUnimod ∧ isDbStr pPsi T.psimod (p' ++ c :: ds) = false)) :
    parseModComp T (p' ++ c :: ds) =
      (match parseFloat (c :: ds) with
       | .bad => .error .invalidDeltaMass
       | _ => .error .deltaMassComp) := by
  rcases hp with h | h | h | h | ⟨h, hP⟩
  · exact (parseMod_prefixed_number .gno h hc h35 nofun).2
  · exact (parseMod_prefixed_number .xlmod h hc h35 nofun).2
  · exact (parseMod_prefixed_number .resid h hc h35 nofun).2
  · exact (parseMod_prefixed_number .psi h hc h35 nofun).2
  · exact (parseMod_prefixed_number .unimod h hc h35 fun _ => hP).2

example : modComp T0 (str% "U:+1") = .error .deltaMassComp := by decide +kernel

/-! ## compositions of Formula / Glycan strings; mass and composition agree -/

theorem glycan_comp (T : Tables) (s : Str) (hp : startsWith (lower s) (str% "glycan:") = true) (h35 : 35 ∉ s) :
    parseModComp T s = (glycanCompProforma T s).map some := by
  rw [(parseMod_of_startsWith T (by decide) hp h35).2, spelledBranch_glycan]
  rfl

/-- `Formula:f` has the composition of `f` **up to its second colon** (`split(':')[1]`), whereas the mass
(`formula_mass`) reads `f` with all further colons removed (`''.join(split(':')[1:])`).
ODDITY of the code: `mod_mass('Formula:C2:H3')` is the mass of C2H3, `mod_comp('Formula:C2:H3')` is `{'C': 2}`. -/
theorem formula_comp (T : Tables) (p' t : Str) (hp : lower p' = str% "formula:") (h35 : 35 ∉ t)
    (hP : isDbStr pPsi T.psimod (p' ++ t) = false) (hU : isDbStr pUnimod T.unimod (p' ++ t) = false) :
    parseModComp T (p' ++ t) = (parseChem (spanP (· != 58) t).1 []).map some := by
  have hr : lower p' ∈ reserved := by rw [hp]; decide
  obtain ⟨q, hq, h58, -, -⟩ := goodPrefix_decomp (reserved_good _ hr)
  rw [parseModComp_spelled T t hr h35, hP, hU, hp, spelledBranch_formula, runCompBranch, splitColon1_prefix t hq h58]
  rfl

/-- for a formula without a further colon the two agree: the mass is the chemical mass of the composition -/
theorem formula_mass_of_comp (T : Tables) (p' t : Str) (mono : Bool) (c : Comp)
    (hp : lower p' = str% "formula:") (h35 : 35 ∉ t) (h58 : 58 ∉ t)
    (hP : isDbStr pPsi T.psimod (p' ++ t) = false) (hU : isDbStr pUnimod T.unimod (p' ++ t) = false)
    (hc : parseModComp T (p' ++ t) = .ok (some c)) :
    parseModMass T (p' ++ t) mono = (chemMassComp T.mass mono c).map (fun m => some (some m)) := by
  obtain ⟨e1, e2⟩ := spanP_noColon h58
  rw [formula_comp T p' t hp h35 hP hU, e1] at hc
  rw [formula_mass T p' t mono hp h35 hP hU, e2, chemMassStr]
  cases hpc : parseChem t [] with
  | error e => rw [hpc] at hc; cases hc
  | ok c' =>
    rw [hpc] at hc
    simp only [Except.map, Except.ok.injEq, Option.some.injEq] at hc
    subst hc
    cases hm : chemMassComp T.mass mono c' <;> simp [hm, Except.map]

/-- a table with the elements C and H -/
def T2 : Tables := { T0 with mass := { T0.mass with elems := [⟨str% "C", ⟨12, 0⟩, some ⟨12011, 3⟩, some 0⟩,
  ⟨str% "H", ⟨1007825, 6⟩, some ⟨1008, 3⟩, some 1⟩] } }

example : parseModMass T2 (str% "Formula:C2H3") true = .ok (some (some (27023475 / 1000000))) := by decide +kernel
example : parseModComp T2 (str% "Formula:C2H3") = .ok (some [(str% "C", Num.ofInt 2), (str% "H", Num.ofInt 3)]) := by
  decide +kernel
-- the oddity on the model: second colon
example : parseModMass T2 (str% "Formula:C2:H3") true = .ok (some (some (27023475 / 1000000))) := by decide +kernel
example : parseModComp T2 (str% "Formula:C2:H3") = .ok (some [(str% "C", Num.ofInt 2)]) := by decide +kernel

end C10Generic
