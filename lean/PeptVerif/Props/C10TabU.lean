import PeptVerif.Model.ModDbGen
import PeptVerif.Model.ModDbFacts
import PeptVerif.Lemmas.ModDbCheck
import PeptVerif.Lemmas.ModDbTables
/-! C10 table facts about the generated Unimod vocabulary, by kernel evaluation -/
namespace C10TabU
open ModDb

/-- Unimod accessions and names are pairwise distinct, and no name is another entry's accession
(n log n: kernel merge sort of the keys, then a linear strictness scan) -/
theorem unimod_keys_distinct : keysDistinct Gen.Unimod.entries = true := by
  rw [Gen.Unimod.entries_flat]
  decide +kernel

/-- no Unimod accession or name contains `#` or `|`, starts with `+`/`-`, or starts with a reserved prefix in any letter case -/
theorem unimod_keys_clean : Gen.Unimod.entries.all entryClean = true := by
  rw [Gen.Unimod.entries_flat, List.all_flatten, entryClean_eq_scan]
  decide +kernel

/-- no Unimod name is read as a number by `convert_type` -/
theorem unimod_names_not_numeric : Gen.Unimod.entries.all nameNotNumeric = true :=
  all_notNumeric_of_quick (by
    rw [Gen.Unimod.entries_flat, List.all_flatten]
    decide +kernel)

-- the size as of the tables this was written against; `C10.table_sizes` is the comparison that follows a regenerated table
example : Gen.Unimod.entries.length = 1522 := by
  rw [Gen.Unimod.entries_flat]
  decide +kernel

end C10TabU
