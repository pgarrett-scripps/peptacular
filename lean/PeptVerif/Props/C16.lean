import PeptVerif.Lemmas.Search
/-!
# C16 — subsequence search and coverage find every occurrence

Model: `Model/Search.lean` (the code after the `overlapped=True` repair); `slice` and `==`
are the shared models `Pept.Reorder.slice` and `Pept.annEq`. Helper lemmas: `Lemmas/Search.lean`.

Reading decisions: "the query's modifications equal those of the target on that stretch" is the library's own
slice-and-compare (`other.slice(i, i+|q|) == q`, global modifications compared whole); the unordered test is about the
residue keys that `count_residues` produces.
-/
namespace Pept
namespace Search

/-- the model of `regex.finditer(q, t, overlapped=True)` for a literal `q`: offset `k` is reported iff `q` occurs at `k` -/
theorem occurrences_spec (q t : List Char) (k : Nat) :
    k ∈ occurrences q t ↔ k + q.length ≤ t.length ∧ (t.drop k).take q.length = q :=
  mem_occurrences q t k

/-- `find_indices`: offset `i` is returned iff the query's residues occur at `i` and the slice of the target at
that stretch compares equal to the query (`is_subsequence` of the slice: the slice is sliced once more from 0, as
the code does). All lengths, all annotations. -/
theorem findIndices_spec (q t : Annotation) (i : Nat) :
    i ∈ findIndices q t ↔
      i + q.seq.length ≤ t.seq.length ∧ (t.seq.drop i).take q.seq.length = q.seq ∧
      annEq (sliceAt (sliceAt t i q.seq.length) 0 q.seq.length) q = true := by
  rw [findIndices, List.mem_filter, mem_occurrences, and_assoc]
  refine and_congr_right fun h1 => and_congr_right fun h2 => ?_
  rw [isSubsequenceM_of_seq_eq q _ (by rw [sliceAt_seq t i _ h1, h2])]

/-- the same in the form of DESIGN.md §C16 (`slice t i (i+|q|) ≈ q`): for a non-empty query the second slice is the
identity (`sliceAt_idem`), so offset `i` is returned iff the residues occur at `i` and the slice of the target at that
stretch `==` the query. -/
theorem findIndices_spec_slice (q t : Annotation) (hq : 0 < q.seq.length) (i : Nat) :
    i ∈ findIndices q t ↔
      i + q.seq.length ≤ t.seq.length ∧ (t.seq.drop i).take q.seq.length = q.seq ∧
      annEq (sliceAt t i q.seq.length) q = true := by
  rw [findIndices_spec]
  refine and_congr_right fun h1 => and_congr_right fun _ => ?_
  rw [sliceAt_idem t i _ hq h1]

/-- the offsets are strictly increasing: no duplicates, and together with `findIndices_spec` every occurrence —
overlapping or not — is present exactly once -/
theorem findIndices_increasing (q t : Annotation) : (findIndices q t).Pairwise (· < ·) :=
  (occFrom_sorted _ _ _).filter _

/-- overlapping occurrences are found: `AA` in `AAA` (the witness of KF-C16-overlapping-occurrences) -/
theorem overlapping_found : findIndices (Reorder.plain ['A', 'A']) (Reorder.plain ['A', 'A', 'A']) = [0, 1] := by decide +kernel

/-- … whereas the scan without `overlapped=True` (the code before the repair) skips offset 1 -/
theorem nonoverlapping_scan_misses : occNonOverlap ['A', 'A'] ['A', 'A', 'A'] = [0] := by decide +kernel

/-- `find_subsequence_indices(…, ignore_mods=True)` = all offsets of the residue string (and `[]` if either is empty) -/
theorem ignore_mods_substring (t q : Annotation) :
    findSubsequenceIndices t q true = if t.seq = [] ∨ q.seq = [] then [] else occurrences q.seq t.seq := by
  by_cases hq : q.seq = []
  · rw [findSubsequenceIndices_of_nil t q true hq, if_pos (Or.inr hq)]
  · rw [findSubsequenceIndices_true_of_ne t q hq]
    split
    · rename_i h
      rw [h.resolve_right hq, occurrences, occFrom, if_neg (mt List.isEmpty_iff.mp hq)]
    · rfl

example : findSubsequenceIndices { seq := ['A', 'A', 'A'], nterm := some [⟨.str ['x'], 1⟩] } (Reorder.plain ['A', 'A']) true
    = [0, 1] := by decide +kernel

/-- `coverage(..., accumulate=False)`: position `j` is marked 1 iff some listed subsequence has an occurrence
containing `j`, else it is 0 -/
theorem coverage_iff (t : Annotation) (subs : List Annotation) (ign : Bool) (j : Nat) (hj : j < t.seq.length) :
    (coverage t subs false ign)[j]? =
      some (if ∃ q ∈ subs, ∃ i ∈ findSubsequenceIndices t q ign, i ≤ j ∧ j < i + q.seq.length then 1 else 0) := by
  rw [coverage_getElem? t subs false ign j hj, if_neg Bool.false_ne_true]
  simp only [allOccs_any]

/-- `coverage(..., accumulate=True)`: position `j` holds the number of (subsequence, occurrence) pairs containing it -/
theorem coverage_accumulate_count (t : Annotation) (subs : List Annotation) (ign : Bool) (j : Nat)
    (hj : j < t.seq.length) :
    (coverage t subs true ign)[j]? =
      some ((subs.map fun q => ((findSubsequenceIndices t q ign).filter
          (fun i => decide (i ≤ j ∧ j < i + q.seq.length))).length).sum) := by
  rw [coverage_getElem? t subs true ign j hj, if_pos rfl, allOccs_countP]

theorem coverage_length (t : Annotation) (subs : List Annotation) (acc ign : Bool) :
    (coverage t subs acc ign).length = t.seq.length := by
  rw [coverage_eq_applyOccs, applyOccs_length _ _ _ (allOccs_valid t subs ign), List.length_replicate]

/-- `percent_coverage` is the fraction of marked positions and lies in `[0, 1]` -/
theorem percent_coverage_unit (t : Annotation) (subs : List Annotation) (ign : Bool) :
    percentCoverage t subs ign
        = (((coverage t subs false ign).countP (· ≠ 0) : Nat) : Rat) / ((t.seq.length : Nat) : Rat)
      ∧ 0 ≤ percentCoverage t subs ign ∧ percentCoverage t subs ign ≤ 1 := by
  have hlen := coverage_length t subs false ign
  have hle : ∀ x ∈ coverage t subs false ign, x ≤ 1 := by
    intro x hx
    obtain ⟨j, hjl, rfl⟩ := List.getElem_of_mem hx
    have := coverage_iff t subs ign j (by rw [← hlen]; exact hjl)
    rw [List.getElem?_eq_getElem hjl] at this
    have := Option.some.inj this
    rw [this]; split <;> omega
  rw [percentCoverage_eq, sum_eq_countP_of_le_one _ hle, hlen]
  exact ⟨rfl, natCast_div_mem_unit _ _ (hlen ▸ List.countP_le_length)⟩

example : coverage (Reorder.plain ['A', 'A', 'A', 'K']) [Reorder.plain ['A', 'A']] true false = [1, 2, 1, 0] := by decide +kernel

/-- the test `all(sub_counts[k] <= seq_counts[k] for k in sub_counts)` holds exactly when every key occurs in the
query at most as often as in the target -/
theorem unordered_iff_count_le {κ : Type} [DecidableEq κ] (sub seq : List κ) :
    unorderedContained sub seq = true ↔ ∀ k, sub.count k ≤ seq.count k := by
  unfold unorderedContained
  rw [List.all_eq_true]
  simp only [decide_eq_true_eq]
  refine ⟨fun h k => ?_, fun h k _ => h k⟩
  by_cases hk : k ∈ sub
  · exact h k hk
  · rw [List.count_eq_zero_of_not_mem hk]
    exact Nat.zero_le _

/-- … i.e. exactly when the multiset of the query's keys is contained in that of the target's -/
theorem unordered_iff_multiset_le {κ : Type} [DecidableEq κ] (sub seq : List κ) :
    unorderedContained sub seq = true ↔ (sub : Multiset κ) ≤ (seq : Multiset κ) := by
  rw [unordered_iff_count_le, Multiset.le_iff_count]
  simp only [Multiset.coe_count]

example : unorderedContained ['T', 'E', 'P'] ['P', 'E', 'P', 'T'] = true := by decide +kernel
example : unorderedContained ['P', 'P', 'P'] ['P', 'E', 'P', 'T'] = false := by decide +kernel

/-! Order-insensitive containment on the real residue keys.
`is_subsequence(q, t, order=False)` after the library's fix 92a74e5 of finding KF-C16-unordered-mod-order
(`isSubsequenceUnordered`): both annotations are condensed and split into one-residue pieces, the pieces are counted
under a key whose equality is `==` (`annEq`).
`eqCanon` (Lemmas/AnnotCanon.lean, C20) is the canonical form of an annotation modulo `==`: every modification list
as a multiset of (value, multiplier) keys. -/

open Classical in
/-- full statement, repaired code: the test holds exactly when the multiset of the query's modified residues
(pieces modulo `==`, i.e. whatever the order in which modifications are written) is contained in the target's -/
theorem unordered_iff_multiset_le_pieces (q t : Annotation) (qs ts : List Annotation)
    (hq : residuePieces q = .ok qs) (ht : residuePieces t = .ok ts) :
    isSubsequenceUnordered q t = .ok true ↔
      ((qs.map eqCanon : List EqCanon) : Multiset EqCanon) ≤ ((ts.map eqCanon : List EqCanon) : Multiset EqCanon) := by
  unfold isSubsequenceUnordered
  rw [hq, ht]
  simp only [Except.ok.injEq]
  rw [piecesContained_eq, unordered_iff_multiset_le]


/-- the answer does not depend on how the modifications of any piece are ordered (or spelled, as long as `==` holds):
replacing pieces by `==`-equal pieces on either side changes nothing -/
theorem unordered_order_free (qs qs' ts ts' : List Annotation)
    (hq : Rel2 (fun x y => annEq x y = true) qs qs') (ht : Rel2 (fun x y => annEq x y = true) ts ts') :
    piecesContained qs ts = piecesContained qs' ts' := by
  rw [piecesContained_eq, piecesContained_eq, map_eqCanon_of_rel2 _ _ hq, map_eqCanon_of_rel2 _ _ ht]

/-- the code before the repair (KF-C16-unordered-mod-order, `isSubsequenceUnorderedText`): the same multiset-inclusion
test, but on the *texts* that `count_residues` produces — `unordered_iff_multiset_le` for the real keys -/
theorem unordered_text_spec (q t : Annotation) (b : Bool) (h : isSubsequenceUnorderedText q t = .ok b) :
    ∃ cq ct, Static.condenseStatic q = .ok cq ∧ Static.condenseStatic t = .ok ct ∧
      b = unorderedContained ((Static.splitPieces cq).map fun p => Static.serialize p)
            ((Static.splitPieces ct).map fun p => Static.serialize p) := by
  unfold isSubsequenceUnorderedText Static.countResidues at h
  cases hq : Static.condenseStatic q with
  | error e => rw [hq] at h; cases h
  | ok cq =>
    cases ht : Static.condenseStatic t with
    | error e => rw [hq, ht] at h; cases h
    | ok ct =>
      simp only [hq, ht, Static.countResiduesRaw, Except.ok.injEq] at h
      refine ⟨cq, ct, rfl, rfl, ?_⟩
      rw [← h]
      exact counter_test_eq _ _

/-- `_partial` for the code before the repair. The full statement (`… = piecesContained qs ts`, i.e. multiset inclusion
of modified residues) holds for the text keys exactly under the extra hypothesis `H`: two pieces are spelled alike
iff they are `==`. Its `←` half is "every residue's modifications are written in one canonical order" — the half the
library before its fix 92a74e5 violates; its `→` half is injectivity of the serialiser on the pieces (C01). -/
theorem unordered_text_partial (qs ts : List Annotation) (ser : Annotation → List Char)
    (H : ∀ p ∈ qs ++ ts, ∀ p' ∈ qs ++ ts, ser p = ser p' ↔ annEq p p' = true) :
    unorderedContained (qs.map ser) (ts.map ser) = piecesContained qs ts := by
  have hc : ∀ p ∈ qs ++ ts, ∀ l : List Annotation, (∀ a ∈ l, a ∈ qs ++ ts) →
      @List.count _ instBEqOfDecidableEq (ser p) (l.map ser) = l.countP (annEq p) := by
    intro p hp l hl
    -- the two `BEq` instances on `List Char`: see `count_inst_irrel` in Lemmas/Search.lean
    rw [count_inst_irrel instBEqOfDecidableEq List.instBEq, List.count, List.countP_map]
    refine List.countP_congr fun a ha => ?_
    rw [Function.comp, beq_iff_eq, eq_comm, H p hp a (hl a ha)]
  rw [Bool.eq_iff_iff, unorderedContained, piecesContained, List.all_map, List.all_eq_true, List.all_eq_true]
  refine forall₂_congr fun p hp => ?_
  have hm := List.mem_append_left ts hp
  rw [Function.comp, hc p hm qs fun a ha => List.mem_append_left ts ha, hc p hm ts fun a ha => List.mem_append_right qs ha]

/-- the full statement is false for the text-keyed test: `A[15.995][Oxidation]` in `A[Oxidation][15.995]`
(the witness of KF-C16-unordered-mod-order) is rejected by it and accepted by the repaired test -/
theorem unordered_text_full_false_on_old_code :
    isSubsequenceUnorderedText
        { seq := ['A'], internal := some [(0, [⟨.flt "15.995".toList, 1⟩, ⟨.str "Oxidation".toList, 1⟩])] }
        { seq := ['A'], internal := some [(0, [⟨.str "Oxidation".toList, 1⟩, ⟨.flt "15.995".toList, 1⟩])] } = .ok false ∧
    isSubsequenceUnordered
        { seq := ['A'], internal := some [(0, [⟨.flt "15.995".toList, 1⟩, ⟨.str "Oxidation".toList, 1⟩])] }
        { seq := ['A'], internal := some [(0, [⟨.str "Oxidation".toList, 1⟩, ⟨.flt "15.995".toList, 1⟩])] } = .ok true := by
  decide +kernel

example : residuePieces { seq := ['A', 'K'], static := some [⟨.str "[Oxidation]@K".toList, 1⟩] }
    = .ok [{ seq := ['A'], internal := some [] }, { seq := ['K'], internal := some [(0, [⟨.str "Oxidation".toList, 1⟩])] }] := by decide +kernel

end Search
end Pept
