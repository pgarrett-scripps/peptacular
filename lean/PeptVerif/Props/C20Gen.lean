import PeptVerif.Generated.EqCorePy
import PeptVerif.Props.C20
/-!
# C20 - the mechanically translated equality / dictionary functions equal the hand-written model

GENERATED by harness/translate_eqcore.py: assembled from the hand-written proof scripts in harness/c20gen_template.lean, one
theorem per function that the translator could read on this run (`Generated/EqCorePy.lean`, namespace `GenEq`, regenerated
from /repo's current `proforma_dataclasses.py` / `proforma_parser.py`). Through these equalities the theorems of `Props/C20.lean`
hold for the definitions read off the source (section "transfer"); an edit of the source - a compared field dropped or
reordered in an `__eq__`, `set` for `Counter`, a one-sided key loop, truthiness for `is not None` in `mod_dict`, a field not
cleared by `strip` - changes the generated definition and breaks the theorem that names the function. A function outside the
translator's subset has no theorem here (see the comment left in its place) and is tied by correspondence only.
-/
namespace GenEq
open Pept

/-- `Mod.__eq__` as read from the source = hand model -/
theorem Mod_eq_eq : Mod_eq = modEq := rfl

/-- `are_mods_equal` as read from the source (None table, `Counter` comparison) = hand model -/
theorem are_mods_equal_eq : are_mods_equal = areModsEqual := by
  funext x y
  cases x <;> cases y <;> rfl

/-- `Interval.__eq__` as read from the source = hand model -/
theorem Interval_eq_eq : Interval_eq = ivEq := by
  funext a b
  simp only [Interval_eq, are_mods_equal_eq]
  rfl

/-- `are_intervals_equal` as read from the source (None table, length test, `Counter` comparison) = hand model -/
theorem are_intervals_equal_eq : are_intervals_equal = areIntervalsEqual := by
  funext x y
  cases x <;> cases y <;> simp only [are_intervals_equal, Interval_eq_eq] <;> rfl

/-- `ProFormaAnnotation.__eq__` as read from the source (ordered field list, key-union loop) = hand model -/
theorem annotation_eq_eq : annotation_eq = annEq := by
  funext a b
  simp only [annotation_eq, are_mods_equal_eq, are_intervals_equal_eq]
  rfl

/-- `has_mods` (and the `has_*` predicates it calls) as read from the source = hand model -/
theorem has_mods_eq : has_mods = hasMods := rfl

/-- `mod_dict` as read from the source (which fields, under which test, in which order) = hand model -/
theorem mod_dict_eq : mod_dict = modDict := rfl

/-- `strip(inplace=True)` as read from the source clears every modification field: same result as the hand model -/
theorem strip_inplace_eq : strip_inplace = Pept.strip := by
  funext a
  cases a
  rfl

/-- `strip()` as read from the source = hand model -/
theorem strip_eq : GenEq.strip = Pept.strip := rfl

/-! ## transfer: the C20 theorems for the definitions read off the source -/

theorem gen_eq_refl (a : Annotation) : annotation_eq a a = true := by
  rw [annotation_eq_eq]; exact C20.eq_refl a

theorem gen_eq_symm (a b : Annotation) : annotation_eq a b = annotation_eq b a := by
  rw [annotation_eq_eq]; exact C20.eq_symm a b

theorem gen_eq_trans (a b c : Annotation) (h1 : annotation_eq a b = true) (h2 : annotation_eq b c = true) :
    annotation_eq a c = true := by
  rw [annotation_eq_eq] at *; exact C20.eq_trans a b c h1 h2

theorem gen_eq_iff_canon (a b : Annotation) : annotation_eq a b = true ↔ eqCanon a = eqCanon b := by
  rw [annotation_eq_eq]; exact C20.eq_iff_canon a b

theorem gen_eq_sensitive_charge (a b : Annotation) (h : a.charge ≠ b.charge) : annotation_eq a b = false := by
  rw [annotation_eq_eq]; exact C20.eq_sensitive_charge a b h

theorem gen_eq_sensitive_drop (a b : Annotation) (s : Slot) (l : List Mod) (i : Nat) (hi : i < l.length)
    (ha : s.get a = some l) (hb : s.get b = some (l.eraseIdx i)) : annotation_eq a b = false := by
  rw [annotation_eq_eq]; exact C20.eq_sensitive_drop a b s l i hi ha hb

theorem gen_mods_eq_iff_perm_keys (l l' : List Mod) :
    are_mods_equal (some l) (some l') = true ↔ (l.map modKey).Perm (l'.map modKey) := by
  rw [are_mods_equal_eq]; exact C20.mods_eq_iff_perm_keys l l'

theorem gen_add_get_inverse (a : Annotation) (app : Bool) (h : a.internal ≠ some []) :
    addModDict (GenEq.strip a) (mod_dict a) app = a ∧ addModDict (strip_inplace a) (mod_dict a) app = a := by
  rw [strip_eq, strip_inplace_eq, mod_dict_eq]
  exact ⟨C20.add_get_inverse a app h, C20.add_get_inverse a app h⟩

theorem gen_add_get_inverse_text (plus : Plus) (a : Annotation) (app : Bool) :
    serialize plus (addModDict (strip_inplace a) (mod_dict a) app) = serialize plus a := by
  rw [strip_inplace_eq, mod_dict_eq]; exact C20.add_get_inverse_text plus a app

theorem gen_strip_spec (a : Annotation) :
    (strip_inplace a).seq = a.seq ∧ has_mods (strip_inplace a) = false ∧ mod_dict (strip_inplace a) = [] ∧
    has_mods (GenEq.strip a) = false := by
  rw [strip_inplace_eq, strip_eq, has_mods_eq, mod_dict_eq]
  exact ⟨rfl, rfl, modDict_strip a, rfl⟩

end GenEq
