import PeptVerif.Lemmas.Mass
import PeptVerif.Lemmas.Label
import PeptVerif.Model.MassEnv
/-!
C02 — peptide mass and m/z equal the sum of their physical parts; agreement with an independent NIST reference.
Property theorems only (helper lemmas live in `Lemmas/Mass.lean`, `Lemmas/Label.lean`).
-/
namespace Pept.C02
open Pept Pept.Chem Pept.Spec

def absR (q : Rat) : Rat := if q < 0 then -q else q

/-- the 24 residue compositions of `constants.py::AA_COMPOSITIONS` are the hand-typed residue formulas -/
theorem residue_table_ok : Gen.aaComp = Spec.residueFormula := Mass.residue_table

-- 87 = 'W'
example : (lookup 87 Gen.aaComp) = some [(kC, 11), (kH, 10), (kN, 2), (kO, 1)] := by decide +kernel

/-- every hand-typed NIST nuclide mass agrees within 1e-8 with what the library derives from data/chem.txt
(monoisotopic table `ISOTOPIC_ATOMIC_MASSES`, recomputed in Lean from the generated nuclide list) -/
theorem nuclide_table_ok :
    Spec.nuclides.all (fun p => match elemMass true p.1 with
      | some m => decide (absR (m - p.2) ≤ 1 / 100000000)
      | none => false) = true := by
  rw [elemMass_fast]
  decide +kernel

/-- average masses (Σ mass·abundance over data/chem.txt) agree within 1e-6 with the hand-typed isotopic compositions -/
theorem average_table_ok :
    Spec.isotopeTable.all (fun p => match elemMass false p.1, refElem false p.1 with
      | some m, some r => decide (absR (m - r) ≤ 1 / 1000000)
      | _, _ => false) = true := by
  rw [elemMass_fast]
  decide +kernel

/-- particle constants of constants.py agree with CODATA within 1e-8, and the proton constant differs from
`m(¹H) − mₑ` (the charge carrier the ion tables encode) by ε with |ε| ≤ 2e-8 -/
theorem particles_ok :
    absR (Gen.protonMass - protonRef) ≤ 1 / 100000000 ∧
    absR (Gen.electronMass - electronRef) ≤ 1 / 100000000 ∧
    absR (Gen.neutronMass - neutronRef) ≤ 1 / 100000000 ∧
    (match elemMass true kH with
      | some h => decide (absR (Gen.protonMass - (h - Gen.electronMass)) ≤ 2 / 100000000)
      | none => false) = true := by
  rw [elemMass_fast]
  decide +kernel


/-- the backbone-offset table of the specification against what `adjust_mass` adds (neutral adjustment for `p`, `n`;
neutral + ion adjustment = offset + h⁺ for the 16 fragment types), both modes — kernel evaluation over the generated
tables -/
theorem adjust_tables_ok : Mass.adjustTablesOk = true := Mass.adjust_tables

open Pept.Mass in
/-- **mass = specification sum** for every annotation in the domain of the specification (known residues and ion
type, every modification resolves), any charge (given or from the annotation, any sign), isotope offset, loss and
precision, both modes, every placement and multiplier, global rules included — on the fast path without an adduct
list.  (Full statement = the same with `adducts` arbitrary; it fails on the current code exactly by the adduct
arithmetic, see `mass_eq_spec_adducts` / `mass_eq_spec_full_false_on_current_code`.) -/
theorem mass_eq_spec_partial (env : Env) (a : Annotation) (o : Opts)
    (hlab : o.isotopeMods = none) (hlab' : a.isotope = none)
    (hadd : o.adducts = none) (hadd' : a.adducts = none)
    (hdom : inDomain env a o.ion o.mono none = true) :
    mass env a o = .ok (roundOpt (specMassT lib env a o.ion
      ((effCharge a o).getD 0) o.mono o.isotope o.loss none) o.precision) :=
  mass_eq_spec_of_tables residue_table_ok adjust_tables_ok env a o hlab hlab' hadd hadd' hdom

example : inDomain ⟨fun _ => ⟨.ok 1, .ok 1, .ok none, .ok []⟩, fun _ => .ok []⟩
    { seq := "PEPTIDE".toList, internal := some [(2, [⟨.int 7, 2⟩])] } 121 true none = true := by decide +kernel


open Pept.Mass in
/-- `mz` = specification mass divided by the charge in force (undivided when that charge is 0), rounded last -/
theorem mz_eq_spec_partial (env : Env) (a : Annotation) (o : Opts)
    (hlab : o.isotopeMods = none) (hlab' : a.isotope = none)
    (hadd : o.adducts = none) (hadd' : a.adducts = none)
    (hdom : inDomain env a o.ion o.mono none = true) :
    mz env a o = .ok (adjustMz (specMassT lib env a o.ion ((effCharge a o).getD 0) o.mono o.isotope o.loss none)
      (effCharge a o) o.precision) := by
  have hc : effCharge a { o with charge := effCharge a o, precision := none, useIsotopeOnMods := false } = effCharge a o := by
    unfold effCharge
    cases o.charge with
    | some c => rfl
    | none => cases a.charge <;> rfl
  have hm := mass_eq_spec_partial env a { o with charge := effCharge a o, precision := none, useIsotopeOnMods := false }
    hlab hlab' hadd hadd' hdom
  rw [hc] at hm
  unfold mz mzWith
  unfold mass at hm
  dsimp only at hm ⊢
  rw [hm]
  rfl

/-- for a positive charge the m/z is the mass divided by the charge -/
theorem adjustMz_pos (m : Rat) (z : Int) (hz : 0 < z) : Mass.adjustMz m (some z) none = m / (z : Rat) := by
  unfold Mass.adjustMz
  have : z ≠ 0 := by omega
  simp [roundOpt, this]

/-- `precision = p ≥ 0` moves the result by at most half a unit of the last place: |round(x, p) − x| ≤ ½·10⁻ᵖ -/
theorem precision_bound (q : Rat) (p : Nat) :
    roundOpt q (some (p : Int)) - q ≤ 1 / 2 / pow10 p ∧ q - roundOpt q (some (p : Int)) ≤ 1 / 2 / pow10 p :=
  pyRound_bound q p

open Pept.Mass in
/-- the adduct arithmetic of the current code, exactly: for one stated ion `count × symbol^charge` (not an electron)
`_parse_adduct_mass` returns count·(m − q·mₑ) **plus** q·mₑ·(count − 1): the electron correction is applied once instead
of `count` times (known finding KF-C02-adduct-electron-count; pinned by doctests) -/
theorem adductMass_discrepancy (mono : Bool) (x : List Nat) (cnt : Int) (sym : Key) (q : Int) (m : Rat)
    (hp : parseIonElements x = .ok (cnt, sym, q)) (he : sym ≠ kE)
    (hm : lookup sym (if mono then isotopicMasses else averageMasses) = some m) :
    adductMass mono x = .ok ((cnt : Rat) * (m - (q : Rat) * Gen.electronMass)
      + (q : Rat) * Gen.electronMass * ((cnt : Rat) - 1)) :=
  adductMass_parsed mono x cnt sym q m hp he hm

/-- so with every count equal to 1 the stated ion contributes exactly m − q·mₑ -/
theorem adductMass_count_one (mono : Bool) (x : List Nat) (sym : Key) (q : Int) (m : Rat)
    (hp : Mass.parseIonElements x = .ok (1, sym, q)) (he : sym ≠ kE)
    (hm : lookup sym (if mono then isotopicMasses else averageMasses) = some m) :
    Mass.adductMass mono x = .ok (m - (q : Rat) * Gen.electronMass) := by
  rw [adductMass_discrepancy mono x 1 sym q m hp he hm]
  apply congrArg Except.ok
  push_cast
  ring

/-- every key of `AVERAGE_ATOMIC_MASSES` is an element symbol present in `ISOTOPIC_ATOMIC_MASSES` (118 elements) -/
theorem avg_keys_ok : Mass.avgKeysOk = true := Mass.avg_keys

open Pept.Mass in
/-- **mass with an explicit adduct list, full characterisation of the current code** (peptide ion types `p`/`n`; the
list comes from the argument or from the annotation): the specification sum — charge term = Σ count·(m(ion) − q·mₑ) —
**plus** `adductDefect` = Σ q·mₑ·(count − 1) over the stated non-electron ions (`PROTON_MASS − (m(H) − mₑ)` for the
literal `+H+`).  The defect is the known finding KF-C02-adduct-electron-count; it vanishes when every count is 1
(`adductDefect_counts_one`). -/
theorem mass_eq_spec_adducts (env : Env) (a : Annotation) (o : Opts) (s : List Char)
    (hr : resolveArgs a o = .ok ⟨effCharge a o, some (.str s), none⟩)
    (hdom : inDomain env a o.ion o.mono (some (s.map Char.toNat)) = true) :
    mass env a o = .ok (roundOpt (specMassT lib env a o.ion ((effCharge a o).getD 0) o.mono o.isotope o.loss
        (some (s.map Char.toNat)) + adductDefect o.mono (s.map Char.toNat)) o.precision) :=
  mass_eq_spec_adducts_of_tables residue_table_ok adjust_tables_ok env a o s hr hdom

/-- the full statement (adduct lists included) is false on the current code: `PEPTIDE/2[+2Na+]` is off by the defect of
`mass_eq_spec_adducts`, one electron mass -/
theorem mass_eq_spec_full_false_on_current_code :
    Mass.mass ⟨fun _ => default, fun _ => .ok []⟩
      { seq := "PEPTIDE".toList, charge := some 2, adducts := some [⟨.str "+2Na+".toList, 1⟩] } {}
    ≠ .ok (specMassT lib ⟨fun _ => default, fun _ => .ok []⟩ { seq := "PEPTIDE".toList } Mass.ionP 2 true 0 0
        (some ("+2Na+".toList.map Char.toNat))) := by
  have hdom : inDomain ⟨fun _ => default, fun _ => .ok []⟩
      { seq := "PEPTIDE".toList, charge := some 2, adducts := some [⟨.str "+2Na+".toList, 1⟩] } Mass.ionP true
      (some ("+2Na+".toList.map Char.toNat)) = true := by
    delta inDomain adductIonOk Mass.parseIonElements
    rw [isotopic_lit_ok, average_lit_ok]
    decide +kernel
  have hd : Mass.adductDefect true ("+2Na+".toList.map Char.toNat) ≠ 0 := by
    delta Mass.adductDefect Mass.adductDefectIon Mass.parseIonElements
    rw [isotopic_lit_ok]
    decide +kernel
  rw [mass_eq_spec_adducts _ _ {} "+2Na+".toList rfl hdom]
  intro h
  exact hd (add_eq_left.mp (Except.ok.inj h))

open Pept.Mass in
/-- when every stated ion has count 1 (or is an electron) and the list is not the literal `+H+`, the defect is 0:
then mass = specification sum exactly, i.e. "charging adds exactly the stated adduct ions" -/
theorem adductDefect_counts_one (mono : Bool) (s : List Nat) (hs : s ≠ [43, 72, 43])
    (h : ∀ x ∈ splitComma s, ∀ cnt sym q, parseIonElements x = .ok (cnt, sym, q) → sym = kE ∨ cnt = 1) :
    adductDefect mono s = 0 := by
  unfold adductDefect
  simp only [hs, if_false]
  apply Spec.sumR_map_eq_zero
  intro x hx
  unfold adductDefectIon
  cases hp : parseIonElements x with
  | error e => rfl
  | ok r =>
    obtain ⟨cnt, sym, q⟩ := r
    rcases h x hx cnt sym q hp with he | hc
    · simp [he]
    · simp only [hc]
      split <;> simp

-- non-vacuity: PEPTIDE/2[+Na+,+K+] (annotation adducts) and an adduct argument on an uncharged peptide
example : Mass.resolveArgs { seq := "PEPTIDE".toList, charge := some 2, adducts := some [⟨.str "+Na+,+K+".toList, 1⟩] } {}
    = .ok ⟨some 2, some (.str "+Na+,+K+".toList), none⟩ := rfl
example : inDomain ⟨fun _ => default, fun _ => .ok []⟩
    { seq := "PEPTIDE".toList, charge := some 2, adducts := some [⟨.str "+Na+,+K+".toList, 1⟩] } Mass.ionP false
    (some ("+Na+,+K+".toList.map Char.toNat)) = true := by
  delta inDomain adductIonOk Mass.parseIonElements
  rw [isotopic_lit_ok, average_lit_ok]
  decide +kernel


/-- the element keys of the hand-typed monoisotopic reference (the 21 nuclides) -/
def refKeys : List Elem := nuclides.map (·.1)

/-- per key, library (data/chem.txt through the model) vs hand-typed NIST value: within 1e-8 -/
theorem nuclide_keys_close :
    refKeys.all (fun e => decide (-(1 / 100000000 : Rat) ≤ lib.elem true e - nist.elem true e) &&
      decide (lib.elem true e - nist.elem true e ≤ 1 / 100000000)) = true := by
  delta lib
  rw [elemMass_fast]
  decide +kernel

open Pept.Mass in
/-- **the library's monoisotopic mass of any composition over the reference nuclides is within 1e-8·Σ|count| of the
mass computed from the hand-typed NIST table** — the bridge from "model = specification over the library's tables"
(`mass_eq_spec_partial`) to "agreement with an independently computed reference": e.g. a peptide of 300 atoms is within
3·10⁻⁶ Da, inside the property's 10⁻⁵ -/
theorem reference_closeness (c : Comp) (hc : ∀ p ∈ c, p.1 ∈ refKeys) :
    lib.compMass true c - nist.compMass true c ≤ 1 / 100000000 * l1 c ∧
    -(1 / 100000000 * l1 c) ≤ lib.compMass true c - nist.compMass true c := by
  apply chemMassL_close (lib.elem true) (nist.elem true) (1 / 100000000) refKeys _ c hc
  intro e he
  have := List.all_eq_true.mp nuclide_keys_close e he
  simp only [Bool.and_eq_true, decide_eq_true_eq] at this
  exact this

example : ∀ p ∈ ([(kC, 34), (kH, 53), (kN, 7), (kO, 15)] : Comp), p.1 ∈ refKeys := by decide +kernel


open Pept.Mass in
/-- **`precision` is applied last, on both code paths** (fast path and isotope-label / composition path): the result
with `precision = p` is the rounding of the result with `precision = None`, errors unchanged -/
theorem mass_precision_last (env : Env) (a : Annotation) (o : Opts) :
    mass env a o = (mass env a { o with precision := none }).map (fun x => roundOpt x o.precision) :=
  massWith_precision_last CompCalc.compMass env a o

open Pept.Mass in
/-- hence, on both paths, `precision = p ≥ 0` moves the mass by at most half a unit of the last place -/
theorem mass_precision_bound (env : Env) (a : Annotation) (o : Opts) (p : Nat) (x : Rat)
    (hx : mass env a { o with precision := none } = .ok x) :
    ∃ y, mass env a { o with precision := some (p : Int) } = .ok y ∧
      y - x ≤ 1 / 2 / pow10 p ∧ x - y ≤ 1 / 2 / pow10 p := by
  refine ⟨pyRound x (p : Int), ?_, pyRound_bound x p⟩
  rw [mass_precision_last]
  show (mass env a { o with precision := none }).map _ = _
  rw [hx]
  rfl


open Pept.Mass in
/-- `mass_eq_spec_partial` with the concrete model of `parse_static_mods` (C12's `Static.parseStaticMods`) in place of the
parameter: global rules are read by the modelled parser, and `inDomain` then asks that this parser accepts them -/
theorem mass_eq_spec_concrete (res : ModVal → Res) (a : Annotation) (o : Opts)
    (hlab : o.isotopeMods = none) (hlab' : a.isotope = none)
    (hadd : o.adducts = none) (hadd' : a.adducts = none)
    (hdom : inDomain (Env.concrete res) a o.ion o.mono none = true) :
    mass (Env.concrete res) a o = .ok (roundOpt (specMassT lib (Env.concrete res) a o.ion
      ((effCharge a o).getD 0) o.mono o.isotope o.loss none) o.precision) :=
  mass_eq_spec_partial (Env.concrete res) a o hlab hlab' hadd hadd' hdom

-- non-vacuity: `<[+10][1.5]^2@T,N-Term>PEPTIDTE`, every value resolving to a number
example : inDomain (Env.concrete fun _ => ⟨.ok 10, .ok 10, .ok (some 10), .error .valueError⟩)
    { seq := "PEPTIDTE".toList, static := some [⟨.str "[+10][1.5]^2@T,N-Term".toList, 1⟩] } Mass.ionP true none = true := by
  decide +kernel


/-- the two encodings of the +1 ion agree: the composition of `FRAGMENT_ION_BASE_CHARGE_ADDUCTS[t]` (parsed by the
adduct parser model) is `FRAGMENT_ION_COMPOSITIONS[t]`, for every ion type except `n` (whose adduct text is empty and
never parsed: `n` takes the precursor branch); cited as `C03.ion_tables_agree`, needed here for fragment carriers -/
theorem ion_tables_ok : CompCalc.ionTablesOk = true := by
  delta CompCalc.ionTablesOk CompCalc.chargeAdductsCompStr CompCalc.adductComp Mass.parseIonElements
  rw [isotopic_lit_ok]
  decide +kernel

open Pept.Mass Pept.CompCalc Pept.Label in
/-- **mass of an isotope-labelled peptide = the sum of its parts with the element replaced by the label.**
With global isotope labels `L` in force (argument or annotation; `lm` = the parsed map element ↦ label) the model's
composition path returns, rounded last,

  `[Σ residues + ion-type offset + charge carrier]` (= `chemMassL sb`, spelled out in the library's terms)
  `+ labelShift sb lm`  — the label applied to residues, termini / ion offset and charge carrier
  `+ [Σ mult·(composition mass of each modification) + isotope·mₙ]` (= `chemMassL mc`)
  `+ labelShift mc lm` only with `use_isotope_on_mods`
  `+ δ` (the plain mass shifts) `+ loss`,

where `labelShift ν c lm` = Σ over the entries (element ↦ label) of count(element in c)·(m(label) − m(element)), each
entry seeing the composition left by the previous ones (`label_shift_single`, `label_count_additive`: counts add over residues,
offset and carrier).  `chemMassL mc + δ` is the modification sum of the unlabelled specification up to the row gaps.
Same shape as `C12.label_shift` (x − y = labelShift sequence-part + [use_isotope_on_mods] labelShift mod-part).
Scope: no global static rule, no explicit adduct list (both are tied by correspondence on this path). -/
theorem mass_label_eq_spec (env : Env) (a : Annotation) (o : Opts)
    (L : List Mod) (lm : List (Key × Key)) (hL : effLabels a o = some L) (hLne : L ≠ [])
    (hparse : parseIsotopeMods L = .ok lm)
    (hstatic : a.static = none) (had : o.adducts = none) (had' : a.adducts = none)
    (hres : KnownResidues a.seq) (hcons : AllConsistent env o.mono (writtenMods a))
    (hadj : (lookup o.ion neutralAdj).isSome = true)
    (hion : o.ion = ionP ∨ o.ion = ionN ∨ (lookup o.ion Gen.ionComp).isSome = true)
    (hknown : ∀ c d, compMass env a o.ion (effCharge a o) o.isotope none (some L) o.useIsotopeOnMods = .ok (c, d) →
      c.all (fun p => (elemMass o.mono p.1).isSome) = true) :
    ∃ sb mc d, NodupKeys sb ∧ NodupKeys mc ∧
      chemMassL (μ o.mono) sb = resSum o.mono a.seq + (fragmentAdjMass o.mono o.ion).getD 0
        + carrierMassLib o.mono o.ion ((effCharge a o).getD 0) ∧
      chemMassL (μ o.mono) mc + d + gapSum env o.mono (placedMods a o.ion)
        = modsValue env o.mono (placedMods a o.ion) + (o.isotope : Rat) * Gen.neutronMass ∧
      mass env a o = .ok (roundOpt (chemMassL (μ o.mono) sb + labelShift (μ o.mono) sb lm
        + (chemMassL (μ o.mono) mc + (if o.useIsotopeOnMods then labelShift (μ o.mono) mc lm else 0)) + d + o.loss)
        o.precision) :=
  mass_label_of_tables ion_tables_ok env a o L lm hL hLne hparse hstatic had had' hres hcons hadj hion hknown

open Pept.Label in
/-- one label `element ↦ label`: the shift is (#atoms of the element) × (m(label) − m(element)) -/
theorem label_shift_single (ν : Elem → Rat) (c : Comp) (el lab : Key) (h : el ≠ lab) :
    labelShift ν c [(el, lab)] = compGet c el * (ν lab - ν el) := by
  simp [labelShift, h]

open Pept.Label in
/-- the atoms of an element add up over the merged parts (residues, ion offset, charge carrier) -/
theorem label_count_additive (a b : Comp) (e : Elem) (hb : NodupKeys b) :
    compGet (addAll a b) e = compGet a e + compGet b e := by
  unfold compGet
  rw [nodupKeys_eq_KN, Fragment.KN_def] at hb
  rw [lookup_eq, lookup_eq, lookup_eq, addAll_eq]
  exact Dict.lookup_addAll a b e hb

open Pept.Label in
/-- relabelling a composition with distinct keys changes its mass by exactly `labelShift` -/
theorem relabel_mass_shift (ν : Elem → Rat) (c : Comp) (lm : List (Key × Key)) (h : NodupKeys c) :
    chemMassL ν (CompCalc.relabel c lm) = chemMassL ν c + labelShift ν c lm := relabel_shift ν c lm h

-- non-vacuity: `<13C>` parses to C ↦ 13C; glycine residue + water: two carbons move, shift = 2·(m(13C) − m(C))
example : CompCalc.parseIsotopeMods [⟨.str "13C".toList, 1⟩] = .ok [(kC, Spec.k "13C")] := by
  delta CompCalc.parseIsotopeMods
  rw [isotopic_lit_ok]
  decide +kernel
example : Label.labelShift (fun e => if e = Spec.k "13C" then 13 else if e = kC then 12 else 1)
    [(kC, 2), (kH, 5), (kN, 1), (kO, 2)] [(kC, Spec.k "13C")] = 2 := by decide +kernel

/-- A caller that rounds the mass to `p` places FIRST and then asks `adjust_mz` for `p` places (the fragment path: `fragment()` hands the
rounded fragment mass to `adjust_mz`) is within `½·10⁻ᵖ·(1 + 1/z)` of the exact quotient - the half-unit bound does not hold for it.
`mz()` itself rounds once (it asks `mass` for the unrounded value): `mz_eq_spec_partial`, `mass_precision_last`. -/
theorem mz_double_rounding_bound (m : Rat) (z p : Nat) (hz : 0 < z) :
    Mass.adjustMz (pyRound m (p : Int)) (some (z : Int)) (some (p : Int)) - m / (z : Rat) ≤ 1 / 2 / pow10 p * (1 + 1 / (z : Rat)) ∧
    m / (z : Rat) - Mass.adjustMz (pyRound m (p : Int)) (some (z : Int)) (some (p : Int)) ≤ 1 / 2 / pow10 p * (1 + 1 / (z : Rat)) := by
  have hz' : (0 : Rat) < (z : Rat) := by exact_mod_cast hz
  have hm : Mass.adjustMz (pyRound m (p : Int)) (some (z : Int)) (some (p : Int))
      = pyRound (pyRound m (p : Int) / (z : Rat)) (p : Int) := by
    unfold Mass.adjustMz
    simp only [Option.getD_some, Int.natCast_eq_zero, hz.ne', if_false, roundOpt, Int.cast_natCast]
  rw [hm]
  obtain ⟨b1, b1'⟩ := pyRound_bound (pyRound m (p : Int) / (z : Rat)) p
  obtain ⟨b2, b2'⟩ := pyRound_bound m p
  have e1 := div_le_div_of_nonneg_right b2 hz'.le
  have e2 := div_le_div_of_nonneg_right b2' hz'.le
  rw [sub_div] at e1 e2
  rw [mul_add, mul_one, mul_one_div]
  -- the error is the rounding of the quotient plus the rounding of the mass, divided by z
  constructor
  · rw [← sub_add_sub_cancel _ (pyRound m (p : Int) / (z : Rat)) _]; exact add_le_add b1 e1
  · rw [← sub_add_sub_cancel _ (pyRound m (p : Int) / (z : Rat)) _]
    exact (add_le_add e2 b1').trans (add_comm _ _).le

end Pept.C02
