import PeptVerif.Lemmas.GlycanRT
/-!
"A glycan formula parses to the monosaccharide counts it was written from whenever the written form is unambiguous,
its composition and mass being the count-weighted sums over those monosaccharides, identically for names and
synonyms."

Table-independent statements are over an arbitrary vocabulary `names : List Str` / table `mono : List Entry`;
the generated monosaccharide table `Gen.Mono.entries` enters through kernel-evaluated facts.
-/
namespace C15Glycan
open ModDb Formula

local notation "MONO" => Gen.Mono.entries

/-- every monosaccharide name and synonym of the generated table is non-empty (the tokenizer loop advances) -/
theorem names_nonempty : ∀ nm ∈ namesSorted Gen.Mono.entries, nm ≠ [] :=
  gen_nonempty

/-- names and synonyms are pairwise different strings (no synonym is another entry's name or synonym) -/
theorem names_synonyms_distinct : ((MONO).map (·.name) ++ ((MONO).map (·.syns)).flatten).Nodup := by
  decide +kernel

/-- every name and every synonym of an entry resolves to that entry: names and synonyms are interchangeable keys -/
theorem synonym_eq_name : ∀ e ∈ MONO,
    monoEntry MONO e.name = some e ∧ ∀ s ∈ e.syns, monoEntry MONO s = some e :=
  monoEntry_of_nodup MONO names_synonyms_distinct

example : monoEntry MONO (str% "Fucose") = monoEntry MONO (str% "Fuc") := by decide +kernel

theorem entries_complete : ∀ e ∈ MONO, e.comp.isSome = true ∧ e.mono.isSome = true ∧ e.avg.isSome = true := by
  decide +kernel

theorem compositions_parse : ∀ e ∈ MONO, ∀ f, e.comp = some f → ∃ c, parseChem f [] = .ok c := by
  intro e he f hf
  have : ∀ e ∈ MONO, (match e.comp with
      | some f => (match parseChem f [] with | .ok _ => true | .error _ => false)
      | none => true) = true := by decide +kernel
  have h := this e he
  rw [hf] at h
  cases hp : parseChem f [] with
  | ok c => exact ⟨c, rfl⟩
  | error er => simp only [hp] at h; cases h

example : parseChem (str% "C8H13N1O5") [] =
    .ok [(str% "C", Num.ofInt 8), (str% "H", Num.ofInt 13), (str% "N", Num.ofInt 1), (str% "O", Num.ofInt 5)] := by
  decide +kernel

theorem vocabulary_known : ∀ nm ∈ namesSorted MONO,
    (monoComp MONO nm).isSome = true ∧ (monoMass MONO true nm).isSome = true ∧
      (monoMass MONO false nm).isSome = true := by
  intro nm h
  obtain ⟨e, he, hr⟩ := monoEntry_of_mem_namesSorted MONO synonym_eq_name nm h
  obtain ⟨hc, hm, ha⟩ := entries_complete e he
  obtain ⟨f, hf⟩ := Option.isSome_iff_exists.1 hc
  obtain ⟨c, hp⟩ := compositions_parse e he f hf
  simp [monoComp, monoMass, hr, hf, hp, hm, ha]

theorem names_start_no_count_char : ∀ nm ∈ namesSorted MONO, ∀ c r, nm = c :: r → isCountChar c = false := by
  intro nm h c r e
  have := gen_startsCount nm h
  subst e
  exact this

theorem namesSorted_mem (db : List Entry) (nm : Str) :
    nm ∈ namesSorted db ↔ ∃ e ∈ db, nm = e.name ∨ nm ∈ e.syns :=
  mem_namesSorted db nm

/-- `namesSorted` is ordered by length, longest first (names of 10^6 characters and more would be mis-sorted by the
model's sort key `1000000 - length`, hence the bound) -/
theorem namesSorted_sorted (db : List Entry) (hlen : ∀ nm ∈ namesSorted db, nm.length ≤ 1000000) :
    (namesSorted db).Pairwise (fun a b => b.length ≤ a.length) :=
  namesSorted_lenDesc db hlen

theorem namesSorted_sorted_gen : (namesSorted MONO).Pairwise (fun a b => b.length ≤ a.length) :=
  gen_lenDesc

/-- in a longest-first vocabulary, the name the tokenizer takes (the first that is a prefix of the remaining text) is a
longest vocabulary name that is a prefix of the text -/
theorem longest_first (names : List Str) (text nm : Str)
    (hs : names.Pairwise (fun a b => b.length ≤ a.length))
    (h : names.find? (fun n => n.isPrefixOf text) = some nm) :
    nm ∈ names ∧ nm.isPrefixOf text = true ∧
      ∀ nm' ∈ names, nm'.isPrefixOf text = true → nm'.length ≤ nm.length :=
  find_longest names text hs nm h

/-- … and it is the only such name: whatever vocabulary name is a prefix of the text and has no longer competitor is
the one taken -/
theorem longest_first_unique (names : List Str) (text nm : Str)
    (hs : names.Pairwise (fun a b => b.length ≤ a.length)) (hmem : nm ∈ names)
    (hp : nm.isPrefixOf text = true)
    (hmax : ∀ nm' ∈ names, nm'.isPrefixOf text = true → nm'.length ≤ nm.length) :
    names.find? (fun n => n.isPrefixOf text) = some nm :=
  find_eq_of_longest names text hs nm hmem hp hmax

example : (namesSorted MONO).find? (fun n => n.isPrefixOf (str% "HexNAc2Hex3")) = some (str% "HexNAc") := by
  rw [namesSorted_gen]
  decide +kernel
example : (namesSorted MONO).find? (fun n => n.isPrefixOf (str% "Neu5Ac1")) = some (str% "Neu5Ac") := by
  rw [namesSorted_gen]
  decide +kernel

/-- `glycan_mass` of a dict whose keys all have a mass is `Σ mass(k) · v` -/
theorem glycan_mass_linear (mono : List Entry) (isMono : Bool) (g : Comp)
    (h : ∀ kv ∈ g, (monoMass mono isMono kv.1).isSome = true) :
    glycanMassDict mono isMono g = .ok (massSum mono isMono g) :=
  glycanMassDict_eq_sum mono isMono g h

/-- for the generated table: any dict over names and synonyms, any counts -/
theorem glycan_mass_linear_gen (isMono : Bool) (g : Comp) (h : ∀ kv ∈ g, kv.1 ∈ namesSorted MONO) :
    glycanMassDict MONO isMono g = .ok (massSum MONO isMono g) := by
  refine glycanMassDict_eq_sum MONO isMono g fun kv hkv => ?_
  have := vocabulary_known kv.1 (h kv hkv)
  cases isMono
  · exact this.2.2
  · exact this.2.1

example : ∀ kv ∈ [(str% "HexNAc", Num.ofInt 2), (str% "Hex", Num.ofInt 3), (str% "NeuAc", (⟨3/2, true⟩ : Num))],
    kv.1 ∈ namesSorted MONO := by
  rw [namesSorted_gen]
  decide +kernel

/-- the mass of a concatenated dict is the sum of the masses; when either part fails so does the whole, an error of
`g₁` taking precedence (a modelling choice: Python raises the first error in item order) -/
theorem glycan_mass_append (mono : List Entry) (isMono : Bool) (g₁ g₂ : Comp) :
    glycanMassDict mono isMono (g₁ ++ g₂) =
      (match glycanMassDict mono isMono g₁, glycanMassDict mono isMono g₂ with
       | .ok a, .ok b => .ok (a + b)
       | .error e, _ => .error e
       | .ok _, .error e => .error e) :=
  glycanMassDict_append mono isMono g₁ g₂

theorem glycan_mass_sum_append (mono : List Entry) (isMono : Bool) (g₁ g₂ : Comp) :
    massSum mono isMono (g₁ ++ g₂) = massSum mono isMono g₁ + massSum mono isMono g₂ := by
  rw [massSum_eq_wsum, wsum_append]

/-- `_glycan_comp` of a dict whose keys all have a composition: the fold that adds `n · v` for every element `(el, n)`
of every item `(k, v)` -/
theorem glycan_comp_fold (mono : List Entry) (g acc : Comp)
    (h : ∀ kv ∈ g, (monoComp mono kv.1).isSome = true) :
    glycanCompDict mono g acc = .ok (compFold mono g acc) :=
  glycanCompDict_eq_fold mono g acc h

/-- linearity: the result has every element once, and the count stored under every element `el` (0 when absent) is
`Σ n_k(el) · v` over the items `(k, v)` -/
theorem glycan_comp_linear (mono : List Entry) (g : Comp)
    (h : ∀ kv ∈ g, (monoComp mono kv.1).isSome = true) :
    ∃ c, glycanCompDict mono g [] = .ok c ∧ (c.map (·.1)).Nodup ∧
      ∀ el, countAt c el = compSum mono g el := by
  have hnd := nodup_compFold mono g [] List.nodup_nil
  refine ⟨compFold mono g [], glycanCompDict_eq_fold mono g [] h, hnd, ?_⟩
  intro el
  rw [← compVal_eq_countAt el _ hnd, compVal_compFold, compVal_nil]
  ring

theorem glycan_comp_linear_gen (g : Comp) (h : ∀ kv ∈ g, kv.1 ∈ namesSorted MONO) :
    ∃ c, glycanCompDict MONO g [] = .ok c ∧ (c.map (·.1)).Nodup ∧
      ∀ el, countAt c el = compSum MONO g el :=
  glycan_comp_linear MONO g (fun kv hkv => (vocabulary_known kv.1 (h kv hkv)).1)

example : glycanCompDict MONO [(str% "HexNAc", Num.ofInt 2), (str% "Fucose", Num.ofInt 1)] [] =
    .ok [(str% "C", Num.ofInt 22), (str% "H", Num.ofInt 36), (str% "N", Num.ofInt 2), (str% "O", Num.ofInt 14)] := by
  decide +kernel

/-- the composition of a concatenated dict continues the fold -/
theorem glycan_comp_append (mono : List Entry) (g₁ g₂ acc : Comp) :
    glycanCompDict mono (g₁ ++ g₂) acc =
      (match glycanCompDict mono g₁ acc with
       | .ok a => glycanCompDict mono g₂ a
       | .error e => .error e) :=
  glycanCompDict_append mono g₁ g₂ acc

theorem glycan_comp_sum_append (mono : List Entry) (g₁ g₂ : Comp) (el : Str) :
    compSum mono (g₁ ++ g₂) el = compSum mono g₁ el + compSum mono g₂ el := by
  simp only [compSum_eq_wsum, wsum_append]

/-- rewriting keys without changing the entry they resolve to changes neither composition nor mass -/
theorem synonym_invariant (mono : List Entry) (f : Str → Str) (g acc : Comp) (isMono : Bool)
    (h : ∀ kv ∈ g, monoEntry mono (f kv.1) = monoEntry mono kv.1) :
    glycanCompDict mono (mapKeys f g) acc = glycanCompDict mono g acc ∧
      glycanMassDict mono isMono (mapKeys f g) = glycanMassDict mono isMono g :=
  ⟨glycanCompDict_congr mono f g acc h, glycanMassDict_congr mono isMono f g h⟩

/-- for the generated table: replacing every key by the name of its entry (`canon`) changes nothing -/
theorem synonym_invariant_gen (g acc : Comp) (isMono : Bool) :
    glycanCompDict MONO (mapKeys (canon MONO) g) acc = glycanCompDict MONO g acc ∧
      glycanMassDict MONO isMono (mapKeys (canon MONO) g) = glycanMassDict MONO isMono g :=
  synonym_invariant MONO (canon MONO) g acc isMono
    (fun kv _ => monoEntry_canon MONO (fun e he => (synonym_eq_name e he).1) kv.1)

example : mapKeys (canon MONO) [(str% "Fucose", Num.ofInt 1), (str% "S", Num.ofInt 2), (str% "Hex", Num.ofInt 3)] =
    [(str% "Fuc", Num.ofInt 1), (str% "sulfate", Num.ofInt 2), (str% "Hex", Num.ofInt 3)] := by
  decide +kernel

/-- the tokenizer on a written token list (repeated names allowed): every item is read back as written and *added* to
the dict (`addAll`, the same merge as for chemical formulas: `d[name] = d.get(name, 0) + count`, fix 4cd4abe; plain
assignment would overwrite a repeated name), whenever the written form is unambiguous (`Unambig`, a decidable predicate) in a longest-first
vocabulary without empty names -/
theorem glycan_parse_write_fold (names : List Str) (g d : Comp)
    (hne : ∀ nm ∈ names, nm ≠ []) (hs : names.Pairwise (fun a b => b.length ≤ a.length))
    (hu : Unambig names g = true) (hv : ∀ kv ∈ g, NumOK kv.2) :
    parseGlycanAux names 0 (writeGlycan g []) d = .ok (addAll d g) :=
  parseGlycanAux_write names hne hs g d hu hv

/-- round trip: with pairwise different keys the parsed dict is the written one -/
theorem glycan_parse_write (names : List Str) (g : Comp)
    (hne : ∀ nm ∈ names, nm ≠ []) (hs : names.Pairwise (fun a b => b.length ≤ a.length))
    (hu : Unambig names g = true) (hv : ∀ kv ∈ g, NumOK kv.2) (hk : (g.map (·.1)).Nodup) :
    parseGlycanAux names 0 (writeGlycan g []) [] = .ok g := by
  rw [parseGlycanAux_write names hne hs g [] hu hv, addAll_nil_of_nodup hk]

/-- the same through `parse_glycan_formula` for the generated table, counts being Python ints or finite decimals -/
theorem glycan_parse_write_gen (g : Comp) (hu : Unambig (namesSorted MONO) g = true)
    (hv : ∀ kv ∈ g, NumWF kv.2) (hk : (g.map (·.1)).Nodup) :
    parseGlycan MONO (writeGlycan g []) [] = .ok g := by
  rw [gen_parse_write g hu hv, addAll_nil_of_nodup hk]

example : Unambig (namesSorted MONO)
    [(str% "HexNAc", Num.ofInt 2), (str% "Hex", Num.ofInt 3), (str% "Neu", Num.ofInt 1)] = true := by
  rw [namesSorted_gen]
  decide +kernel
example : Unambig (namesSorted MONO)
    [(str% "HexNAc", Num.ofInt 2), (str% "Hex", ⟨5/2, true⟩), (str% "Neu", Num.ofInt (-1))] = true := by
  rw [namesSorted_gen]
  decide +kernel
example : writeGlycan [(str% "HexNAc", Num.ofInt 2), (str% "Hex", ⟨5/2, true⟩), (str% "Neu", Num.ofInt (-1))] [] =
    str% "HexNAc2Hex2.5Neu-1" := by decide +kernel
/-- `{Neu: 5, Ac: 1}` is written `Neu5Ac1`, which is not unambiguous … -/
example : Unambig (namesSorted MONO) [(str% "Neu", Num.ofInt 5), (str% "Ac", Num.ofInt 1)] = false := by
  rw [namesSorted_gen]
  decide +kernel

/-- … and indeed does not survive: it reads back as `{Neu5Ac: 1}` (so the hypothesis `Unambig` cannot be dropped) -/
theorem glycan_parse_write_ambiguous_counterexample :
    parseGlycan MONO (writeGlycan [(str% "Neu", Num.ofInt 5), (str% "Ac", Num.ofInt 1)] []) [] =
      .ok [(str% "Neu5Ac", Num.ofInt 1)] := by
  rw [parseGlycan_eq_aux, namesSorted_gen]
  decide +kernel

/-- a repeated name is accumulated: `Hex2Fuc1Hex3` reads as `{Hex: 5, Fuc: 1}` (fix 4cd4abe; with plain
assignment the second `Hex` would overwrite the first) -/
theorem glycan_parse_repeated_key_accumulates :
    parseGlycan MONO (str% "Hex2Fuc1Hex3") [] = .ok [(str% "Hex", Num.ofInt 5), (str% "Fuc", Num.ofInt 1)] := by
  rw [parseGlycan_eq_aux, namesSorted_gen]
  decide +kernel

/-- composition and mass of the written text are those of the dict it was written from -/
theorem glycan_str_eq_dict (g : Comp) (isMono : Bool) (hu : Unambig (namesSorted MONO) g = true)
    (hv : ∀ kv ∈ g, NumWF kv.2) (hk : (g.map (·.1)).Nodup) :
    glycanCompStr MONO (writeGlycan g []) = glycanCompDict MONO g [] ∧
      glycanMassStr MONO isMono (writeGlycan g []) = glycanMassDict MONO isMono g := by
  unfold glycanCompStr glycanMassStr
  rw [glycan_parse_write_gen g hu hv hk]
  exact ⟨rfl, rfl⟩

/-- sufficient condition, any vocabulary: the written form is unambiguous when no written name, extended by the first
character of its count, is the beginning of another vocabulary name (and no vocabulary name starts with a count
character) -/
theorem unambig_of_no_clash (names : List Str) (g : Comp) (hne : ∀ nm ∈ names, nm ≠ [])
    (hstart : ∀ nm ∈ names, startsCount nm = false)
    (hk : ∀ kv ∈ g, kv.1 ∈ names) (hv : ∀ kv ∈ g, NumOK kv.2) (hc : NoClash names g = true) :
    Unambig names g = true :=
  unambig_of_noClash names hne hstart g hk hv hc

/-- in the generated vocabulary the only name continued by a count character to another name is `Neu` (by `5`, to
`Neu5Ac` / `Neu5Gc`) -/
theorem only_clash_is_Neu5 : ∀ nm ∈ namesSorted MONO, ∀ c, (isDigit c || c == 45 || c == 46) = true →
    clash (namesSorted MONO) nm c = true → nm = str% "Neu" ∧ c = 53 := by
  intro nm hnm c hc hcl
  simp only [clash, List.any_eq_true] at hcl
  obtain ⟨n, hn, hp⟩ := hcl
  obtain ⟨r, hr⟩ := List.isPrefixOf_iff_prefix.1 hp
  exact gen_only_clash nm hnm c hc n hn r hr.symm

/-- exactly which written forms are ambiguous in the generated vocabulary: a dict (keys among the 47 names and
synonyms, printable counts) is unambiguous iff it does not contain `Neu` with count text `5` immediately followed by
`Ac` or `Acetyl` (`neu5ac`; the written text then reads `…Neu5Ac…`) -/
theorem unambig_gen_iff (g : Comp) (hk : ∀ kv ∈ g, kv.1 ∈ namesSorted MONO) (hv : ∀ kv ∈ g, NumOK kv.2) :
    Unambig (namesSorted MONO) g = !neu5ac g :=
  gen_unambig_eq g hk hv

/-- the round trip for the generated table with the unambiguity hypothesis made explicit: every dict over names and
synonyms, pairwise different keys, int / finite decimal counts, except `… Neu:5, Ac|Acetyl:… …` -/
theorem glycan_parse_write_gen_exact (g : Comp) (hk : ∀ kv ∈ g, kv.1 ∈ namesSorted MONO)
    (hv : ∀ kv ∈ g, NumWF kv.2) (hd : (g.map (·.1)).Nodup) (hn : neu5ac g = false) :
    parseGlycan MONO (writeGlycan g []) [] = .ok g := by
  refine glycan_parse_write_gen g ?_ hv hd
  rw [gen_unambig_eq g hk (fun kv hkv => numOK_of_wf kv.2 (hv kv hkv)), hn]
  rfl

/-- hence, for the generated table: every dict over names and synonyms with pairwise different keys and int / finite
decimal counts survives write → parse, provided the count of `Neu` (if present) is not printed with a leading `5`
(the only ambiguous written forms are `Neu5Ac…` / `Neu5Gc…`) -/
theorem glycan_parse_write_gen_all (g : Comp) (hk : ∀ kv ∈ g, kv.1 ∈ namesSorted MONO)
    (hv : ∀ kv ∈ g, NumWF kv.2) (hd : (g.map (·.1)).Nodup)
    (hneu : ∀ kv ∈ g, kv.1 = str% "Neu" → ∀ s, kv.2.show ≠ 53 :: s) :
    parseGlycan MONO (writeGlycan g []) [] = .ok g :=
  glycan_parse_write_gen_exact g hk hv hd (neu5ac_eq_false_of_neu g hneu)

example : ∀ kv ∈ [(str% "HexNAc", Num.ofInt 4), (str% "Hex", Num.ofInt 5), (str% "Fucose", Num.ofInt 1),
    (str% "Neu", ⟨3/2, true⟩), (str% "Ac", Num.ofInt 20)],
    kv.1 ∈ namesSorted MONO ∧ (kv.1 = str% "Neu" → (match kv.2.show with | 53 :: _ => false | _ => true) = true) := by
  rw [namesSorted_gen]
  decide +kernel

example : neu5ac [(str% "Neu", Num.ofInt 5), (str% "Hex", Num.ofInt 1), (str% "Ac", Num.ofInt 2)] = false := by
  decide +kernel
example : neu5ac [(str% "Hex", Num.ofInt 1), (str% "Neu", Num.ofInt 5), (str% "Acetyl", Num.ofInt 2)] = true := by
  decide +kernel

/-- both paths build the same dict from the same token list: the separated path's fold is `addAll` -/
theorem glycan_sep_same_dict (g d : Comp) : foldSep d g = addAll d g :=
  foldSep_eq_addAll g d

/-- with a separator the text is split at every separator and read as name, count, name, count, …; the vocabulary is
not consulted; a repeated key is accumulated (`foldSep`, equal to `addAll`: `glycan_sep_same_dict`) -/
theorem glycan_parse_write_sep_fold (mono : List Entry) (c : Nat) (g : Comp)
    (hc : (isDigit c || c == 45 || c == 46) = false) (hk : ∀ kv ∈ g, c ∉ kv.1) (hv : ∀ kv ∈ g, NumOK kv.2) :
    parseGlycan mono (writeGlycan g [c]) [c] = .ok (foldSep [] g) := by
  rw [foldSep_eq_addAll]; exact parseGlycan_write_sep mono c g hc hk hv

theorem glycan_parse_write_sep (mono : List Entry) (c : Nat) (g : Comp)
    (hc : (isDigit c || c == 45 || c == 46) = false) (hk : ∀ kv ∈ g, c ∉ kv.1) (hv : ∀ kv ∈ g, NumOK kv.2)
    (hd : (g.map (·.1)).Nodup) :
    parseGlycan mono (writeGlycan g [c]) [c] = .ok g := by
  rw [parseGlycan_write_sep mono c g hc hk hv, addAll_nil_of_nodup hd]

example : writeGlycan [(str% "HexNAc", Num.ofInt 2), (str% "Neu", Num.ofInt 5), (str% "Ac", ⟨1/2, true⟩)] [32] =
    str% "HexNAc 2 Neu 5 Ac 0.5" := by decide +kernel

theorem glycan_parse_sep_repeated_key_accumulates :
    parseGlycan MONO (str% "Hex 2 Fuc 1 Hex 3") [32] = .ok [(str% "Hex", Num.ofInt 5), (str% "Fuc", Num.ofInt 1)] := by
  decide +kernel

/-- C15 for glycans: a dict over the 47 names and synonyms, pairwise different keys, int / finite-decimal counts,
written in a form that is unambiguous — then the text parses to the dict, its mass is the count-weighted sum of the
monosaccharide masses, its composition is the count-weighted sum of the monosaccharide compositions (element by
element), and both sums are unchanged when every synonym is replaced by the name of its entry -/
theorem glycan_formula_property (g : Comp) (isMono : Bool) (hu : Unambig (namesSorted MONO) g = true)
    (hv : ∀ kv ∈ g, NumWF kv.2) (hd : (g.map (·.1)).Nodup) :
    parseGlycan MONO (writeGlycan g []) [] = .ok g ∧
    glycanMassStr MONO isMono (writeGlycan g []) = .ok (massSum MONO isMono g) ∧
    (∃ c, glycanCompStr MONO (writeGlycan g []) = .ok c ∧ (c.map (·.1)).Nodup ∧
      ∀ el, countAt c el = compSum MONO g el) ∧
    massSum MONO isMono (mapKeys (canon MONO) g) = massSum MONO isMono g ∧
    ∀ el, compSum MONO (mapKeys (canon MONO) g) el = compSum MONO g el := by
  have hk := unambig_keys _ g hu
  have hstr := glycan_str_eq_dict g isMono hu hv hd
  have hcanon : ∀ kv ∈ g, monoEntry MONO (canon MONO kv.1) = monoEntry MONO kv.1 :=
    fun kv _ => monoEntry_canon MONO (fun e he => (synonym_eq_name e he).1) kv.1
  refine ⟨glycan_parse_write_gen g hu hv hd, ?_, ?_, massSum_mapKeys MONO isMono _ g hcanon,
    fun el => compSum_mapKeys MONO _ g el hcanon⟩
  · rw [hstr.2]; exact glycan_mass_linear_gen isMono g hk
  · rw [hstr.1]; exact glycan_comp_linear_gen g hk

example : Unambig (namesSorted MONO) [(str% "HexNAc", Num.ofInt 4), (str% "Hex", Num.ofInt 5),
    (str% "Fucose", Num.ofInt 1), (str% "NeuAc", ⟨3/2, true⟩), (str% "S", Num.ofInt (-2))] = true := by
  rw [namesSorted_gen]
  decide +kernel

/-- with the generated vocabulary the tokenizer never reaches the endless loop (`hang`: an empty name matching):
on every text it ends with a dict or with `InvalidGlycanFormulaError` -/
theorem glycan_parse_total (s : Str) :
    (∃ c, parseGlycan MONO s [] = .ok c) ∨ parseGlycan MONO s [] = .error .invalidGlycanFormula := by
  rw [parseGlycan_eq_aux]
  exact parseGlycanAux_total (namesSorted MONO) names_nonempty s 0 []

example : parseGlycan MONO (str% "Hex2Xyz1") [] = .error .invalidGlycanFormula := by
  rw [parseGlycan_eq_aux, namesSorted_gen]
  decide +kernel
example : parseGlycan MONO (str% "Hex1.2.3") [] = .error .invalidGlycanFormula := by
  rw [parseGlycan_eq_aux, namesSorted_gen]
  decide +kernel

/-- the text of two written token lists put one after the other (repeated names allowed, within and across the
parts) parses to the `addAll`-merge of the two parses, whenever the concatenated text is unambiguous -/
theorem glycan_parse_concat (names : List Str) (g₁ g₂ : Comp)
    (hne : ∀ nm ∈ names, nm ≠ []) (hs : names.Pairwise (fun a b => b.length ≤ a.length))
    (hu : Unambig names (g₁ ++ g₂) = true) (hv : ∀ kv ∈ g₁ ++ g₂, NumOK kv.2) :
    parseGlycanAux names 0 (writeGlycan g₁ []) [] = .ok (addAll [] g₁) ∧
    parseGlycanAux names 0 (writeGlycan g₂ []) [] = .ok (addAll [] g₂) ∧
    parseGlycanAux names 0 (writeGlycan g₁ [] ++ writeGlycan g₂ []) [] =
      .ok (addAll (addAll [] g₁) (addAll [] g₂)) := by
  obtain ⟨hu1, hu2⟩ := unambig_append names g₁ g₂ hu
  have hv1 : ∀ kv ∈ g₁, NumOK kv.2 := fun kv h => hv kv (List.mem_append_left _ h)
  have hv2 : ∀ kv ∈ g₂, NumOK kv.2 := fun kv h => hv kv (List.mem_append_right _ h)
  refine ⟨parseGlycanAux_write names hne hs g₁ [] hu1 hv1, parseGlycanAux_write names hne hs g₂ [] hu2 hv2, ?_⟩
  rw [← writeGlycan_append, parseGlycanAux_write names hne hs (g₁ ++ g₂) [] hu hv, addAll_append,
    addAll_addAll_nil]

example : Unambig (namesSorted MONO) ([(str% "Hex", Num.ofInt 2), (str% "Fuc", Num.ofInt 1)] ++
    [(str% "Hex", Num.ofInt 3), (str% "NeuAc", ⟨1/2, true⟩)]) = true := by
  rw [namesSorted_gen]
  decide +kernel
example : addAll (addAll [] [(str% "Hex", Num.ofInt 2), (str% "Fuc", Num.ofInt 1)])
    (addAll [] [(str% "Hex", Num.ofInt 3), (str% "NeuAc", ⟨1/2, true⟩)]) =
    [(str% "Hex", Num.ofInt 5), (str% "Fuc", Num.ofInt 1), (str% "NeuAc", ⟨1/2, true⟩)] := by decide +kernel

/-- mass of a written token list (repeated names allowed) = count-weighted sum over the tokens -/
theorem glycan_mass_str_tokens (g : Comp) (isMono : Bool) (hu : Unambig (namesSorted MONO) g = true)
    (hv : ∀ kv ∈ g, NumWF kv.2) :
    glycanMassStr MONO isMono (writeGlycan g []) = .ok (massSum MONO isMono g) := by
  have hk := forall_keys_addAll_nil g (unambig_keys _ g hu)
  rw [glycanMassStr, gen_parse_write g hu hv]
  simp only
  rw [glycan_mass_linear_gen isMono (addAll [] g) hk, massSum_eq_wsum, wsum_addAll_nil]

theorem glycan_mass_concat (g₁ g₂ : Comp) (isMono : Bool) (hu : Unambig (namesSorted MONO) (g₁ ++ g₂) = true)
    (hv : ∀ kv ∈ g₁ ++ g₂, NumWF kv.2) :
    ∃ m₁ m₂, glycanMassStr MONO isMono (writeGlycan g₁ []) = .ok m₁ ∧
      glycanMassStr MONO isMono (writeGlycan g₂ []) = .ok m₂ ∧
      glycanMassStr MONO isMono (writeGlycan g₁ [] ++ writeGlycan g₂ []) = .ok (m₁ + m₂) := by
  obtain ⟨hu1, hu2⟩ := unambig_append _ g₁ g₂ hu
  refine ⟨massSum MONO isMono g₁, massSum MONO isMono g₂,
    glycan_mass_str_tokens g₁ isMono hu1 (fun kv h => hv kv (List.mem_append_left _ h)),
    glycan_mass_str_tokens g₂ isMono hu2 (fun kv h => hv kv (List.mem_append_right _ h)), ?_⟩
  rw [← writeGlycan_append, glycan_mass_str_tokens (g₁ ++ g₂) isMono hu hv, glycan_mass_sum_append]

/-- composition of a written token list (repeated names allowed): every element once, its count the count-weighted
sum over the tokens -/
theorem glycan_comp_str_tokens (g : Comp) (hu : Unambig (namesSorted MONO) g = true)
    (hv : ∀ kv ∈ g, NumWF kv.2) :
    ∃ c, glycanCompStr MONO (writeGlycan g []) = .ok c ∧ (c.map (·.1)).Nodup ∧
      ∀ el, countAt c el = compSum MONO g el := by
  have hk := forall_keys_addAll_nil g (unambig_keys _ g hu)
  rw [glycanCompStr, gen_parse_write g hu hv]
  simp only
  obtain ⟨c, h1, h2, h3⟩ := glycan_comp_linear_gen (addAll [] g) hk
  refine ⟨c, h1, h2, fun el => ?_⟩
  rw [h3 el, compSum_eq_wsum, compSum_eq_wsum, wsum_addAll_nil]

/-- the composition of a concatenated glycan text is, element by element, the sum of the compositions of the parts -/
theorem glycan_comp_concat (g₁ g₂ : Comp) (hu : Unambig (namesSorted MONO) (g₁ ++ g₂) = true)
    (hv : ∀ kv ∈ g₁ ++ g₂, NumWF kv.2) :
    ∃ c₁ c₂ c, glycanCompStr MONO (writeGlycan g₁ []) = .ok c₁ ∧
      glycanCompStr MONO (writeGlycan g₂ []) = .ok c₂ ∧
      glycanCompStr MONO (writeGlycan g₁ [] ++ writeGlycan g₂ []) = .ok c ∧
      ∀ el, countAt c el = countAt c₁ el + countAt c₂ el := by
  obtain ⟨hu1, hu2⟩ := unambig_append _ g₁ g₂ hu
  obtain ⟨c₁, h1, _, e1⟩ := glycan_comp_str_tokens g₁ hu1 (fun kv h => hv kv (List.mem_append_left _ h))
  obtain ⟨c₂, h2, _, e2⟩ := glycan_comp_str_tokens g₂ hu2 (fun kv h => hv kv (List.mem_append_right _ h))
  obtain ⟨c, h, _, e⟩ := glycan_comp_str_tokens (g₁ ++ g₂) hu hv
  rw [writeGlycan_append] at h
  refine ⟨c₁, c₂, c, h1, h2, h, ?_⟩
  intro el
  rw [e el, e1 el, e2 el, glycan_comp_sum_append]

example : glycanCompStr MONO (str% "Hex2Fuc1" ++ str% "Hex3") =
    .ok [(str% "C", Num.ofInt 36), (str% "H", Num.ofInt 60), (str% "O", Num.ofInt 29)] := by
  rw [glycanCompStr, parseGlycan_eq_aux, namesSorted_gen]
  decide +kernel

end C15Glycan
