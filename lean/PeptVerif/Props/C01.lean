import PeptVerif.Lemmas.ParserChain
/-!
# C01 — ProForma text ⇄ annotation are faithful inverses (property theorems)

Objects: `Pept.parse true` (the parser of the current `/repo`, Model/Parser.lean), `Pept.serialize` /
`Pept.serializeMulti` (Model/Serialize.lean), the decidable well-formedness predicate `Pept.canon`
(Spec/ProForma.lean: the image of the documented grammar). All statements are for every annotation, every
sequence length, every list of modifications, and every `plus : Plus = Mod → Bool`, i.e. any choice, modification
by modification, of writing a positive number with or without `+` (Python's `include_plus=b` is `constPlus b`; mixed
spellings inside one string are covered as well). "Equal" is structural equality of the
model objects, which implies the library's multiset `==`.

Outside these theorems (rest on correspondence only): float values whose text is not Python's `repr`
(more than 15 significant digits, |decimal exponent| beyond 290) are not `canon`; non-ASCII text.

Known finding (not provable, stated below as `_partial` + counter-example): chains joined by a crosslink.
-/
namespace Pept

/-- The bracket-depth scan of `_parse_modification` returns exactly a balanced body and what follows the
closing bracket — for every body, every continuation, every bracket pair. -/
theorem scan_roundtrip (o c : Char) (hoc : o ≠ c) (w rest : List Char) (hb : balanced o c w = true) :
    scan o c 1 (w ++ c :: rest) = some (w, rest) :=
  scan_balanced o c hoc w rest hb

example : balanced '[' ']' "Formula:[13C2]H4".toList = true := by decide

/-- `_parse_modification` is a left inverse of `Mod.serialize`: for every canonical modification (any value kind,
any multiplier ≥ 1), both spellings of positive numbers, every continuation that does not start with `^` or a digit.
Covers `+1.0 ↦ 1.0`, `^n`, nested brackets as in `Formula:[13C2]H4`. -/
theorem parseMod_serialize (o c : Char) (hoc : o ≠ c) (hpo : '+' ≠ o) (hpc : '+' ≠ c) (plus : Bool) (m : Mod)
    (hm : canonMod o c m = true) (rest : List Char) (hrest : ModStop rest) :
    parseModBody o c ((Mod.serialize o c plus m).tail ++ rest) = .ok (m, rest) ∧
      (Mod.serialize o c plus m).head? = some o := by
  obtain ⟨hw, hd⟩ := canonMod_spelled o c hpo hpc plus m hm
  exact ⟨by rw [Mod.serialize_eq_render, parseModBody_text o c hoc _ hw rest hrest, hd], by rw [Mod.serialize_eq_render]; rfl⟩

example : canonMod '[' ']' ⟨.flt "1.5".toList, 3⟩ = true := by decide +kernel
example : canonMod '[' ']' ⟨.str "Formula:[13C2]H4".toList, 1⟩ = true := by decide +kernel
example : Mod.serialize '[' ']' true ⟨.flt "1.0".toList, 2⟩ = "[+1.0]^2".toList := by decide +kernel

/-- every Python `int` is a canonical value: `convert_type(str(i)) == i`, for all `i` -/
theorem int_value_roundtrip (i : Int) : convertType (ModVal.int i).text = .int i := by
  simp [ModVal.text, convertType, pyInt_intText]

/-- a run of modifications (`_parse_modifications`) -/
theorem parseMods_roundtrip (o c : Char) (hoc : o ≠ c) (hpo : '+' ≠ o) (hpc : '+' ≠ c) (ho1 : o ≠ '^')
    (ho2 : o.isDigit = false) (plus : Plus) (l : List Mod) (hl : l.all (canonMod o c) = true)
    (rest : List Char) (hrest : ModStop rest) (hro : rest.head? ≠ some o) :
    parseMods o c (serializeMods o c plus l ++ rest) = .ok (l, rest) := by
  obtain ⟨hw, hd⟩ := canonMods_spelled o c hpo hpc plus l hl
  rw [serializeMods_eq_render, parseMods_text o c hoc ho1 ho2 _ hw rest hrest hro, hd]

/-- `_parse_sequence_start` reads back what `_serialize_annotation_start` wrote: labile, static, isotope,
unknown-position and N-terminal modifications, followed by anything that starts with a residue or `(`. -/
theorem parseStart_serializeStart (plus : Plus) (a : Annotation) (hc : canon a = true) (rest : List Char)
    (hrest : StartStop rest) :
    parseStart true { seq := [] } (serializeStart plus a ++ rest) =
      .ok ({ seq := [], labile := a.labile, static := a.static, isotope := a.isotope, unknown := a.unknown,
             nterm := a.nterm }, rest) := by
  have ha := canon_fields a hc
  exact parseStart_sections plus a ha.labile ha.static ha.isotope ha.unknown ha.nterm rest hrest

/-- `_parse_sequence_middle` reads back what `_serialize_annotation_middle` wrote, including an interval opening at
residue 0 and one closing after the last residue, modifications on residues and on intervals: that text is the text of the
segments `middleSegs`, which denote the three fields. -/
theorem parseMiddle_serializeMiddle (plus : Plus) (a acc : Annotation) (hc : canon a = true)
    (h1 : acc.seq = []) (h2 : acc.internal = none) (h3 : acc.intervals = none)
    (tail : List Char) (htail : MidStop tail) :
    parseMiddle acc none (serializeMiddle plus a ++ tail) =
      parseMiddle { acc with seq := a.seq, internal := a.internal, intervals := a.intervals } none tail := by
  have ha := canon_fields a hc
  obtain ⟨hr, hw, hd⟩ := middleSegs_spec plus a ha.allAA ha.internal ha.intervals
  rw [← hr, segs_steps _ hw acc (.of_none h2) tail htail, hd acc h1 h2 h3]

/-- `_parse_sequence_end` reads back charge and adducts, up to the end of the input or the `+` / `//` that starts the next
chain (`stopConn` = the connection flag set by the joiner, `stopRest` = the input after it) -/
theorem parseEnd_serializeEnd (plus : Plus) (a : Annotation) (ha0 : a.adducts = none) (conn : Option Bool) (ch : Int)
    (ad : Option (List Mod)) (had : canonAdducts (some ch) ad = true) (rest : List Char) (hrest : ChainStop rest) :
    parseEnd a conn ('/' :: (intText ch ++ (optMods '[' ']' plus ad ++ rest))) =
      .ok ({ a with charge := some ch, adducts := ad }, stopConn conn rest, stopRest rest) := by
  -- what the serializer writes is the unsigned spelling of the charge with its own spelling of the adducts
  obtain ⟨hw, hd⟩ := canonAdducts_spelled plus ch ad had
  have h := parseEnd_scharge a ha0 conn ⟨ch, false, spelledMods plus (ad.getD [])⟩ hw rest hrest
  rw [SCharge.render_spelled, hd] at h
  simpa using h

/-- **Round trip, single chain.** For every canonical annotation and both `include_plus` settings the serialized text
parses back to the same annotation. -/
theorem parse_serialize (plus : Plus) (a : Annotation) (hc : canon a = true) :
    parse true (serialize plus a) = .ok (.single a) :=
  (chainText_serialize plus a hc).parse_eq

/-- non-vacuity: the object denoted by `[1]?[2]-(PEP)[3]^2TIDE/2[+2Na+,+H+]` -/
def exampleAnnotation : Annotation :=
  { seq := "PEPTIDE".toList, unknown := some [⟨.int 1, 1⟩], nterm := some [⟨.int 2, 1⟩],
    intervals := some [⟨0, 3, false, some [⟨.int 3, 2⟩]⟩], charge := some 2,
    adducts := some [⟨.str "+2Na+,+H+".toList, 1⟩] }

example : canon exampleAnnotation = true := by decide +kernel
example : serialize (constPlus false) exampleAnnotation = "[1]?[2]-(PEP)[3]^2TIDE/2[+2Na+,+H+]".toList := by decide +kernel
example : canon { seq := "PEP".toList, labile := some [⟨.flt "15.995".toList, 1⟩],
                  static := some [⟨.str "[+57.02]@C".toList, 1⟩], isotope := some [⟨.str "13C".toList, 1⟩],
                  internal := some [(0, [⟨.str "Formula:[13C2]H4".toList, 2⟩]), (2, [⟨.int (-1), 1⟩])],
                  intervals := some [⟨0, 1, true, none⟩, ⟨1, 3, false, some [⟨.str "Oxidation|INFO:x".toList, 1⟩]⟩],
                  cterm := some [⟨.str "Glycan:Hex".toList, 1⟩], charge := some (-2) } = true := by decide +kernel

/-- the two Python settings `include_plus ∈ {False, True}` are instances -/
theorem parse_serialize_include_plus (b : Bool) (a : Annotation) (hc : canon a = true) :
    parse true (serialize (constPlus b) a) = .ok (.single a) :=
  parse_serialize (constPlus b) a hc

/-- mixed spellings in one string: `+` on the first modification only -/
def exampleMixed : Annotation := { seq := "PEP".toList, internal := some [(1, [⟨.int 5, 1⟩, ⟨.int 5, 2⟩])] }

example : serialize (fun m => decide (m.mult = 1)) exampleMixed = "PE[+5][5]^2P".toList := by decide +kernel

/-- **The notation denotes the same object whatever the order of the leading sections.** The text may carry the labile
`{…}`, global `<…>` (static rules and isotope labels interleaved inside a run), unknown-position `[…]?` and N-terminal
`[…]-` sections in ANY order and any number of times (the serializer only ever writes one fixed order); the parser
accumulates them in order of appearance (`surfaceDenote`). Middle and end sections are those of any canonical `b`. -/
theorem parse_any_section_order (plus : Plus) (items : List StartItem) (hok : ∀ it ∈ items, it.ok = true)
    (hadj : noAdjacentGlobals items = true) (b : Annotation) (hb : canon b = true) :
    parse true (surfaceText plus items b) = .ok (.single (surfaceDenote items b)) :=
  (chainText_surface plus items hok hadj b hb).parse_eq

/-- non-vacuity: N-terminal section first, then a `<…>` run mixing an isotope label and a static rule, a labile group,
an unknown-position group and a second N-terminal section -/
def exampleItems : List StartItem :=
  [.nterm [⟨.int 2, 1⟩], .globals [⟨.str "13C".toList, 1⟩, ⟨.str "[+57.02]@C".toList, 1⟩],
   .labile ⟨.str "Glycan:Hex".toList, 2⟩, .unknown [⟨.flt "1.5".toList, 1⟩], .nterm [⟨.int 7, 3⟩]]

example : (exampleItems.all StartItem.ok && noAdjacentGlobals exampleItems) = true := by decide +kernel
example : surfaceText (constPlus true) exampleItems { seq := "PEP".toList, charge := some 2 } =
    "[+2]-<13C><[+57.02]@C>{Glycan:Hex}^2[+1.5]?[+7]^3-PEP/2".toList := by decide +kernel
example : surfaceDenote exampleItems { seq := "PEP".toList, charge := some 2 } =
    { seq := "PEP".toList, charge := some 2, nterm := some [⟨.int 2, 1⟩, ⟨.int 7, 3⟩],
      isotope := some [⟨.str "13C".toList, 1⟩], static := some [⟨.str "[+57.02]@C".toList, 1⟩],
      labile := some [⟨.str "Glycan:Hex".toList, 2⟩], unknown := some [⟨.flt "1.5".toList, 1⟩] } := by decide +kernel

/-- **Parsing a ProForma string yields exactly what the notation denotes.** For every well-formed surface-syntax tree
`t` (Spec/ProForma.lean: leading sections in any order and multiplicity, residues with modifications, ambiguity
intervals with modifications, C-terminal block, charge with optional explicit `+` and adduct list, 1 or more chains joined
by `+` or `//`, every modification written with ANY text between its brackets and an optional `^n`), parsing the text of
`t` gives `denote t`: modification values `convert_type(text)` with their multipliers at the position the tree says, the
interval bounds counted in residues, the connection flags of the joiners. -/
theorem parse_render (t : SText) (hw : t.wf = true) : parse true t.render = .ok t.denote := by
  obtain ⟨c, l⟩ := t
  simp only [SText.wf, Bool.and_eq_true, List.all_eq_true] at hw
  cases l with
  | nil => simpa [SText.render, SText.denote] using (chainText_render c hw.1).parse_eq
  | cons p t =>
    exact parse_joinedChains SChain.render SChain.denote c p t (chainText_render c hw.1)
      fun q hq => chainText_render q.2 (hw.2 q hq)

/-- non-vacuity: `[+2]-<13C><[+57.02]@C>{Glycan:Hex}^2[1.50]?(?P[Formula:[13C2]H4]E)[+1.0]^3P-[Oxidation]/+2[+2Na+,+H+]//K[-1]` -/
def exampleTree : SText :=
  { first :=
      { start := [.nterm [⟨"+2".toList, none⟩], .globals [⟨"13C".toList, none⟩, ⟨"[+57.02]@C".toList, none⟩],
                  .labile ⟨"Glycan:Hex".toList, some 2⟩, .unknown [⟨"1.50".toList, none⟩]],
        segs := [.group true [⟨'P', [⟨"Formula:[13C2]H4".toList, none⟩]⟩, ⟨'E', []⟩] [⟨"+1.0".toList, some 3⟩],
                 .res ⟨'P', []⟩],
        cterm := [⟨"Oxidation".toList, none⟩],
        charge := some ⟨2, true, [⟨"+2Na+,+H+".toList, none⟩]⟩ },
    rest := [(true, { start := [], segs := [.res ⟨'K', [⟨"-1".toList, none⟩]⟩], cterm := [], charge := none })] }

example : exampleTree.wf = true := by decide +kernel
example : exampleTree.render =
    "[+2]-<13C><[+57.02]@C>{Glycan:Hex}^2[1.50]?(?P[Formula:[13C2]H4]E)[+1.0]^3P-[Oxidation]/+2[+2Na+,+H+]//K[-1]".toList := by
  decide +kernel
example : exampleTree.denote = .multi
    [{ seq := "PEP".toList, nterm := some [⟨.int 2, 1⟩], isotope := some [⟨.str "13C".toList, 1⟩],
       static := some [⟨.str "[+57.02]@C".toList, 1⟩], labile := some [⟨.str "Glycan:Hex".toList, 2⟩],
       unknown := some [⟨.flt "1.5".toList, 1⟩], internal := some [(0, [⟨.str "Formula:[13C2]H4".toList, 1⟩])],
       intervals := some [⟨0, 2, true, some [⟨.flt "1.0".toList, 3⟩]⟩], cterm := some [⟨.str "Oxidation".toList, 1⟩],
       charge := some 2, adducts := some [⟨.str "+2Na+,+H+".toList, 1⟩] },
     { seq := "K".toList, internal := some [(0, [⟨.int (-1), 1⟩])] }] [some true] := by decide +kernel

/-- **Serializing is a fixpoint after one round trip** (corollary): `serialize(parse(serialize(a))) == serialize(a)`. -/
theorem serialize_fixpoint (plus : Plus) (a : Annotation) (hc : canon a = true) :
    (parse true (serialize plus a)).bind (serializeParsed plus) = .ok (serialize plus a) := by
  rw [parse_serialize plus a hc]; rfl

/-- **Round trip, several chains joined by `+`** (every connection `False`): the serialized text parses back to the
same chains with the same connection flags — for any number ≥ 2 of canonical chains. -/
theorem parse_serialize_multi_partial (plus : Plus) (as : List Annotation) (h2 : as.length ≥ 2)
    (hc : as.all canon = true) :
    serializeMulti plus as (List.replicate (as.length - 1) (some false)) = .ok (chainsText plus as) ∧
    parse true (chainsText plus as) = .ok (.multi as (List.replicate (as.length - 1) (some false))) := by
  refine ⟨?_, ?_⟩
  · have := serializeMultiWith_joined crosslinkJoinerAsCoded plus as (List.replicate (as.length - 1) false)
      (by simp; omega) (by simp)
    rwa [List.map_replicate, joinedText_false] at this
  match as, h2 with
  | a :: b :: t, _ =>
    have := parse_joinedText plus a b t hc (List.replicate (t.length + 1) false) (by simp)
    rwa [joinedText_false, List.map_replicate] at this

/-- **Reading side, any joiners.** For any number ≥ 2 of canonical chains and any connection flags, the text with `+` for
`False` and `//` for `True` parses to exactly these chains and flags: the parser treats crosslinks correctly, so the
known finding below is confined to the serializer's joiner. -/
theorem parse_joined (plus : Plus) (as : List Annotation) (h2 : as.length ≥ 2) (hc : as.all canon = true)
    (flags : List Bool) (hl : flags.length + 1 = as.length) :
    parse true (joinedText plus as flags) = .ok (.multi as (flags.map some)) := by
  match as, h2 with
  | a :: b :: t, _ => exact parse_joinedText plus a b t hc flags (by simpa using hl)

example : joinedText (constPlus false) [{ seq := "PEP".toList }, { seq := "TIDE".toList, charge := some 2 }, { seq := "K".toList }]
    [true, false] = "PEP//TIDE/2+K".toList := by decide +kernel

/-- **Round trip of multi-chain annotations relative to the corrected joiner.** With `serializeMultiFixed` (the coded
serializer with the single constant `crosslinkJoinerAsCoded` replaced by `//`) every multi-chain annotation with ≥ 2
canonical chains and any connection flags round-trips. The code as it is satisfies this only for flags that are all
`False` (`parse_serialize_multi_partial`); the counter-example for the rest follows. -/
theorem parse_serializeMultiFixed (plus : Plus) (as : List Annotation) (h2 : as.length ≥ 2) (hc : as.all canon = true)
    (flags : List Bool) (hl : flags.length + 1 = as.length) :
    (serializeMultiFixed plus as (flags.map some)).bind (parse true) = .ok (.multi as (flags.map some)) := by
  rw [serializeMultiFixed, serializeMultiWith_joined _ plus as flags hl fun _ => rfl]
  exact parse_joined plus as h2 hc flags hl

/-- The full statement (any connection flags) is FALSE for the current code: `MultiProFormaAnnotation.serialize` writes a
crosslink as two backslashes, which the parser rejects, while it reads `//` (KF-C01-crosslink-backslash; the two
backslashes are asserted by tests/test_proforma.py::test_multi_annotation_crosslink and a doctest). Witness `PEPTIDE//PEPTIDE`. -/
theorem parse_serialize_crosslink_false :
    parse true "PEPTIDE//PEPTIDE".toList =
      .ok (.multi [{ seq := "PEPTIDE".toList }, { seq := "PEPTIDE".toList }] [some true]) ∧
    serializeMulti (constPlus false) [{ seq := "PEPTIDE".toList }, { seq := "PEPTIDE".toList }] [some true] =
      .ok "PEPTIDE\\\\PEPTIDE".toList ∧
    parse true "PEPTIDE\\\\PEPTIDE".toList = .error .format := by decide +kernel

/-- a chain without residues that carries leading sections only (`{a}`, `[a]-`, `<13C>`) round-trips as well -/
theorem parse_serialize_startOnly (plus : Plus) (a : Annotation) (hc : canonStartOnly a = true) :
    parse true (serialize plus a) = .ok (.single a) :=
  parse_serialize_single plus a (by rw [hc, Bool.or_true])

/-- the text of every grammatical tree is a grammatical string -/
theorem render_grammatical (t : SText) (h : t.grammatical = true) : grammaticalString t.render = true := by
  simp only [SText.grammatical, Bool.and_eq_true] at h
  simp only [grammaticalString, parse_render t h.1, h.2]

theorem conns_eq_flags (conns : List (Option Bool)) (h : conns.all (fun c => c.isSome) = true) :
    conns = (conns.map fun c => c.getD false).map some := by
  induction conns with
  | nil => rfl
  | cons c t ih =>
    simp only [List.all_cons, Bool.and_eq_true] at h
    cases c with
    | none => simp at h
    | some b => simp only [List.map_cons, Option.getD_some]; rw [← ih h.2]

/-- **Round trip for accepted strings.** If the parser accepts `s` and the result is canonical — in particular for the
text of every grammatical tree — then serializing the result (any per-modification choice of the `+` spelling; crosslink
joiner as repaired) and parsing again gives the same object. -/
theorem accepted_roundtrip (plus : Plus) (s : List Char) (p : Parsed) (_hp : parse true s = .ok p)
    (hc : canonParsed p = true) : (serializeParsedFixed plus p).bind (parse true) = .ok p := by
  cases p with
  | single a =>
    exact parse_serialize_single plus a hc
  | multi as conns =>
    simp only [canonParsed, Bool.and_eq_true, decide_eq_true_eq] at hc
    obtain ⟨⟨⟨h2, hcan⟩, hlen⟩, hsome⟩ := hc
    have hfl := conns_eq_flags conns hsome
    rw [hfl]
    exact parse_serializeMultiFixed plus as h2 hcan _ (by simpa using hlen)

/-- … and for the code as it is (two-backslash joiner) whenever no chain is crosslinked -/
theorem accepted_roundtrip_as_coded (plus : Plus) (s : List Char) (p : Parsed) (_hp : parse true s = .ok p)
    (hc : canonParsed p = true) (hx : noCrosslink p = true) : (serializeParsed plus p).bind (parse true) = .ok p := by
  cases p with
  | single a =>
    exact parse_serialize_single plus a hc
  | multi as conns =>
    simp only [canonParsed, Bool.and_eq_true, decide_eq_true_eq] at hc
    obtain ⟨⟨⟨h2, hcan⟩, hlen⟩, _⟩ := hc
    have hrep : conns = List.replicate (as.length - 1) (some false) := by
      simp only [noCrosslink, List.all_eq_true, beq_iff_eq] at hx
      apply List.eq_replicate_iff.mpr
      exact ⟨by omega, hx⟩
    obtain ⟨h3, h4⟩ := parse_serialize_multi_partial plus as h2 hcan
    rw [hrep]
    simp only [serializeParsed, serializeMulti] at h3 ⊢
    rw [h3]
    exact h4

/-- serialization is a fixpoint after one round trip, for every accepted grammatical string -/
theorem accepted_serialize_fixpoint (plus : Plus) (s : List Char) (p : Parsed) (hp : parse true s = .ok p)
    (hc : canonParsed p = true) :
    ((serializeParsedFixed plus p).bind (parse true)).bind (serializeParsedFixed plus) = serializeParsedFixed plus p := by
  rw [accepted_roundtrip plus s p hp hc]; rfl

example : grammaticalString "[a]?(?PE)[+1.0]^3P-[Formula:[13C2]H4]/-2+K//AC[Oxidation]".toList = true := by decide +kernel

/-- Accepted text whose result is NOT grammatical: the parser takes it, the round-trip theorems do not cover it.
(1) a multi-chain text with a residue-free chain (`P+{a}`; a single residue-free chain such as `{a}` IS covered, see
`parse_serialize_startOnly`): on the real code it does round-trip; (2) numbers outside the `repr` model (`PEP[1e400]` is
`inf` in Python and round-trips there; the model carries it opaquely). -/
theorem accepted_not_grammatical :
    accepted "P+{a}".toList = true ∧ grammaticalString "P+{a}".toList = false ∧
    accepted "PEP[1e400]".toList = true ∧ grammaticalString "PEP[1e400]".toList = false ∧
    grammaticalString "{a}".toList = true ∧ grammaticalString "[a]-".toList = true := by decide +kernel

/-- Rejected (ProFormaFormatError, fix 0b351bb), because the result would not survive serialize/parse:
a dangling `-`, an unclosed or empty interval, a modification before the first residue, a multiplier `^0`. -/
theorem ungrammatical_rejected :
    parse true "PEP-".toList = .error .format ∧ parse true "(PEP".toList = .error .format ∧
    parse true "PEP()".toList = .error .format ∧ parse true "([a]P)".toList = .error .format ∧
    parse true "PEP[a]^0".toList = .error .format ∧ parse true "(PEP-[a]".toList = .error .format ∧
    parse true "(PEP/2".toList = .error .format := by decide +kernel

end Pept
