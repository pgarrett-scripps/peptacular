import PeptVerif.Model.ModDbGen
import PeptVerif.Model.ModDbFacts
import PeptVerif.Lemmas.ModDbTables
import PeptVerif.Lemmas.ModTablesBridge
import PeptVerif.Props.C10
/-! C10 table facts about masses: tabulated monoisotopic mass = mass of the tabulated composition (Unimod, monosaccharides),
cross-vocabulary name collisions (kernel evaluation), and concrete resolutions: instances of the spelling theorems of
`Props/C10.lean`, each with the entry found in the generated table. -/
namespace C10Mass
open ModDb Formula

abbrev T : Tables := Gen.tables

/-- every Unimod entry has a mono mass and a composition, the composition parses, every element is in the table, and
|tabulated mono mass − Σ count · isotope mass| ≤ 10⁻³ over the loaded element table.  Not a second evaluation: C03's row
check (`Pept.ModTables.unimod_rows`: the same rows within 10⁻⁴ over the element table of `Model/Chem.lean`, and no
element outside `unimodElems`) carries over, because on those elements the two element tables give the same
monoisotopic masses (`elems_agree`). -/
theorem unimod_mono_matches_comp : Gen.Unimod.entries.all (monoMatchesComp Gen.massTable) = true :=
  List.all_eq_true.2 fun e he => Pept.ModTables.monoMatchesComp_of_monoOk Pept.ModTables.elems_agree
    (List.all_eq_true.1 Pept.ModTables.unimod_rows.1 e he) (List.all_eq_true.1 Pept.ModTables.unimod_rows.2.2.2 e he)

/-- the same for the 27 monosaccharides -/
theorem mono_table_matches_comp : Gen.Mono.entries.all (monoMatchesComp Gen.massTable) = true := by decide +kernel

example : monoMatchesComp Gen.massTable
    (Entry.mk (str% "1") (str% "Acetyl") [] (some ⟨42010565, 6⟩) (some ⟨420367, 4⟩) (some (str% "H2C2O1"))) = true := by
  decide +kernel

/-- the two names carried by both Unimod and PSI-MOD mean the same thing in monoisotopic mass (10⁻⁵) and composition … -/
theorem collisions_agree_mono_comp : collisions.all (collisionOK Gen.Unimod.entries Gen.PsiMod.entries) = true :=
  List.all_eq_true.mpr fun n hn => (Bool.and_eq_true _ _ ▸ List.all_eq_true.mp Gen.collisions_checked n hn).1

/-- … but NOT in average mass: PSI-MOD tabulates 339.45 / 601.8, Unimod 339.453 / 601.8021 (known finding
KF-C10-bare-name-collision-avg; the bare name is looked up in PSI-MOD first) -/
theorem collisions_avg_differ : collisions.all (fun n => !collisionAvgOK Gen.Unimod.entries Gen.PsiMod.entries n) = true :=
  List.all_eq_true.mpr fun n hn => (Bool.and_eq_true _ _ ▸ List.all_eq_true.mp Gen.collisions_checked n hn).2

/-- counter-example to the full bare-name statement, replayed on the real code by the harness:
`mod_mass('NHS-LC-Biotin', monoisotopic=False) = 339.45` but `mod_mass('U:92', monoisotopic=False) = 339.453` -/
theorem bare_name_full_false_on_current_tables :
    modMass T (str% "NHS-LC-Biotin") false = .ok (some (33945 / 100)) ∧
    modMass T (str% "U:92") false = .ok (some (339453 / 1000)) := by
  obtain ⟨p, hp, hn, hm⟩ : ∃ e ∈ Gen.PsiMod.entries, e.name = str% "NHS-LC-Biotin" ∧
      entryMass T e false = .ok (some (33945 / 100)) := by
    rw [Gen.PsiMod.entries_flat]
    decide +kernel
  obtain ⟨u, hu, hi, hmu⟩ : ∃ e ∈ Gen.Unimod.entries, e.id = str% "92" ∧
      entryMass T e false = .ok (some (339453 / 1000)) := by
    rw [Gen.Unimod.entries_flat]
    decide +kernel
  have h1 := ((C10.spelling_invariant_psimod p hp (str% "m:") (str% "m:") (by decide) (by decide)).1 false).1
  have h2 := ((C10.spelling_invariant_unimod_prefixed u hu (str% "u:") (str% "U:") (by decide) (by decide)).1 false).2
  rw [hn, hm] at h1
  rw [hi, hmu] at h2
  exact ⟨h1, h2⟩

/-- concrete instances of the spelling theorems (non-vacuity): a name with a colon and brackets, through a mixed-case
prefix, the accession and the bare name -/
theorem label_13C6_resolves :
    modMass T (str% "uNiMoD:Label:13C(6)") true = .ok (some (6020129 / 1000000)) ∧
    modMass T (str% "U:188") true = .ok (some (6020129 / 1000000)) ∧
    modMass T (str% "Label:13C(6)") true = .ok (some (6020129 / 1000000)) := by
  obtain ⟨e, he, hi, hn, hm⟩ : ∃ e ∈ Gen.Unimod.entries, e.id = str% "188" ∧ e.name = str% "Label:13C(6)" ∧
      entryMass T e true = .ok (some (6020129 / 1000000)) := by
    rw [Gen.Unimod.entries_flat]
    decide +kernel
  have h1 := (C10.spelling_invariant_unimod_prefixed e he (str% "unimod:") (str% "uNiMoD:") (by decide) (by decide)).1 true
  have h2 := (C10.spelling_invariant_unimod_prefixed e he (str% "u:") (str% "U:") (by decide) (by decide)).1 true
  have h3 := (C10.spelling_invariant_unimod_bare_partial e he (by rw [hn]; decide)).1 true
  rw [hn, hm] at h1 h3
  rw [hi, hm] at h2
  exact ⟨h1.1, h2.2, h3⟩

/-- "same error" instance: a PSI-MOD entry without mass raises the same error through every spelling -/
theorem psimod_root_same_error :
    modMass T (str% "MOD:00000") true = .error .unknownModMass ∧
    modMass T (str% "psi-mod:protein modification") true = .error .unknownModMass ∧
    modMass T (str% "protein modification") true = .error .unknownModMass ∧
    modComp T (str% "M:00000") = .error .invalidComp := by
  obtain ⟨e, he, hi, hn, hm, hc⟩ : ∃ e ∈ Gen.PsiMod.entries, e.id = str% "00000" ∧ e.name = str% "protein modification" ∧
      entryMass T e true = .error .unknownModMass ∧ entryCompParsed e = .error .invalidComp := by
    rw [Gen.PsiMod.entries_flat]
    decide +kernel
  have m1 := (C10.spelling_invariant_psimod e he (str% "mod:") (str% "MOD:") (by decide) (by decide)).1 true
  have m2 := (C10.spelling_invariant_psimod e he (str% "psi-mod:") (str% "psi-mod:") (by decide) (by decide)).1 true
  have c3 := (C10.spelling_invariant_psimod e he (str% "m:") (str% "M:") (by decide) (by decide)).2.2.2
  rw [hi, hn, hm] at m1
  rw [hn, hm] at m2
  rw [hi, hc] at c3
  exact ⟨m1.2.2, m2.2.1, m1.1, c3⟩

end C10Mass
