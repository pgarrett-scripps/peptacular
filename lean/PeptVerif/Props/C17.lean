import PeptVerif.Lemmas.Score
/-!
# C17 — spectrum matching pairs each fragment with exactly the peaks in tolerance

Property theorems only. Models: `Model/Score.lean` (the code of score.py, generic in the number type; the driver
runs the same definitions at IEEE doubles). Brute-force specification: `Spec/Score.lean` (`window`, `bruteForce`).
Helper lemmas: `Lemmas/Score.lean`.

Reading decisions (DESIGN.md §4.0): m/z lists sorted ascending; ppm tolerance ≤ 10⁶; `closest` / `largest` may return
any arg-min / arg-max; in the intensity-fraction clause a peak is identified by its m/z (a `FragmentMatch` carries no
peak index), so the spectrum is assumed to have pairwise distinct m/z there.
-/
namespace Score
variable {α : Type}

/-- For *any* `ys` (no sortedness needed here): if the "below the window" predicates are
monotone along `xs` (a peak below the window of `x` is below the window of every later `x'`) and the
shared start pointer is admissible, the sweep with its three early exits returns the prefix-length
windows. `within` (the upper bound) need not be monotone: the upper pointer restarts from the lower one. -/
theorem sweep_eq_windowTW (below within : α → α → Bool) (ys : List α) (xs : List α) (start : Nat)
    (hmono : xs.Pairwise (fun x x' => ∀ y, below y x = true → below y x' = true))
    (hstart : ∀ x ∈ xs, start ≤ (ys.takeWhile (fun y => below y x)).length) :
    sweep below within ys start xs = xs.map (windowTW below within ys) :=
  sweep_eq_map_windowTW below within ys xs start hmono hstart

/-- On a sorted peak list the prefix-length window denotes exactly the indices `j` with
`lo x ≤ ys[j] ≤ hi x` (bounds inclusive) found by testing every `j`. -/
theorem windowTW_eq_bruteforce [LinearOrder α] (lo hi : α → α) (ys : List α) (hys : ys.Pairwise (· ≤ ·)) (x : α) :
    idxList (windowTW (fun y x => decide (y < lo x)) (fun y x => decide (y ≤ hi x)) ys x)
      = window (fun y x => decide (lo x ≤ y) && decide (y ≤ hi x)) ys x :=
  idxList_windowTW_sorted lo hi ys hys x

/-- For sorted fragment and peak lists of any length and a monotone lower bound, the sweep
(shared lower pointer, three early exits) returns for every fragment exactly the brute-force window. -/
theorem sweep_correct [LinearOrder α] (lo hi : α → α) (xs ys : List α)
    (hxs : xs.Pairwise (· ≤ ·)) (hys : ys.Pairwise (· ≤ ·)) (hlo : ∀ a b, a ≤ b → lo a ≤ lo b) :
    (sweep (fun y x => decide (y < lo x)) (fun y x => decide (y ≤ hi x)) ys 0 xs).map idxList
      = xs.map (window (fun y x => decide (lo x ≤ y) && decide (y ≤ hi x)) ys) :=
  sweep_window lo hi xs ys hys (hxs.imp (hlo _ _))

-- the sortedness hypothesis can be met, ties included
example : ([100, 200, 200, 300] : List Rat).Pairwise (· ≤ ·) := by decide

/-- absolute tolerance: the lower bound `mz - tol` is monotone for every tolerance (also negative ones) -/
theorem th_monotone (tol a b : Rat) (h : a ≤ b) : lo .th tol a ≤ lo .th tol b := by
  exact sub_le_sub_right h tol

/-- ppm tolerance: the lower bound `mz - mz·tol/10⁶` is monotone whenever `tol ≤ 10⁶` (no sign condition on `mz`
is needed for monotonicity; `mz ≥ 0` only makes the window non-degenerate) -/
theorem ppm_monotone (tol a b : Rat) (htol : tol ≤ 1000000) (h : a ≤ b) : lo .ppm tol a ≤ lo .ppm tol b := by
  simp only [lo, offset, rat_sub, rat_mul, rat_div, rat_million]
  have h1 : 0 ≤ 1 - tol / 1000000 := sub_nonneg.mpr ((div_le_one (by norm_num)).mpr htol)
  have := mul_le_mul_of_nonneg_right h h1
  linarith only [this]

-- the hypothesis of `ppm_monotone` at 20 ppm
example : (20 : Rat) ≤ 1000000 := by decide

/-- the lower bound is *not* monotone for tolerances above 10⁶ ppm: the hypothesis of `ppm_monotone` is needed -/
theorem ppm_not_monotone_above_million : ¬ (lo .ppm (2000000 : Rat) 1 ≤ lo .ppm 2000000 2) := by
  simp only [lo, offset, rat_sub, rat_mul, rat_div, rat_million]
  norm_num

/-- `get_matched_indices` (model at ℚ) = brute force, tolerance type `th`, any tolerance value -/
theorem getMatchedIndices_correct_th (tol : Rat) (xs ys : List Rat)
    (hxs : xs.Pairwise (· ≤ ·)) (hys : ys.Pairwise (· ≤ ·)) :
    (getMatchedIndices .th tol xs ys).map idxList = bruteForce .th tol xs ys :=
  getMatchedIndices_window .th tol xs ys hys (hxs.imp (th_monotone tol _ _))

/-- `get_matched_indices` (model at ℚ) = brute force, tolerance type `ppm`, tolerance ≤ 10⁶ -/
theorem getMatchedIndices_correct_ppm (tol : Rat) (htol : tol ≤ 1000000) (xs ys : List Rat)
    (hxs : xs.Pairwise (· ≤ ·)) (hys : ys.Pairwise (· ≤ ·)) :
    (getMatchedIndices .ppm tol xs ys).map idxList = bruteForce .ppm tol xs ys :=
  getMatchedIndices_window .ppm tol xs ys hys (hxs.imp (ppm_monotone tol _ _ htol))

/-- no match is reported exactly when there is none: the entry for `x` is `None` iff the brute-force window is empty -/
theorem none_iff_window_empty [LinearOrder α] (lo hi : α → α) (ys : List α) (hys : ys.Pairwise (· ≤ ·)) (x : α) :
    windowTW (fun y x => decide (y < lo x)) (fun y x => decide (y ≤ hi x)) ys x = none
      ↔ window (fun y x => decide (lo x ≤ y) && decide (y ≤ hi x)) ys x = [] := by
  rw [windowTW_none_iff, windowTW_eq_bruteforce lo hi ys hys x]

/-- whatever the mode, `match_spectra` reports `None` for a fragment iff `get_matched_indices` did -/
theorem match_none_iff [Num α] (mode : Mode) (ys : List α) (ints : Option (List α)) (x : α) (w : Option (Nat × Nat)) :
    pick mode ys ints x w = .ok Hit.none ↔ w = none := by
  cases w with
  | none => exact iff_of_true rfl rfl
  | some p =>
    refine iff_of_false (fun h => ?_) (fun h => nomatch h)
    cases mode <;> simp only [pick] at h
    · cases h
    · split at h <;> cases h
    · split at h
      · cases h
      · split at h <;> cases h

/-- mode `all` over ℚ: for sorted lists the result is, fragment by fragment, the brute-force window
(`None` when it is empty, else the list of all indices within tolerance) -/
theorem all_mode_eq_window (t : Tol) (tol : Rat) (xs ys : List Rat) (ints : Option (List Rat))
    (hxs : xs.Pairwise (· ≤ ·)) (hys : ys.Pairwise (· ≤ ·)) (hlo : ∀ a b, a ≤ b → lo t tol a ≤ lo t tol b) :
    matchSpectra .all t tol xs ys ints
      = .ok (xs.map fun x => hitOfWindow (window (inWindow t tol) ys x)) := by
  rw [matchSpectra, getMatchedIndices_eq_map_windowTW t tol xs ys (hxs.imp (hlo _ _)), inWindow_rat]
  refine mapM_zip_map_ok _ _ _ xs fun x _ => ?_
  rw [← windowTW_eq_bruteforce (lo t tol) (hi t tol) ys hys x]
  exact pick_all ys ints x _ (windowTW_lt _ _ ys x)

/-- mode `closest` over ℚ: on a non-empty window `[s, e)` the result is an index of the window whose peak is at
minimal distance from the fragment (the model returns the first such; any arg-min satisfies the property) -/
theorem closest_mem_argmin (ys : List Rat) (ints : Option (List Rat)) (x : Rat) (s e : Nat) (hse : s < e)
    (he : e ≤ ys.length) :
    ∃ j, pick .closest ys ints x (some (s, e)) = .ok (.one j) ∧ s ≤ j ∧ ∃ hj : j < e,
      ∀ k (hk : k < e), s ≤ k → |x - ys[j]'(by omega)| ≤ |x - ys[k]'(by omega)| := by
  obtain ⟨j, hp, rest⟩ := pickClosest_argmin ys x s e hse he
  exact ⟨j, by simp only [pick, hp], rest⟩

/-- mode `largest` over ℚ: on a non-empty window the result is an index of the window of maximal intensity -/
theorem largest_mem_argmax (ys ints : List Rat) (x : Rat) (s e : Nat) (hse : s < e) (he : e ≤ ints.length) :
    ∃ j, pick .largest ys (some ints) x (some (s, e)) = .ok (.one j) ∧ s ≤ j ∧ ∃ hj : j < e,
      ∀ k (hk : k < e), s ≤ k → ints[k]'(by omega) ≤ ints[j]'(by omega) := by
  obtain ⟨j, hp, rest⟩ := pickLargest_argmax ints s e hse he
  exact ⟨j, by simp only [pick, hp], rest⟩

/-- `get_matched_intensity_percentage` over ℚ: for a spectrum `ps` of (m/z, intensity) peaks with pairwise distinct
m/z and matches that are peaks of it (in any order, with any repetition), the result is the summed intensity of the
distinct matched peaks over the total intensity. -/
theorem intensity_fraction_eq (ps ms : List (Rat × Rat)) (hnd : (ps.map (·.1)).Nodup) (hsub : ∀ m ∈ ms, m ∈ ps)
    (htot : (ps.map (·.2)).sum ≠ 0) :
    matchedIntensityPercentage ms (ps.map (·.2))
      = ((matchedPeaks ps ms).map (·.2)).sum / (ps.map (·.2)).sum := by
  rw [matchedIntensityPercentage_rat, if_neg htot, matched_sum_eq ps ms hnd hsub]

/-- … and it lies in `[0, 1]` when the intensities are non-negative (also when the total is 0: the code returns 0) -/
theorem intensity_fraction_unit_interval (ps ms : List (Rat × Rat)) (hnd : (ps.map (·.1)).Nodup)
    (hsub : ∀ m ∈ ms, m ∈ ps) (hnn : ∀ p ∈ ps, 0 ≤ p.2) :
    0 ≤ matchedIntensityPercentage ms (ps.map (·.2)) ∧ matchedIntensityPercentage ms (ps.map (·.2)) ≤ 1 := by
  by_cases htot : (ps.map (·.2)).sum = 0
  · rw [matchedIntensityPercentage_rat, if_pos htot]
    exact ⟨le_refl 0, zero_le_one⟩
  · rw [intensity_fraction_eq ps ms hnd hsub htot]
    obtain ⟨h1, h2⟩ := matched_sum_bounds ps ms hnn
    have hpos : 0 < (ps.map (·.2)).sum := lt_of_le_of_ne (le_trans h2 h1) (Ne.symm htot)
    exact ⟨div_nonneg h2 (le_of_lt hpos), (div_le_one hpos).mpr h1⟩

-- the distinct-m/z hypothesis can be met
example : (([(100, 5), (200, 0), (300, 7)] : List (Rat × Rat)).map (·.1)).Nodup := by decide

/-- `get_fragment_matches`, mode `all`, over ℚ: after both inputs have been sorted by m/z (stable), every fragment is
paired with exactly the peaks whose m/z lies in its window — whatever the order of the inputs was. -/
theorem fragment_matches_all (t : Tol) (tol : Rat) (frags : List (Nat × Rat)) (mzs ints : List Rat)
    (hlo : ∀ a b, a ≤ b → lo t tol a ≤ lo t tol b) :
    getFragmentMatches .all t tol frags mzs ints
      = .ok ((sortBy (fun a b => Num.lt a.2 b.2) frags).flatMap fun f =>
          ((sortBy (fun (a b : Rat × Rat) => Num.lt a.1 b.1) (mzs.zip ints)).filter
              (fun p => inWindow t tol p.1 f.2)).map fun p => (⟨f.1, p.1, p.2⟩ : FMatch Rat)) := by
  unfold getFragmentMatches
  simp only
  have hfs : ((sortBy (fun (a b : Nat × Rat) => Num.lt a.2 b.2) frags).map (·.2)).Pairwise (· ≤ ·) :=
    sortBy_sorted (·.2) frags
  have hps : ((sortBy (fun (a b : Rat × Rat) => Num.lt a.1 b.1) (mzs.zip ints)).map (·.1)).Pairwise (· ≤ ·) :=
    sortBy_sorted (·.1) (mzs.zip ints)
  rw [all_mode_eq_window t tol _ _ _ hfs hps hlo]
  simp only
  congr 1
  generalize sortBy (fun (a b : Nat × Rat) => Num.lt a.2 b.2) frags = fs
  generalize sortBy (fun (a b : Rat × Rat) => Num.lt a.1 b.1) (mzs.zip ints) = peaks
  rw [List.map_map, ← List.map_prod_left_eq_zip, List.flatMap_map]
  refine List.flatMap_congr fun f _ => ?_
  simp only [Function.comp, expandHit_hitOfWindow]
  exact window_filterMap (inWindow t tol) f.2 _ peaks

/-- … hence, regardless of the order in which fragments and peaks are given: a match `(fragment, m/z, intensity)` is
produced iff the fragment is one of the given fragments, the peak one of the given peaks, and the peak's m/z lies
in the fragment's window (bounds inclusive) -/
theorem fragment_matches_order_free (t : Tol) (tol : Rat) (frags : List (Nat × Rat)) (mzs ints : List Rat)
    (hlo : ∀ a b, a ≤ b → lo t tol a ≤ lo t tol b) (ms : List (FMatch Rat))
    (h : getFragmentMatches .all t tol frags mzs ints = .ok ms) (fid : Nat) (mz inten : Rat) :
    (∃ m ∈ ms, m.frag = fid ∧ m.mz = mz ∧ m.inten = inten) ↔
      ∃ f ∈ frags, ∃ p ∈ mzs.zip ints, inWindow t tol p.1 f.2 = true ∧ f.1 = fid ∧ p.1 = mz ∧ p.2 = inten := by
  rw [fragment_matches_all t tol frags mzs ints hlo] at h
  cases h
  constructor
  · rintro ⟨m, hm, h1, h2, h3⟩
    rw [List.mem_flatMap] at hm
    obtain ⟨f, hf, hm⟩ := hm
    rw [List.mem_map] at hm
    obtain ⟨p, hp, rfl⟩ := hm
    rw [List.mem_filter] at hp
    exact ⟨f, (mem_sortBy _ _ _).mp hf, p, (mem_sortBy _ _ _).mp hp.1, hp.2, h1, h2, h3⟩
  · rintro ⟨f, hf, p, hp, hw, h1, h2, h3⟩
    refine ⟨⟨f.1, p.1, p.2⟩, ?_, h1, h2, h3⟩
    rw [List.mem_flatMap]
    refine ⟨f, (mem_sortBy _ _ _).mpr hf, ?_⟩
    rw [List.mem_map]
    exact ⟨p, List.mem_filter.mpr ⟨(mem_sortBy _ _ _).mpr hp, hw⟩, rfl⟩

/-- `get_match_coverage` (`dedupe = true`, the code as it stands) counts a fragment once: a further match of a fragment that already
occurred among the matches (mode `all` pairs a fragment with every peak in its window) changes nothing -/
theorem coverage_once {κ : Type} [DecidableEq κ] (n : Nat) (pre post : List (CovIn κ)) (m : CovIn κ) (hm : m ∈ pre) :
    matchCoverage true n (pre ++ m :: post) = matchCoverage true n (pre ++ post) :=
  matchCoverageGo_dup n m post pre [] [] (Or.inl hm)

/-- … and a fragment is counted: when all matches belong to different fragments, every match increments the
residues `start..end-1` under its label exactly as the plain per-match count does -/
theorem coverage_distinct_fragments {κ : Type} [DecidableEq κ] (n : Nat) (ms : List (CovIn κ)) (hnd : (ms.map (·.key)).Nodup) :
    matchCoverage true n ms = matchCoverage false n ms :=
  matchCoverageGo_nodup n ms [] [] [] (fun _ _ => by simp) hnd

/-- counting per match (`dedupe = false`, known finding KF-C17-coverage-per-peak) against counting per fragment: a b-ion
covering residues 0..2 that matched two peaks contributes 2 to every residue in the first, 1 in the second -/
theorem coverage_per_match_counts_twice :
    matchCoverage false 3 [(⟨0, 1, "b", 0, 3⟩ : CovIn Nat), ⟨0, 1, "b", 0, 3⟩] = .ok [((1, "b"), [2, 2, 2])] ∧
    matchCoverage true 3 [(⟨0, 1, "b", 0, 3⟩ : CovIn Nat), ⟨0, 1, "b", 0, 3⟩] = .ok [((1, "b"), [1, 1, 1])] := by decide

-- the distinct-keys hypothesis can be met
example : (([⟨0, 1, "b", 0, 3⟩, ⟨1, 1, "y", 1, 3⟩] : List (CovIn Nat)).map (·.key)).Nodup := by decide

/-! The same on the real records `FragmentMatch(fragment : Fragment, mz, intensity)`: `Model/ScoreFrag.lean` applies the functions above to `Fragment.Frag` (the `Fragment` dataclass of
Model/Fragment.lean) through the projections score.py uses. -/
section
open Fragment (Frag Ion)

/-- generic: with `dedupe = true`, `cov[label][i]` is the number of distinct fragments (keys) among the matches whose
label is `label` and whose span contains `i` -/
theorem coverage_counts_distinct {κ : Type} [DecidableEq κ] (n : Nat) (ms : List (CovIn κ))
    (hf : ∀ m ∈ ms, ∀ m' ∈ ms, m.key = m'.key → m = m') (cov' : List ((Nat × String) × List Nat))
    (h : matchCoverage true n ms = .ok cov') (l : Nat × String) (i : Nat) (hi : i < n) :
    rowVal cov' l i = (((ms.filter fun m => decide (hits l i m)).map (·.key)).toFinset).card := by
  rw [matchCoverageGo_count n l i hi ms [] [] cov' hf (rowsLen_nil n) h, newKeys_nil]
  exact Nat.zero_add _

/-- `get_match_coverage` on `FragmentMatch` records: for every label (`'+'*charge + ion_type`) and residue `i`,
the entry is the number of distinct matched fragments — distinct `(label, start, end, isotope, loss, monoisotopic,
internal)` — of that label whose span `[start, end)` contains `i`, however many peaks each of them matched -/
theorem fragment_coverage_counts_fragments (ms : List FragMatch) (m0 : FragMatch) (rest : List FragMatch)
    (hms : ms = m0 :: rest) (cov' : List ((Nat × String) × List Nat)) (h : getMatchCoverageF ms = .ok cov')
    (l : Nat × String) (i : Nat) (hi : i < m0.fragment.parent.seq.length) :
    rowVal cov' l i
      = (((ms.filter fun m => decide (hits l i (covInOf m))).map fun m => covKey m.fragment).toFinset).card := by
  subst hms
  unfold getMatchCoverageF at h
  simp only at h
  have := coverage_counts_distinct _ _ (by
    intro a ha b hb e
    obtain ⟨x, _, rfl⟩ := List.mem_map.mp ha
    obtain ⟨y, _, rfl⟩ := List.mem_map.mp hb
    exact covInOf_eq_of_key_eq x y e) cov' h l i hi
  rw [this, List.filter_map, List.map_map]
  rfl

/-- `get_fragment_matches`, mode `all`, on `Fragment` records over ℚ: a `FragmentMatch(f, mz, intensity)` is produced
iff `f` is one of the given fragments, `(mz, intensity)` one of the given peaks, and `mz` lies in the window of `f.mz`
— regardless of the order of either input -/
theorem fragment_matches_pairs (t : Tol) (tol : Rat) (frags : List Frag) (mzs ints : List Rat)
    (hlo : ∀ a b, a ≤ b → lo t tol a ≤ lo t tol b) (ms : List FragMatch)
    (h : getFragmentMatchesF .all t tol frags mzs ints = .ok ms) (m : FragMatch) :
    m ∈ ms ↔ m.fragment ∈ frags ∧ (m.mz, m.intensity) ∈ mzs.zip ints ∧ inWindow t tol m.mz m.fragment.mz = true := by
  unfold getFragmentMatchesF at h
  cases h0 : getFragmentMatches .all t tol ((List.range frags.length).zip (frags.map (·.mz))) mzs ints with
  | error e => rw [h0] at h; cases h
  | ok ms0 =>
    rw [h0] at h
    simp only [Except.ok.injEq] at h
    subst h
    have key := fragment_matches_order_free t tol _ mzs ints hlo ms0 h0
    rw [List.mem_filterMap]
    constructor
    · rintro ⟨m0, hm0, hm⟩
      obtain ⟨⟨j, x⟩, hf', p, hp, hw, e1, e2, e3⟩ := (key m0.frag m0.mz m0.inten).mp ⟨m0, hm0, rfl, rfl, rfl⟩
      cases e1
      have hx := (mem_range_zip_map frags (·.mz) m0.frag x).mp hf'
      cases hf : frags[m0.frag]? with
      | none => rw [hf] at hm; cases hm
      | some f =>
        rw [hf] at hm hx
        cases hm
        cases hx
        exact ⟨List.mem_of_getElem? hf, by rw [← e2, ← e3]; exact hp, by rw [← e2]; exact hw⟩
    · rintro ⟨hf, hp, hw⟩
      obtain ⟨j, hj⟩ := List.getElem?_of_mem hf
      have hz := (mem_range_zip_map frags (·.mz) j m.fragment.mz).mpr (by rw [hj]; rfl)
      obtain ⟨m0, hm0, e1, e2, e3⟩ := (key j m.mz m.intensity).mpr
        ⟨(j, m.fragment.mz), hz, (m.mz, m.intensity), hp, hw, rfl, rfl, rfl⟩
      refine ⟨m0, hm0, ?_⟩
      rw [e1, hj, e2, e3]
      rfl

/-- the matched-intensity share on `FragmentMatch` records: the statement of `intensity_fraction_eq` /
`intensity_fraction_unit_interval` for the `(mz, intensity)` pairs the records carry -/
theorem fragment_intensity_fraction (ps : List (Rat × Rat)) (ms : List FragMatch) (hnd : (ps.map (·.1)).Nodup)
    (hsub : ∀ m ∈ ms, (m.mz, m.intensity) ∈ ps) (hnn : ∀ p ∈ ps, 0 ≤ p.2) :
    (((ps.map (·.2)).sum ≠ 0 → getMatchedIntensityPercentageF ms (ps.map (·.2))
        = ((matchedPeaks ps (ms.map fun m => (m.mz, m.intensity))).map (·.2)).sum / (ps.map (·.2)).sum)) ∧
      0 ≤ getMatchedIntensityPercentageF ms (ps.map (·.2)) ∧ getMatchedIntensityPercentageF ms (ps.map (·.2)) ≤ 1 := by
  have hsub' : ∀ x ∈ ms.map (fun m => (m.mz, m.intensity)), x ∈ ps := by
    intro x hx
    obtain ⟨m, hm, rfl⟩ := List.mem_map.mp hx
    exact hsub m hm
  exact ⟨fun htot => intensity_fraction_eq ps _ hnd hsub' htot, intensity_fraction_unit_interval ps _ hnd hsub' hnn⟩

end
end Score
