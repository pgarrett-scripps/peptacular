import PeptVerif.Model.C07Gen
import PeptVerif.Props.C06
import PeptVerif.Props.C07
import PeptVerif.Lemmas.ReorderCanon
/-!
# C07 — the semi- and non-enzymatic sequence generators

The property quantifies "also for the semi- and non-enzymatic sequence generators". The spans of the four generators are
computed by the model (`genSpans`, `genPieceSpans`: `Model/C07Gen.lean`, driver op `gen`), and the slice clauses of the
property are proved for every peptide every generator returns, for every annotation, every `min_len ≥ 1` (or `None`) and
every `max_len`.
-/
namespace Pept.Reorder.C07
open Spans

/-- every element of the `annotation-span` output of `_return_digested_sequences` is `(slice a s e, (s,e,v))` for one of
the spans handed in (fast path included) -/
theorem pieceSpans_mem (a : Annotation) (spans : List Span) (p : Annotation) (sp : Span)
    (h : (p, sp) ∈ digestPieceSpans a spans) : sp ∈ spans ∧ p = slice a sp.1 sp.2.1 := by
  rw [digestPieceSpans_eq, List.mem_map] at h
  obtain ⟨y, hy, he⟩ := h
  cases he
  exact ⟨hy, rfl⟩

example : (slice demo 1 3, ((1, 3, 0) : Span)) ∈ digestPieceSpans demo [(0, 1, 0), (1, 3, 0)] := by decide +kernel

/-- the spans of every generator are proper, non-empty sub-spans of the protein: `0 ≤ s < e ≤ n`, not the whole protein -/
theorem genSpans_bounds (k : GenKind) (n : Nat) (lo hi : Option Int) (hlo : 1 ≤ lo.getD 1) (sp : Span)
    (h : sp ∈ genSpans k n lo hi) : 0 ≤ sp.1 ∧ sp.1 < sp.2.1 ∧ sp.2.1 ≤ (n : Int) ∧ sp.2.1 - sp.1 < (n : Int) := by
  cases k <;> simp only [genSpans] at h
  · rw [mem_buildLeftSemi] at h; simp only at h; omega
  · rw [mem_buildRightSemi] at h; simp only at h; omega
  · rw [List.mem_append, mem_buildLeftSemi, mem_buildRightSemi] at h; simp only at h; omega
  · rw [mem_buildNonEnzymatic] at h; simp only at h; omega

example : ((0, 2, 0) : Span) ∈ genSpans .semi 4 none (some 2) ∧ ((2, 4, 0) : Span) ∈ genSpans .semi 4 none (some 2) := by
  decide +kernel

/-- **slice clauses for the generators.** Every `(peptide, (s,e,v))` returned by any of the four generators is the slice of the
protein over a non-empty proper span inside it, has exactly the residues `s..e-1` each with its own modifications, carries
N-terminal (C-terminal) modifications only if `s = 0` (`e = n`), and carries the global isotope and static rules. -/
theorem generator_piece (k : GenKind) (a : Annotation) (lo hi : Option Int) (hlo : 1 ≤ lo.getD 1)
    (p : Annotation) (sp : Span) (h : (p, sp) ∈ genPieceSpans k a lo hi) :
    0 ≤ sp.1 ∧ sp.1 < sp.2.1 ∧ sp.2.1 ≤ (a.seq.length : Int) ∧
    p = slice a sp.1 sp.2.1 ∧
    residues p = ((residues a).drop sp.1.toNat).take (sp.2.1.toNat - sp.1.toNat) ∧
    p.nterm = (if sp.1 > 0 then none else a.nterm) ∧
    p.cterm = (if sp.2.1 < (a.seq.length : Int) then none else a.cterm) ∧
    p.isotope = a.isotope ∧ p.static = a.static := by
  obtain ⟨hmem, hp⟩ := pieceSpans_mem a _ p sp h
  obtain ⟨h0, h1, h2, _⟩ := genSpans_bounds k _ lo hi hlo sp hmem
  refine ⟨h0, h1, h2, hp, ?_, ?_, ?_, ?_, ?_⟩
  · obtain ⟨s, hs⟩ : ∃ s : Nat, sp.1 = (s : Int) := ⟨sp.1.toNat, by omega⟩
    obtain ⟨e, he⟩ : ∃ e : Nat, sp.2.1 = (e : Int) := ⟨sp.2.1.toNat, by omega⟩
    rw [hp, hs, he, Int.toNat_natCast, Int.toNat_natCast]
    exact slice_residues a s e (by omega) (by omega)
  · rw [hp]; exact slice_nterm a _ _
  · rw [hp]; exact slice_cterm a _ _
  · rw [hp]; exact (slice_globals a _ _).1
  · rw [hp]; exact (slice_globals a _ _).2.1

example : genPieceSpans .right demo none (some 2) ≠ [] := by decide +kernel

/-- left-semi peptides start at 0 and stop before the end: they keep the N-terminal modifications of the protein and never
carry its C-terminal modifications; right-semi peptides the other way round; a non-enzymatic peptide never carries both
unless the protein has neither (it is a proper sub-span). No hypothesis on `min_len`. -/
theorem generator_terminals (a : Annotation) (lo hi : Option Int) (p : Annotation) (sp : Span) :
    ((p, sp) ∈ genPieceSpans .left a lo hi → p.nterm = a.nterm ∧ p.cterm = none) ∧
    ((p, sp) ∈ genPieceSpans .right a lo hi → p.nterm = none ∧ p.cterm = a.cterm) ∧
    ((p, sp) ∈ genPieceSpans .non a lo hi → p.nterm = none ∨ p.cterm = none) := by
  refine ⟨?_, ?_, ?_⟩ <;> intro h <;> obtain ⟨hmem, hp⟩ := pieceSpans_mem a _ p sp h <;>
    simp only [genSpans] at hmem
  · rw [mem_buildLeftSemi] at hmem; simp only at hmem
    rw [hp, slice_nterm, slice_cterm]
    exact ⟨by rw [if_neg (by omega)], by rw [if_pos (by omega)]⟩
  · rw [mem_buildRightSemi] at hmem; simp only at hmem
    rw [hp, slice_nterm, slice_cterm]
    exact ⟨by rw [if_pos (by omega)], by rw [if_neg (by omega)]⟩
  · rw [mem_buildNonEnzymatic] at hmem; simp only at hmem
    rw [hp, slice_nterm, slice_cterm]
    by_cases h0 : sp.1 > 0
    · left; rw [if_pos h0]
    · right; rw [if_pos (by omega)]

example : (slice demo 0 3, ((0, 3, 0) : Span)) ∈ genPieceSpans .left demo none none ∧
    (slice demo 0 3).nterm = demo.nterm ∧ demo.nterm ≠ none ∧ (slice demo 0 3).cterm = none ∧ demo.cterm ≠ none := by decide +kernel

end Pept.Reorder.C07
