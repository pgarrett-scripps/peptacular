import PeptVerif.Lemmas.SpansSeq
import PeptVerif.Generated.Proteases
/-!
# C06 — sequential digest = simultaneous digest

`seqDigestSpans` / `seqDigestText` (`Model/SeqDigest.lean`) model `digestion.sequential_digest` as coded;
`simDigestText` is the simultaneous `digest` with all rules.
-/
namespace Spans

/-- C06, sequential clause at the level of spans, every sequence length: a sequential digest whose stages all have
zero missed cleavages, are not semi-specific and digest completely, with rules that are local (inside a fragment they
cut exactly where they cut in the whole protein), equals the simultaneous digest with all rules — provided
neither a stage on a fragment nor the union of all rules cuts at *every* position (the shortcut of
`build_spans`, known finding KF-C06-nonspecific-shortcut). -/
theorem sequential_eq_simultaneous (n : Int) (stages : List Stage) (lo hi : Option Int) (hn : 0 ≤ n)
    (hne : stages ≠ []) (hst : ∀ st ∈ stages, LocalStage n st)
    (hunion : ((sortDedup (stages.flatMap (fun st => st.sites 0 n))).length : Int) ≠ n + 1) (x : Span) :
    x ∈ seqDigestSpans n stages lo hi ↔
      x ∈ digestSpans n (stages.flatMap (fun st => st.sites 0 n)) 0 lo hi false true := by
  cases stages with
  | nil => exact absurd rfl hne
  | cons st rest =>
    have hout := (consList_seqStages lo hn st rest hst).mem_iff x
    have hall := bounds_flatMap_sites hn _ hst
    rw [mem_digestSpans_plain _ _ _ _ hunion]
    unfold seqDigestSpans
    simp only
    cases hi with
    | none =>
      rw [hout]
      refine and_congr_right fun hx => (and_iff_left ?_).symm
      have := consec_bounds hn hall hx
      simp only [spanLen, Option.getD_none]; omega
    | some m =>
      simp only [List.mem_filter, hout, Option.getD_some, decide_eq_true_eq, spanLen, and_assoc]

theorem sequential_eq_simultaneous_pos (n : Int) (stages : List Stage) (lo hi : Option Int) (hn : 0 < n)
    (hne : stages ≠ []) (hst : ∀ st ∈ stages, LocalStage n st)
    (hunion : ((sortDedup (stages.flatMap (fun st => st.sites 0 n))).length : Int) ≠ n + 1) (x : Span) :
    x ∈ seqDigestSpans n stages lo hi ↔
      x ∈ digestSpans n (stages.flatMap (fun st => st.sites 0 n)) 0 lo hi false true :=
  sequential_eq_simultaneous n stages lo hi (Int.le_of_lt hn) hne hst hunion x

/-- under the same hypotheses the sequential digest returns no span twice (in general it can: with partial
digestion the doctest of `sequential_digest` lists `XXX` twice) -/
theorem nodup_seqDigestSpans (n : Int) (stages : List Stage) (lo hi : Option Int) (hn : 0 ≤ n)
    (hst : ∀ st ∈ stages, LocalStage n st) : (seqDigestSpans n stages lo hi).Nodup := by
  unfold seqDigestSpans
  cases stages with
  | nil => cases hi <;> simp
  | cons st rest =>
    have hout := (consList_seqStages lo hn st rest hst).nodup
    cases hi with
    | none => exact hout
    | some m => exact hout.sublist List.filter_sublist

open RegexLite

/-- C06, sequential clause as the code computes it — sites recomputed by the regular expressions on the text of
every piece. For every text, every list of configs with zero missed cleavages, non-semi, complete digestion
whose rules are local rules (`localRule`: look-around only — every named protease — or one consumed residue
followed by look-around, the two documented styles of user rules), and every
`min_len`/`max_len`: if no piece is cut at every position by one config alone (`StageShortcutFree`, decidable)
and the union of all rules does not cut the text at every position (`UnionShortcutFree`, decidable; its
negation is the pattern of known finding KF-C06-nonspecific-shortcut), then `sequential_digest` and the
simultaneous `digest` return the same set of spans. `min_len` is applied at every stage: a piece shorter than
`min_len` is dropped early, which is harmless because its sub-pieces are shorter still — the statement needs no
exception for it. -/
theorem sequential_eq_simultaneous_text (text : List Char) (configs : List EnzymeConfig) (lo hi : Option Int)
    (hne : configs ≠ [])
    (hplain : ∀ c ∈ configs, c.mc = 0 ∧ c.semi = false ∧ c.complete = true)
    (hzw : ∀ c ∈ configs, ∀ p ∈ c.regex, localRule p = true)
    (hstage : ∀ c ∈ configs, StageShortcutFree text c)
    (hunion : UnionShortcutFree text (configs.flatMap (fun c => c.regex))) (x : Span) :
    x ∈ seqDigestText text configs lo hi ↔
      x ∈ simDigestText text (configs.flatMap (fun c => c.regex)) lo hi := by
  have hsites : (configs.map (EnzymeConfig.toStage text)).flatMap (fun st => st.sites 0 ((text.length : Nat) : Int)) =
      ruleSites (configs.flatMap (fun c => c.regex)) text := by
    rw [ruleSites_flatMap, List.flatMap_map]
    congr 1
    funext c
    simp only [EnzymeConfig.toStage]
    rw [pieceText_full]
  unfold seqDigestText simDigestText
  rw [← hsites]
  exact sequential_eq_simultaneous _ _ lo hi (by omega) (by simpa using hne)
    (localStages_toStage text configs hplain hzw hstage) (by rw [hsites]; exact hunion) x

/-- … and then the sequential digest has no duplicate either -/
theorem nodup_seqDigestText (text : List Char) (configs : List EnzymeConfig) (lo hi : Option Int)
    (hplain : ∀ c ∈ configs, c.mc = 0 ∧ c.semi = false ∧ c.complete = true)
    (hzw : ∀ c ∈ configs, ∀ p ∈ c.regex, localRule p = true)
    (hstage : ∀ c ∈ configs, StageShortcutFree text c) :
    (seqDigestText text configs lo hi).Nodup := by
  exact nodup_seqDigestSpans _ _ lo hi (by omega) (localStages_toStage text configs hplain hzw hstage)

/-- a config all of whose rules look behind, or all of whose rules look ahead positively, can never hit the
shortcut on a piece: such rules never cut at the start (resp. the end) of a text -/
theorem stageShortcutFree_of_lookaround (text : List Char) (c : EnzymeConfig)
    (hzw : ∀ p ∈ c.regex, localRule p = true)
    (hsafe : (∀ p ∈ c.regex, startSafe p = true) ∨ (∀ p ∈ c.regex, endSafe p = true)) :
    StageShortcutFree text c :=
  stageShortcutFree_of_safe text c hzw hsafe

/-- every rule of the generated protease table is a local rule, and every one except `non-specific` never cuts
at the start or never cuts at the end of a text: used alone in a stage it satisfies `StageShortcutFree` on
every text, so for named proteases, one per stage, the only remaining hypothesis is `UnionShortcutFree` -/
theorem named_rules_local :
    ∀ e ∈ Gen.proteases, ∃ p, e.2 = some p ∧ localRule p = true ∧
      (e.1 ≠ "non-specific".toList → startSafe p = true ∨ endSafe p = true) := by
  decide +kernel

/-- a local rule cuts at `x` iff `cutsAt` holds for the two residues adjacent to `x` (locality), for every
local rule and every text -/
theorem local_rule_semantics (p : Pattern) (h : localRule p = true) (s : List Char) (x : Nat) :
    x ∈ sites p s ↔ x ≤ s.length ∧ cutsAt p (if x = 0 then none else s[x - 1]?) s[x]? = true :=
  mem_sites_local p h s x

/-- non-vacuity: the doctest `sequential_digest('XXXKXXXDXXX', [([KR]) then ([D])])` in look-behind form, all
hypotheses of `sequential_eq_simultaneous_text` included -/
example :
    let text := "XXXKXXXDXXX".toList
    let cfgs : List EnzymeConfig := [⟨[[.consume ['K', 'R']]], 0, false, true⟩, ⟨[[.behind ['D']]], 0, false, true⟩]
    (∀ c ∈ cfgs, ∀ p ∈ c.regex, localRule p = true) ∧
    seqDigestText text cfgs none none = [(0, 4, 0), (4, 8, 0), (8, 11, 0)] ∧
      simDigestText text (cfgs.flatMap (fun c => c.regex)) none none = [(0, 4, 0), (4, 8, 0), (8, 11, 0)] ∧
      (∀ c ∈ cfgs, StageShortcutFree text c) ∧ UnionShortcutFree text (cfgs.flatMap (fun c => c.regex)) := by
  decide +kernel

/-- the known finding in Lean: on `K`, lys-c then lys-n, the union cuts everywhere, the simultaneous digest
(shortcut) returns nothing while the sequential one returns the whole `K` -/
theorem sequential_ne_simultaneous_when_union_cuts_everywhere :
    let text := "K".toList
    let cfgs : List EnzymeConfig := [⟨[[.behind ['K']]], 0, false, true⟩, ⟨[[.ahead ['K']]], 0, false, true⟩]
    ¬ UnionShortcutFree text (cfgs.flatMap (fun c => c.regex)) ∧
      seqDigestText text cfgs none none = [(0, 1, 0)] ∧
      simDigestText text (cfgs.flatMap (fun c => c.regex)) none none = [] := by
  decide +kernel

end Spans
