import PeptVerif.Lemmas.ConcreteEnv
import PeptVerif.Lemmas.ConcreteBridge
import PeptVerif.Props.C12
/-!
# C12 over the concrete tables of /repo

`Props/C12.lean` proves the static-rule and label theorems for ANY weights (`AbsMass.Env`). Here the abstract environment is
instantiated with the tables regenerated from /repo on every run (`Model/ConcreteEnv.lean`: residue masses and compositions,
element masses, ion-type adjustment, terminal compositions from `Generated/Constants.lean` / `Generated/Elements.lean`
through `Model/Chem.lean`) and a modification resolver (`Pept.Env`, the parameter C02 / C03 use), and tied to the concrete
mass model of C02 (`Model/Mass.lean`).
-/
namespace Pept
namespace C12Concrete
open Chem AbsMass Static CondenseMass Concrete

/-- the concrete environment of the plain query `mass(x)` satisfies every table hypothesis the abstract theorems assume, in
both mass modes and for any modification resolver -/
theorem concrete_env_coherent (env : Pept.Env) (mono : Bool) : Coherent (envOf env mono) :=
  coherent_envOf env mono

/-- **bridge lemma (fast path)** between C02's concrete `Mass.mass` and the abstract `massOf` at the concrete environment -/
theorem mass_bridge_fast (env : Pept.Env) (a : Annotation) (o : Mass.Opts)
    (hlab : o.isotopeMods = none) (hlab' : a.isotope = none) (hadd : o.adducts = none) (hadd' : a.adducts = none)
    (hprec : o.precision = none)
    (hdom : Spec.inDomain env a o.ion o.mono none = true) (hparse : ParseAgrees env a) :
    ∃ x, Mass.mass env a o = .ok x ∧
      AbsMass.massOf (envFor env o.ion o.mono ((Mass.effCharge a o).getD 0) o.isotope o.loss) a = .ok x :=
  mass_bridge env a o hlab hlab' hadd hadd' hprec hdom hparse

/-- **same mass in the concrete model**: for every ion type, charge, mass mode, isotope offset and loss -/
theorem mass_condense_concrete (env : Pept.Env) (a c : Annotation) (o : Mass.Opts)
    (hlab : o.isotopeMods = none) (hlab' : a.isotope = none) (hadd : o.adducts = none) (hadd' : a.adducts = none)
    (hprec : o.precision = none)
    (hdom : Spec.inDomain env a o.ion o.mono none = true) (hparse : ParseAgrees env a) (hc : condenseStatic a = .ok c) :
    ∃ x, Mass.mass env a o = .ok x ∧ Mass.mass env c o = .ok x :=
  Concrete.mass_condense_concrete env a c o hlab hlab' hadd hadd' hprec hdom hparse hc

/-- the labels of the property with the element each replaces -/
def labels8 : List (List Char × List Char) :=
  [(['1', '3', 'C'], ['C']), (['1', '5', 'N'], ['N']), (['1', '8', 'O'], ['O']), (['1', '7', 'O'], ['O']),
   (['3', '4', 'S'], ['S']), (['D'], ['H']), (['T'], ['H']), (['2', 'H'], ['H'])]

/-- every label of the property is a key of the generated `ISOTOPIC_ATOMIC_MASSES`, parses to `element ↦ label`, both
masses are known and the label is the heavier one (monoisotopic mode) -/
def labelsOk : Bool :=
  labels8.all fun p =>
    (match parseIsotopeMods (fun k => (lookup (keyOfChars k) isotopicMasses).isSome) [⟨.str p.1, 1⟩] with
     | .ok lm => lm == [(p.2, p.1)]
     | .error _ => false) &&
    (elemMass true (keyOfChars p.1)).isSome && (elemMass true (keyOfChars p.2)).isSome &&
    decide (emOf true p.2 < emOf true p.1)

theorem labels_resolve : labelsOk = true := by
  delta labelsOk emOf
  rw [isotopic_lit_ok, elemMass_fast]
  decide +kernel

/-- **label shift at the concrete tables**: for an unlabelled annotation whose modifications resolve, one of the property's
labels `lab` (replacing `el`) shifts the composition-path mass by (#atoms of `el` in residues, termini and charge carrier)
× (m(lab) − m(el)) with the masses of the generated element table; modifications are spared (no `use_isotope_on_mods`) -/
theorem label_shift_concrete (env : Pept.Env) (a c : Annotation) (ion : Key) (mono : Bool) (ch : Int)
    (lab el : List Char) (hmem : (lab, el) ∈ labels8)
    (h0 : a.isotope = none) (hc : condenseStatic a = .ok c)
    (hres : (allMods c).any (isBad (envFor env ion mono ch 0 0)) = false)
    (hrule : absentRuleBad (envFor env ion mono ch 0 0) a = false) :
    ∃ x y, massLabel (envFor env ion mono ch 0 0) { a with isotope := some [⟨.str lab, 1⟩] } = .ok x ∧
      massLabel (envFor env ion mono ch 0 0) a = .ok y ∧
      x - y = compGet (sequenceComposition (envFor env ion mono ch 0 0) { seq := a.seq }) el * (emOf mono lab - emOf mono el) := by
  have hT := labels_resolve
  have hl : parseIsotopeMods (envFor env ion mono ch 0 0).knownLabel [⟨.str lab, 1⟩] = .ok [(el, lab)] := by
    have := List.all_eq_true.mp hT (lab, el) hmem
    simp only [Bool.and_eq_true] at this
    have h1 := this.1.1.1
    show parseIsotopeMods (fun k => (lookup (keyOfChars k) isotopicMasses).isSome) [⟨.str lab, 1⟩] = .ok [(el, lab)]
    cases hp : parseIsotopeMods (fun k => (lookup (keyOfChars k) isotopicMasses).isSome) [⟨.str lab, 1⟩] with
    | error e => rw [hp] at h1; simp at h1
    | ok lm => rw [hp] at h1; simp only [beq_iff_eq] at h1; rw [h1]
  obtain ⟨x, y, hx, hy, hxy⟩ := C12.label_spares_mods (envFor env ion mono ch 0 0) a c [⟨.str lab, 1⟩] [(el, lab)] h0 hc hres hrule hl rfl
  refine ⟨x, y, hx, hy, ?_⟩
  rw [hxy, C12.label_shift_single]
  rfl

end C12Concrete
end Pept
