import PeptVerif.Lemmas.RegexLite
import PeptVerif.Generated.Proteases
import PeptVerif.Spec.Proteases
/-!
# C06 — the cleavage rules themselves

`Gen.proteases` is regenerated from `constants.PROTEASES` of /repo on every run; `Spec.referenceTable` is typed by
hand from the enzymes' documented specificities. The theorems about `sites` hold for every pattern of the modelled
regex subset and every text.
-/
namespace RegexLite

/-- the protease table of /repo, class order normalised, is the hand-typed reference table
(a changed, added or dropped rule breaks this obligation and names the entry by evaluation in the driver) -/
theorem proteases_match_reference :
    Gen.proteases.map (fun e => (e.1, e.2.map Spec.normalize)) =
      Spec.referenceTable.map (fun e => (e.1, e.2.map Spec.normalize)) := by decide +kernel

/-- every rule of the table except `no-cleave` is purely zero-width (look-around only) -/
theorem named_rules_zeroWidth :
    ∀ e ∈ Gen.proteases, e.1 ≠ "no-cleave".toList → ∃ p, e.2 = some p ∧ ∀ it ∈ p, it.zeroWidth = true := by
  decide +kernel

/-- every reported cleavage site lies in `[0, |s|]`, for every pattern and every text -/
theorem sites_in_range (p : Pattern) (s : List Char) : ∀ x ∈ sites p s, x ≤ s.length := sites_le p s

/-- a look-around rule cuts at `x` iff its conditions hold for the two residues adjacent to `x`
(so the sites of such a rule depend only on adjacent residue pairs: the locality used by the
sequential-digest clause); for every zero-width pattern and every text -/
theorem zeroWidth_rule_semantics (p : Pattern) (hz : ∀ it ∈ p, it.zeroWidth = true) (s : List Char) (x : Nat) :
    x ∈ sites p s ↔ x ≤ s.length ∧ holdsAt p (if x = 0 then none else s[x - 1]?) s[x]? = true :=
  mem_sites_zeroWidth p hz s x

/-- the non-specific rule `()` cuts at every position `0..|s|` -/
theorem nonspecific_cuts_everywhere (s : List Char) (x : Nat) : x ∈ sites [] s ↔ x ≤ s.length := by
  rw [mem_sites_zeroWidth [] (by simp)]
  simp [holdsAt]

/-- a consuming one-residue rule such as `([KR])` or `K` cuts after every residue of the class -/
theorem consuming_rule_semantics (cls : List Char) (s : List Char) (x : Nat) :
    x ∈ sites [.consume cls] s ↔ ∃ k, ∃ h : k < s.length, x = k + 1 ∧ cls.contains s[k] = true := by
  simp only [mem_sites_consumeZW cls [] (fun _ h => nomatch h), holdsAt_nil, and_true]

/-- `no-cleave` never cuts a text that does not contain an underscore -/
theorem no_cleave_never (s : List Char) (h : '_' ∉ s) : sites [.consume ['_']] s = [] := by
  apply List.eq_nil_iff_forall_not_mem.mpr
  intro x hx
  rw [consuming_rule_semantics] at hx
  obtain ⟨k, hk, _, hc⟩ := hx
  simp at hc
  exact h (hc ▸ List.getElem_mem hk)

/-- non-vacuity: trypsin on `AKPRA` cuts only after the R (the K is followed by P) -/
example : sites [.behind ['K', 'R'], .aheadNot ['P']] "AKPRA".toList = [4] := by decide +kernel

end RegexLite
