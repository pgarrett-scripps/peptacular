import PeptVerif.Lemmas.ConcreteLabel
import PeptVerif.Props.C18Concrete
/-!
# C18: the label clause against `Mass.mass` of the concrete model

Depends on the label-path bridge (`Lemmas/ConcreteLabel.lean`), hence on `Lemmas/FragmentLabel.lean` (C04) and
`Model/CompCalc.lean` (C03), which the other theorems of C18 do not need.
-/
namespace Pept
namespace C18LabelBridge
open Chem AbsMass Static CondenseMass Concrete C18Concrete

/-- **the label clause against the concrete model's `mass`**: when the labelled input is plain (nothing labile / unknown /
interval / adduct, no static rule; labels: one or a pair of the property's) the reference mass of `condense_mass_label_resolved`
IS `Mass.mass` of the concrete model (composition path of C03), through the label-path bridge -/
theorem condense_mass_label_plain (env : Pept.Env) (mono : Bool) (dl : Mod → Option ℚ) (cp : Mod → Chem.Comp)
    (a n : Annotation) (p : ℕ) (m0 : Mod) (L : List Mod) (lm : LabelMap) (δ : ℚ) (hclose : ResolverClose env mono δ)
    (hL : (m0 :: L) ∈ labelLists) (hpl : Fragment.PlainL a (m0 :: L)) (hseq : CompCalc.KnownResidues a.seq)
    (hmods : Fragment.ModsResolve env (Fragment.knownOf mono) dl cp) (hsm : ∀ m, dl m = none → SmallKeys (cp m))
    (hl : parseIsotopeMods (envOf env mono).knownLabel (m0 :: L) = .ok lm)
    (hr : InRange a) (hint : ∀ i : ℤ, (envOf env mono).mu (.int i) = i)
    (h : condenseToMassAnn (envOf env mono) a p = .ok n) :
    ∃ c s x, condenseStatic a = .ok c ∧ shiftsOf (envOf env mono) c p = .ok s ∧ n = render c s p ∧
      Mass.mass env a { charge := some 0, mono := mono } = .ok x ∧
      |outMass (envOf env mono) c s p - x| ≤ (writtenL c s : ℚ) * halfUlp p +
        (droppedL (envOf env mono) lm c : ℚ) * threshold + δ * multSum (outsideMods c) := by
  have hres : ∀ c, condenseStatic a = .ok c → ∀ m ∈ allMods c, isBad (envOf env mono) m = false :=
    fun c _ m _ => isBad_of_resolve env mono Mass.ionP 0 dl cp _ hmods m
  obtain ⟨c, s, x, hc, hs, hn', hx, hb⟩ :=
    condense_mass_label_resolved env mono a n p m0 L lm δ hclose hpl.isotope hl hr hint hres
      (absentRuleBad_static_none _ a hpl.static) h
  obtain ⟨X, hX1, hX2⟩ := mass_bridge_label_precursor env mono dl cp a (m0 :: L) 0 hL hpl hseq hmods hsm
  have : X = x := by
    rw [massOf_labelled _ a m0 L hpl.isotope] at hx
    have : massLabel (envFor env Mass.ionP mono 0 0 0) a = .ok x := hx
    rw [hX2] at this; exact Except.ok.inj this
  subst this
  exact ⟨c, s, _, hc, hs, hn', hX1, hb⟩


end C18LabelBridge
end Pept
