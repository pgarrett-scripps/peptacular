import PeptVerif.Lemmas.FragmentLabel
/-!
C04, numeric clause on the models: the mass the fragment model assigns to an ion equals what the mass model
(`Model/Mass.lean`; fast path = no isotope labels) gives for the ion's own sequence, ion type, charge,
isotope and loss — for every plain working copy (static rules written out, as `fragment` does first), every span, every
weight table for which the residues and modifications resolve.  (For peptides with isotope labels the implementation
takes the offsets from `mass` of the empty labelled peptide; that case rests on the oracle of `./check C04`.)
-/
namespace C04
open Fragment Pept Pept.Mass Pept.CompCalc Chem

/-- the fragment model's table parameters read off the generated tables of the mass model -/
def tableParams : MassParams :=
  { proton := Gen.protonMass, neutron := Gen.neutronMass,
    fragAdjN := fun mono => (fragmentAdjMass mono ionN).getD 0,
    fragAdj := fun mono t => (fragmentAdjMass mono (keyOfChars t.name)).getD 0,
    ionOffset := fun mono t => (fragmentIonAdjMass mono (keyOfChars t.name)).getD 0 }

/-- The `'n'` entry of `MONOISOTOPIC/AVERAGE_FRAGMENT_ADJUSTMENTS` is 0.  `_build_fragments` relies on it: every
component already contains this entry and `adjust_mass(sum, 0, 'n')` adds it once more. -/
theorem neutral_adjustment_is_zero : ∀ mono : Bool, fragmentAdjMass mono ionN = some 0 := by
  decide +kernel

/-- the sixteen fragment ion types have entries in both adjustment tables and are neither `p` nor `n`: the generated
tables satisfy the hypotheses of `frag_mass_eq_mass` -/
theorem tables_agree : ∀ mono : Bool, ∀ t ∈ Ion.forwardTypes ++ Ion.backwardTypes ++ Ion.internalTypes ++ [Ion.I],
    (fragmentAdjMass mono (keyOfChars t.name)).isSome = true ∧
    (fragmentIonAdjMass mono (keyOfChars t.name)).isSome = true ∧
    keyOfChars t.name ≠ ionP ∧ keyOfChars t.name ≠ ionN := by
  decide +kernel

/-- **frag_mass_eq_mass** (no rounding; `precision=None`): let the working copy be plain, its residues and mods resolve,
and the `k`-th mass component be `mass(slice(k, k+1), charge=0, ion_type='n')` (what `fragment` computes from `split()`).
Then for every ion type `t` whose table entries are the model's parameters, every span `[s, s+len+1)` inside the
peptide, every charge, isotope and loss:
`mass(slice(s, e), ion_type=t, charge, isotope, loss) = Fragment.mass`. -/
theorem frag_mass_eq_mass (cm : CompMassFn) (menv : Pept.Env) (w : Char → Rat) (mw : Mod → Rat) (j : Job)
    (t : Ion) (s len : Nat) (c iso : Int) (loss : Rat)
    (hp : Plain j.annotation) (hr : Resolves menv j.monoisotopic w mw j.annotation.seq)
    (ht : TablesAgree j.env.P j.monoisotopic t) (hprec : j.precision = none)
    (hlen : s + (len + 1) ≤ j.annotation.seq.length)
    (hc : ∀ k : Nat, k < j.annotation.seq.length → ∃ x,
      massWith cm menv (slice j.annotation (k : Int) ((k : Int) + 1))
        { charge := some 0, ion := ionN, mono := j.monoisotopic } = .ok x ∧ j.massComponents[k]? = some x) :
    massWith cm menv (slice j.annotation (s : Int) ((s : Int) + (len : Int) + 1))
        { charge := some c, ion := keyOfChars t.name, mono := j.monoisotopic, isotope := iso, loss := loss } =
      .ok (mkFrag j ⟨t, (s : Int), (s : Int) + (len : Int) + 1, c, iso, loss⟩).mass :=
  mkFrag_mass_of_decomposes cm menv w mw _ j t s len c iso loss
    (decomposes_plain cm menv j.monoisotopic w mw j.annotation j.env.P t hp hr ht) hprec hlen hc
    (ionBase_of_shift j t c iso loss _ ht.adjN' (by
      simp only [labelShift, hp.isotope, Option.isSome_none, Bool.not_false, if_true]
      grind))

/-- non-vacuity: the table hypothesis holds for the generated tables (here: y ions, monoisotopic) -/
example : TablesAgree tableParams true Ion.Y :=
  have h := tables_agree true Ion.Y (by decide)
  { proton := rfl, neutron := rfl, adjN := neutral_adjustment_is_zero true,
    adjN' := by show (fragmentAdjMass true ionN).getD 0 = 0; rw [neutral_adjustment_is_zero true]; rfl,
    fragAdj := eq_some_getD 0 h.1, ionOffset := eq_some_getD 0 h.2.1, notP := h.2.2.1, notN := h.2.2.2 }

/-- non-vacuity: a plain peptide -/
example : Plain { seq := ['P', 'E', 'P'], nterm := some [⟨.int 1, 1⟩], internal := some [(1, [⟨.int 3, 1⟩])] } :=
  ⟨rfl, rfl, rfl, rfl, rfl, rfl⟩

/-! ## isotope-labelled peptides (composition path of `mass`) -/

/-- the sixteen fragment ion types -/
def fragmentTypes : List Ion := Ion.forwardTypes ++ Ion.backwardTypes ++ Ion.internalTypes ++ [Ion.I]

/-- the generated tables satisfy what the label path needs for every fragment ion type and both mass modes: the type
has a neutral adjustment and a base-adduct text that parses, all their elements (and H, e, n) have masses, and the
`'n'` adjustment is the empty composition -/
theorem label_tables_ok : ∀ mono : Bool, ∀ t ∈ fragmentTypes,
    labelTablesB mono (keyOfChars t.name) (adjOfKey (keyOfChars t.name)) (baseOfKey (keyOfChars t.name))
      (txtOfKey (keyOfChars t.name)) = true := by
  -- the adduct parser consults `isotopicMasses`: evaluate it over the literal table
  simp only [labelTablesB, baseOfKey, chargeAdductsCompStr, adductComp, parseIonElements, isotopic_lit_ok]
  decide +kernel

/-- **isotope substitution is linear**: on a composition with distinct keys, `apply_isotope_mods_to_composition` has
the same mass as the unlabelled composition under the relabelled mass function `labelMu map μ` — so labelled masses
add up over `addAll`. -/
theorem isotope_substitution_linear (μ : Elem → Rat) (K : Elem → Prop) (mods : List Mod)
    (map : List (Chem.Key × Chem.Key)) (hp : parseIsotopeMods mods = .ok map) (hK : ∀ p ∈ map, K p.2) (c : Comp)
    (h : KN c) (hc : AK K c) :
    ∃ c', applyIsotopeMods c mods = .ok c' ∧ chemMassL μ c' = chemMassL (labelMu map μ) c ∧ AK K c' := by
  refine ⟨relabel c map, ?_, relabel_mass μ map c h, AK_relabel K map c hc hK⟩
  unfold applyIsotopeMods
  rw [hp]
  rfl

example : parseIsotopeMods [⟨.str ['1', '3', 'C'], 1⟩, ⟨.str ['D'], 1⟩] =
    .ok [(keyOfChars ['C'], keyOfChars ['1', '3', 'C']), (kH, kD)] := by
  unfold parseIsotopeMods
  rw [isotopic_lit_ok]
  decide +kernel

/-- **the label path of `mass` decomposes** on a plain labelled working copy: for every fragment ion type `t`,
`mass(slice, t, charge, isotope, loss) = labelled residues + placed mods + labelOffset(t, charge) + isotope·neutron + loss`,
`mass(slice, 'n', 0) = labelled residues + placed mods`, `mass(empty labelled peptide, t, charge) = labelOffset(t, charge)`.
The offset `labelOffset` = labelled (neutral adjustment of `t`) + labelled (`charge − 1` protons + base adducts of `t`)
depends on the ion type **and on the charge**. -/
theorem label_path_decomposes (menv : Pept.Env) (mono : Bool) (dl : Mod → Option Rat) (cp : Mod → Comp)
    (aa : Char → Comp) (a : Annotation) (i0 : Mod) (is : List Mod) (map : List (Chem.Key × Chem.Key))
    (hpl : PlainL a (i0 :: is)) (hparse : parseIsotopeMods (i0 :: is) = .ok map)
    (hmapK : ∀ p ∈ map, knownOf mono p.2)
    (hres : ResiduesResolve (knownOf mono) aa a.seq) (hmods : ModsResolve menv (knownOf mono) dl cp)
    (t : Ion) (ht : t ∈ fragmentTypes) :
    LabelledDecomposes CompCalc.compMass menv mono a
      (fun x => chemMassL (labelMu map (muOf mono)) (aa x)) (modWeight (muOf mono) dl cp) (keyOfChars t.name)
      (labelOffset mono map (adjOfKey (keyOfChars t.name)) (baseOfKey (keyOfChars t.name))) (muOf mono kNn) :=
  labelledDecomposes_compMass menv mono dl cp aa a i0 is map hpl hparse hmapK hres hmods _ _ _ _
    (labelTables_of_B _ _ _ _ _ (label_tables_ok mono t ht))

/-- **frag_mass_eq_mass_labelled** (no rounding). For a plain working copy with isotope labels whose residues, mods and
labels resolve; components `mass(slice(k,k+1), charge=0, ion_type='n')`; and the label shift of the model being what
`_label_shift` computes **for this ion type and this charge**,
`labelShift t c = mass(empty labelled peptide, t, c) − adjust_mass(0.0, c, t)`:
the ion's mass in the fragment model is `mass(slice(s,e), ion_type=t, charge=c, isotope, loss)` on the composition path. -/
theorem frag_mass_eq_mass_labelled (menv : Pept.Env) (dl : Mod → Option Rat) (cp : Mod → Comp) (aa : Char → Comp)
    (j : Job) (i0 : Mod) (is : List Mod) (map : List (Chem.Key × Chem.Key))
    (t : Ion) (s len : Nat) (c iso : Int) (loss : Rat)
    (hpl : PlainL j.annotation (i0 :: is)) (hparse : parseIsotopeMods (i0 :: is) = .ok map)
    (hmapK : ∀ p ∈ map, knownOf j.monoisotopic p.2)
    (hres : ResiduesResolve (knownOf j.monoisotopic) aa j.annotation.seq)
    (hmods : ModsResolve menv (knownOf j.monoisotopic) dl cp) (ht : t ∈ fragmentTypes)
    (hneutron : j.env.P.neutron = muOf j.monoisotopic kNn) (hN : j.env.P.fragAdjN j.monoisotopic = 0)
    (hprec : j.precision = none) (hlen : s + (len + 1) ≤ j.annotation.seq.length)
    (hc : ∀ k : Nat, k < j.annotation.seq.length → ∃ x,
      massOf CompCalc.compMass menv j.monoisotopic (slice j.annotation (k : Int) ((k : Int) + 1)) ionN 0 0 0 = .ok x ∧
      j.massComponents[k]? = some x)
    (hshift : ∃ m, massOf CompCalc.compMass menv j.monoisotopic (blankOf j.annotation) (keyOfChars t.name) c 0 0 = .ok m ∧
      j.env.labelShift j.annotation j.monoisotopic t c =
        m - (j.env.P.proton * ((c - 1 : Int) : Rat) + j.env.P.ionOffset j.monoisotopic t +
              j.env.P.fragAdj j.monoisotopic t)) :
    massOf CompCalc.compMass menv j.monoisotopic (slice j.annotation (s : Int) ((s : Int) + (len : Int) + 1))
        (keyOfChars t.name) c iso loss =
      .ok (mkFrag j ⟨t, (s : Int), (s : Int) + (len : Int) + 1, c, iso, loss⟩).mass := by
  have hd := label_path_decomposes menv j.monoisotopic dl cp aa j.annotation i0 is map hpl hparse hmapK hres hmods t ht
  rw [← hneutron] at hd
  obtain ⟨m, hm, hsh⟩ := hshift
  rw [hd.blank] at hm
  exact mkFrag_mass_of_decomposes CompCalc.compMass menv _ _ _ j t s len c iso loss hd hprec hlen hc
    (ionBase_of_shift j t c iso loss _ hN (by
      simp only [labelShift, hpl.isotope, Option.isSome_some, Bool.not_true, Bool.false_eq_true, if_false, hsh,
        ← Except.ok.inj hm]))

/-- non-vacuity: a plain labelled peptide, a resolver for which every modification is a pure mass shift, residues
that resolve on the generated residue table -/
example : PlainL { seq := ['P', 'E', 'P'], isotope := some [⟨.str ['1', '3', 'C'], 1⟩], nterm := some [⟨.int 1, 1⟩] }
    [⟨.str ['1', '3', 'C'], 1⟩] := ⟨rfl, rfl, rfl, rfl, rfl, rfl⟩

example : ModsResolve { res := fun _ => ⟨.ok 1, .ok 1, .ok (some 1), .ok []⟩, parseStatic := fun _ => .ok [] }
    (knownOf true) (fun _ => some 1) (fun _ => []) := ⟨fun _ => rfl, fun _ h => by cases h⟩

example : ∀ c ∈ ['P', 'E', 'P'], (lookup c.toNat Gen.aaComp).isSome = true := by decide +kernel

/-- **why the shift is keyed by (ion type, charge)**: using the shift computed for charge `c₀` at charge `c` changes
the ion's mass by `(O c₀ − O c) − proton·(c₀ − c)`, `O z` being the mass of the empty labelled peptide as this ion type
at charge `z` … -/
theorem label_shift_needs_charge (P : MassParams) (mono : Bool) (t : Ion) (O : Int → Rat) (c c₀ : Int) :
    let shift := fun (z : Int) => O z -
      (P.proton * ((z - 1 : Int) : Rat) + P.ionOffset mono t + P.fragAdj mono t)
    (shift c₀ + (P.proton * ((c - 1 : Int) : Rat) + P.ionOffset mono t + P.fragAdj mono t)) -
      (shift c + (P.proton * ((c - 1 : Int) : Rat) + P.ionOffset mono t + P.fragAdj mono t)) =
      (O c₀ - O c) - P.proton * (((c₀ - c : Int)) : Rat) := by
  intro shift
  simp only [shift, Rat.intCast_sub]
  grind

/-- … which is not zero on the generated tables: with the label `<D>` a b ion's offset grows by one deuteron-for-proton
per charge, not by `PROTON_MASS` (so a table keyed by the ion type alone is wrong from charge 2 on). -/
theorem label_offset_charge_step_ne_proton :
    labelOffset true [(kH, kD)] (adjOfKey (keyOfChars Ion.B.name)) (baseOfKey (keyOfChars Ion.B.name)) 2 -
      labelOffset true [(kH, kD)] (adjOfKey (keyOfChars Ion.B.name)) (baseOfKey (keyOfChars Ion.B.name)) 1
      ≠ Gen.protonMass := by
  rw [show (2 : Int) = 1 + 1 from rfl, labelOffset_succ, labelMu_cons, labelMu_nil, upd_self,
    upd_of_ne _ _ _ kE (by decide)]
  simp only [muOf, elemMass_eq_lit]
  decide +kernel

end C04
