import PeptVerif.Props.C11
/-!
# C11 — `sort_residues` is a STABLE sort

`Props/C11.lean: sort_residues` proves "sorted by letter + permutation + every residue keeps its own modifications", which
leaves open WHICH of two equal letters comes first (and therefore which of two equal letters with different modifications
lands where). Python's `sorted(range(n), key=lambda x: seq[x])` is stable; the model's `sortOrder` is a stable insertion
sort. Here stability is a theorem for every sequence: in the position table of `sort_residues`, of two positions the one
with the smaller letter comes first, and among equal letters the one that was first in the input comes first.
Together with `sort_residues` (residue at new position `i` is residue `sortOrder[i]` of the input, with its mods) this pins
the result of `sort_residues` completely.
-/
namespace Pept.Reorder.C11Ext

/-- order demanded between two entries `i` (earlier) and `j` (later) of the position table of a stable sort of `seq` -/
def StableBefore (seq : List Char) (i j : Nat) : Prop :=
  ∃ c d, seq[i]? = some c ∧ seq[j]? = some d ∧ (c.toNat < d.toNat ∨ (c.toNat = d.toNat ∧ i < j))

/-- the position table `sorted(range(n), key=lambda x: seq[x])` is ordered by (letter, original position) -/
theorem sortOrder_stable (seq : List Char) : (sortOrder seq).Pairwise (StableBefore seq) := by
  unfold sortOrder
  rw [List.pairwise_map]
  have hs := sortBy_stable (fun (c : Char) => c.toNat) seq.zipIdx (zipIdx_pairwise_idx seq 0)
  refine List.Pairwise.imp_of_mem ?_ hs
  intro p q hp hq h
  have hp' := (sortBy_perm _ seq.zipIdx).mem_iff.1 hp
  have hq' := (sortBy_perm _ seq.zipIdx).mem_iff.1 hq
  have e1 : seq[p.2]? = some p.1 := List.mem_zipIdx_iff_getElem?.1 hp'
  have e2 : seq[q.2]? = some q.1 := List.mem_zipIdx_iff_getElem?.1 hq'
  exact ⟨p.1, q.1, e1, e2, h⟩
example : sortOrder ['P', 'E', 'P', 'T', 'I', 'D', 'E'] = [5, 1, 6, 4, 0, 2, 3] := by decide

/-- sort_residues, full statement: the residue at new position `i` is residue `sortOrder[i]` of the input with its own
modifications, and the position table is a permutation of the positions ordered by (letter, original position) — equal
letters keep their input order, so do their modifications -/
theorem sort_residues_stable (a : Annotation) (hk : KeysOK a) :
    ∃ b, sortResidues a = .ok b ∧ residues b = (sortOrder a.seq).filterMap ((residues a)[·]?) ∧
      (sortOrder a.seq).Perm (List.range a.seq.length) ∧
      (sortOrder a.seq).Pairwise (StableBefore a.seq) := by
  obtain ⟨b, hb, hres, _⟩ := C11.sort_residues a hk
  exact ⟨b, hb, hres, sortOrder_perm a.seq, sortOrder_stable a.seq⟩
-- two P and two E with different modifications: the modified first P (position 0) stays before the plain P (position 2)
example : (sortResidues demo).toOption.map residues =
    some [('D', []), ('E', []), ('E', []), ('I', []), ('P', [⟨.str ['P', 'h'], 1⟩]), ('P', []), ('T', [⟨.int 16, 2⟩])] := by
  decide

/-- equal letters never overtake each other: if `i < j` carry the same letter, `i` is listed before `j`
(stated on the table: a later entry with the same letter has a larger original position) -/
theorem sortOrder_equal_letters_keep_order (seq : List Char) :
    (sortOrder seq).Pairwise (fun i j => seq[i]? = seq[j]? → i < j) := by
  refine List.Pairwise.imp ?_ (sortOrder_stable seq)
  intro i j ⟨c, d, hc, hd, h⟩ heq
  rw [hc, hd] at heq
  have : c = d := Option.some.inj heq
  subst this
  omega
example : (sortOrder ['P', 'E', 'P', 'E']) = [1, 3, 0, 2] := by decide

/-- shift: global and terminal annotations stay in place — for EVERY shift amount and every annotation on which `shift`
returns (no domain hypothesis: also with out-of-range keys or wrapping intervals) -/
theorem shift_globals_terminals (a b : Annotation) (k : Int) (h : shift a k = .ok b) :
    b.isotope = a.isotope ∧ b.static = a.static ∧ b.labile = a.labile ∧ b.unknown = a.unknown ∧
    b.charge = a.charge ∧ b.adducts = a.adducts ∧ b.nterm = a.nterm ∧ b.cterm = a.cterm ∧
    b.seq.length = a.seq.length := by
  unfold shift at h
  simp only at h
  split at h
  · cases h
  · cases h
    simp only [List.length_append, List.length_drop, List.length_take, true_and]
    omega
example : (shift demo 3).toOption.map (fun b => (b.nterm, b.cterm, b.labile)) = some (demo.nterm, demo.cterm, demo.labile) ∧
    demo.labile.isSome ∧ demo.nterm.isSome ∧ demo.cterm.isSome := by decide

end Pept.Reorder.C11Ext
