import PeptVerif.Lemmas.ScoreRnd
import PeptVerif.Props.C17
import PeptVerif.Model.ScoreFilter
/-!
# C17 — the windows of `get_matched_indices` under rounded arithmetic; the isotope filters of Model/ScoreFilter.lean

Property theorems only. `Spec/ScoreRnd.lean` instantiates the generic model of `Model/Score.lean` (the definitions the
driver runs at IEEE doubles) at ℚ with every `+ - * /` followed by an abstract rounding function `rnd : ℚ → ℚ`, i.e.
in the operation order of score.py:

    th : lo = rnd (mz - tol),                             hi = rnd (mz + tol)
    ppm: lo = rnd (mz - rnd (rnd (mz * tol) / 1000000)),  hi = rnd (mz + rnd (rnd (mz * tol) / 1000000))

Assumptions on `rnd` (hypotheses of the theorems): `RndMono rnd` (monotone) and `RndRel rnd u` (`|rnd z - z| ≤ u·|z|`).
TRUSTED, not proved: IEEE binary64 round-to-nearest-even satisfies both with `u = 2^-53` as long as no operation
overflows or produces a subnormal (see the header of Spec/ScoreRnd.lean).

Sandwich (for all inputs, no sign conditions): with `E = exactTol` (`tol`, resp. `mz·tol/10⁶`) and
`S = slack u` (`u(|mz|+|tol|)`, resp. `u|mz| + 4u|E|`; for `mz, tol ≥ 0` this is `tol(1 ± u) ± u·mz`, resp.
`E(1 ± 4u) ± u·mz`; the absolute slack `u·mz` is half an ulp of `mz`):
every peak with `|y - mz| ≤ E - S` is matched and every matched peak has `|y - mz| ≤ E + S`.
-/
namespace Score

/-- the rounded bounds are the ones score.py computes, operation by operation (`rfl`: they *are* the generic model
`lo` / `hi` at the rounded arithmetic) -/
theorem rounded_bounds_unfold (rnd : Rat → Rat) (tol x : Rat) :
    loR rnd .th tol x = rnd (x - tol) ∧ hiR rnd .th tol x = rnd (x + tol)
    ∧ loR rnd .ppm tol x = rnd (x - rnd (rnd (x * tol) / 1000000))
    ∧ hiR rnd .ppm tol x = rnd (x + rnd (rnd (x * tol) / 1000000)) :=
  ⟨rfl, rfl, rfl, rfl⟩

-- the ppm bound evaluated with the identity rounding
example : loR id .ppm 20 (1000 : Rat) = 1000 - 1/50 := by decide +kernel

/-- The model of `get_matched_indices` run with rounded arithmetic returns, for sorted lists
of any length, exactly the brute-force windows of the *rounded* bounds, provided the rounded lower bound is monotone
along the fragment list (always true for th: `rounded_th_lower_monotone`; for ppm it can fail, that is known finding
KF-C17-ppm-lower-bound-rounding, and `rounded_ppm_lower_monotone_of_gap` gives a sufficient condition). -/
theorem rounded_sweep_correct (rnd : Rat → Rat) (t : Tol) (tol : Rat) (xs ys : List Rat)
    (hys : ys.Pairwise (· ≤ ·)) (hlo : xs.Pairwise (fun a b => loR rnd t tol a ≤ loR rnd t tol b)) :
    (getMatchedIndicesR rnd t tol xs ys).map idxList = xs.map (window (inWindowR rnd t tol) ys) :=
  sweep_window (loR rnd t tol) (hiR rnd t tol) xs ys hys hlo

-- the monotonicity hypothesis can be met
example : ([100, 200, 300] : List Rat).Pairwise (fun a b => loR id .ppm 20 a ≤ loR id .ppm 20 b) := by decide +kernel

/-- th: a monotone rounding keeps the lower bound `rnd (mz - tol)` monotone, for every tolerance -/
theorem rounded_th_lower_monotone (rnd : Rat → Rat) (hmono : RndMono rnd) (tol a b : Rat) (h : a ≤ b) :
    loR rnd .th tol a ≤ loR rnd .th tol b :=
  hmono _ _ (sub_le_sub_right h tol)

/-- a rounding that is not the identity and has both properties with `u = 1/16` -/
example : RndMono (fun z => z * (17/16)) ∧ RndRel (fun z => z * (17/16)) (1/16) := by
  constructor
  · intro a b h
    exact mul_le_mul_of_nonneg_right h (by norm_num)
  · intro z
    show |z * (17/16) - z| ≤ 1/16 * |z|
    rw [show z * (17/16) - z = 1/16 * z by ring, abs_mul, abs_of_pos (by norm_num : (0 : Rat) < 1/16)]

/-- ppm: the rounded lower bound is monotone from `a` to `b` when the exact gain `(b-a)(1-tol/10⁶)` covers the two
rounding slacks (for 20 ppm and doubles: when `b - a` exceeds about one ulp of `b`) -/
theorem rounded_ppm_lower_monotone_of_gap (rnd : Rat → Rat) (u : Rat) (hrel : RndRel rnd u) (hu : u ≤ 1/8)
    (tol a b : Rat) (hgap : slack u .ppm tol a + slack u .ppm tol b ≤ (b - a) * (1 - tol / 1000000)) :
    loR rnd .ppm tol a ≤ loR rnd .ppm tol b := by
  have ⟨_, ha⟩ := abs_le.mp (ppm_bound_err hrel hu tol a).1
  have ⟨hb, _⟩ := abs_le.mp (ppm_bound_err hrel hu tol b).1
  linarith only [ha, hb, hgap]

/-- th sandwich for one fragment / peak pair, all inputs: `|y-x| ≤ tol - u(|x|+|tol|)` ⇒ matched ⇒
`|y-x| ≤ tol + u(|x|+|tol|)` -/
theorem th_window_sandwich (rnd : Rat → Rat) (u : Rat) (hrel : RndRel rnd u) (tol x y : Rat) :
    (|y - x| ≤ tol - u * (|x| + |tol|) → inWindowR rnd .th tol y x = true)
    ∧ (inWindowR rnd .th tol y x = true → |y - x| ≤ tol + u * (|x| + |tol|)) := by
  have ⟨hl, hh⟩ := th_bound_err hrel tol x
  exact sandwich_of_bound_err rnd .th tol x tol _ y hl hh

/-- ppm sandwich for one fragment / peak pair, all inputs (`E = x·tol/10⁶`, `u ≤ 1/8`):
`|y-x| ≤ E - (u|x| + 4u|E|)` ⇒ matched ⇒ `|y-x| ≤ E + (u|x| + 4u|E|)` -/
theorem ppm_window_sandwich (rnd : Rat → Rat) (u : Rat) (hrel : RndRel rnd u) (hu : u ≤ 1/8) (tol x y : Rat) :
    (|y - x| ≤ x * tol / 1000000 - (u * |x| + 4 * u * |x * tol / 1000000|) → inWindowR rnd .ppm tol y x = true)
    ∧ (inWindowR rnd .ppm tol y x = true → |y - x| ≤ x * tol / 1000000 + (u * |x| + 4 * u * |x * tol / 1000000|)) := by
  have ⟨hl, hh⟩ := ppm_bound_err hrel hu tol x
  exact sandwich_of_bound_err rnd .ppm tol x (x * tol / 1000000) _ y hl hh

theorem window_sandwich (rnd : Rat → Rat) (u : Rat) (hrel : RndRel rnd u) (hu : u ≤ 1/8) (t : Tol) (tol x y : Rat) :
    (|y - x| ≤ exactTol t tol x - slack u t tol x → inWindowR rnd t tol y x = true)
    ∧ (inWindowR rnd t tol y x = true → |y - x| ≤ exactTol t tol x + slack u t tol x) := by
  cases t
  · exact ppm_window_sandwich rnd u hrel hu tol x y
  · exact th_window_sandwich rnd u hrel tol x y

/-- the identity has both properties with `u = 0`, which turns the sandwich into an equivalence (the exact-ℚ theorems of
Props/C17); a rounding that is not the identity is the example after `rounded_th_lower_monotone` -/
example : RndRel id 0 ∧ RndMono id := ⟨fun z => by simp, fun _ _ h => h⟩

/-- **`get_matched_indices` with rounded bounds, th.** For a monotone rounding with relative error `u`, sorted lists of
any length, any tolerance: peak `j` is reported for fragment `i` whenever its exact distance is at most
`tol - u(|mz|+|tol|)`, and only if it is at most `tol + u(|mz|+|tol|)`. -/
theorem getMatchedIndices_rounded_th (rnd : Rat → Rat) (u : Rat) (hmono : RndMono rnd) (hrel : RndRel rnd u)
    (tol : Rat) (xs ys : List Rat) (hxs : xs.Pairwise (· ≤ ·)) (hys : ys.Pairwise (· ≤ ·))
    (i j : Nat) (x y : Rat) (hx : xs[i]? = some x) (hy : ys[j]? = some y) :
    (|y - x| ≤ tol - u * (|x| + |tol|) → j ∈ idxList (((getMatchedIndicesR rnd .th tol xs ys)[i]?).getD none))
    ∧ (j ∈ idxList (((getMatchedIndicesR rnd .th tol xs ys)[i]?).getD none) → |y - x| ≤ tol + u * (|x| + |tol|)) := by
  rw [mem_entry_of_windows (rounded_sweep_correct rnd .th tol xs ys hys
    (hxs.imp fun {a b} h => rounded_th_lower_monotone rnd hmono tol a b h)) hx hy]
  exact th_window_sandwich rnd u hrel tol x y

/-- **`get_matched_indices` with rounded bounds, ppm.** Same statement with `E = mz·tol/10⁶` and slack
`u|mz| + 4u|E|`, under the hypothesis that the rounded lower bound is monotone along the fragment list (not implied by
the two rounding assumptions: KF-C17-ppm-lower-bound-rounding; `rounded_ppm_lower_monotone_of_gap` is a sufficient
condition, and the harness evaluates the hypothesis on every case it checks). -/
theorem getMatchedIndices_rounded_ppm (rnd : Rat → Rat) (u : Rat) (hrel : RndRel rnd u) (hu : u ≤ 1/8)
    (tol : Rat) (xs ys : List Rat) (hys : ys.Pairwise (· ≤ ·))
    (hlo : xs.Pairwise (fun a b => loR rnd .ppm tol a ≤ loR rnd .ppm tol b))
    (i j : Nat) (x y : Rat) (hx : xs[i]? = some x) (hy : ys[j]? = some y) :
    (|y - x| ≤ x * tol / 1000000 - (u * |x| + 4 * u * |x * tol / 1000000|)
        → j ∈ idxList (((getMatchedIndicesR rnd .ppm tol xs ys)[i]?).getD none))
    ∧ (j ∈ idxList (((getMatchedIndicesR rnd .ppm tol xs ys)[i]?).getD none)
        → |y - x| ≤ x * tol / 1000000 + (u * |x| + 4 * u * |x * tol / 1000000|)) := by
  rw [mem_entry_of_windows (rounded_sweep_correct rnd .ppm tol xs ys hys hlo) hx hy]
  exact ppm_window_sandwich rnd u hrel hu tol x y

/-- non-vacuity: with the identity rounding (`u = 0`) the th theorem applies to a concrete spectrum -/
example : idxList (((getMatchedIndicesR id .th 1 [100, 250] [99, 100, 101, 102, 250])[0]?).getD none) = [0, 1, 2] := by
  decide +kernel

variable {μ : Type}

/-- `filter_missing_mono_isotope`, membership: a match is kept iff some match of the input with isotope 0 carries its label with
the stars removed -/
theorem filter_missing_mono_spec (label : μ → List Char) (isotope : μ → Int) (ms : List μ) (m : μ) :
    m ∈ filterMissingMonoIsotope label isotope ms
      ↔ m ∈ ms ∧ ∃ m0 ∈ ms, isotope m0 = 0 ∧ label m0 = monoLabel (label m) := by
  simp only [filterMissingMonoIsotope, List.mem_filter, List.contains_eq_mem, List.mem_map, decide_eq_true_eq, beq_iff_eq]
  constructor
  · rintro ⟨hm, m0, ⟨h0, hi⟩, hl⟩; exact ⟨hm, m0, h0, hi, hl⟩
  · rintro ⟨hm, m0, h0, hi, hl⟩; exact ⟨hm, m0, ⟨h0, hi⟩, hl⟩

/-- … order and multiplicity of the kept matches are those of the input -/
theorem filter_missing_mono_sublist (label : μ → List Char) (isotope : μ → Int) (ms : List μ) :
    (filterMissingMonoIsotope label isotope ms).Sublist ms := by
  unfold filterMissingMonoIsotope
  exact List.filter_sublist

/-- … and the result is closed: when isotope-0 labels carry no `*` (true for `Fragment.label`, which appends `'*' * isotope`), every
kept match has its monoisotopic match kept as well, and filtering again changes nothing -/
theorem filter_missing_mono_closed (label : μ → List Char) (isotope : μ → Int) (ms : List μ)
    (hstar : ∀ m ∈ ms, isotope m = 0 → '*' ∉ label m) :
    (∀ m ∈ filterMissingMonoIsotope label isotope ms,
        ∃ m0 ∈ filterMissingMonoIsotope label isotope ms, isotope m0 = 0 ∧ label m0 = monoLabel (label m))
    ∧ filterMissingMonoIsotope label isotope (filterMissingMonoIsotope label isotope ms)
        = filterMissingMonoIsotope label isotope ms := by
  have hself : ∀ m0 ∈ ms, isotope m0 = 0 → monoLabel (label m0) = label m0 := by
    intro m0 h0 hi
    unfold monoLabel
    rw [List.filter_eq_self]
    intro c hc
    have := hstar m0 h0 hi
    simp only [bne_iff_ne, ne_eq]
    rintro rfl
    exact this hc
  have hkeep : ∀ m ∈ filterMissingMonoIsotope label isotope ms,
      ∃ m0 ∈ filterMissingMonoIsotope label isotope ms, isotope m0 = 0 ∧ label m0 = monoLabel (label m) := by
    intro m hm
    obtain ⟨_, m0, h0, hi, hl⟩ := (filter_missing_mono_spec label isotope ms m).mp hm
    refine ⟨m0, ?_, hi, hl⟩
    exact (filter_missing_mono_spec label isotope ms m0).mpr ⟨h0, m0, h0, hi, (hself m0 h0 hi).symm⟩
  refine ⟨hkeep, ?_⟩
  have e : ∀ L : List μ, filterMissingMonoIsotope label isotope L
      = L.filter (fun f => ((L.filter (fun f => isotope f == 0)).map label).contains (monoLabel (label f))) := fun _ => rfl
  generalize filterMissingMonoIsotope label isotope ms = R at hkeep ⊢
  rw [e R, List.filter_eq_self]
  intro m hm
  obtain ⟨m0, h0, hi, hl⟩ := hkeep m hm
  simp only [List.contains_eq_mem, List.mem_map, List.mem_filter, decide_eq_true_eq, beq_iff_eq]
  exact ⟨m0, ⟨h0, hi⟩, hl⟩

-- `+y3*` has no monoisotopic partner and goes
example : filterMissingMonoIsotope (fun m : String × Int => m.1.toList) (·.2)
    [("+b2", 0), ("+b2*", 1), ("+y3*", 1), ("+y4**", 2), ("+y4", 0)]
    = [("+b2", 0), ("+b2*", 1), ("+y4**", 2), ("+y4", 0)] := by decide +kernel

/-- `filter_skipped_isotopes`, membership: a match is kept iff the input contains its label with one trailing `*` removed
(nothing qualifies when there is no trailing `*`, unless some label is empty) or with one `*` appended -/
theorem filter_skipped_isotopes_spec (label : μ → List Char) (ms : List μ) (m : μ) :
    m ∈ filterSkippedIsotopes label ms
      ↔ m ∈ ms ∧ ((∃ m' ∈ ms, label m' = removeIsotope (label m)) ∨ (∃ m' ∈ ms, label m' = addIsotope (label m))) := by
  simp only [filterSkippedIsotopes, List.mem_filter, List.contains_eq_mem, List.mem_map, decide_eq_true_eq, Bool.or_eq_true]

theorem filter_skipped_isotopes_sublist (label : μ → List Char) (ms : List μ) :
    (filterSkippedIsotopes label ms).Sublist ms := by
  unfold filterSkippedIsotopes
  exact List.filter_sublist

-- `+y3**` (no `+y3*`) and `+y4` (no neighbour) go
example : filterSkippedIsotopes (fun m : String => m.toList) ["+b2", "+b2*", "+y3**", "+y4"] = ["+b2", "+b2*"] := by decide +kernel

end Score
