import PeptVerif.Lemmas.ReorderCanon
import PeptVerif.Props.C01
/-!
# C11 — the re-parse clause as theorems (uses C01's `canon` / `parse_serialize`)

`canon a` (Spec/ProForma.lean) is the decidable predicate "a is an object the grammar denotes"; `parse_serialize` (Props/C01)
says such an object is the parse of its own string, for both `include_plus` settings.

Where `canon` does not fit the editors literally, and what is proved instead:
* `canon` fixes the *list order* of the residue-modification dict (keys increasing, as the parser inserts them) and forbids
  the empty dict `{}`. `slice` can return `{}`; `reverse` / `shift` / `shuffle` / `sort_residues` return the entries in the
  old insertion order. Neither is observable (the serializer and `==` look entries up by key and treat `{}` like `None`).
  The theorems therefore speak about `normalize x` (`{}` ↦ `None`, entries in key order): `canon (normalize (op a))`,
  `serialize (normalize x) = serialize x`, `annEq (normalize x) x` (the library's `==`, Model/AnnotEq.lean).
  For `slice` the dict stays in key order, so `normalize` only removes `{}` (`slice_reparse_exact`).
* intervals: `slice` needs "no cut strictly inside an interval" (`CutsOK`), `shift` needs `NoWrap`; `reverse` and `shift`
  return the interval list in sequence order only since fixes 2f3e2c2 / d7e4e20 (before them the strings did not parse).
-/
namespace Pept.Reorder.C11
open Pept

/-- the generic step: if the normal form of `x` is canonical, the string of `x` parses to that normal form, which the
library's `==` identifies with `x` -/
theorem reparse_of_canon_normalize (plus : Plus) (x : Annotation) (h : canon (normalize x) = true) :
    parse true (serialize plus x) = .ok (.single (normalize x)) ∧ annEq (normalize x) x = true := by
  have hnd := nodup_of_canon_normalize x h
  refine ⟨?_, annEq_normalize x hnd⟩
  rw [← serialize_normalize plus x hnd]
  exact parse_serialize plus _ h

/-- a non-empty slice whose ends do not fall strictly inside an interval is canonical -/
theorem slice_canon (a : Annotation) (s e : Nat) (hs : s < e) (he : e ≤ a.seq.length) (hca : canon a = true)
    (hc : CutsOK a.intervals a.seq.length [s, e]) : canon (normalize (slice a (s : Int) (e : Int))) = true :=
  canon_normalize_slice a s e hs he hca hc

/-- **re-parse clause for non-empty slices**: the string of the slice parses (both `include_plus` settings, any mixed
spelling) to the slice — literally to its normal form, which `==` identifies with it -/
theorem slice_reparse (plus : Plus) (a : Annotation) (s e : Nat) (hs : s < e) (he : e ≤ a.seq.length)
    (hca : canon a = true) (hc : CutsOK a.intervals a.seq.length [s, e]) :
    parse true (serialize plus (slice a (s : Int) (e : Int))) = .ok (.single (normalize (slice a (s : Int) (e : Int)))) ∧
    annEq (normalize (slice a (s : Int) (e : Int))) (slice a (s : Int) (e : Int)) = true :=
  reparse_of_canon_normalize plus _ (slice_canon a s e hs he hca hc)

/-- when the slice keeps at least one residue modification (or the parent has none) the parse is the slice itself -/
theorem slice_reparse_exact (plus : Plus) (a : Annotation) (s e : Nat) (hs : s < e) (he : e ≤ a.seq.length)
    (hca : canon a = true) (hc : CutsOK a.intervals a.seq.length [s, e])
    (hne : (slice a (s : Int) (e : Int)).internal ≠ some []) :
    parse true (serialize plus (slice a (s : Int) (e : Int))) = .ok (.single (slice a (s : Int) (e : Int))) := by
  have h := (slice_reparse plus a s e hs he hca hc).1
  rwa [normalize_slice a s e hca hne] at h

/-- reversal (with or without swapping the termini) of a canonical annotation stays canonical once normalised -/
theorem reverse_canon (a : Annotation) (sw : Bool) (hca : canon a = true) : canon (normalize (reverse a sw)) = true :=
  canon_normalize_reverse a sw hca

/-- reversal (with or without swapping the termini) of a canonical annotation re-parses -/
theorem reverse_reparse (plus : Plus) (a : Annotation) (sw : Bool) (hca : canon a = true) :
    parse true (serialize plus (reverse a sw)) = .ok (.single (normalize (reverse a sw))) ∧
    annEq (normalize (reverse a sw)) (reverse a sw) = true :=
  reparse_of_canon_normalize plus _ (canon_normalize_reverse a sw hca)

theorem shift_canon (a : Annotation) (k : Int) (hca : canon a = true) (hnw : NoWrap a k) :
    ∃ b, shift a k = .ok b ∧ canon (normalize b) = true :=
  canon_normalize_shift a k hca hnw

/-- a shifted canonical annotation re-parses when no interval wraps around -/
theorem shift_reparse (plus : Plus) (a : Annotation) (k : Int) (hca : canon a = true) (hnw : NoWrap a k) :
    ∃ b, shift a k = .ok b ∧ parse true (serialize plus b) = .ok (.single (normalize b)) ∧
      annEq (normalize b) b = true := by
  obtain ⟨b, hb, hc⟩ := canon_normalize_shift a k hca hnw
  exact ⟨b, hb, reparse_of_canon_normalize plus b hc⟩

/-- a shuffled canonical annotation re-parses (its intervals are untouched and stay well-formed) -/
theorem shuffle_reparse (plus : Plus) (a : Annotation) (perm : List Nat) (hca : canon a = true)
    (hp : perm.Perm (List.range a.seq.length)) :
    ∃ b, shuffle a perm = .ok b ∧ canon (normalize b) = true ∧
      parse true (serialize plus b) = .ok (.single (normalize b)) ∧ annEq (normalize b) b = true := by
  have hc := canon_normalize_permuteBy a perm _ hca hp (filterMap_getElem?_perm a.seq perm hp)
  exact ⟨_, (shuffle_eq a perm (canon_fields a hca).seq_ne_nil).trans
    (permuteWith_eq a perm _ hp (keysOK_of_canon a hca)), hc, reparse_of_canon_normalize plus _ hc⟩

/-- a sorted canonical annotation re-parses -/
theorem sort_reparse (plus : Plus) (a : Annotation) (hca : canon a = true) :
    ∃ b, sortResidues a = .ok b ∧ canon (normalize b) = true ∧
      parse true (serialize plus b) = .ok (.single (normalize b)) ∧ annEq (normalize b) b = true := by
  have hp := sortOrder_perm a.seq
  have hc := canon_normalize_permuteBy a _ _ hca hp (filterMap_getElem?_perm a.seq _ hp)
  exact ⟨_, (sortResidues_eq a).trans (permuteWith_eq a _ _ hp (keysOK_of_canon a hca)), hc,
    reparse_of_canon_normalize plus _ hc⟩

/-- the pieces of `split` are one-residue slices (up to their labile mods): piece `i` re-parses when position `i` and `i+1`
are not strictly inside an interval -/
theorem split_piece_reparse (plus : Plus) (a : Annotation) (i : Nat) (hi : i < a.seq.length) (hca : canon a = true)
    (hc : CutsOK a.intervals a.seq.length [i, i + 1]) :
    parse true (serialize plus (slice a (i : Int) ((i + 1 : Nat) : Int))) =
      .ok (.single (normalize (slice a (i : Int) ((i + 1 : Nat) : Int)))) :=
  (slice_reparse plus a i (i + 1) (by omega) (by omega) hca hc).1

/-- `[Ac]-P[Ph]E(PT)[1]ID(E)[+16]^2-[Am]`-like: termini, two residue mods, two intervals -/
def cdemo : Annotation :=
  { seq := "PEPTIDE".toList,
    nterm := some [⟨.str "Acetyl".toList, 1⟩], cterm := some [⟨.str "Amidated".toList, 1⟩],
    internal := some [(0, [⟨.str "Phospho".toList, 1⟩]), (3, [⟨.int 16, 2⟩])],
    intervals := some [⟨1, 3, false, some [⟨.int 1, 1⟩]⟩, ⟨3, 5, true, none⟩] }

example : canon cdemo = true := by decide +kernel
example : CutsOK cdemo.intervals cdemo.seq.length [1, 5] := by
  intro L hL
  cases hL
  decide
example : serialize (constPlus false) (slice cdemo 1 5) = "(EP)[1](?T[16]^2I)".toList := by decide +kernel
example : serialize (constPlus false) (reverse cdemo true) = "[Amidated]-ED(?IT[16]^2)(PE)[1]P[Phospho]-[Acetyl]".toList := by
  decide +kernel
example : (shift cdemo 3).toOption.map (serialize (constPlus false)) =
    some "[Acetyl]-(?T[16]^2I)DEP[Phospho](EP)[1]-[Amidated]".toList := by decide +kernel

end Pept.Reorder.C11
