import PeptVerif.Lemmas.Fragment
/-!
Property theorems for C04: fragmentation enumerates every ion exactly once and agrees with the mass calculator; all
return types and the cached `Fragmenter` are projections of the same list.

All theorems are about the executable model `PeptVerif/Model/Fragment.lean` (tied to /repo by `./check C04`), hold for
every peptide length and for every weight function (`Env`: per-residue components, table constants, label shift,
loss-pattern matching, `str(loss)` are arbitrary).  Helper definitions used in the statements (in
`Lemmas/Fragment.lean`): `allKeys` (the nested loops of one call, in order), `outOf` (the loop body), `SpanOK` (where an
ion type may be cut), `Classified`, `ionBase` (the part of an ion's mass that does not come from residues), `project`,
`fragsOf` (the `Fragment` objects of a result).
-/
namespace C04
open Fragment Pept Spans

/-- a concrete environment for the non-vacuity examples -/
def exEnv : Env :=
  { P := { proton := 1, neutron := 1, fragAdjN := fun _ => 0, fragAdj := fun _ _ => 0, ionOffset := fun _ _ => 0 },
    splitMass := fun a _ => a.seq.map fun _ => 57, labelShift := fun _ _ _ _ => 0, condenseStatic := id,
    showLoss := fun _ => ['?'] }

def exPeptide : Annotation := { seq := ['P', 'E', 'P', 'T'], nterm := some [⟨.int 1, 1⟩] }
def exArgs : Args :=
  { ionTypes := .many [.B, .Y, .BY, .I], charges := .many [1, 2], isotopes := .many [0, 1], waterLoss := true }

/-- forward ions are cut at the `n` prefixes `[0, n), [0, n-1), …, [0, 1)`, each once -/
theorem forwardSpans_prefixes (n : Nat) (h : 1 ≤ n) :
    forwardSpans (n : Int) = (List.range n).map (fun (k : Nat) => ((0 : Int), (n : Int) - (k : Int), (0 : Int))) ∧
    (forwardSpans (n : Int)).Nodup ∧ (forwardSpans (n : Int)).length = n := by
  exact ⟨forwardSpans_eq n h, nodup_forwardSpans n, by simp [forwardSpans_eq n h]⟩

example : forwardSpans 4 = [(0, 4, 0), (0, 3, 0), (0, 2, 0), (0, 1, 0)] := by decide +kernel

/-- backward ions are cut at the `n` suffixes `[0, n), [1, n), …, [n-1, n)`, each once -/
theorem backwardSpans_suffixes (n : Nat) (h : 1 ≤ n) :
    backwardSpans (n : Int) = (List.range n).map (fun (k : Nat) => ((k : Int), (n : Int), (0 : Int))) ∧
    (backwardSpans (n : Int)).Nodup ∧ (backwardSpans (n : Int)).length = n := by
  exact ⟨backwardSpans_eq n h, nodup_backwardSpans n, by simp [backwardSpans_eq n h]⟩

example : backwardSpans 4 = [(0, 4, 0), (1, 4, 0), (2, 4, 0), (3, 4, 0)] := by decide +kernel

/-- internal ions are cut exactly at the strictly internal spans `0 < s < e < n`, each once -/
theorem internalSpans_strict (n : Int) :
    (∀ s e v : Int, (s, e, v) ∈ internalSpans n ↔ 0 < s ∧ s < e ∧ e < n ∧ v = 0) ∧ (internalSpans n).Nodup := by
  exact ⟨mem_internalSpans n, nodup_internalSpans n⟩

example : internalSpans 4 = [(1, 2, 0), (1, 3, 0), (2, 3, 0)] := by decide +kernel

/-- there are `(n-1)(n-2)/2` of them (natural-number subtraction: none for `n ≤ 2`) -/
theorem internalSpans_count (n : Nat) : 2 * (internalSpans (n : Int)).length = (n - 1) * (n - 2) :=
  Fragment.internalSpans_count n

example : (internalSpans 12).length = 55 := by decide +kernel

/-- immonium ions are cut at the `n` single residues, each once -/
theorem immoniumSpans_residues (n : Nat) :
    immoniumSpans (n : Int) = (List.range n).map (fun (k : Nat) => ((k : Int), (k : Int) + 1, (0 : Int))) ∧
    (immoniumSpans (n : Int)).Nodup ∧ (immoniumSpans (n : Int)).length = n := by
  exact ⟨immoniumSpans_eq n, nodup_immoniumSpans n, by simp [immoniumSpans_eq n]⟩

example : immoniumSpans 3 = [(0, 1, 0), (1, 2, 0), (2, 3, 0)] := by decide +kernel

/-! ## neutral losses are a set of sums -/

/-- `get_losses` is duplicate free and contains exactly 0 and every sum of a non-empty sub-multiset of at most
`max(1, max_losses)` applicable losses (one copy of a rule's delta per match of its pattern) -/
theorem getLosses_set (s : List Char) (losses : List LossRule) (m : Int) :
    (getLosses s losses m).Nodup ∧
    ∀ x : Rat, x ∈ getLosses s losses m ↔
      x = 0 ∨ ∃ sub : List Rat, sub.Sublist (applicableList s losses) ∧ 1 ≤ sub.length ∧
        (sub.length : Int) ≤ max 1 m ∧ x = sub.sum :=
  ⟨nodup_getLosses s losses m, mem_getLosses s losses m⟩

example : applicableList ['A', 'A'] [(.cls ['A'], -10), (.cls ['A'], -5)] = [-10, -10, -5, -5] := by decide +kernel

/-- applicability per span: only the number of matches of a rule's pattern on the span's residues matters (whether
that number is counted in Lean — character classes — or supplied by the implementation's `re.findall` —
`Pat.opaque`), and a rule without a match on the span contributes nothing -/
theorem unmatched_rules_irrelevant (s : List Char) (rules : List LossRule) (m : Int) :
    getLosses s rules m = getLosses s (rules.filter fun r => decide (0 < r.1.count s)) m := by
  unfold getLosses
  rw [← applicableList_filter]

/-- one rule on a span with `c` matches: its loss may be taken `i` times, `1 ≤ i ≤ min(c, max(1, max_losses))` -/
theorem one_rule_applicability (s : List Char) (r : LossRule) (m : Int) (x : Rat) :
    x ∈ getLosses s [r] m ↔
      x = 0 ∨ ∃ i : Nat, 1 ≤ i ∧ i ≤ r.1.count s ∧ (i : Int) ≤ max 1 m ∧ x = (i : Rat) * r.2 := by
  rw [mem_getLosses, applicableList_one]
  constructor
  · rintro (h | ⟨sub, hs, h1, hm, rfl⟩)
    · exact Or.inl h
    · obtain ⟨i, hi, rfl⟩ := List.sublist_replicate_iff.1 hs
      rw [List.length_replicate] at h1 hm
      exact Or.inr ⟨i, h1, hi, hm, RatSum.sum_replicate i r.2⟩
  · rintro (h | ⟨i, h1, hi, hm, rfl⟩)
    · exact Or.inl h
    · exact Or.inr ⟨List.replicate i r.2, (List.replicate_sublist_replicate r.2).2 hi, by simpa using h1,
        by simpa using hm, (RatSum.sum_replicate i r.2).symm⟩

/-- the residue-class tests of the two built-in rules are inside the model: `'[STED]'` / `'[RKNQ]'` count the residues
of the class -/
theorem builtin_patterns (s : List Char) :
    waterPat.count s = (s.filter fun c => decide (c ∈ ['S', 'T', 'E', 'D'])).length ∧
    ammoniaPat.count s = (s.filter fun c => decide (c ∈ ['R', 'K', 'N', 'Q'])).length :=
  ⟨rfl, rfl⟩

/-- `water_loss=True, ammonia_loss=True`, no custom rules: on a span with `nw` residues in S/T/E/D and `na` residues
in R/K/N/Q the applicable losses are exactly 0 and `i·(−18.01056) + j·(−17.02655)` with `i ≤ nw`, `j ≤ na`,
`1 ≤ i + j ≤ max(1, max_losses)`. -/
theorem builtin_losses (s : List Char) (args : Args) (hl : args.losses = none) (hw : args.waterLoss = true)
    (ha : args.ammoniaLoss = true) (x : Rat) :
    x ∈ getLosses s (lossList args) args.maxLosses ↔
      x = 0 ∨ ∃ i j : Nat, 1 ≤ i + j ∧ i ≤ waterPat.count s ∧ j ≤ ammoniaPat.count s ∧
        ((i + j : Nat) : Int) ≤ max 1 args.maxLosses ∧
        x = (i : Rat) * waterLossValue + (j : Rat) * ammoniaLossValue := by
  have : lossList args = [(waterPat, waterLossValue), (ammoniaPat, ammoniaLossValue)] := by
    simp [lossList, hl, hw, ha]
  rw [this]
  exact getLosses_two_rules s _ _ _ x

example : waterPat.count ['A', 'Q', 'E'] = 1 ∧ ammoniaPat.count ['A', 'Q', 'E'] = 1 := by decide +kernel

/-! ## `fragment` never reaches the error of `get_number`; exactly one ion per requested key -/

/-- On a peptide without sequence ambiguity `fragment` returns normally, and its result is one pass of the loop body
over `allKeys` (forward, backward, internal, immonium; span > ion type > isotope > loss > charge); with unknown-position
mods or intervals it raises `ValueError`. -/
theorem fragment_total (env : Env) (a : Annotation) (args : Args) (mc : Option (List Rat)) :
    (containsSequenceAmbiguity (mkJob env a args mc).annotation = false →
      fragment env a args mc =
        .ok ((allKeys (mkJob env a args mc) args.ionTypes.toList).flatMap (outOf (mkJob env a args mc)))) ∧
    (containsSequenceAmbiguity (mkJob env a args mc).annotation = true →
      fragment env a args mc = .error .valueError) :=
  ⟨fragment_ok env a args mc, fragment_ambiguous env a args mc⟩

example : containsSequenceAmbiguity (mkJob exEnv exPeptide exArgs none).annotation = false := by decide +kernel

/-- `return_type='fragment'`: the result consists of `Fragment`s only, and their key list
(ion type, start, end, charge, isotope, loss) is `allKeys`, in order. -/
theorem fragment_keys (env : Env) (a : Annotation) (args : Args) (mc : Option (List Rat)) (out : List Out)
    (hrt : args.returnType = .fragment) (h : fragment env a args mc = .ok out) :
    out = (fragsOf out).map Out.frag ∧
    (fragsOf out).map Frag.key = allKeys (mkJob env a args mc) args.ionTypes.toList := by
  rw [fragsOf_fragment hrt h]
  exact ⟨fragment_frags hrt h, by rw [List.map_map]; exact List.map_id'' (fun _ => rfl) _⟩

/-- **exactly one ion per requested key**: for duplicate-free requested ion types, isotopes and charges (losses are a
set by construction) no key occurs twice, … -/
theorem fragment_keys_nodup (env : Env) (a : Annotation) (args : Args) (mc : Option (List Rat)) (out : List Out)
    (hrt : args.returnType = .fragment) (h : fragment env a args mc = .ok out)
    (hn : 1 ≤ (mkJob env a args mc).annotation.seq.length)
    (hi : args.ionTypes.toList.Nodup) (hiso : args.isotopes.toList.Nodup) (hc : args.charges.toList.Nodup) :
    ((fragsOf out).map Frag.key).Nodup := by
  rw [(fragment_keys env a args mc out hrt h).2]
  exact nodup_allKeys _ _ hn hi hiso hc

example : exArgs.ionTypes.toList.Nodup ∧ exArgs.isotopes.toList.Nodup ∧ exArgs.charges.toList.Nodup ∧
    1 ≤ (mkJob exEnv exPeptide exArgs none).annotation.seq.length := by decide +kernel

/-- … and a key occurs iff it was requested: its ion type is in the request and the span is one of that type's spans
(`n` prefixes for a/b/c, `n` suffixes for x/y/z, the strictly internal spans for internal types, the `n` single
residues for `i`), its isotope and charge are requested, and its loss is applicable to the span's residues. -/
theorem fragment_keys_complete (env : Env) (a : Annotation) (args : Args) (mc : Option (List Rat)) (out : List Out)
    (hrt : args.returnType = .fragment) (h : fragment env a args mc = .ok out)
    (hn : 1 ≤ (mkJob env a args mc).annotation.seq.length) (k : Key) :
    k ∈ (fragsOf out).map Frag.key ↔
      k.ion ∈ args.ionTypes.toList ∧
      SpanOK (alen (mkJob env a args mc).annotation) k.ion k.start k.stop ∧
      k.isotope ∈ args.isotopes.toList ∧
      k.loss ∈ getLosses (slice (mkJob env a args mc).annotation k.start k.stop).seq (lossList args) args.maxLosses ∧
      k.charge ∈ args.charges.toList := by
  rw [(fragment_keys env a args mc out hrt h).2]
  exact mem_allKeys _ _ k hn

/-- the ion types that are silently ignored produce nothing: every returned ion has one of the sixteen types -/
theorem fragment_ions_classified (env : Env) (a : Annotation) (args : Args) (mc : Option (List Rat)) (out : List Out)
    (hrt : args.returnType = .fragment) (h : fragment env a args mc = .ok out) (f : Frag) (hf : f ∈ fragsOf out) :
    Classified f.ion :=
  classified_of_mem_allKeys _ _ _ (mem_fragsOf hrt h hf).1

/-! ## masses: table offset + the components of the ion's own span -/

/-- every returned `Fragment` is the loop body applied to its own key -/
theorem fragment_is_mkFrag (env : Env) (a : Annotation) (args : Args) (mc : Option (List Rat)) (out : List Out)
    (hrt : args.returnType = .fragment) (h : fragment env a args mc = .ok out) (f : Frag) (hf : f ∈ fragsOf out) :
    f = mkFrag (mkJob env a args mc) f.key :=
  (mem_fragsOf hrt h hf).2

/-- **components_sum**: an ion's mass is `round(Σ_{k ∈ [start, end)} component k + base)`, where `base` depends only on
(ion type, charge, isotope, loss) and the tables — so the mass depends only on the ion's own span and key; the neutral
mass is the same with charge 0 and no rounding; m/z is `round(mass / charge)`. -/
theorem components_sum (env : Env) (a : Annotation) (args : Args) (mc : Option (List Rat)) (out : List Out)
    (hrt : args.returnType = .fragment) (h : fragment env a args mc = .ok out) (f : Frag) (hf : f ∈ fragsOf out) :
    let j := mkJob env a args mc
    f.mass = roundOpt (spanSum j.massComponents f.start f.stop + ionBase j f.ion f.charge f.isotope f.loss) args.precision ∧
    f.neutralMass = spanSum j.massComponents f.start f.stop + ionBase j f.ion 0 f.isotope f.loss ∧
    f.mz = roundOpt (if f.charge = 0 then f.mass else f.mass / (f.charge : Rat)) args.precision := by
  intro j
  have e := fragment_is_mkFrag env a args mc out hrt h f hf
  refine ⟨?_, ?_, ?_⟩
  · rw [e]; exact mass_formula j f.key
  · rw [e]; exact neutral_formula j f.key
  · rw [e]; rfl

/-- the component sum is additive in the cut point (prefix sums) … -/
theorem spanSum_additive (comps : List Rat) (s m e : Int) (h0 : 0 ≤ s) (h1 : s ≤ m) (h2 : m ≤ e) :
    spanSum comps s e = spanSum comps s m + spanSum comps m e :=
  spanSum_split comps s m e h1 h2

example : (0 : Int) ≤ 1 ∧ (1 : Int) ≤ 3 ∧ (3 : Int) ≤ 4 := by decide +kernel

/-- … and local: it reads only the components inside the span (a modification changes exactly the ions whose span
contains its residue) -/
theorem spanSum_local (c₁ c₂ : List Rat) (s e : Int) (h0 : 0 ≤ s)
    (h : ∀ i : Nat, s ≤ (i : Int) → (i : Int) < e → c₁[i]? = c₂[i]?) : spanSum c₁ s e = spanSum c₂ s e :=
  spanSum_congr c₁ c₂ s e h

/-! ## the other return types and `Fragmenter` are projections of the same list -/

/-- For each of `mass`, `mz`, `label`, `mass-label`, `mz-label` (and trivially `fragment`): the result is the
`return_type='fragment'` result with every `Fragment` replaced by its own `.mass` / `.mz` / `.label` — same length, same
order, same errors. -/
theorem projections (env : Env) (a : Annotation) (args : Args) (mc : Option (List Rat)) (rt : RT) (hrt : rt ≠ .other) :
    fragment env a { args with returnType := rt } mc =
      (fragment env a { args with returnType := .fragment } mc) >>= fun l => l.mapM (project env.showLoss rt) := by
  cases hc : containsSequenceAmbiguity (mkJob env a args mc).annotation
  · rw [fragment_ok env a { args with returnType := rt } mc hc,
      fragment_ok env a { args with returnType := .fragment } mc hc, mkJob_withRT, mkJob_withRT, allKeys_withRT,
      allKeys_withRT, ExceptList.ok_bind]
    exact (mapM_flatMap_ok _ _ _ _ fun k hk =>
      project_outOf (mkJob env a args mc) rt hrt k (classified_of_mem_allKeys _ _ _ hk)).symm
  · rw [fragment_ambiguous env a { args with returnType := rt } mc hc,
      fragment_ambiguous env a { args with returnType := .fragment } mc hc]
    rfl

/-- an unknown `return_type` appends nothing -/
theorem unknown_return_type (env : Env) (a : Annotation) (args : Args) (mc : Option (List Rat))
    (hrt : args.returnType = .other) (h : containsSequenceAmbiguity (mkJob env a args mc).annotation = false) :
    fragment env a args mc = .ok [] := by
  rw [fragment_ok env a args mc h]
  have hr : (mkJob env a args mc).returnType = .other := hrt
  have : outOf (mkJob env a args mc) = fun _ => [] := by funext k; simp [outOf, hr]
  rw [this]
  simp

/-- `Fragmenter(sequence, mono).fragment(args)` is `fragment(sequence, monoisotopic=mono, args)`: the cached mass
components are the ones `fragment` computes itself. -/
theorem fragmenter_eq_fragment (env : Env) (a : Annotation) (mono : Bool) (args : Args) :
    (Fragmenter.new env a mono).fragment args = fragment env a { args with monoisotopic := mono } none := by
  rfl

/-- The model's `Fragmenter` carries no state besides the annotation, the mass mode and the components: whatever
sequence of requests is issued on ONE object (any order, repeats, two objects interleaved), each answer is what the
stateless `fragment` gives for that request alone — answers do not depend on the history of the object.
(`./check C04` drives the real `Fragmenter` through such sequences: oracle `fragmenter_history`.) -/
theorem fragmenter_history (env : Env) (a : Annotation) (mono : Bool) (reqs : List Args) :
    reqs.map (Fragmenter.new env a mono).fragment =
      reqs.map (fun args => fragment env a { args with monoisotopic := mono } none) :=
  List.map_congr_left (fun args _ => fragmenter_eq_fragment env a mono args)

example : [exArgs, { exArgs with ionTypes := .one .BY }, exArgs].length = 3 := rfl

/-- `Fragment.number` of a returned ion: prefix ions (a, b, c) carry the number of residues counted from the
N-terminus, suffix ions (x, y, z) the number of residues counted from the C-terminus — both equal the ion's own
length —, internal ions the two cut indices, immonium ions the residue index. -/
theorem numbering (env : Env) (a : Annotation) (args : Args) (mc : Option (List Rat)) (out : List Out)
    (hrt : args.returnType = .fragment) (h : fragment env a args mc = .ok out)
    (hn : 1 ≤ (mkJob env a args mc).annotation.seq.length) (f : Frag) (hf : f ∈ fragsOf out) :
    (f.ion.isForward = true → f.number = .ok (.int (f.stop - f.start)) ∧ f.start = 0) ∧
    (f.ion.isBackward = true → f.number = .ok (.int (f.stop - f.start)) ∧ f.stop = alen f.parent) ∧
    (f.ion.isInternal = true → f.number = .ok (.pair f.start f.stop)) ∧
    (f.ion = Ion.I → f.number = .ok (.int f.start) ∧ f.stop = f.start + 1) := by
  obtain ⟨hk, e⟩ := mem_fragsOf hrt h hf
  have hpar : f.parent = (mkJob env a args mc).annotation := by rw [e]; rfl
  exact getNumber_of_spanOK (n := alen f.parent) (hpar ▸ ((mem_allKeys _ _ f.key hn).1 hk).2.1)

/-- the label text: `'+' * charge`, the ion type, the number, `(loss)` unless the loss is 0, `'*' * isotope` -/
theorem label_format (showLoss : Rat → List Char) (f : Frag) (num : Number) (h : f.number = .ok num) :
    f.label showLoss = .ok (List.replicate f.charge.toNat '+' ++ f.ion.name ++ num.text ++
      (if f.loss ≠ 0 then '(' :: showLoss f.loss ++ [')'] else []) ++
      (if f.isotope > 0 then List.replicate f.isotope.toNat '*' else [])) := by
  simp [Frag.label, h, getLabel, rep, bind, Except.bind, pure, Except.pure]

example : getLabel (fun _ => ['-', '1', '8']) Ion.Y 2 (.int 3) (-18) 1 =
    ['+', '+', 'y', '3', '(', '-', '1', '8', ')', '*'] := by decide +kernel

/-! ## each ion carries the modifications that sit on its residues and termini -/

/-- `slice(start, stop)`: the residues `[start, stop)`; the N-terminal mods iff the piece starts at 0; the C-terminal
mods iff it ends at the C-terminus; the residue mods of exactly the residues inside, re-indexed; global isotope labels
(and whatever global fields are left) unchanged. -/
theorem slice_carries (a : Annotation) (s e : Int) :
    (slice a s e).seq = (a.seq.drop s.toNat).take (e.toNat - s.toNat) ∧
    (slice a s e).nterm = (if s > 0 then none else a.nterm) ∧
    (slice a s e).cterm = (if e < alen a then none else a.cterm) ∧
    (slice a s e).isotope = a.isotope ∧ (slice a s e).static = a.static ∧
    (∀ d, a.internal = some d → ∀ (k' : Int) (m : List Mod),
      (∃ d', (slice a s e).internal = some d' ∧ (k', m) ∈ d') ↔ ∃ k, (k, m) ∈ d ∧ s ≤ k ∧ k < e ∧ k' = k - s) ∧
    (a.internal = none → (slice a s e).internal = none) := by
  refine ⟨slice_seq a s e, slice_nterm a s e, slice_cterm a s e, slice_isotope a s e, slice_static a s e,
    fun d hd k' m => mem_slice_internal a s e d hd k' m, ?_⟩
  intro h
  rw [slice_internal, h]; rfl

example : slice exPeptide 1 3 = { seq := ['E', 'P'] } ∧ (slice exPeptide 0 2).nterm = exPeptide.nterm := by decide +kernel

/-- every returned `Fragment` has `sequence = parent.slice(start, end)` (serialised by C01's writer),
`unmod_sequence` = the residues `[start, end)`, `internal = (start ≠ 0 and end ≠ len(parent))`, and the parent is the
working copy of the peptide (labile mods removed, static rules written out). -/
theorem fragment_carries (env : Env) (a : Annotation) (args : Args) (mc : Option (List Rat)) (out : List Out)
    (hrt : args.returnType = .fragment) (h : fragment env a args mc = .ok out) (f : Frag) (hf : f ∈ fragsOf out) :
    f.parent = env.condenseStatic (popLabile a) ∧
    f.sequence = slice f.parent f.start f.stop ∧
    f.unmodSequence = (f.parent.seq.drop f.start.toNat).take (f.stop.toNat - f.start.toNat) ∧
    f.internal = (decide (f.start ≠ 0) && decide (f.stop ≠ alen f.parent)) ∧
    f.monoisotopic = args.monoisotopic := by
  have e := fragment_is_mkFrag env a args mc out hrt h f hf
  have hp : f.parent = (mkJob env a args mc).annotation := by rw [e]; rfl
  have hs : f.sequence = slice (mkJob env a args mc).annotation f.start f.stop := by rw [e]; rfl
  have hu : f.unmodSequence = (slice (mkJob env a args mc).annotation f.start f.stop).seq := by rw [e]; rfl
  have hi : f.internal = (decide (f.start ≠ 0) && decide (f.stop ≠ alen (mkJob env a args mc).annotation)) := by
    rw [e]; rfl
  have hm : f.monoisotopic = args.monoisotopic := by rw [e]; rfl
  refine ⟨hp, by rw [hs, hp], ?_, by rw [hi, hp], hm⟩
  rw [hu, slice_seq, hp]; rfl

end C04
