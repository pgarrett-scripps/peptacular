import PeptVerif.Generated.SpansPy
import PeptVerif.Lemmas.SpansGen
/-!
# C06 — the mechanically translated span builders equal the hand-written model

GENERATED by harness/translate_spans.py: this file is assembled from the hand-written proof scripts in
harness/c06gen_template.lean, one theorem per function of `spans.py` that the translator can read
(`Generated/SpansPy.lean`, namespace `GenSpans`, regenerated from /repo's current source). Through these equalities
every theorem of `Props/C06.lean` about `Spans.buildX` holds for the definition read off the source; an edit of the
source (`<` for `<=`, a changed `+1`, a dropped `min`, a swapped default) changes the generated definition and breaks
the theorem that names the function. A function outside the translator's subset has no theorem here (see the comment
left in its place) and is tied by correspondence only.
-/
namespace GenSpans

theorem build_non_enzymatic_spans_eq : build_non_enzymatic_spans = Spans.buildNonEnzymatic := rfl

theorem build_left_semi_spans_eq : build_left_semi_spans = Spans.buildLeftSemi := rfl

theorem build_right_semi_spans_eq : build_right_semi_spans = Spans.buildRightSemi := rfl

-- the source loops over `enumerate` and the slice `[i+1 : i+mc+2]`, the hand model recurses over suffixes;
-- for every non-negative `missed_cleavages`
theorem build_enzymatic_spans_eq (n : Int) (sites : List Int) (mc : Nat) (lo hi : Option Int) :
    build_enzymatic_spans n sites (mc : Int) lo hi = Spans.buildEnzymatic n sites mc lo hi := by
  unfold Spans.buildEnzymatic
  rw [Spans.enzGo_eq_suffixRec, ← Spans.flatMap_zipIdx_pySlice _ mc []]
  rfl

-- the two grouped builders it calls are hand-modelled
theorem build_semi_spans_eq : build_semi_spans = Spans.buildSemi := rfl

theorem build_spans_eq (n : Int) (sites : List Int) (mc : Nat) (lo hi : Option Int) (semi : Bool) :
    build_spans n sites (mc : Int) lo hi semi = Spans.buildSpans n sites mc lo hi semi := by
  unfold build_spans
  simp only [build_non_enzymatic_spans_eq, build_enzymatic_spans_eq, build_semi_spans_eq]
  rfl

end GenSpans
