import PeptVerif.Props.C13
/-!
# C13: the stopping rule of `_apply_variable_mods_rec` in every mode

`variable_skip_exact` pins the result list in mode skip; for append / overwrite the property only demands the confinement
clauses (`variable_changes_confined`, `variable_no_form_twice`). Here is the bound the recursion enforces with
`count_modified_residues() == max_mod_count`, `max_mod_count = max_mods + starting count`:
in **every** mode a returned form has at most `max_mods` modified residues (dict keys) more than the input. Re-modifying a
residue that is already modified (append / overwrite) adds no key and therefore is not counted, exactly as the quantifier
of the property says.
-/
namespace Pept
namespace ModBuilder

/-- invariant of the recursion: a form that starts at or below the bound never gets above it -/
theorem varRec_count_le (m : ModMap) (mode : Mode) (mc : Int) :
    ∀ (rem idx : Nat) (a x : Annotation), x ∈ varRec m mode mc rem idx a →
      (countModified a : Int) ≤ mc → (countModified x : Int) ≤ mc := by
  intro rem idx a x hx
  exact (varRec_sound m mode mc rem idx a x hx).2.1

/-- C13 (variable, **every mode**), the `max_mods` bound: every returned form has at most `max_mods` modified residues
more than the input (pre-existing modified residues are not counted, and neither is re-modifying one of them in mode
append / overwrite; the termini never count). For every annotation, every rule set, every `max_mods ≥ 0`; no hypothesis
about the site lists. -/
theorem variable_max_mods_bound (a : Annotation) (internal : Option (List (Rule VarIn))) (maxMods : Int)
    (nterm cterm : TermIn VarIn) (mode : Mode) (es : List Int) (h0 : 0 ≤ maxMods)
    (x : Annotation) (hx : x ∈ applyVariable a internal maxMods nterm cterm mode es) :
    (countModified x : Int) ≤ (countModified a : Int) + maxMods := by
  rw [applyVariable_eq, applyVariableCore_eq] at hx
  obtain ⟨b, hb, hx⟩ := List.mem_flatMap.mp hx
  obtain ⟨vn, vc, rfl, -, -⟩ := mem_variantBases hb
  -- a base differs from `a` in its termini only, which `countModified` does not read
  have : (countModified x : Int) ≤ maxMods + (countModified a : Int) :=
    variableBuilder_count_le { a with nterm := vn, cterm := vc } _ _ mode h0 x hx
  omega

/-- … and with `max_mods = 0` no returned form has more modified residues (dict keys) than the input, in every mode. -/
theorem variable_max_mods_zero (a : Annotation) (internal : Option (List (Rule VarIn)))
    (nterm cterm : TermIn VarIn) (mode : Mode) (es : List Int)
    (x : Annotation) (hx : x ∈ applyVariable a internal 0 nterm cterm mode es) :
    (countModified x : Int) ≤ (countModified a : Int) := by
  have := variable_max_mods_bound a internal 0 nterm cterm mode es (by omega) x hx
  omega

/-- non-vacuity: `apply_variable_mods('P[1]EPP', {'P': [['a'], ['b']]}, 1, nterm_mods='A', mode='append')` — 30 forms, the
input has one modified residue, every form has at most two, some form has two, and some form re-modifies residue 0
(`P[1][a]`) *and* modifies a second residue (the re-modification is not counted). -/
example :
    let a : Annotation := { seq := "PEPP".toList, internal := some [(0, [⟨.int 1, 1⟩])] }
    let internal : Option (List (Rule VarIn)) :=
      some [([0, 2, 3], .nested [.many [⟨.str "a".toList, 1⟩], .many [⟨.str "b".toList, 1⟩]])]
    let r := applyVariable a internal 1 (.direct (.one ⟨.str "A".toList, 1⟩)) .none .append [-1, 0, 1, 2, 3]
    countModified a = 1 ∧ r.all (fun x => countModified x ≤ 2) = true ∧ r.any (fun x => countModified x = 2) = true ∧
    r.any (fun x => countModified x = 2 ∧ modsAt x 0 = some [⟨.int 1, 1⟩, ⟨.str "a".toList, 1⟩]) = true := by decide

end ModBuilder
end Pept
