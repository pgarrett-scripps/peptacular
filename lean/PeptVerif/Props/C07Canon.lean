import PeptVerif.Props.C11Canon
import PeptVerif.Props.C16
import PeptVerif.Props.C07
import PeptVerif.Model.C07Strings
import PeptVerif.Lemmas.ReorderSearch
/-!
# C07 — re-parse, string return types and relocation as theorems

Uses C01's `canon` / `parse_serialize` / `serialize` (Spec/ProForma.lean, Props/C01.lean, Model/Serialize.lean),
C16's search model `Search.findIndices` / `findSubsequenceIndices` (Model/Search.lean, Props/C16.lean; through
`slice_found_at_offset`, Lemmas/ReorderSearch.lean), C20's model of `==` (`annEq`). `normalize` (Lemmas/ReorderCanon.lean) is the unobservable normal form of
the residue-modification dict (`{}` ↦ `None`, entries in key order); for a slice it only removes `{}`.
-/
namespace Pept.Reorder.C07
open Pept Pept.Search

/-- every digested piece for a non-empty span whose ends are not strictly inside an interval: its string parses back to
the piece (literally: to its normal form, which the library's `==` identifies with the piece), for both `include_plus`
settings -/
theorem piece_reparse (plus : Plus) (a : Annotation) (s e : Nat) (hs : s < e) (he : e ≤ a.seq.length)
    (hca : canon a = true) (hc : CutsOK a.intervals a.seq.length [s, e]) :
    parse true (serialize plus (slice a (s : Int) (e : Int))) = .ok (.single (normalize (slice a (s : Int) (e : Int)))) ∧
    annEq (normalize (slice a (s : Int) (e : Int))) (slice a (s : Int) (e : Int)) = true :=
  C11.slice_reparse plus a s e hs he hca hc

/-- `'str'` is `serialize` mapped over `'annotation'` (the fast path writes the bare residue string, which is what the
serializer writes for an unmodified annotation) -/
theorem strings_eq_map_serialize (plus : Plus) (a : Annotation) (spans : List Spans.Span) :
    digestStrings plus a spans = (digestPieces a spans).map (serialize plus) := by
  rw [digestStrings_eq, digestPieces_eq, List.map_map]
  rfl

/-- `'str-span'` and `'annotation-span'` pair the same peptides with the same spans -/
theorem stringSpans_eq (plus : Plus) (a : Annotation) (spans : List Spans.Span) :
    digestStringSpans plus a spans = (digestPieceSpans a spans).map (fun p => (serialize plus p.1, p.2)) ∧
    (digestPieceSpans a spans).map (·.1) = digestPieces a spans ∧
    (digestPieceSpans a spans).map (·.2) = spans ∧
    (digestStringSpans plus a spans).map (·.1) = digestStrings plus a spans := by
  rw [digestStringSpans_eq, digestPieceSpans_eq, digestPieces_eq, digestStrings_eq]
  simp only [List.map_map]
  exact ⟨rfl, rfl, List.map_id _, rfl⟩

/-- all five return types through the general path: each is a projection of `spans.map (slice a)` -/
theorem return_types_agree (plus : Plus) (a : Annotation) (spans : List Spans.Span) :
    digestPieces a spans = spans.map (fun sp => slice a sp.1 sp.2.1) ∧
    digestStrings plus a spans = spans.map (fun sp => serialize plus (slice a sp.1 sp.2.1)) :=
  ⟨digestPieces_eq a spans, digestStrings_eq plus a spans⟩

/-- the piece (as an annotation) is found in the protein at its offset `s` by the subsequence search -/
theorem relocate_annotation (a : Annotation) (s e : Nat) (hs : s < e) (he : e ≤ a.seq.length) :
    s ∈ findSubsequenceIndices a (slice a (s : Int) (e : Int)) false :=
  slice_found_at_offset a s e hs he _ (annEq_refl _)

/-- **the peptide string is found again at offset `s`**: what `find_subsequence_indices(protein, peptide_string)` does —
parse the string (C01), then search (C16) — returns a list containing `s` -/
theorem relocate (plus : Plus) (a : Annotation) (s e : Nat) (hs : s < e) (he : e ≤ a.seq.length)
    (hca : canon a = true) (hc : CutsOK a.intervals a.seq.length [s, e]) :
    ∃ q, parse true (serialize plus (slice a (s : Int) (e : Int))) = .ok (.single q) ∧
      s ∈ findSubsequenceIndices a q false := by
  obtain ⟨hp, heq⟩ := piece_reparse plus a s e hs he hca hc
  exact ⟨_, hp, slice_found_at_offset a s e hs he _ (annEq_bequiv.symm _ _ heq)⟩

example : canon C11.cdemo = true := by decide +kernel
example : digestStrings (constPlus false) C11.cdemo [(0, 3, 0), (3, 7, 0)] =
    ["[Acetyl]-P[Phospho](EP)[1]".toList, "(?T[16]^2I)DE-[Amidated]".toList] := by decide +kernel
example : findSubsequenceIndices C11.cdemo (slice C11.cdemo 3 7) false = [3] := by decide +kernel

end Pept.Reorder.C07
