import PeptVerif.Lemmas.ModBuilder
import PeptVerif.Lemmas.ModBuilderRegex
/-!
# C13 — static and variable modification builders produce exactly the intended forms

The left-hand sides are the models of `apply_static_mods` / `apply_variable_mods`
(`Model/ModBuilder.lean`, the code after repair c2a4986); `StaticSpec`, `staticTable`, `staticOffers`, `specVariable`,
`specForms` are the specification (`Spec/ModBuilder.lean`). Rules enter as site lists; the only thing assumed about a
site list is what the regex matcher guarantees: no position twice (`SitesOK`).
-/
namespace Pept
namespace ModBuilder

/-- `SitesOK` for a terminal argument; `es` are the sites of the regex `''` used for a bare value -/
def TermSitesOK {α : Type} (es : List Int) (t : TermIn α) : Prop :=
  es.Nodup ∧ ∀ rules, t = .dict rules → SitesOK rules

/-- C13 (static): the mods at every index `i` (any integer) are the table entry for
(matched by which rules?, pre-modified?, mode); the same table governs the two termini (position 0 resp. `n-1` has to be
among the sites of the terminal rule); every other field, the residues included, is unchanged.
For every annotation, every rule set, all three modes. -/
theorem static_spec (a : Annotation) (internal : Option (List (Rule ModsIn))) (nterm cterm : TermIn ModsIn)
    (mode : Mode) (es : List Int) :
    StaticSpec a (applyStatic a internal nterm cterm mode es)
      (staticInternalRules internal) (staticTermRules es nterm) (staticTermRules es cterm) mode := by
  rw [applyStatic_eq]
  exact applyStaticCore_spec ..

/-- C13 (static): a residue that no (non-empty) rule matches is untouched, in every mode. -/
theorem static_unmatched_untouched (a : Annotation) (internal : Option (List (Rule ModsIn)))
    (nterm cterm : TermIn ModsIn) (mode : Mode) (es : List Int) (i : Int)
    (h : staticOffers (staticInternalRules internal) i = []) :
    modsAt (applyStatic a internal nterm cterm mode es) i = modsAt a i := by
  rw [(static_spec a internal nterm cterm mode es).residues i, h]
  simp [staticTable]

/-- C13 (static): a matched residue that was unmodified carries exactly the offered mods, in every mode. -/
theorem static_matched_unmodified (a : Annotation) (internal : Option (List (Rule ModsIn)))
    (nterm cterm : TermIn ModsIn) (mode : Mode) (es : List Int) (i : Int)
    (h : staticOffers (staticInternalRules internal) i ≠ []) (hu : modsAt a i = none) :
    modsAt (applyStatic a internal nterm cterm mode es) i
      = some (staticOffers (staticInternalRules internal) i).flatten := by
  rw [(static_spec a internal nterm cterm mode es).residues i, hu]
  simp [staticTable, h]

/-- C13 (static): applying the same rules a second time in mode skip changes nothing more. -/
theorem static_skip_idempotent (a : Annotation) (internal : Option (List (Rule ModsIn))) (nterm cterm : TermIn ModsIn)
    (es : List Int) :
    applyStatic (applyStatic a internal nterm cterm .skip es) internal nterm cterm .skip es
      = applyStatic a internal nterm cterm .skip es := by
  rw [applyStatic_eq, applyStatic_eq]
  exact applyStaticCore_skip_idem ..

/-- non-vacuity: `apply_static_mods('PEP[1]', {'P': ['phospho'], 'PE': [3]}, nterm_mods='acetyl', mode='append')` -/
example :
    let a : Annotation := { seq := "PEP".toList, internal := some [(2, [⟨.int 1, 1⟩])] }
    let r := applyStatic a (some [([0, 2], .many [⟨.str "phospho".toList, 1⟩]), ([0], .many [⟨.int 3, 1⟩])])
      (.direct (.one ⟨.str "acetyl".toList, 1⟩)) .none .append [-1, 0, 1, 2]
    modsAt r 0 = some [⟨.str "phospho".toList, 1⟩, ⟨.int 3, 1⟩] ∧
    modsAt r 2 = some [⟨.int 1, 1⟩, ⟨.str "phospho".toList, 1⟩] ∧ modsAt r 1 = none ∧
    r.nterm = some [⟨.str "acetyl".toList, 1⟩] := by decide

theorem applyVariable_eq (a : Annotation) (internal : Option (List (Rule VarIn))) (maxMods : Int)
    (nterm cterm : TermIn VarIn) (mode : Mode) (es : List Int) :
    applyVariable a internal maxMods nterm cterm mode es
      = applyVariableCore a (varInternalRules internal) (varTermRules es nterm) (varTermRules es cterm) maxMods mode := by
  cases internal <;> rfl

/-- C13 (variable, mode skip), exactness: the returned list is a permutation of the explicit enumeration
`specForms` = terminal variants × { `T ⊆` unmodified matched residues, `|T| ≤ max_mods`, one offered group per site of `T` }
– every form of the specification as often as the specification lists it, and nothing else.
For every annotation (any pre-existing mods), any rule sets, every `max_mods ≥ 0`. -/
theorem variable_skip_exact (a : Annotation) (internal : Option (List (Rule VarIn))) (maxMods : Int)
    (nterm cterm : TermIn VarIn) (es : List Int) (h0 : 0 ≤ maxMods)
    (hi : SitesOK (internal.getD [])) (hn : TermSitesOK es nterm) (hc : TermSitesOK es cterm) :
    (applyVariable a internal maxMods nterm cterm .skip es).Perm
      (specVariable a internal maxMods nterm cterm .skip es) := by
  rw [applyVariable_eq]
  have : specVariable a internal maxMods nterm cterm .skip es
      = specForms a (varInternalRules internal) (varTermRules es nterm) (varTermRules es cterm) maxMods := by
    cases internal <;> rfl
  rw [this]
  refine applyVariableCore_skip_perm a _ _ _ maxMods h0 ?_ ?_ ?_
  · exact (goodRules_varRules _ hi).sitesOK
  · exact goodRules_varTermRules es hn.1 nterm hn.2
  · exact goodRules_varTermRules es hc.1 cterm hc.2

/-- What the enumeration `specForms` contains, as a set comprehension (a statement about the specification alone, so that
it can be read without trusting the enumeration code): `x` is listed iff there are a terminal variant `(n, c)`, a sub-list
`S` of the eligible sites of that variant — positions `0 ≤ i < len`, unmodified, with a non-empty list `offered i` — with
`|S| ≤ max_mods`, and a choice `T` of one offered group per site of `S`, such that `x` is the variant with exactly the
entries `T` added to its dict. -/
theorem mem_specForms_iff (a : Annotation) (internal nt ct : List (Rule (List Group))) (maxMods : Int) (x : Annotation) :
    x ∈ specForms a internal nt ct maxMods ↔
      ∃ n ∈ nVariants a nt, ∃ c ∈ cVariants a ct, ∃ S T,
        S.Sublist (eligible (withTerm a n c) internal) ∧ (S.length : Int) ≤ maxMods ∧
        List.Forall₂ (fun t s => t.1 = s.1 ∧ t.2 ∈ s.2) T S ∧ x = withChoice (withTerm a n c) T := by
  unfold specForms
  simp only [List.mem_flatMap, mem_internalForms]

/-- … and which sites are eligible. -/
theorem mem_eligible_iff (a : Annotation) (rules : List (Rule (List Group))) (i : Int) (gs : List Group) :
    (i, gs) ∈ eligible a rules ↔
      0 ≤ i ∧ i < (a.seq.length : Int) ∧ modsAt a i = none ∧ gs = offered rules i ∧ gs ≠ [] := by
  unfold eligible
  simp only [List.mem_filterMap, List.mem_range]
  constructor
  · rintro ⟨k, hk, h⟩
    split at h
    · rename_i hc
      simp only [Option.some.injEq, Prod.mk.injEq] at h
      obtain ⟨rfl, rfl⟩ := h
      exact ⟨by omega, by omega, hc.1, rfl, hc.2⟩
    · simp at h
  · rintro ⟨h0, h1, h2, rfl, h4⟩
    refine ⟨i.toNat, by omega, ?_⟩
    have : ((i.toNat : Nat) : Int) = i := by omega
    rw [this]
    simp [h2, h4]

/-- C13 (variable): the input form is among the results — every mode, every `max_mods` (negative ones too). -/
theorem variable_input_included (a : Annotation) (internal : Option (List (Rule VarIn))) (maxMods : Int)
    (nterm cterm : TermIn VarIn) (mode : Mode) (es : List Int) :
    a ∈ applyVariable a internal maxMods nterm cterm mode es := by
  rw [applyVariable_eq, applyVariableCore_eq]
  exact List.mem_flatMap.mpr ⟨a, self_mem_variantBases .., varRec_mem_self ..⟩

/-- C13 (variable, every mode – the clauses demanded for append / overwrite): each returned form keeps the residues and
every field other than terminal / residue mods; a residue's mods are either those of the input or, at an index `0 ≤ j < n`
matched by a rule, the value `newVal` built from one offered group (in mode skip only where the residue was unmodified);
a terminus is either as in the input or as `apply_static_mods` sets it for one offered terminal group. -/
theorem variable_changes_confined (a : Annotation) (internal : Option (List (Rule VarIn))) (maxMods : Int)
    (nterm cterm : TermIn VarIn) (mode : Mode) (es : List Int) (hi : SitesOK (internal.getD []))
    (x : Annotation) (hx : x ∈ applyVariable a internal maxMods nterm cterm mode es) :
    FrameT x a ∧
    (∀ j : Int, modsAt x j = modsAt a j ∨
      (0 ≤ j ∧ j < (a.seq.length : Int) ∧ ∃ g ∈ offered (varInternalRules internal) j,
        ¬(mode = .skip ∧ (modsAt a j).isSome = true) ∧ modsAt x j = some (newVal mode (modsAt a j) g))) ∧
    (x.nterm = a.nterm ∨ ∃ p ∈ termPairs (varTermRules es nterm),
      x.nterm = staticTable mode a.nterm (staticOffers [p] 0)) ∧
    (x.cterm = a.cterm ∨ ∃ p ∈ termPairs (varTermRules es cterm),
      x.cterm = staticTable mode a.cterm (staticOffers [p] ((a.seq.length : Int) - 1))) := by
  rw [applyVariable_eq, applyVariableCore_eq] at hx
  obtain ⟨b, hb, hx⟩ := List.mem_flatMap.mp hx
  obtain ⟨vn, vc, rfl, h1, h2⟩ := mem_variantBases hb
  obtain ⟨hf, hj⟩ := variableBuilder_sound _ _ maxMods mode ((goodRules_varRules _ hi).sitesOK) x hx
  refine ⟨hf.toT.trans rfl, hj, ?_, ?_⟩
  · rw [hf.nterm]; exact h1
  · rw [hf.cterm]; exact h2

/-- C13 (variable, every mode), "no form twice": if at every matched residue the states it can take (the one it has, and
`newVal` for each offered group) are pairwise different (`SiteOK`), and the groups offered to the N-terminus are pairwise
different, and so are those offered to the C-terminus, then no form is returned twice.
(A terminal group that would leave the terminus as it is – as a multiset of mods – is dropped by the code itself.) -/
theorem variable_no_form_twice (a : Annotation) (internal : Option (List (Rule VarIn))) (maxMods : Int)
    (nterm cterm : TermIn VarIn) (mode : Mode) (es : List Int)
    (hi : SitesOK (internal.getD [])) (hn : TermSitesOK es nterm) (hc : TermSitesOK es cterm)
    (hok : ∀ j : Int, offered (varInternalRules internal) j ≠ [] →
      SiteOK mode (modsAt a j) (offered (varInternalRules internal) j))
    (hdn : (termOffered (varTermRules es nterm) 0).Nodup)
    (hdc : (termOffered (varTermRules es cterm) ((a.seq.length : Int) - 1)).Nodup) :
    (applyVariable a internal maxMods nterm cterm mode es).Nodup := by
  rw [applyVariable_eq]
  refine applyVariableCore_nodup a _ _ _ maxMods mode ((goodRules_varRules _ hi).sitesOK) hok ?_
  exact variantBases_keys_nodup mode a _ _
    (termVals_nodup mode a.nterm _ 0 (goodRules_varTermRules es hn.1 nterm hn.2) hdn)
    (termVals_nodup mode a.cterm _ _ (goodRules_varTermRules es hc.1 cterm hc.2) hdc)

/-- C13 (variable, mode skip), "exactly once": when the groups offered at each residue are pairwise different, and so
are the groups offered to the N-terminus and those offered to the C-terminus, no form is returned twice. -/
theorem variable_skip_nodup (a : Annotation) (internal : Option (List (Rule VarIn))) (maxMods : Int)
    (nterm cterm : TermIn VarIn) (es : List Int)
    (hi : SitesOK (internal.getD [])) (hn : TermSitesOK es nterm) (hc : TermSitesOK es cterm)
    (hd : ∀ j : Int, (offered (varInternalRules internal) j).Nodup)
    (hdn : (termOffered (varTermRules es nterm) 0).Nodup)
    (hdc : (termOffered (varTermRules es cterm) ((a.seq.length : Int) - 1)).Nodup) :
    (applyVariable a internal maxMods nterm cterm .skip es).Nodup :=
  variable_no_form_twice a internal maxMods nterm cterm .skip es hi hn hc
    (fun j _ => siteOK_skip _ _ (hd j)) hdn hdc

/-- `SiteOK` in mode append: the offered groups are pairwise different (they are never empty after
`remove_empty_list_of_list_of_mods`). -/
theorem siteOK_append_of_nodup (a : Annotation) (internal : Option (List (Rule VarIn))) (hi : SitesOK (internal.getD []))
    (j : Int) (hd : (offered (varInternalRules internal) j).Nodup) :
    SiteOK .append (modsAt a j) (offered (varInternalRules internal) j) := by
  refine siteOK_append _ _ hd ?_
  intro hmem
  unfold offered at hmem
  obtain ⟨r, hr, hg⟩ := List.mem_flatMap.mp hmem
  split at hg
  · exact (goodRules_varRules _ hi r hr).2 _ hg rfl
  · cases hg

/-- `SiteOK` in mode overwrite: the offered groups are pairwise different and none equals the mods already there. -/
theorem siteOK_overwrite_of_nodup (a : Annotation) (internal : Option (List (Rule VarIn)))
    (j : Int) (hd : (offered (varInternalRules internal) j).Nodup)
    (hne : ∀ o, modsAt a j = some o → o ∉ offered (varInternalRules internal) j) :
    SiteOK .overwrite (modsAt a j) (offered (varInternalRules internal) j) :=
  siteOK_overwrite _ _ hd hne

/-- C13 (variable, mode append), no form twice — with the hypotheses spelled out: pairwise different offered groups at
every residue and at each terminus. -/
theorem variable_append_no_form_twice (a : Annotation) (internal : Option (List (Rule VarIn))) (maxMods : Int)
    (nterm cterm : TermIn VarIn) (es : List Int)
    (hi : SitesOK (internal.getD [])) (hn : TermSitesOK es nterm) (hc : TermSitesOK es cterm)
    (hd : ∀ j : Int, (offered (varInternalRules internal) j).Nodup)
    (hdn : (termOffered (varTermRules es nterm) 0).Nodup)
    (hdc : (termOffered (varTermRules es cterm) ((a.seq.length : Int) - 1)).Nodup) :
    (applyVariable a internal maxMods nterm cterm .append es).Nodup :=
  variable_no_form_twice a internal maxMods nterm cterm .append es hi hn hc
    (fun j _ => siteOK_append_of_nodup a internal hi j (hd j)) hdn hdc

/-- C13 (variable, mode overwrite), no form twice: as for append, and no offered group equals the mods already on a
residue it is offered to. -/
theorem variable_overwrite_no_form_twice (a : Annotation) (internal : Option (List (Rule VarIn))) (maxMods : Int)
    (nterm cterm : TermIn VarIn) (es : List Int)
    (hi : SitesOK (internal.getD [])) (hn : TermSitesOK es nterm) (hc : TermSitesOK es cterm)
    (hd : ∀ j : Int, (offered (varInternalRules internal) j).Nodup)
    (hne : ∀ (j : Int) o, modsAt a j = some o → o ∉ offered (varInternalRules internal) j)
    (hdn : (termOffered (varTermRules es nterm) 0).Nodup)
    (hdc : (termOffered (varTermRules es cterm) ((a.seq.length : Int) - 1)).Nodup) :
    (applyVariable a internal maxMods nterm cterm .overwrite es).Nodup :=
  variable_no_form_twice a internal maxMods nterm cterm .overwrite es hi hn hc
    (fun j _ => siteOK_overwrite_of_nodup a internal j (hd j) (hne j)) hdn hdc

/-- non-vacuity for the two modes: `apply_variable_mods('P[1]EP', {'P': [['a'], ['b']]}, 1, nterm_mods='A', mode=…)` -/
example :
    let a : Annotation := { seq := "PEP".toList, internal := some [(0, [⟨.int 1, 1⟩])] }
    let internal : Option (List (Rule VarIn)) :=
      some [([0, 2], .nested [.many [⟨.str "a".toList, 1⟩], .many [⟨.str "b".toList, 1⟩]])]
    (applyVariable a internal 1 (.direct (.one ⟨.str "A".toList, 1⟩)) .none .append [-1, 0, 1, 2]).length = 18 ∧
    (applyVariable a internal 1 (.direct (.one ⟨.str "A".toList, 1⟩)) .none .overwrite [-1, 0, 1, 2]).Nodup ∧
    (∀ j ∈ [0, 1, 2], (offered (varInternalRules internal) j).Nodup) := by decide

/-! ## rules given as regex patterns (the RegexLite subset)

`modSites p s` is the model of `get_regex_match_indices(s, p, offset=-1)` for patterns built from literals / classes
(`K`, `[ST]`, sequences `P[ST]`), `(?<=[..])`, `(?=[..])`, `(?=[^..])`, `(?![..])` and for the empty pattern `''`
(`Model/ModBuilderRegex.lean`, tied to the implementation by correspondence). With the matcher inside the model the
hypotheses about site lists are theorems, and the statements above hold end to end for rules given as such patterns.
A regex outside the subset enters as the site list computed by the implementation (`Target.sites`), and only for
those the hypothesis "no position twice" remains. -/

open RegexLite in
/-- the match ranges (`get_regex_match_range`): one per start position at most, in increasing order of the start, each of
the length of the pattern (its number of consuming items) and inside the text -/
theorem pattern_ranges_ok (p : Pattern) (s : List Char) :
    (matchRanges p s).Pairwise (fun r r' => r.1 < r'.1) ∧
    ∀ r ∈ matchRanges p s, r.2 = r.1 + consumeCount p ∧ r.2 ≤ s.length := by
  refine ⟨rangesGo_sorted p 0 [] s, fun r hr => ?_⟩
  have := rangesGo_bounds p 0 [] s r hr
  omega

open RegexLite in
/-- the two site-list hypotheses, for every pattern of the subset and every text: no position twice (the list is even
strictly increasing), and every position is a residue index `< n` (`-1` can only come from an empty match at the very
start, as for `''`; a consuming pattern yields indices `0 … n-1` only) -/
theorem pattern_sites_ok (p : Pattern) (s : List Char) :
    (modSites p s).Nodup ∧ (modSites p s).Pairwise (· < ·) ∧
    ∀ x ∈ modSites p s, -1 ≤ x ∧ x < (s.length : Int) ∧ (consumeCount p ≠ 0 → 0 ≤ x) :=
  ⟨modSites_nodup p s, modSites_sorted p s, modSites_bounds p s⟩

/-- what remains to be assumed: targets that are site lists (regexes outside the subset) list no position twice -/
def TargetsOK {α : Type} (rules : List (Target × α)) : Prop := ∀ r ∈ rules, ∀ l, r.1 = .sites l → l.Nodup

def TermTargetsOK {α : Type} : TermT α → Prop
  | .dict rules => TargetsOK rules
  | _ => True

theorem sitesOK_resolve {α : Type} (s : List Char) (internal : Option (List (Target × α)))
    (h : TargetsOK (internal.getD [])) : SitesOK ((internal.map (resolveRules s)).getD []) := by
  cases internal with
  | none => intro r hr; cases hr
  | some rules => exact resolveRules_sitesOK s rules h

theorem termSitesOK_resolve {α : Type} (s : List Char) (t : TermT α) (h : TermTargetsOK t) :
    TermSitesOK (modSites [] s) (resolveTerm s t) := by
  refine ⟨modSites_nodup [] s, fun rules hr => ?_⟩
  cases t with
  | none => cases hr
  | direct v => cases hr
  | dict rs =>
    simp only [resolveTerm, TermIn.dict.injEq] at hr
    subst hr
    exact resolveRules_sitesOK s rs h

/-- C13 (static), end to end for pattern rules: the table holds with the rule dicts obtained by matching the patterns. -/
theorem static_spec_patterns (a : Annotation) (internal : Option (List (Target × ModsIn))) (nterm cterm : TermT ModsIn)
    (mode : Mode) :
    StaticSpec a (applyStaticPat a internal nterm cterm mode)
      (staticInternalRules (internal.map (resolveRules a.seq)))
      (staticTermRules (modSites [] a.seq) (resolveTerm a.seq nterm))
      (staticTermRules (modSites [] a.seq) (resolveTerm a.seq cterm)) mode :=
  static_spec ..

open RegexLite in
/-- C13 (static), one rule whose pattern addresses one residue with look-around conditions — `S(?=P)`, `(?<=K)P`,
`(?<=[KR])[ST](?!P)`: `pre`, `post` are the look-around items before / after the consuming class. Exactly the residues
`k` with `oneHolds` (class contains the residue, every look-around item holds for its neighbours) are modified, according to
the mode: an unmodified one receives `m`, a modified one keeps its mods (skip), gets `m` appended (append) or is replaced by
`m` (overwrite) — that is `newVal`; every other index, both termini and all other fields are untouched. -/
theorem static_residue_rule (a : Annotation) (pre post : Pattern) (cls : List Char) (m : List Mod) (mode : Mode)
    (hpre : ∀ it ∈ pre, it.zeroWidth = true) (hpost : ∀ it ∈ post, it.zeroWidth = true) (hm : m ≠ []) :
    let r := applyStaticPat a (some [(.pat (pre ++ .consume cls :: post), .many m)]) .none .none mode
    (∀ (k : Nat) (h : k < a.seq.length),
        oneHolds pre cls post (if k = 0 then none else a.seq[k - 1]?) a.seq[k] a.seq[k + 1]? = true →
        modsAt r (k : Int) = some (newVal mode (modsAt a (k : Int)) m)) ∧
    (∀ i : Int, ¬ (∃ k : Nat, ∃ h : k < a.seq.length, i = (k : Int) ∧
        oneHolds pre cls post (if k = 0 then none else a.seq[k - 1]?) a.seq[k] a.seq[k + 1]? = true) →
        modsAt r i = modsAt a i) ∧
    r.nterm = a.nterm ∧ r.cterm = a.cterm ∧ FrameT r a := by
  intro r
  obtain ⟨hr, hn, hc, hf⟩ := applyStatic_one_rule a (modSites (pre ++ .consume cls :: post) a.seq) (modSites_nodup _ _)
    m hm mode (modSites [] a.seq)
  refine ⟨fun k hk hh => ?_, fun i hno => ?_, hn, hc, hf⟩
  · exact (hr k).trans (if_pos ((mem_modSites_one pre post cls hpre hpost a.seq k).mpr ⟨k, hk, rfl, hh⟩))
  · exact (hr i).trans (if_neg fun h => hno ((mem_modSites_one pre post cls hpre hpost a.seq i).mp h))

/-- C13 (static), a plain residue or class rule `{'K': m}`, `{'[ST]': m}`: `apply_static_mods` modifies exactly the
residues of the class (according to the mode) and nothing else. -/
theorem static_class_rule (a : Annotation) (cls : List Char) (m : List Mod) (mode : Mode) (hm : m ≠ []) :
    let r := applyStaticPat a (some [(.pat [.consume cls], .many m)]) .none .none mode
    (∀ (k : Nat) (h : k < a.seq.length), cls.contains a.seq[k] = true →
        modsAt r (k : Int) = some (newVal mode (modsAt a (k : Int)) m)) ∧
    (∀ i : Int, ¬ (∃ k : Nat, ∃ h : k < a.seq.length, i = (k : Int) ∧ cls.contains a.seq[k] = true) →
        modsAt r i = modsAt a i) ∧
    r.nterm = a.nterm ∧ r.cterm = a.cterm ∧ FrameT r a := by
  simpa only [oneHolds_nil, List.nil_append] using
    static_residue_rule a [] [] cls m mode (fun _ h => nomatch h) (fun _ h => nomatch h) hm

/-- non-vacuity: `apply_static_mods('KPSPT', {'[ST](?=P)': 'x'})` and `{'P': 'x'}` inside the model -/
example :
    let a : Annotation := { seq := "KPSPT".toList }
    let x : List Mod := [⟨.str "x".toList, 1⟩]
    modSites [.consume ['S', 'T'], .ahead ['P']] a.seq = [2] ∧ modSites [.consume ['P']] a.seq = [1, 3] ∧
    modSites [] a.seq = [-1, 0, 1, 2, 3, 4] ∧ matchRanges [.consume ['P'], .consume ['S', 'T']] a.seq = [(1, 3), (3, 5)] ∧
    modsAt (applyStaticPat a (some [(.pat [.consume ['S', 'T'], .ahead ['P']], .many x)]) .none .none .skip) 2 = some x := by
  decide

/-- C13 (variable, mode skip), end to end for pattern rules: exactness without any hypothesis on pattern targets. -/
theorem variable_skip_exact_patterns (a : Annotation) (internal : Option (List (Target × VarIn))) (maxMods : Int)
    (nterm cterm : TermT VarIn) (h0 : 0 ≤ maxMods)
    (hi : TargetsOK (internal.getD [])) (hn : TermTargetsOK nterm) (hc : TermTargetsOK cterm) :
    (applyVariablePat a internal maxMods nterm cterm .skip).Perm
      (specVariable a (internal.map (resolveRules a.seq)) maxMods (resolveTerm a.seq nterm) (resolveTerm a.seq cterm)
        .skip (modSites [] a.seq)) :=
  variable_skip_exact a _ maxMods _ _ _ h0 (sitesOK_resolve a.seq internal hi)
    (termSitesOK_resolve a.seq nterm hn) (termSitesOK_resolve a.seq cterm hc)

/-- C13 (variable, every mode), no form twice, end to end for pattern rules. -/
theorem variable_no_form_twice_patterns (a : Annotation) (internal : Option (List (Target × VarIn))) (maxMods : Int)
    (nterm cterm : TermT VarIn) (mode : Mode)
    (hi : TargetsOK (internal.getD [])) (hn : TermTargetsOK nterm) (hc : TermTargetsOK cterm)
    (hok : ∀ j : Int, offered (varInternalRules (internal.map (resolveRules a.seq))) j ≠ [] →
      SiteOK mode (modsAt a j) (offered (varInternalRules (internal.map (resolveRules a.seq))) j))
    (hdn : (termOffered (varTermRules (modSites [] a.seq) (resolveTerm a.seq nterm)) 0).Nodup)
    (hdc : (termOffered (varTermRules (modSites [] a.seq) (resolveTerm a.seq cterm)) ((a.seq.length : Int) - 1)).Nodup) :
    (applyVariablePat a internal maxMods nterm cterm mode).Nodup :=
  variable_no_form_twice a _ maxMods _ _ mode _ (sitesOK_resolve a.seq internal hi)
    (termSitesOK_resolve a.seq nterm hn) (termSitesOK_resolve a.seq cterm hc) hok hdn hdc

/-- C13 (variable, every mode), changes confined, end to end for pattern rules. -/
theorem variable_changes_confined_patterns (a : Annotation) (internal : Option (List (Target × VarIn))) (maxMods : Int)
    (nterm cterm : TermT VarIn) (mode : Mode) (hi : TargetsOK (internal.getD []))
    (x : Annotation) (hx : x ∈ applyVariablePat a internal maxMods nterm cterm mode) :
    FrameT x a ∧
    (∀ j : Int, modsAt x j = modsAt a j ∨
      (0 ≤ j ∧ j < (a.seq.length : Int) ∧ ∃ g ∈ offered (varInternalRules (internal.map (resolveRules a.seq))) j,
        ¬(mode = .skip ∧ (modsAt a j).isSome = true) ∧ modsAt x j = some (newVal mode (modsAt a j) g))) :=
  let h := variable_changes_confined a _ maxMods _ _ mode _ (sitesOK_resolve a.seq internal hi) x hx
  ⟨h.1, h.2.1⟩

open RegexLite in
/-- the groups offered at residue `j` by one variable rule with a one-residue pattern: the rule's groups exactly at the
residues satisfying `oneHolds` (this is what `eligible` / `specForms` range over for such a rule) -/
theorem offered_residue_rule (s : List Char) (pre post : Pattern) (cls : List Char) (gs : List Group)
    (hpre : ∀ it ∈ pre, it.zeroWidth = true) (hpost : ∀ it ∈ post, it.zeroWidth = true) (j : Int) :
    (offered [(modSites (pre ++ .consume cls :: post) s, gs)] j ≠ [] →
      ∃ k : Nat, ∃ h : k < s.length, j = (k : Int) ∧
        oneHolds pre cls post (if k = 0 then none else s[k - 1]?) s[k] s[k + 1]? = true) ∧
    (∀ (k : Nat) (h : k < s.length), j = (k : Int) →
        oneHolds pre cls post (if k = 0 then none else s[k - 1]?) s[k] s[k + 1]? = true →
        offered [(modSites (pre ++ .consume cls :: post) s, gs)] j = gs) := by
  rw [offered_single]
  exact ⟨fun h => (mem_modSites_one pre post cls hpre hpost s j).mp (Decidable.of_not_not fun hn => h (if_neg hn)),
    fun k hk hj hh => if_pos ((mem_modSites_one pre post cls hpre hpost s j).mpr ⟨k, hk, hj, hh⟩)⟩

/-! ### the code before repair c2a4986 -/

/-- `apply_variable_mods('P', {'P': 'x'}, 1, nterm_mods='A', cterm_mods='B')` on the unrepaired code: the form
`[A]-P[x]-[B]` was returned twice (the C-terminal loop ran over the already expanded N-terminal forms), so
`variable_skip_nodup` was false for that code. The witness is replayed on the implementation (corpus/C13). -/
theorem variable_skip_nodup_false_before_repair :
    ¬ (applyVariableOld { seq := "P".toList } (some [([0], .one ⟨.str "x".toList, 1⟩)]) 1
        (.direct (.one ⟨.str "A".toList, 1⟩)) (.direct (.one ⟨.str "B".toList, 1⟩)) .skip [-1, 0]).Nodup := by
  decide

/-- … and with two residues it returned a form with two modified residues for `max_mods = 1`
(`[A]-P[x]P[x]-[B]`), which is not in `specForms`. -/
theorem variable_skip_exact_false_before_repair :
    ∃ x ∈ applyVariableOld { seq := "PP".toList } (some [([0, 1], .one ⟨.str "x".toList, 1⟩)]) 1
        (.direct (.one ⟨.str "A".toList, 1⟩)) (.direct (.one ⟨.str "B".toList, 1⟩)) .skip [-1, 0, 1],
      x ∉ specVariable { seq := "PP".toList } (some [([0, 1], .one ⟨.str "x".toList, 1⟩)]) 1
        (.direct (.one ⟨.str "A".toList, 1⟩)) (.direct (.one ⟨.str "B".toList, 1⟩)) .skip [-1, 0, 1] := by
  decide

/-- non-vacuity of the hypotheses of `variable_skip_exact` / `variable_skip_nodup`, and the repaired code on the same
input: 12 forms, no duplicates. -/
example :
    let internal : Option (List (Rule VarIn)) := some [([0, 1], .one ⟨.str "x".toList, 1⟩)]
    SitesOK (internal.getD []) ∧ TermSitesOK [-1, 0, 1] (.direct (.one ⟨.str "A".toList, 1⟩) : TermIn VarIn) ∧
    (applyVariable { seq := "PP".toList } internal 1
        (.direct (.one ⟨.str "A".toList, 1⟩)) (.direct (.one ⟨.str "B".toList, 1⟩)) .skip [-1, 0, 1]).length = 12 ∧
    (applyVariable { seq := "PP".toList } internal 1
        (.direct (.one ⟨.str "A".toList, 1⟩)) (.direct (.one ⟨.str "B".toList, 1⟩)) .skip [-1, 0, 1]).Nodup := by
  refine ⟨?_, ⟨by decide, ?_⟩, by decide, by decide⟩
  · intro r hr; simp at hr; subst hr; decide
  · intro rules h; cases h

end ModBuilder
end Pept
