import PeptVerif.Lemmas.FormulaHill
import PeptVerif.Props.C15
/-!
# C15 — what "Hill order" of `write_chem_formula(..., hill_order=True)` is

`Props/C15.lean` proves that parsing the written string returns `sortBy (hillIndex E) c` without its zero entries, and that
this is a permutation of the composition; it does not say what the order *is*.  Here, for every element table `E` and every
composition (any length, any keys, also keys unknown to the table, which get the index 10000 as in `HILL_ORDER.get(k, 10_000)`):

* the entries are visited in non-decreasing Hill index (`hill_sorted`, `hill_written_sorted`);
* the sort is stable, as Python's `sorted` is: entries with equal index (e.g. all keys outside the table) keep the
  insertion order of the dict (`hill_stable`);
* hence the dict obtained by parsing the Hill-ordered string is the permutation of the non-zero entries that is sorted by
  Hill index and stable (`parse_write_hill_characterised`) — these three facts determine a list uniquely (`hill_order_unique`);
* on the repo's table carbon has index 0 and is the only key with it (`hill_carbon_first_table`).
-/
namespace C15Ext
open ModDb Formula C15

abbrev hkey (E : List Elem) : Str × Num → Nat := fun kv => hillIndex E kv.1

/-- **Sortedness.** With `hill_order=True` the writer visits the entries in non-decreasing Hill index. -/
theorem hill_sorted (E : List Elem) (c : Comp) :
    (hillSort E true c).Pairwise (fun a b => hillIndex E a.1 ≤ hillIndex E b.1) := by
  rw [hillSort_true]; exact sortBy_sorted (hkey E) c

example : hillSort exTable.elems true exComp =
    [(kC, Num.ofInt 2), (kH, numNeg15), (kCe, Num.ofInt 0), (k13C, Num.ofInt 6), (kE, Num.ofInt (-1)), (kD, Num.ofInt 2)] := by
  decide +kernel

/-- the same for what is actually written (zero counts dropped) -/
theorem hill_written_sorted (E : List Elem) (c : Comp) :
    (dropZeros (hillSort E true c)).Pairwise (fun a b => hillIndex E a.1 ≤ hillIndex E b.1) := by
  unfold dropZeros
  exact (hill_sorted E c).filter _

example : (dropZeros (hillSort exTable.elems true exComp)).map (·.1) = [kC, kH, k13C, kE, kD] := by decide +kernel

/-- **Stability.** Entries with the same Hill index keep the order they have in the dict (Python's `sorted` is stable);
in particular all keys without an index (isotopes, particles, unknown symbols: index 10000) stay in insertion order. -/
theorem hill_stable (E : List Elem) (c : Comp) (n : Nat) :
    (hillSort E true c).filter (fun kv => hillIndex E kv.1 == n) = c.filter (fun kv => hillIndex E kv.1 == n) := by
  rw [hillSort_true]; exact sortBy_stable (hkey E) n c

example : (hillSort exTable.elems true exComp).filter (fun kv => hillIndex exTable.elems kv.1 == 10000) =
    [(k13C, Num.ofInt 6), (kE, Num.ofInt (-1)), (kD, Num.ofInt 2)] := by decide +kernel

/-- `hill_order=False` leaves the dict order alone. -/
theorem plain_order (E : List Elem) (c : Comp) : hillSort E false c = c := rfl

example : hillSort exTable.elems false exComp = exComp := plain_order _ _

/-- **Uniqueness.** A list that is sorted by a key and has, for every key value, the same sub-list of entries as `l`
is `sortBy key l`: "permutation + sorted + stable" determines the Hill order completely. -/
theorem hill_order_unique (E : List Elem) (c r : Comp)
    (hs : r.Pairwise (fun a b => hillIndex E a.1 ≤ hillIndex E b.1))
    (hst : ∀ n, r.filter (fun kv => hillIndex E kv.1 == n) = c.filter (fun kv => hillIndex E kv.1 == n)) :
    r = hillSort E true c := by
  have h2 : ∀ n, r.filter (fun kv => hkey E kv == n) = (hillSort E true c).filter (fun kv => hkey E kv == n) := by
    intro n
    rw [hst n]
    exact (hill_stable E c n).symm
  exact sorted_filter_ext (hkey E) r (hillSort E true c) hs (hill_sorted E c) h2

example : hillSort exTable.elems true [(kH, Num.ofInt 1), (kC, Num.ofInt 2)] = [(kC, Num.ofInt 2), (kH, Num.ofInt 1)] := by
  decide +kernel

/-- **Round trip with the order spelled out**: parsing the Hill-ordered string gives a dict `r` that is a permutation of the
non-zero entries, sorted by Hill index, and stable with respect to the dict order of the composition. -/
theorem parse_write_hill_characterised (E : List Elem) (c : Comp) (h : DomComp c) :
    ∃ r, parseChem (writeChem E c [] true) [] = .ok r ∧
      r.Perm (dropZeros c) ∧
      r.Pairwise (fun a b => hillIndex E a.1 ≤ hillIndex E b.1) ∧
      ∀ n, r.filter (fun kv => hillIndex E kv.1 == n) = (dropZeros c).filter (fun kv => hillIndex E kv.1 == n) := by
  refine ⟨dropZeros (hillSort E true c), parseChem_write E true h.wf, (hillSort_perm E true c).filter _,
    hill_written_sorted E c, ?_⟩
  intro n
  have := congrArg (List.filter (fun kv => !kv.2.isZero)) (hill_stable E c n)
  simpa only [dropZeros, List.filter_filter, Bool.and_comm] using this

example : ∃ r, parseChem (writeChem exTable.elems exComp [] true) [] = .ok r ∧ r.map (·.1) = [kC, kH, k13C, kE, kD] :=
  ⟨_, parseChem_write exTable.elems true exComp_dom.wf, by decide +kernel⟩

/-- On the repo's element table carbon has Hill index 0 and no other key has it: with `hill_order=True` a non-zero `C` entry
is written first. -/
theorem hill_carbon_first_table :
    hillIndex repoTable.elems kC = 0 ∧ ∀ e ∈ repoTable.elems, e.hill = some 0 → e.sym = kC := by
  refine ⟨by decide +kernel, ?_⟩
  have h : repoTable.elems.all (fun e => e.hill != some 0 || e.sym == kC) = true := by decide +kernel
  intro e he h0
  have := List.all_eq_true.1 h e he
  simpa [h0] using this

example : hillIndex repoTable.elems k13C = 2 ∧ hillIndex repoTable.elems kH = 4 ∧ hillIndex repoTable.elems kD = 9 ∧
    hillIndex repoTable.elems kE = 10000 := by decide +kernel

end C15Ext
