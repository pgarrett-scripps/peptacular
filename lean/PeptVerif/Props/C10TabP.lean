import PeptVerif.Model.ModDbGen
import PeptVerif.Model.ModDbFacts
import PeptVerif.Lemmas.ModDbCheck
import PeptVerif.Lemmas.ModDbTables
/-! C10 table facts about the generated PSI-MOD vocabulary (and its overlap with Unimod), by kernel evaluation -/
namespace C10TabP
open ModDb

/-- PSI-MOD accessions and names are pairwise distinct, and no Unimod name other than the two listed in `collisions`
is a PSI-MOD accession or name (one kernel merge sort of all these keys) -/
theorem psimod_cross_distinct : crossDistinct Gen.Unimod.entries Gen.PsiMod.entries = true := by
  rw [Gen.Unimod.entries_flat, Gen.PsiMod.entries_flat]
  decide +kernel

theorem psimod_keys_clean : Gen.PsiMod.entries.all entryClean = true := by
  rw [Gen.PsiMod.entries_flat, List.all_flatten, entryClean_eq_scan]
  decide +kernel

theorem psimod_names_not_numeric : Gen.PsiMod.entries.all nameNotNumeric = true :=
  all_notNumeric_of_quick (by
    rw [Gen.PsiMod.entries_flat, List.all_flatten]
    decide +kernel)

-- the size as of the tables this was written against; `C10.table_sizes` is the comparison that follows a regenerated table
example : Gen.PsiMod.entries.length = 1978 := by
  rw [Gen.PsiMod.entries_flat]
  decide +kernel

end C10TabP
