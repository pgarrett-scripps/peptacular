import PeptVerif.Lemmas.C09Dispatch
/-!
# C09 — the deferred-validation clause inside Lean: which fields reach the resolver, and what then happens

Setting: the model of `mass_calc.mass` of property C02 (`Model/Mass.lean`, fast path = no isotope label in force), in which
the modification resolver is a PARAMETER (`env.res v` = what `mod_mass(v, mono)` returns or raises; the resolver itself
is property C10) and `env.parseStatic` is what `parse_static_mods` returns or raises.  `Dispatch.reachedPlaced` /
`Dispatch.reachedStatic` (Model/C09Dispatch.lean) list the fields `mass` hands to the resolver, in call order; the
harness compares exactly these lists with the recorded `mod_mass` calls of the real `mass`.

The theorems hold for EVERY annotation, EVERY resolver, every ion type / mass mode / charge: the accept/reject decision
of `mass` is "every reached field resolves" — an unresolvable reached field always raises (its own error: never a silent
number), and the error raised is always the error of a reached field (or of one of the other named stages).
-/
namespace Pept
namespace Dispatch
open Chem Mass

/-- **Placed modifications: accept iff every reached field resolves.** For every annotation, resolver, mass mode and ion
type, the block of `mass` that adds the placed modifications returns a number iff `mod_mass` succeeds on every field of
`reachedPlaced` (labile only for the precursor ion type). -/
theorem placedMods_ok_iff (env : Env) (mono : Bool) (a : Annotation) (ion : Key) :
    (∃ v, placedModsMass env mono a ion = .ok v) ↔ AllResolve env mono (reachedPlaced (ion == ionP) a) :=
  (placedModsMass_decided a ion).ok_iff

/-- **Never another error.** Whatever the placed-modification block raises is exactly what the resolver raised on a
reached field: if the resolver raises only ValueError-family errors, so does this block. -/
theorem placedMods_error_is_reached_error (env : Env) (mono : Bool) (a : Annotation) (ion : Key) (e : Err)
    (h : placedModsMass env mono a ion = .error e) :
    ∃ m ∈ reachedPlaced (ion == ionP) a, resolve env mono m.val = .error e :=
  (placedModsMass_decided a ion).error_reached e h

/-- **Never a silent number (placed modifications).** If ANY reached field is unresolvable, the fast path of `mass` raises
— for every annotation, every other field, every charge / ion type / adduct / precision. -/
theorem fastMass_unresolvable_placed_raises (env : Env) (a : Annotation) (o : Opts) (r : Resolved) (m : Mod) (e : Err)
    (hm : m ∈ reachedPlaced (o.ion == ionP) a) (hr : resolve env o.mono m.val = .error e) :
    ∃ e', fastMass env a o r = .error e' :=
  (ExceptList.ok_or_error _).resolve_left fun ⟨v, hv⟩ =>
    let ⟨_, _, pm, _, _, hp, _⟩ := (fastMass_ok_iff env a o r v).1 hv
    AllResolve.not_of_error hm hr ((placedMods_ok_iff env o.mono a o.ion).1 ⟨pm, hp⟩)

/-- the unresolvable labile `{Foo}` is reached for the precursor ion type … -/
example : reachedPlaced true exLabileBad = [exFoo, exNum, exNum, exNum] := by decide
/-- … and NOT reached for a fragment ion type (labile modifications are not part of fragment ions) -/
example : reachedPlaced false exLabileBad = [exNum, exNum, exNum] := by decide
example : ∃ e', fastMass exEnv exLabileBad {} ⟨none, none, none⟩ = .error e' :=
  fastMass_unresolvable_placed_raises exEnv exLabileBad {} _ exFoo .valueError (by decide) exEnv_foo
example : AllResolve exEnv true (reachedPlaced false exLabileBad) := by
  intro m hm
  have : m = exNum := by revert hm; simp [reachedPlaced, optMods, intervalMods, internalMods, exLabileBad]
  subst this; exact ⟨16, exEnv_num⟩

/-- **Static rules: accept iff every rule modification resolves** — the `N-Term` entry, the `C-Term` entry and every other
entry of the dict `parse_static_mods` returned, whether or not its target occurs in the sequence. -/
theorem staticMap_ok_iff (env : Env) (mono : Bool) (seq : List Char) (map : List (List Char × List Mod)) :
    (∃ v, staticMapMass env mono seq map = .ok v) ↔ AllResolve env mono (reachedStatic map) :=
  (staticMapMass_decided seq map).ok_iff

/-- whatever the static-rule block raises is what the resolver raised on a reached rule modification -/
theorem staticMap_error_is_reached_error (env : Env) (mono : Bool) (seq : List Char)
    (map : List (List Char × List Mod)) (e : Err) (h : staticMapMass env mono seq map = .error e) :
    ∃ m ∈ reachedStatic map, resolve env mono m.val = .error e :=
  (staticMapMass_decided seq map).error_reached e h

example : reachedStatic [(['M'], [exNum]), (Dispatch.nTerm, [exFoo])] = [exFoo, exNum] := by decide

/-- **Never a silent number (static rules).** If the rule dict contains an unresolvable modification — even for a target
that does not occur in the sequence — the fast path of `mass` raises. -/
theorem fastMass_unresolvable_static_raises (env : Env) (a : Annotation) (o : Opts) (r : Resolved) (st : List Mod)
    (map : List (List Char × List Mod)) (m : Mod) (e : Err) (hst : a.static = some st)
    (hmap : env.parseStatic st = .ok map) (hm : m ∈ reachedStatic map) (hr : resolve env o.mono m.val = .error e) :
    ∃ e', fastMass env a o r = .error e' :=
  (ExceptList.ok_or_error _).resolve_left fun ⟨v, hv⟩ => by
    obtain ⟨s, _, _, hs, -⟩ := (fastMass_ok_iff env a o r v).1 hv
    rcases (staticMass_ok_iff ..).1 hs with ⟨h0, -⟩ | ⟨l, map', hl, hp, hs'⟩
    · rw [hst] at h0; cases h0
    · rw [hst] at hl; cases hl; rw [hmap] at hp; cases hp
      exact AllResolve.not_of_error hm hr ((staticMap_ok_iff env o.mono a.seq map).1 ⟨s, hs'⟩)

example : ∃ e', fastMass exEnv { seq := "PEPTIDE".toList, static := some [] } {} ⟨none, none, none⟩ = .error e' :=
  fastMass_unresolvable_static_raises exEnv _ {} _ [] _ exFoo .valueError rfl rfl (by decide) exEnv_foo

/-- **Every reached field resolves ⇒ a number.** If the static rules parse, every reached static and placed modification
resolves, every residue has a mass, and the charge-carrier stage (`adjust_mass`: ion type, adduct text) accepts its
arguments, then the fast path of `mass` returns a number — for every annotation. -/
theorem fastMass_ok_of_all_resolve (env : Env) (a : Annotation) (o : Opts) (r : Resolved)
    (hstatic : ∀ st, a.static = some st → ∃ map, env.parseStatic st = .ok map ∧ AllResolve env o.mono (reachedStatic map))
    (hres : ∃ v, residueMass o.mono a.seq = .ok v)
    (hplaced : AllResolve env o.mono (reachedPlaced (o.ion == ionP) a))
    (hadj : ∀ b, ∃ v, adjustMass b r.charge o.ion o.mono o.isotope o.loss r.adducts o.precision = .ok v) :
    ∃ v, fastMass env a o r = .ok v := by
  obtain ⟨rs, hrs⟩ := hres
  obtain ⟨pm, hpm⟩ := (placedMods_ok_iff env o.mono a o.ion).2 hplaced
  obtain ⟨s, hs⟩ : ∃ s, staticMass env o.mono a.seq a.static = .ok s := by
    cases hst : a.static with
    | none => exact ⟨0, rfl⟩
    | some st =>
      obtain ⟨map, hmap, hall⟩ := hstatic st hst
      obtain ⟨v, hv⟩ := (staticMap_ok_iff env o.mono a.seq map).2 hall
      exact ⟨v, (staticMass_ok_iff ..).2 (.inr ⟨st, map, rfl, hmap, hv⟩)⟩
  obtain ⟨v, hv⟩ := hadj (s + rs + pm)
  exact ⟨v, (fastMass_ok_iff ..).2 ⟨s, rs, pm, hs, hrs, hpm, hv⟩⟩

/-- **The complete accept/reject decision of the fast path.** Every error of `mass` (no isotope label in force) is: what
`parse_static_mods` raised, what the resolver raised on a reached static or placed modification, the unknown-residue
error, or what the charge-carrier stage `adjust_mass` raised. Nothing else can come out. -/
theorem fastMass_error_cases (env : Env) (a : Annotation) (o : Opts) (r : Resolved) (e : Err)
    (h : fastMass env a o r = .error e) :
    (∃ st, a.static = some st ∧ env.parseStatic st = .error e) ∨
    (∃ st map, a.static = some st ∧ env.parseStatic st = .ok map ∧
        ∃ m ∈ reachedStatic map, resolve env o.mono m.val = .error e) ∨
    residueMass o.mono a.seq = .error e ∨
    (∃ m ∈ reachedPlaced (o.ion == ionP) a, resolve env o.mono m.val = .error e) ∨
    (∃ b, adjustMass b r.charge o.ion o.mono o.isotope o.loss r.adducts o.precision = .error e) := by
  rcases fastMass_error env a o r e h with hs | hr | hp | hadj
  · obtain ⟨st, hst, hp | ⟨map, hmap, hm⟩⟩ := staticMass_error _ _ _ _ _ hs
    · exact .inl ⟨st, hst, hp⟩
    · exact .inr (.inl ⟨st, map, hst, hmap, staticMap_error_is_reached_error _ _ _ _ _ hm⟩)
  · exact .inr (.inr (.inl hr))
  · exact .inr (.inr (.inr (.inl (placedMods_error_is_reached_error _ _ _ _ _ hp))))
  · exact .inr (.inr (.inr (.inr hadj)))

end Dispatch
end Pept
