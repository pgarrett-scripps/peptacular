import PeptVerif.Lemmas.DecimalKey
import PeptVerif.Lemmas.AnnotCanon
import PeptVerif.Lemmas.ModDictText
/-!
# C20 - modification dictionaries and annotation copies reconstruct the same peptide; equality laws

Models: `Pept.annEq` (`ProFormaAnnotation.__eq__`), `areModsEqual`, `areIntervalsEqual`, `modEq`, `ivEq`
(Model/AnnotEq.lean) and `modDict`, `addModDict`, `strip`, `copy`, `dictArgs`, `createAnnotation`
(Model/ModDict.lean).

A *slot* is a position that carries a list of modifications: labile, unknown, N-term, C-term, charge adducts,
isotope rules, static rules, or a residue index (`Slot.get`); the interval list is a position of its own and
every interval carries a list as well.
-/
namespace Pept.C20
open Pept

/-- `{Glycan:Hex}[Acetyl]-PE[3]T[1.0][Phospho]^2/2` with an interval `(0,2)[+5]` -/
def exA : Annotation :=
  { seq := "PET".toList
    labile := some [⟨.str "Glycan:Hex".toList, 1⟩]
    nterm := some [⟨.str "Acetyl".toList, 1⟩]
    internal := some [(1, [⟨.int 3, 1⟩]), (2, [⟨.flt "1.0".toList, 1⟩, ⟨.str "Phospho".toList, 2⟩])]
    intervals := some [⟨0, 2, false, some [⟨.int 5, 1⟩]⟩]
    charge := some 2 }

/-- the same peptide with the mods of residue 2 in the other order and `1.0` written as the int `1` -/
def exB : Annotation :=
  { exA with internal := some [(2, [⟨.str "Phospho".toList, 2⟩, ⟨.int 1, 1⟩]), (1, [⟨.int 3, 1⟩])] }

theorem eq_refl (a : Annotation) : annEq a a = true := annEq_refl a

theorem eq_symm (a b : Annotation) : annEq a b = annEq b a := annEq_bequiv.symm_eq a b

theorem eq_trans (a b c : Annotation) (h1 : annEq a b = true) (h2 : annEq b c = true) : annEq a c = true :=
  annEq_bequiv.trans a b c h1 h2

example : annEq exA exB = true ∧ annEq exB exA = true ∧ exA ≠ exB := by decide +kernel

/-- `a == b` iff residues and charge agree and every position carries equal multisets (declarative form of the
eleven sequential tests of `__eq__`, with the key-union loop over internal mods replaced by "for every index") -/
theorem eq_iff_equiv (a b : Annotation) : annEq a b = true ↔ AnnEquiv a b := annEq_iff a b

/-- `a == b` iff the canonical forms are equal. `eqCanon` (Lemmas/AnnotCanon.lean) keeps residues and charge and
replaces every mod list by the *multiset* of its canonical `(valKey, multiplier)` keys (`Multiset` = lists up to
reordering), the internal dict by the function index ↦ multiset (None for a missing index), and the interval
list by the multiset of `(start, end, ambiguous, multiset of keys)` -/
theorem eq_iff_canon (a b : Annotation) : annEq a b = true ↔ eqCanon a = eqCanon b := annEq_iff_canon a b

/-- two mod lists are equal iff their multisets of (value as Python compares it, multiplier) keys are equal:
`modKey` is the canonical form of one mod (an int and a float with the same decimal value have the same key) -/
theorem mods_eq_iff_perm_keys (l l' : List Mod) :
    areModsEqual (some l) (some l') = true ↔ (l.map modKey).Perm (l'.map modKey) :=
  counterEq_iff_perm l l'

/-- `None` and a list (even an empty one) are different -/
theorem mods_none_ne_list (l : List Mod) : areModsEqual none (some l) = false ∧ areModsEqual (some l) none = false :=
  ⟨rfl, rfl⟩

example : modKey ⟨.int 1, 1⟩ = modKey ⟨.flt "1.0".toList, 1⟩ ∧ modKey ⟨.int 100, 2⟩ = modKey ⟨.flt "100.0".toList, 2⟩ ∧
    modKey ⟨.int 1, 1⟩ ≠ modKey ⟨.str "1".toList, 1⟩ ∧ modKey ⟨.flt "1.5".toList, 1⟩ ≠ modKey ⟨.flt "1.25".toList, 1⟩ := by
  decide +kernel

/-! ## what "the same value" means (`Mod.val == Mod.val`)

Numbers are compared as numbers whatever their Python type: with `decEquiv m e m' e'` standing for
`m·10^e = m'·10^e'`, an int equals an int iff they are the same integer, an int `i` equals a float whose repr reads
as `m·10^e` iff `i = m·10^e`, two floats are equal iff their reprs denote the same decimal, and a string equals
only the same string (never a number). The canonical key `valKey` (mantissa without trailing zeros) decides this. -/

theorem value_eq_int_int (i j : Int) : valEq (.int i) (.int j) = true ↔ i = j := by
  simp only [valEq, valKey, beq_iff_eq]
  rw [valKey_num_eq_iff, decEquiv_same_exp]

theorem value_eq_int_float (i : Int) (r : List Char) (m e : Int) (h : readDec r = some (m, e)) :
    valEq (.int i) (.flt r) = true ↔ decEquiv i 0 m e := by
  simp only [valEq, valKey, h, beq_iff_eq]
  exact valKey_num_eq_iff i 0 m e

theorem value_eq_float_float (r r' : List Char) (m e m' e' : Int) (h : readDec r = some (m, e))
    (h' : readDec r' = some (m', e')) : valEq (.flt r) (.flt r') = true ↔ decEquiv m e m' e' := by
  simp only [valEq, valKey, h, h', beq_iff_eq]
  exact valKey_num_eq_iff m e m' e'

theorem value_eq_str (s : List Char) (v : ModVal) : valEq (.str s) v = true ↔ v = .str s := by
  cases v with
  | int i => simp [valEq, valKey]
  | flt r => simp only [valEq, valKey]; split <;> simp
  | str t => simp only [valEq, valKey, beq_iff_eq, ValKey.text.injEq, ModVal.str.injEq]; exact eq_comm

example : readDec "15.995".toList = some (15995, -3) ∧ readDec "1e-05".toList = some (1, -5) ∧
    readDec "-0.0".toList = some (0, -1) ∧ readDec "100.0".toList = some (1000, -1) ∧ readDec "nan".toList = none := by decide +kernel

example : decEquiv 100 0 1000 (-1) ∧ ¬ decEquiv 1 0 15 (-1) := by unfold decEquiv; decide

/-- reordering the mods of any slot, reordering the interval list and reordering the mods inside intervals
(`Rel2`: interval by interval, same bounds) gives an equal annotation -/
theorem eq_perm_insensitive (a b : Annotation) (hseq : a.seq = b.seq) (hcharge : a.charge = b.charge)
    (hslots : ∀ s : Slot, (s.get a = none ∧ s.get b = none) ∨ ∃ l l', s.get a = some l ∧ s.get b = some l' ∧ l.Perm l')
    (hiv : (a.intervals = none ∧ b.intervals = none) ∨
      ∃ L L' L'', a.intervals = some L ∧ b.intervals = some L' ∧ L.Perm L'' ∧
        Rel2 (fun i j : Interval => i.start = j.start ∧ i.stop = j.stop ∧ i.ambiguous = j.ambiguous ∧
          ((i.mods = none ∧ j.mods = none) ∨ ∃ m m', i.mods = some m ∧ j.mods = some m' ∧ m.Perm m')) L'' L') :
    annEq a b = true := by
  have modsOk : ∀ o o' : Option (List Mod),
      ((o = none ∧ o' = none) ∨ ∃ l l', o = some l ∧ o' = some l' ∧ l.Perm l') → areModsEqual o o' = true := by
    intro o o' h
    rcases h with ⟨h1, h2⟩ | ⟨l, l', h1, h2, hp⟩
    · rw [h1, h2]; rfl
    · rw [h1, h2]; exact msEq_of_perm modEq l l' hp
  refine (annEq_iff a b).2 (.of_slots hseq (fun s => modsOk _ _ (hslots s)) ?_ hcharge)
  rcases hiv with ⟨h1, h2⟩ | ⟨L, L', L'', h1, h2, hp, hr⟩
  · rw [h1, h2]; rfl
  · rw [h1, h2, areIntervalsEqual_some]
    have hr' : Rel2 (fun i j => ivEq i j = true) L'' L' :=
      hr.imp fun x y hxy => (ivEq_iff x y).2 ⟨hxy.1, hxy.2.1, hxy.2.2.1, modsOk _ _ hxy.2.2.2⟩
    refine ⟨(hp.length_eq).trans (length_of_rel2 _ _ hr'), ?_⟩
    exact msEq_trans ivEq_bequiv L L'' L' (msEq_of_perm ivEq L L'' hp) (msEq_of_rel2 ivEq_bequiv L'' L' hr')

/-- the hypotheses of `eq_perm_insensitive` on a concrete pair: `[Acetyl][Methyl]-PE` and `[Methyl][Acetyl]-PE` -/
example :
    let a : Annotation := { seq := "PE".toList, nterm := some [⟨.str "Acetyl".toList, 1⟩, ⟨.str "Methyl".toList, 1⟩] }
    let b : Annotation := { seq := "PE".toList, nterm := some [⟨.str "Methyl".toList, 1⟩, ⟨.str "Acetyl".toList, 1⟩] }
    a ≠ b ∧ ∀ s : Slot, (s.get a = none ∧ s.get b = none) ∨ ∃ l l', s.get a = some l ∧ s.get b = some l' ∧ l.Perm l' := by
  refine ⟨by decide, ?_⟩
  intro s
  cases s
  case nterm => exact Or.inr ⟨_, _, rfl, rfl, List.Perm.swap _ _ _⟩
  all_goals exact Or.inl ⟨rfl, rfl⟩

/-- a different residue -/
theorem eq_sensitive_residue (a b : Annotation) (h : a.seq ≠ b.seq) : annEq a b = false :=
  Bool.eq_false_iff.2 fun he => h ((annEq_iff a b).1 he).seq

/-- a different charge (including None against a number) -/
theorem eq_sensitive_charge (a b : Annotation) (h : a.charge ≠ b.charge) : annEq a b = false :=
  Bool.eq_false_iff.2 fun he => h ((annEq_iff a b).1 he).charge

/-- one modification *value* changed to a value Python does not consider equal, in any slot -/
theorem eq_sensitive_value (a b : Annotation) (s : Slot) (l : List Mod) (i : Nat) (hi : i < l.length) (v : ModVal)
    (hv : valEq l[i].val v = false) (ha : s.get a = some l) (hb : s.get b = some (l.set i { l[i] with val := v })) :
    annEq a b = false :=
  annEq_false_of_slot_some ha hb (msEq_set modEq_bequiv l i _ hi (modEq_false_of_val _ v hv))

/-- the hypotheses of `eq_sensitive_value` on a concrete pair: N-terminal `Acetyl` against `Formyl` -/
example : valEq (ModVal.str "Acetyl".toList) (.str "Formyl".toList) = false ∧
    Slot.get .nterm exA = some [⟨.str "Acetyl".toList, 1⟩] ∧
    annEq exA { exA with nterm := some ([⟨.str "Acetyl".toList, 1⟩].set 0 ⟨.str "Formyl".toList, 1⟩) } = false := by decide +kernel

/-- one *multiplier* changed, in any slot -/
theorem eq_sensitive_multiplier (a b : Annotation) (s : Slot) (l : List Mod) (i : Nat) (hi : i < l.length) (k : Int)
    (hk : k ≠ l[i].mult) (ha : s.get a = some l) (hb : s.get b = some (l.set i { l[i] with mult := k })) :
    annEq a b = false :=
  annEq_false_of_slot_some ha hb (msEq_set modEq_bequiv l i _ hi (modEq_false_of_mult _ k hk))

/-- one modification *dropped*, in any slot -/
theorem eq_sensitive_drop (a b : Annotation) (s : Slot) (l : List Mod) (i : Nat) (hi : i < l.length)
    (ha : s.get a = some l) (hb : s.get b = some (l.eraseIdx i)) : annEq a b = false :=
  annEq_false_of_slot_some ha hb (msEq_eraseIdx modEq_bequiv l i hi)

/-- one modification *duplicated* (inserted anywhere), in any slot -/
theorem eq_sensitive_duplicate (a b : Annotation) (s : Slot) (l : List Mod) (i j : Nat) (hi : i < l.length)
    (hj : j ≤ l.length) (ha : s.get a = some l) (hb : s.get b = some (l.insertIdx j l[i])) : annEq a b = false :=
  annEq_false_of_slot_some ha hb (msEq_insertIdx modEq_bequiv l j _ hj)

/-- a whole slot present on one side only (a list, even `[]`, against None); for a residue slot this is a
modification moved away from its *position* -/
theorem eq_sensitive_position (a b : Annotation) (s : Slot) (l : List Mod)
    (h : (s.get a = some l ∧ s.get b = none) ∨ (s.get a = none ∧ s.get b = some l)) : annEq a b = false := by
  apply annEq_false_of_slot a b s
  rcases h with ⟨h1, h2⟩ | ⟨h1, h2⟩ <;> rw [h1, h2] <;> rfl

/-- one interval changed in a *bound*, in the ambiguity flag, or in its mods (to a non-equal list) -/
theorem eq_sensitive_interval (a b : Annotation) (L : List Interval) (i : Nat) (hi : i < L.length) (iv : Interval)
    (hiv : iv.start ≠ L[i].start ∨ iv.stop ≠ L[i].stop ∨ iv.ambiguous ≠ L[i].ambiguous ∨
      areModsEqual L[i].mods iv.mods = false)
    (ha : a.intervals = some L) (hb : b.intervals = some (L.set i iv)) : annEq a b = false := by
  apply annEq_false_of_intervals
  rw [ha, hb]
  exact areIntervalsEqual_false_of_msEq _ _ (msEq_set ivEq_bequiv L i iv hi (ivEq_false_of_ne _ _ hiv))

/-- one interval dropped or duplicated -/
theorem eq_sensitive_interval_count (a b : Annotation) (L : List Interval) (i : Nat) (hi : i < L.length)
    (ha : a.intervals = some L)
    (hb : b.intervals = some (L.eraseIdx i) ∨ ∃ j, j ≤ L.length ∧ b.intervals = some (L.insertIdx j L[i])) :
    annEq a b = false := by
  apply annEq_false_of_intervals
  rcases hb with hb | ⟨j, hj, hb⟩ <;> rw [ha, hb] <;> apply areIntervalsEqual_false_of_msEq
  · exact msEq_eraseIdx ivEq_bequiv L i hi
  · exact msEq_insertIdx ivEq_bequiv L j _ hj

/-- the perturbations above produce non-equal mod lists inside an interval as well -/
theorem interval_mods_sensitive (l : List Mod) (i : Nat) (hi : i < l.length) :
    (∀ v, valEq l[i].val v = false → areModsEqual (some l) (some (l.set i { l[i] with val := v })) = false) ∧
    (∀ k, k ≠ l[i].mult → areModsEqual (some l) (some (l.set i { l[i] with mult := k })) = false) ∧
    areModsEqual (some l) (some (l.eraseIdx i)) = false ∧
    (∀ j, j ≤ l.length → areModsEqual (some l) (some (l.insertIdx j l[i])) = false) :=
  ⟨fun v hv => msEq_set modEq_bequiv l i _ hi (modEq_false_of_val _ v hv),
   fun k hk => msEq_set modEq_bequiv l i _ hi (modEq_false_of_mult _ k hk),
   msEq_eraseIdx modEq_bequiv l i hi,
   fun j hj => msEq_insertIdx modEq_bequiv l j _ hj⟩

example : annEq exA { exA with charge := some 3 } = false ∧
    annEq exA { exA with nterm := some [⟨.str "Acetyl".toList, 2⟩] } = false ∧
    annEq exA { exA with internal := some [(0, [⟨.int 3, 1⟩]), (2, [⟨.flt "1.0".toList, 1⟩, ⟨.str "Phospho".toList, 2⟩])] } = false ∧
    annEq exA { exA with intervals := some [⟨0, 3, false, some [⟨.int 5, 1⟩]⟩] } = false := by decide +kernel

/-- `strip()` then `add_mod_dict(mod_dict())` gives back the annotation, field by field (either append mode).
The only normalisation: an *empty* internal dict `{}` is not represented in the dictionary and comes back as None. -/
theorem add_get_inverse (a : Annotation) (app : Bool) (h : a.internal ≠ some []) :
    addModDict (strip a) (modDict a) app = a := by
  rw [addModDict_strip_modDict, if_neg h]

/-- without the side condition the rebuilt annotation is still `==` the source -/
theorem add_get_inverse_eq (a : Annotation) (app : Bool) : annEq (addModDict (strip a) (modDict a) app) a = true := by
  rw [addModDict_strip_modDict]
  split
  · exact annEq_of_getInternal_eq a none (getInternal_of_internal_nil ‹_›)
  · exact eq_refl _

/-- the wrappers: `add_mods(strip_mods(x), get_mods(x))` and `add_mods(*pop_mods(x))` (default `append=True`) -/
theorem pt_add_get_inverse (a : Annotation) (h : a.internal ≠ some []) :
    ptAddMods { seq := stripMods a } (getMods a) = a ∧ ptAddMods { seq := (ptPopMods a).1 } (ptPopMods a).2 = a :=
  ⟨add_get_inverse a true h, add_get_inverse a true h⟩

example : exA.internal ≠ some [] ∧ addModDict (strip exA) (modDict exA) = exA := by decide +kernel

/-! ## the same at text level ("reproduces the original string")

With the serializer and parser models of C01 (`Pept.serialize`, `Pept.parse`, `Pept.canon`; `plus` = any `include_plus`
convention). `stripGetAddStr` / `popAddStr` (Model/SequenceFuncs.lean) are the literal
`add_mods(strip_mods(s), get_mods(s), append, include_plus)` and `add_mods(*pop_mods(s), include_plus)` on strings. -/

/-- `strip()` + `add_mod_dict(mod_dict())` serializes to the original string - for *every* annotation (an empty internal
dict and an absent one are written the same way, so no side condition) and both append modes -/
theorem add_get_inverse_text (plus : Plus) (a : Annotation) (app : Bool) :
    serialize plus (addModDict (strip a) (modDict a) app) = serialize plus a := serialize_addModDict_strip plus a app

/-- string in, string out: on the text of a canonical annotation (written with any `+` convention) the wrappers give back
its serialization in the requested convention - in particular the same string for the same convention -/
theorem pt_add_get_inverse_text (plus plus' : Plus) (app : Bool) (a : Annotation) (hc : canon a = true) :
    stripGetAddStr plus' app (serialize plus a) = .ok (serialize plus' a) ∧
    popAddStr plus' (serialize plus a) = .ok (serialize plus' a) ∧
    stripModsStr (serialize plus a) = .ok a.seq ∧ getModsStr (serialize plus a) = .ok (modDict a) := by
  refine ⟨stripGetAddStr_serialize plus plus' app a hc, popAddStr_serialize plus plus' a hc, ?_, ?_⟩
  · simp [stripModsStr, sequenceToAnnotation_serialize plus a hc, stripMods]
  · simp [getModsStr, sequenceToAnnotation_serialize plus a hc, getMods]

/-- `create_annotation(**a.dict())` writes the same string -/
theorem create_dict_text (plus : Plus) (a : Annotation) : serialize plus (createAnnotation (dictArgs a)) = serialize plus a := by
  rw [createAnnotation_dictArgs]

example : canon exA = true ∧
    serialize (constPlus false) (addModDict (strip exA) (modDict exA)) =
      "{Glycan:Hex}[Acetyl]-(PE[3])[5]T[1.0][Phospho]^2/2".toList := by decide +kernel

/-- `create_annotation(**a.dict())` is `a` -/
theorem create_dict (a : Annotation) : createAnnotation (dictArgs a) = a := createAnnotation_dictArgs a

/-- a copy is equal to its source (independence is a dynamic check) -/
theorem copy_eq (a : Annotation) : copy a = a ∧ annEq (copy a) a = true := ⟨rfl, eq_refl a⟩

/-- stripping removes every modification and nothing else -/
theorem strip_spec (a : Annotation) :
    (strip a).seq = a.seq ∧ modDict (strip a) = [] ∧ (popMods a).2 = strip a ∧ stripMods a = a.seq ∧
    (strip a).isotope = none ∧ (strip a).static = none ∧ (strip a).labile = none ∧ (strip a).unknown = none ∧
    (strip a).nterm = none ∧ (strip a).cterm = none ∧ (strip a).internal = none ∧ (strip a).intervals = none ∧
    (strip a).charge = none ∧ (strip a).adducts = none :=
  ⟨rfl, modDict_strip a, rfl, rfl, rfl, rfl, rfl, rfl, rfl, rfl, rfl, rfl, rfl, rfl⟩

/-- stripping is idempotent and a stripped annotation equals another one iff the residues agree -/
theorem strip_eq_iff (a b : Annotation) : annEq (strip a) (strip b) = true ↔ a.seq = b.seq := by
  constructor
  · intro h; exact ((annEq_iff _ _).1 h).seq
  · intro h
    rw [strip, strip, h]; exact eq_refl _

end Pept.C20
