import PeptVerif.Lemmas.IsotopeRun
import PeptVerif.Lemmas.IsotopeMultinomial
/-!
# C14 — isotopic distributions are normalised, centred on the right masses and complete

Property theorems about the model `PeptVerif/Model/Isotope.lean` of `peptacular/isotope.py`.
Every statement is for all compositions and (unless a hypothesis says otherwise) all option values.
"Un-pruned" = `floor = none`, `max_isotopes = None`, `conv_min_abundance_threshold = None`,
`min_abundance_threshold = None`; "un-rounded" = `distribution_resolution = None`.
-/
namespace C14
open Isotope PeptVerif.Gen.C14

/-- **sorted by mass**: the returned pattern is strictly increasing in mass (no two peaks share a mass), for every
composition and every option value, when no final `precision` rounding is requested and the neutron mass is positive. -/
theorem sorted_by_mass (f : Formula) (o : Opts) (out : Dist Rat)
    (h : isotopicDistribution f o = .ok out) (hp : o.precision = none) (hn : 0 < o.neutronMass) :
    out.Pairwise (fun a b => a.1 < b.1) := by
  obtain ⟨t, p, d, m, hraw, hfin⟩ := isotopicDistribution_ok.1 h
  obtain ⟨mx, _, _, hsc⟩ := finishDistribution_ok o t p d m out hfin
  rw [hp] at hsc
  have h1 := normalized_keys_strict o t mx (nodupKeys_raw f o t p d m hraw)
  have h2 : (out.map (·.1)).Pairwise (· < ·) := by
    rw [scaleAbundances_keys _ out _ _ hsc, List.map_map, List.pairwise_map]
    exact h1.imp (fun hab => shiftFn_strictMono o p d m hn _ _ hab)
  exact List.pairwise_map.1 h2

/-- **scale_sum**: with `is_abundance_sum=True` the abundances of a non-empty pattern sum to `distribution_abundance`
(every composition, every pruning / rounding option). -/
theorem scale_sum (f : Formula) (o : Opts) (out : Dist Rat)
    (h : isotopicDistribution f o = .ok out) (hs : o.isAbundanceSum = true) (hp : o.precision = none)
    (hne : out ≠ []) : sumAb out = o.distributionAbundance := by
  obtain ⟨t, p, d, m, _, hfin⟩ := isotopicDistribution_ok.1 h
  obtain ⟨mx, _, _, hsc⟩ := finishDistribution_ok o t p d m out hfin
  rw [hp, hs] at hsc
  exact scaleAbundances_sum _ out _ hsc hne

/-- **scale_max**: with `is_abundance_sum=False` the largest peak equals `distribution_abundance` exactly and no peak
exceeds it — for every composition and every pruning / rounding option, provided the reporting threshold does not
exceed 1 and the requested abundance is not negative. -/
theorem scale_max (f : Formula) (o : Opts) (out : Dist Rat)
    (h : isotopicDistribution f o = .ok out) (hs : o.isAbundanceSum = false) (hp : o.precision = none)
    (hthr : o.minAbundanceThreshold.getD 0 ≤ 1) (hA : 0 ≤ o.distributionAbundance) :
    (∃ q ∈ out, q.2 = o.distributionAbundance) ∧ ∀ q ∈ out, q.2 ≤ o.distributionAbundance := by
  obtain ⟨t, p, d, m, hraw, hfin⟩ := isotopicDistribution_ok.1 h
  obtain ⟨mx, hmx, hmx0, hsc⟩ := finishDistribution_ok o t p d m out hfin
  rw [hp, hs] at hsc
  rw [((scaleAbundances_ok_iff _ out _ false).1 hsc).2]
  -- the normalised abundances are `≤ 1`, and the largest peak has exactly 1 and passes the threshold
  constructor
  · obtain ⟨r, hr, hr1⟩ := exists_one_normalized o t mx hmx hmx0 hthr
    refine ⟨_, List.mem_map.2 ⟨_, List.mem_map.2 ⟨r, hr, rfl⟩, rfl⟩, ?_⟩
    show r.2 * o.distributionAbundance = o.distributionAbundance
    rw [hr1, one_mul]
  · intro q hq
    obtain ⟨_, hw, rfl⟩ := List.mem_map.1 hq
    obtain ⟨r, hr, rfl⟩ := List.mem_map.1 hw
    exact mul_le_of_le_one_left hA
      (normalized_le_one o t mx hmx (maxAb_pos t mx hmx (allPos_raw f o t p d m hraw)) r hr)

/-- **total_abundance**: un-pruned, the un-normalised total abundance after the element loop is the product over the
elements of `(Σ_iso abundance)^count` — whatever the rounding resolution. -/
theorem total_abundance (f : Formula) (o : Opts) (t : Dist Rat) (p d m : Rat)
    (hraw : rawDistribution f o = .ok (t, p, d, m))
    (hfl : o.floor = none) (hmi : o.maxIsotopes = none) (hct : o.convMinAbundanceThreshold = none) :
    ∃ L, resolve o (cleanFormula f) = some L ∧ total t = totalProd L := by
  obtain ⟨L, hL, _, rfl⟩ := raw_unpruned f o t p d m hraw hfl hmi hct
  exact ⟨L, hL, by rw [total_convolveList, total_start, one_mul]⟩

/-- **weighted_mean (element loop)**: un-pruned and un-rounded, if every element's isotope abundances sum to 1 then the
total abundance is 1 and the first moment `Σ mass·abundance` is `Σ count · Σ_iso mass·abundance`, i.e. the average
mass of the (rounded) composition. -/
theorem weighted_mean_raw (f : Formula) (o : Opts) (t : Dist Rat) (p d m : Rat)
    (hraw : rawDistribution f o = .ok (t, p, d, m))
    (hfl : o.floor = none) (hmi : o.maxIsotopes = none) (hct : o.convMinAbundanceThreshold = none)
    (hres : o.resolution = none) :
    ∃ L, resolve o (cleanFormula f) = some L ∧
      ((∀ x ∈ L, total x.1 = 1) → total t = 1 ∧ moment t = momentSum L) := by
  obtain ⟨L, hL, h⟩ := raw_total_moment f o t p d m hraw hfl hmi hct 0 (fun x => by simp [hres, roundOpt])
  refine ⟨L, hL, fun h1 => ⟨(h h1).1, sub_eq_zero.1 (abs_nonpos_iff.1 ?_)⟩⟩
  simpa using (h h1).2

/-- **weighted mean = average mass** (mass view): un-pruned, un-rounded, for elements whose isotope abundances sum to 1,
`Σ mass·abundance = (Σ abundance) · (Σ count·Σ_iso mass·abundance + delta_mass + particle_mass_offset)` for the
returned pattern, whatever `distribution_abundance` / `is_abundance_sum`.  For integer compositions `delta_mass = 0`
and the bracket is the average mass of the composition including its e/p/n entries. -/
theorem weighted_mean_eq_average (f : Formula) (o : Opts) (t : Dist Rat) (p d m : Rat) (out : Dist Rat)
    (hraw : rawDistribution f o = .ok (t, p, d, m)) (hfin : finishDistribution o t p d m = .ok out)
    (hfl : o.floor = none) (hmi : o.maxIsotopes = none) (hct : o.convMinAbundanceThreshold = none)
    (hmt : o.minAbundanceThreshold = none) (hres : o.resolution = none) (hneu : o.useNeutronCount = false)
    (hp : o.precision = none) :
    ∃ L, resolve o (cleanFormula f) = some L ∧
      ((∀ x ∈ L, total x.1 = 1) → moment out = sumAb out * (momentSum L + d + p)) := by
  obtain ⟨L, hL, h1⟩ := weighted_mean_raw f o t p d m hraw hfl hmi hct hres
  refine ⟨L, hL, fun hone => ?_⟩
  obtain ⟨hT, hM⟩ := h1 hone
  obtain ⟨⟨c, hc⟩, _⟩ := finishDistribution_mass_view o t p d m out hfin (allPos_raw f o t p d m hraw) hmt hneu hp
  rw [← total_eq_sumAb, moment, total, hc, hc, integral_add, integral_add, integral_const, integral_const, ← moment,
    ← total, hT, hM]
  ring

/-- **lightest_peak (element loop)**: un-pruned and un-rounded, the smallest key of the distribution after the element
loop is `Σ count · (smallest isotope key of the element)` and it is attained.  `μ` is any function giving the smallest key of
each isotope list: for the mass view of C,H,N,O,S,P this is the monoisotopic mass (`lightest_mass_is_monoisotopic`), so the
lightest peak sits at the monoisotopic mass of the composition. -/
theorem lightest_peak_raw (f : Formula) (o : Opts) (t : Dist Rat) (p d m : Rat)
    (hraw : rawDistribution f o = .ok (t, p, d, m))
    (hfl : o.floor = none) (hmi : o.maxIsotopes = none) (hct : o.convMinAbundanceThreshold = none)
    (hres : o.resolution = none) :
    ∃ L, resolve o (cleanFormula f) = some L ∧
      ∀ μ : Dist Rat → Rat, (∀ x ∈ L, IsMin x.1 (μ x.1)) → IsMin t (lightSum L μ) := by
  obtain ⟨L, hL, _, rfl⟩ := raw_unpruned f o t p d m hraw hfl hmi hct
  refine ⟨L, hL, fun μ hμ => ?_⟩
  rw [hres]
  have := isMin_convolveList μ L _ 0 hμ isMin_start
  rwa [zero_add] at this

/-- **lightest_peak** (mass view, returned pattern): un-pruned, un-rounded, the lightest returned peak sits at
`Σ count·(lightest isotope mass) + delta_mass + particle_mass_offset`. -/
theorem lightest_peak (f : Formula) (o : Opts) (t : Dist Rat) (p d m : Rat) (out : Dist Rat)
    (hraw : rawDistribution f o = .ok (t, p, d, m)) (hfin : finishDistribution o t p d m = .ok out)
    (hfl : o.floor = none) (hmi : o.maxIsotopes = none) (hct : o.convMinAbundanceThreshold = none)
    (hmt : o.minAbundanceThreshold = none) (hres : o.resolution = none) (hneu : o.useNeutronCount = false)
    (hp : o.precision = none) :
    ∃ L, resolve o (cleanFormula f) = some L ∧
      ∀ μ : Dist Rat → Rat, (∀ x ∈ L, IsMin x.1 (μ x.1)) → IsMin out (lightSum L μ + d + p) := by
  obtain ⟨L, hL, h1⟩ := lightest_peak_raw f o t p d m hraw hfl hmi hct hres
  refine ⟨L, hL, fun μ hμ => ?_⟩
  exact isMin_of_keys_image (fun k => k + d + p) (fun a b hab => by linarith)
    (finishDistribution_mass_view o t p d m out hfin (allPos_raw f o t p d m hraw) hmt hneu hp).2 (h1 μ hμ)

/-! In the `conv_*` theorems two distributions are "equal after key-merge" when they integrate every function of the key
to the same value (taking indicator functions: the same abundance at every key).  `κ` is any key type with an addition
(masses, neutron offsets, pairs of both). -/

theorem conv_comm {κ : Type} [DecidableEq κ] [Add κ] (hcomm : ∀ a b : κ, a + b = b + a) (d1 d2 : Dist κ) (g : κ → Rat) :
    integral (convolve id none none d1 d2) g = integral (convolve id none none d2 d1) g := by
  rw [integral_convolve, integral_convolve, integral_swap]
  simp only [id, hcomm]

theorem conv_assoc {κ : Type} [DecidableEq κ] [Add κ] (hassoc : ∀ a b c : κ, a + b + c = a + (b + c))
    (d1 d2 d3 : Dist κ) (g : κ → Rat) :
    integral (convolve id none none (convolve id none none d1 d2) d3) g =
    integral (convolve id none none d1 (convolve id none none d2 d3)) g := by
  rw [integral_convolve, integral_convolve, integral_convolve]
  apply integral_congr
  intro q1 _
  rw [integral_convolve]
  simp only [id, hassoc]

/-- **conv_binned**: if each factor is the binned (push-forward along an additive `φ`) image of a finer factor, the
convolution is the binned image of the finer convolution. -/
theorem conv_binned {κ κ₂ : Type} [DecidableEq κ] [Add κ] [DecidableEq κ₂] [Add κ₂] (φ : κ → κ₂)
    (hφ : ∀ a b, φ (a + b) = φ a + φ b) (d1 d2 : Dist κ) (e1 e2 : Dist κ₂)
    (h1 : ∀ g, integral e1 g = integral d1 (fun k => g (φ k))) (h2 : ∀ g, integral e2 g = integral d2 (fun k => g (φ k)))
    (g : κ₂ → Rat) :
    integral (convolve id none none e1 e2) g = integral (convolve id none none d1 d2) (fun k => g (φ k)) :=
  IsImage.convolve hφ h1 h2 g

/-- **conv_binned_kept**: the same with threshold tests that remove nothing (e.g. the code's `>= 0.0` on positive
abundances). -/
theorem conv_binned_kept {κ κ₂ : Type} [DecidableEq κ] [Add κ] [DecidableEq κ₂] [Add κ₂] (φ : κ → κ₂)
    (hφ : ∀ a b, φ (a + b) = φ a + φ b) (thr thr' : Option Rat) (d1 d2 : Dist κ) (e1 e2 : Dist κ₂)
    (hk : AllKept thr e1 e2) (hk' : AllKept thr' d1 d2)
    (h1 : ∀ g, integral e1 g = integral d1 (fun k => g (φ k))) (h2 : ∀ g, integral e2 g = integral d2 (fun k => g (φ k)))
    (g : κ₂ → Rat) :
    integral (convolve id thr none e1 e2) g = integral (convolve id thr' none d1 d2) (fun k => g (φ k)) := by
  rw [convolve_of_allKept id none hk, convolve_of_allKept id none hk']
  exact conv_binned φ hφ d1 d2 e1 e2 h1 h2 g

/-- **conv_pushforward**: binning the keys by an additive map commutes with convolution (after key-merge).  With
`φ = nominal neutron offset` on joint (mass, offset) keys this says that the neutron-offset view is the binned mass view. -/
theorem conv_pushforward {κ κ₂ : Type} [DecidableEq κ] [Add κ] [DecidableEq κ₂] [Add κ₂] (φ : κ → κ₂)
    (hφ : ∀ a b, φ (a + b) = φ a + φ b) (d1 d2 : Dist κ) (g : κ₂ → Rat) :
    integral (pushforward φ (convolve id none none d1 d2)) g =
    integral (convolve id none none (pushforward φ d1) (pushforward φ d2)) g :=
  (integral_pushforward φ _ g).trans
    (((isImage_pushforward φ d1).convolve hφ (isImage_pushforward φ d2)) g).symm

/-- **elemental_binned**: `conv_binned` for `count` atoms of one element (`_calculate_elemental_distribution`, floor off) -/
theorem elemental_binned {κ κ₂ : Type} [DecidableEq κ] [Add κ] [DecidableEq κ₂] [Add κ₂] (φ : κ → κ₂)
    (hφ : ∀ a b, φ (a + b) = φ a + φ b) (isos d : Dist κ) (isos' d' : Dist κ₂)
    (hi : ∀ g, integral isos' g = integral isos (fun k => g (φ k))) (n : Nat)
    (hd : ∀ g, integral d' g = integral d (fun k => g (φ k))) (g : κ₂ → Rat) :
    integral (elementalFrom none isos' n d') g = integral (elementalFrom none isos n d) (fun k => g (φ k)) :=
  IsImage.elementalFrom hφ hi n hd g

/-- **merge_adds**: `merge_isotopic_distributions` adds abundances at equal masses: the merged pattern integrates every
function of the mass to the sum of the integrals of its inputs (indicator functions: abundance at a mass = sum of the
input abundances at that mass), and it is sorted by mass. -/
theorem merge_adds (ds : List (Dist Rat)) (g : Rat → Rat) :
    integral (mergeDistributions ds none) g = sumIntegrals ds g ∧
    (mergeDistributions ds none).Pairwise (fun a b => a.1 ≤ b.1) := by
  constructor
  · unfold mergeDistributions
    rw [integral_perm (sortByKey_perm _), integral_mergeLoop]
    simp
  · exact sortByKey_sorted _

/-- abundance numerators of an element sum to the scale (abundances sum to 1) -/
def abSumOk (k : Key) : Bool :=
  match lookupEntry k with
  | some e => (e.2.2.map (·.2.2)).sum == abScale
  | none => false

/-- **abundances_sum_to_one**: for C,H,N,O,S,P,Se,Cl,Br,Fe the isotope abundances of the source table sum to exactly 1 -/
theorem abundances_sum_to_one :
    ∀ k ∈ [keyC, keyH, keyN, keyO, keyS, keyP, keySe, keyCl, keyBr, keyFe], abSumOk k = true := by decide +kernel

/-- the first (most abundant = "monoisotopic") isotope is the lightest one -/
def lightestFirst (k : Key) : Bool :=
  match lookupEntry k with
  | some e => (match e.2.2 with
    | i0 :: _ => i0.2.1 == e.2.1 && e.2.2.all (fun i => decide (e.2.1 ≤ i.2.1) && decide (i0.1 ≤ i.1))
    | [] => false)
  | none => false

/-- **lightest_is_monoisotopic_CHNOSP**: for C,H,N,O,S,P the monoisotopic (most abundant) isotope is the lightest, in mass
and in mass number; for Se, Cl(!), Br, Fe it is checked to be so only for Cl and Br -/
theorem lightest_is_monoisotopic_CHNOSP :
    (∀ k ∈ [keyC, keyH, keyN, keyO, keyS, keyP, keyCl, keyBr], lightestFirst k = true) ∧
    lightestFirst keySe = false ∧ lightestFirst keyFe = false := by decide +kernel

/-- every isotope abundance in the table is positive and every element's isotope keys (mass numbers) are distinct -/
theorem table_wellformed :
    (∀ e ∈ table, ∀ i ∈ e.2.2, 0 < i.2.2) ∧ (∀ e ∈ table, (e.2.2.map (·.1)).Nodup) :=
  ⟨table_pos, by decide +kernel⟩

/-- **normalised_elements**: in the mass view the isotope abundances of C,H,N,O,S,P,Se,Cl,Br,Fe sum to 1 as rationals — the
hypothesis of `weighted_mean_raw` / `weighted_mean_eq_average` holds for every composition over these elements. -/
theorem normalised_elements (k : Key) (hk : k ∈ [keyC, keyH, keyN, keyO, keyS, keyP, keySe, keyCl, keyBr, keyFe])
    (e : Entry) (he : lookupEntry k = some e) : total (massIsotopes e) = 1 := by
  have h := abundances_sum_to_one k hk
  unfold abSumOk at h
  rw [he] at h
  simp only [beq_iff_eq] at h
  rw [total_massIsotopes, h]
  unfold abScale; norm_num

/-- **mean_is_average_mass**: for every composition over C,H,N,O,S,P,Se,Cl,Br,Fe (any counts, integer or fractional, any
e/p/n entries), un-pruned and un-rounded, the abundance-weighted mean of the returned mass-view pattern is
`Σ count·(average atomic mass) + delta_mass + particle_mass_offset`. -/
theorem mean_is_average_mass (f : Formula) (o : Opts) (t : Dist Rat) (p d m : Rat) (out : Dist Rat)
    (hraw : rawDistribution f o = .ok (t, p, d, m)) (hfin : finishDistribution o t p d m = .ok out)
    (hfl : o.floor = none) (hmi : o.maxIsotopes = none) (hct : o.convMinAbundanceThreshold = none)
    (hmt : o.minAbundanceThreshold = none) (hres : o.resolution = none) (hneu : o.useNeutronCount = false)
    (hp : o.precision = none)
    (hel : ∀ q ∈ cleanFormula f, q.1 ∈ [keyC, keyH, keyN, keyO, keyS, keyP, keySe, keyCl, keyBr, keyFe]) :
    ∃ L, resolve o (cleanFormula f) = some L ∧ moment out = sumAb out * (momentSum L + d + p) := by
  obtain ⟨L, hL, h⟩ := weighted_mean_eq_average f o t p d m out hraw hfin hfl hmi hct hmt hres hneu hp
  refine ⟨L, hL, h ?_⟩
  intro x hx
  obtain ⟨q, hq, e, he, hxe⟩ := resolve_mem_mass_view o hneu _ L hL x hx
  exact hxe ▸ normalised_elements q.1 (hel q hq) e he

/-- key of the first entry of an isotope list: the monoisotopic (most abundant) isotope -/
def headKey (isos : Dist Rat) : Rat := (isos.head?.map (·.1)).getD 0

theorem massOf_mono (a b : Nat) (h : a ≤ b) : massOf a ≤ massOf b := by
  unfold massOf
  apply div_le_div_of_nonneg_right
  · exact_mod_cast h
  · unfold massScale; norm_num

/-- **lightest_mass_is_monoisotopic**: for C,H,N,O,S,P (and Cl, Br) the smallest key of the element's mass-view isotope list is
its first key, the monoisotopic mass `constants.ISOTOPIC_ATOMIC_MASSES[element]`. -/
theorem lightest_mass_is_monoisotopic (k : Key) (hk : k ∈ [keyC, keyH, keyN, keyO, keyS, keyP, keyCl, keyBr])
    (e : Entry) (he : lookupEntry k = some e) :
    IsMin (massIsotopes e) (headKey (massIsotopes e)) ∧ headKey (massIsotopes e) = monoMass e := by
  have h := lightest_is_monoisotopic_CHNOSP.1 k hk
  unfold lightestFirst at h
  rw [he] at h
  simp only [] at h
  split at h
  · next i0 t heq =>
    simp only [Bool.and_eq_true, beq_iff_eq, List.all_eq_true, decide_eq_true_eq] at h
    obtain ⟨h0, hall⟩ := h
    have hhead : headKey (massIsotopes e) = monoMass e := by
      unfold headKey massIsotopes monoMass
      rw [heq]; simp [h0]
    refine ⟨⟨⟨(massOf i0.2.1, abOf i0.2.2), ?_, ?_⟩, ?_⟩, hhead⟩
    · unfold massIsotopes; rw [heq]; simp
    · rw [hhead]; unfold monoMass; rw [h0]
    · intro q hq
      unfold massIsotopes at hq
      simp only [List.mem_map] at hq
      obtain ⟨i, hi, rfl⟩ := hq
      rw [hhead]
      exact massOf_mono _ _ (hall i (heq ▸ hi)).1
  · cases h

/-- **lightest_peak_is_monoisotopic_mass**: for every composition over C,H,N,O,S,P (Cl, Br), any counts and e/p/n entries,
un-pruned and un-rounded, the lightest peak of the returned mass-view pattern is
`Σ count·(monoisotopic mass) + delta_mass + particle_mass_offset` — the monoisotopic mass of the composition including its
electrons, protons and neutrons. -/
theorem lightest_peak_is_monoisotopic_mass (f : Formula) (o : Opts) (t : Dist Rat) (p d m : Rat) (out : Dist Rat)
    (hraw : rawDistribution f o = .ok (t, p, d, m)) (hfin : finishDistribution o t p d m = .ok out)
    (hfl : o.floor = none) (hmi : o.maxIsotopes = none) (hct : o.convMinAbundanceThreshold = none)
    (hmt : o.minAbundanceThreshold = none) (hres : o.resolution = none) (hneu : o.useNeutronCount = false)
    (hp : o.precision = none)
    (hel : ∀ q ∈ cleanFormula f, q.1 ∈ [keyC, keyH, keyN, keyO, keyS, keyP, keyCl, keyBr]) :
    ∃ L, resolve o (cleanFormula f) = some L ∧ IsMin out (lightSum L headKey + d + p) := by
  obtain ⟨L, hL, h⟩ := lightest_peak f o t p d m out hraw hfin hfl hmi hct hmt hres hneu hp
  refine ⟨L, hL, h headKey ?_⟩
  intro x hx
  obtain ⟨q, hq, e, he, hxe⟩ := resolve_mem_mass_view o hneu _ L hL x hx
  exact hxe ▸ (lightest_mass_is_monoisotopic q.1 (hel q hq) e he).1

/-- **neutron_view_is_binned_mass_view**: for every element of the table and every count, both the mass view and the
neutron-offset view of `_calculate_elemental_distribution` (floor off) are marginals of one joint distribution over
(mass, nominal offset): the neutron-offset view is the joint — hence the mass — view binned by nominal mass offset. -/
theorem neutron_view_is_binned_mass_view (e : Entry) (n : Nat) (g : Rat → Rat) :
    integral (elemental none (offsetIsotopes e) n) g =
      integral (elementalFrom none (jointIsotopes e) n [(((0 : Rat), (0 : Rat)), 1)]) (fun k => g k.2) ∧
    integral (elemental none (massIsotopes e) n) g =
      integral (elementalFrom none (jointIsotopes e) n [(((0 : Rat), (0 : Rat)), 1)]) (fun k => g k.1) :=
  ⟨(jointElemental_marginals e n).1 g, (jointElemental_marginals e n).2 g⟩

/-- **neutron_view_is_binned_pattern**: for every list of (element, count) the un-pruned, un-rounded element loop in the
neutron-offset view and in the mass view are the two marginals of the same joint (mass, nominal offset) pattern: the
neutron-offset view is the mass view binned by nominal mass offset. -/
theorem neutron_view_is_binned_pattern (Es : List (Entry × Nat)) (hEs : ∀ x ∈ Es, x.1 ∈ table) (g : Rat → Rat) :
    integral (convolveList id (some 0) none none (Es.map (fun x => (offsetIsotopes x.1, x.2))) [((0 : Rat), 1)]) g =
      integral (jointList Es [(((0 : Rat), (0 : Rat)), 1)]) (fun k => g k.2) ∧
    integral (convolveList id (some 0) none none (Es.map (fun x => (massIsotopes x.1, x.2))) [((0 : Rat), 1)]) g =
      integral (jointList Es [(((0 : Rat), (0 : Rat)), 1)]) (fun k => g k.1) := by
  have pos : ∀ iso : Entry → Dist Rat, (∀ e ∈ table, AllPos (iso e)) → ListPos (Es.map (fun x => (iso x.1, x.2))) :=
    fun iso hiso y hy => by obtain ⟨x, hx, rfl⟩ := List.mem_map.1 hy; exact hiso x.1 (hEs x hx)
  rw [convolveList_zero _ _ _ _ _ (pos offsetIsotopes allPos_offsetIsotopes) allPos_start,
    convolveList_zero _ _ _ _ _ (pos massIsotopes allPos_massIsotopes) allPos_start]
  exact ⟨jointList_binned offsetIsotopes (fun _ _ => rfl) (fun e n => (jointElemental_marginals e n).1) Es
      (isImage_singleton _ ((0 : Rat), (0 : Rat)) 1) g,
    jointList_binned massIsotopes (fun _ _ => rfl) (fun e n => (jointElemental_marginals e n).2) Es
      (isImage_singleton _ ((0 : Rat), (0 : Rat)) 1) g⟩

/-- **pruned_is_sublist**: the reporting threshold only removes peaks.  For every composition and every other option value, the
pattern returned with `min_abundance_threshold = thr` is a sub-list (same order) of the pattern returned with no threshold after
multiplying the latter's abundances by one common factor `c` (`c = 1` when the largest peak is scaled to
`distribution_abundance`; `c = Σ unpruned / Σ kept` with `is_abundance_sum`): every returned peak is a peak of the un-thresholded
pattern with the same mass and the same relative abundance.  No tolerance. -/
theorem pruned_is_sublist (f : Formula) (o : Opts) (out out0 : Dist Rat)
    (h : isotopicDistribution f o = .ok out)
    (h0 : isotopicDistribution f { o with minAbundanceThreshold := none } = .ok out0)
    (hp : o.precision = none) :
    ∃ c : Rat, out.Sublist (out0.map (fun q => (q.1, q.2 * c))) := by
  obtain ⟨t, p, d, m, hraw, hfin⟩ := isotopicDistribution_ok.1 h
  obtain ⟨t0, p0, d0, m0, hraw0, hfin0⟩ := isotopicDistribution_ok.1 h0
  -- the element loop does not look at the reporting threshold
  rw [rawDistribution_threshold_irrelevant, hraw] at hraw0
  cases hraw0
  exact finishDistribution_threshold_sublist o t p d m out out0 (allPos_raw f o t p d m hraw) hp hfin hfin0

/-- **max_isotopes_takes_top_k**: with `max_isotopes = n` the convolution step returns exactly `min n (number of peaks)` peaks of
the un-truncated result, sorted by abundance (descending), and every peak it drops is no more abundant than every peak it keeps:
kept ++ dropped is a permutation of the un-truncated result.  For every rounding function, threshold and pair of inputs. -/
theorem max_isotopes_takes_top_k {κ : Type} [DecidableEq κ] [Add κ] (rnd : κ → κ) (thr : Option Rat) (n : Nat) (d1 d2 : Dist κ) :
    ∃ dropped : Dist κ,
      (convolve rnd thr (some n) d1 d2 ++ dropped).Perm (convolve rnd thr none d1 d2) ∧
      (convolve rnd thr (some n) d1 d2).length = min n (convolve rnd thr none d1 d2).length ∧
      (convolve rnd thr (some n) d1 d2).Pairwise (fun a b => b.2 ≤ a.2) ∧
      ∀ x ∈ convolve rnd thr (some n) d1 d2, ∀ y ∈ dropped, y.2 ≤ x.2 := by
  rw [convolve_some]
  refine ⟨(sortDesc (convolve rnd thr none d1 d2)).drop n, ?_, ?_, ?_, ?_⟩
  · rw [List.take_append_drop]
    exact sortDesc_perm _
  · rw [List.length_take, (sortDesc_perm _).length_eq]
  · exact (sortDesc_sorted _).sublist (List.take_sublist n _)
  · intro x hx y hy
    have hs := sortDesc_sorted (convolve rnd thr none d1 d2)
    rw [← List.take_append_drop n (sortDesc (convolve rnd thr none d1 d2)), List.pairwise_append] at hs
    exact hs.2.2 x hx y hy

/-- **nfold_conv_eq_multinomial**: for every isotope list, every count `n` and every function `g` of the mass, the `n`-fold
self-convolution computed by `_calculate_elemental_distribution` (floor off) integrates `g` to the multinomial expansion
`multi` (iterated binomial form: `Σ_j C(n,j)·a₁^j·(expansion of the other isotopes with n−j atoms, shifted by j·m₁)`); with
`g` an indicator: the abundance at every mass is the sum of the multinomial terms with that mass. -/
theorem nfold_conv_eq_multinomial (isos : Dist Rat) (n : Nat) (g : Rat → Rat) :
    integral (elemental none isos n) g = multi isos n g := by
  induction n generalizing g with
  | zero =>
    cases isos with
    | nil => simp [elemental, elementalFrom, multi, integral]
    | cons q t => rw [multi_zero]; simp [elemental, elementalFrom, integral]
  | succ n ih =>
    rw [integral_elemental_succ, multi_succ]
    apply integral_congr
    intro q _
    exact ih _

/-- two carbon atoms: the peak at 12 + 13.00335483507 has abundance 2·0.9893·0.0107 -/
example : multi [((12 : Rat), 9893 / 10000), (1300335483507 / 100000000000, 107 / 10000)] 2
    (fun k => if k = 2500335483507 / 100000000000 then 1 else 0) = 2 * (9893 / 10000) * (107 / 10000) := by
  decide +kernel

/-- **integer_formula_no_shift**: for a composition whose counts are all Python ints, `delta_mass = 0`: the shift in
`weighted_mean_eq_average` / `lightest_peak` is the particle offset alone and the bracket is the average / monoisotopic mass
of the composition itself. -/
theorem integer_formula_no_shift (f : Formula) (o : Opts) (t : Dist Rat) (p d m : Rat)
    (hraw : rawDistribution f o = .ok (t, p, d, m)) (hint : ∀ q ∈ f, q.2.isInt = true) : d = 0 :=
  (rawDistribution_inv f o t p d m hraw).2.2 (List.all_eq_true.2 fun q hq => hint q (mem_of_mem_cleanCounts hq))

/-- **no_error_after_element_loop**: once the element loop has produced a non-empty distribution, normalisation, shifting and
scaling never fail (no `max()` of an empty dict, no division by zero), for every option value. -/
theorem no_error_after_element_loop (f : Formula) (o : Opts) (t : Dist Rat) (p d m : Rat)
    (hraw : rawDistribution f o = .ok (t, p, d, m)) (hne : t ≠ []) :
    ∃ out, isotopicDistribution f o = .ok out :=
  isotopicDistribution_succeeds f o t p d m hraw hne

/-! ## non-vacuity: concrete inputs satisfying the hypotheses -/

example : rawOk exF1 exO = true ∧ rawOk exF2 exO = true ∧ rawOk exF1 {} = true := rawOk_examples
example : ∀ q ∈ exF1, q.2.isInt = true := by decide
example : ∀ q ∈ cleanFormula exF2, q.1 ∈ [keyC, keyH, keyN, keyO, keyS, keyP, keySe, keyCl, keyBr, keyFe] := by decide +kernel
example : (cleanFormula exF2, particleOf exF1) = ([(keyC, 2), (keyH, 4), (keyS, 1)], -electronMass) := by decide +kernel
/-- the un-normalised distribution of C2 has the three peaks 24, 25.00335483507, 26.00670967014 with total abundance 1 -/
example : (match rawDistribution [(keyC, .int 2)] exO with
    | .ok (t, _, _, _) => t.map (·.1) == [24, 2500335483507 / 100000000000, 1300335483507 / 50000000000] && sumAb t == 1
    | .error _ => false) = true := by decide +kernel
example : integral (convolve id none none [((1 : Rat), 1 / 2), (2, 1 / 2)] [((1 : Rat), 1 / 2), (2, 1 / 2)]) (fun k => if k = 3 then 1 else 0) = 1 / 2 := by
  decide +kernel

/-- the hypotheses `isotopicDistribution f o = .ok out` of the theorems above are satisfiable -/
example : ∃ out, isotopicDistribution exF1 exO = .ok out := run_of_rawOk _ _ rawOk_examples.1

/-- the algebraic hypotheses of `conv_comm`, `conv_assoc`, `conv_pushforward` hold for masses and for (mass, offset) pairs -/
example : ∀ a b : Rat, a + b = b + a := Rat.add_comm
example : ∀ a b c : Rat, a + b + c = a + (b + c) := Rat.add_assoc
example : ∀ a b : Rat × Rat, (a + b).2 = a.2 + b.2 := fun _ _ => rfl
/-- sulfur is in the table with four isotopes (hypothesis `x.1 ∈ table` of `neutron_view_is_binned_pattern`, via `lookupEntry_mem`) -/
example : (lookupEntry keyS).map (fun e => (massIsotopes e).length) = some 4 := by decide +kernel

/-- hypotheses of `pruned_is_sublist`: a thresholded and an un-thresholded run of the same composition both succeed -/
example : (∃ out, isotopicDistribution exF2 { exO with minAbundanceThreshold := some (1 / 1000) } = .ok out) ∧
    (∃ out0, isotopicDistribution exF2 { { exO with minAbundanceThreshold := some (1 / 1000) } with minAbundanceThreshold := none } = .ok out0) :=
  -- the element loop does not look at the reporting threshold: both runs share the loop of `exF2` under `exO`
  ⟨run_of_rawOk _ _ ((rawOk_threshold_irrelevant exF2 _).symm.trans rawOk_examples.2.1),
    run_of_rawOk _ _ rawOk_examples.2.1⟩

end C14
