import PeptVerif.Lemmas.ConcreteEnv
import PeptVerif.Lemmas.ConcreteBridge
import PeptVerif.Lemmas.ConcreteKeys
import PeptVerif.Lemmas.DecText
import PeptVerif.Props.C18
/-!
# C18 over the concrete tables of /repo

`Props/C18.lean` proves the theorems about `condense_to_mass_mods` for ANY weights, and with a label in force under the
hypothesis `Coherent`. Here the environment is the concrete one (`Model/ConcreteEnv.lean`: tables regenerated from /repo on
every run + a modification resolver), for which `Coherent` is a theorem (`Lemmas/ConcreteEnv.lean`), and the no-label
statement is carried over to the concrete mass model of C02 (`Mass.mass`, `Model/Mass.lean`) through the fast-path bridge.
-/
namespace Pept
namespace C18Concrete
open Chem AbsMass Static CondenseMass Concrete

/-- the resolver weighs a written number by its value (what `mod_mass` does for an int and for a float) -/
structure ResolverNumeric (env : Pept.Env) : Prop where
  int : ∀ i : ℤ, (env.res (.int i)).mono = .ok (i : ℚ)
  flt : ∀ t : List Char, (env.res (.flt t)).mono = .ok (valOfText t)

theorem mu_int (env : Pept.Env) (h : ResolverNumeric env) (ion : Key) (ch iso : Int) (loss : ℚ) (i : ℤ) :
    (envFor env ion true ch iso loss).mu (.int i) = i :=
  muOf_ok env _ _ (h.int i)

theorem mu_flt (env : Pept.Env) (h : ResolverNumeric env) (ion : Key) (ch iso : Int) (loss : ℚ) (t : List Char) :
    (envFor env ion true ch iso loss).mu (.flt t) = valOfText t :=
  muOf_ok env _ _ (h.flt t)

theorem numeric_resolves (env : Pept.Env) (h : ResolverNumeric env) (m : Mod) (hm : C18.NumericMod m) :
    Spec.modResolves env true m = true := by
  unfold Spec.modResolves
  rcases hm.2 with ⟨i, hi⟩ | ⟨r, hr⟩
  · simp only [if_true, hi, h.int i]
  · simp only [if_true, hr, h.flt r]

theorem placedMods_subset_allMods (b : Annotation) (ion : Key) : ∀ x ∈ Spec.placedMods b ion, x ∈ allMods b :=
  Concrete.placedMods_subset_allMods b ion

/-- **C18's mass clause in the concrete mass model of C02** (no isotope label): `condense_to_mass_mods` computed with the
masses of the generated tables returns an annotation `n`; `Mass.mass` of the input and `Mass.mass` of `n` both succeed and
differ by at most ½·10⁻ᵖ per number written plus 10⁻⁶ per nonzero residue total under the cut-off. -/
theorem condense_mass_concrete (env : Pept.Env) (hnum : ResolverNumeric env) (a n : Annotation) (p : ℕ)
    (hiso : a.isotope = none) (hadd : a.adducts = none) (hr : InRange a)
    (hdom : Spec.inDomain env a Mass.ionP true none = true) (hparse : ParseAgrees env a)
    (h : condenseToMassAnn (envFor env Mass.ionP true (a.charge.getD 0) 0 0) a p = .ok n) :
    ∃ c s x y, condenseStatic a = .ok c ∧ shiftsOf (envFor env Mass.ionP true (a.charge.getD 0) 0 0) c p = .ok s ∧
      n = render c s p ∧ Mass.mass env a {} = .ok x ∧ Mass.mass env n {} = .ok y ∧
      |y - x| ≤ (written c s : ℚ) * halfUlp p +
        (droppedNonzero (diffsOf (envFor env Mass.ionP true (a.charge.getD 0) 0 0) c) : ℚ) * threshold := by
  obtain ⟨c, s, x, hc, hs, hn', hx, hb⟩ := C18.condense_mass (envFor env Mass.ionP true (a.charge.getD 0) 0 0) a n p hiso hr
    (mu_int env hnum Mass.ionP (a.charge.getD 0) 0 0) rfl h
  obtain ⟨_, hca, hcc⟩ := condenseStatic_untouched a c hc
  obtain ⟨x', hx1, hx2⟩ := mass_bridge env a {} rfl hiso rfl hadd rfl hdom hparse
  obtain rfl : x' = x := Except.ok.inj (hx2.symm.trans hx)
  obtain ⟨hres, hoff, -⟩ := (Mass.inDomain_iff env a Mass.ionP true none).1 hdom
  have hy := mass_render_concrete env hnum.int hnum.flt c s p (hca.trans hadd) (condenseStatic_seq a c hc ▸ hres) hoff
  rw [hcc, ← hn'] at hy
  exact ⟨c, s, _, _, hc, hs, hn', hx1, hy, hb⟩

/-- **C18's mass clause with an isotope label, over the concrete tables**: `Coherent` is not a hypothesis here: it is
`coherent_envOf`, a theorem about the regenerated tables. What remains assumed is about the RESOLVED modification masses
only: every modification resolves, ints weigh themselves, and each modification written outside a residue position has a
tabulated mass within `δ` of the mass of its composition. Bound: `k·½·10⁻ᵖ + z·10⁻⁶ + j·δ`. -/
theorem condense_mass_label_concrete (env : Pept.Env) (mono : Bool) (a n : Annotation) (p : ℕ) (m0 : Mod) (L : List Mod)
    (lm : LabelMap) (δ : ℚ)
    (hiso : a.isotope = some (m0 :: L)) (hl : parseIsotopeMods (envOf env mono).knownLabel (m0 :: L) = .ok lm)
    (hr : InRange a) (hint : ∀ i : ℤ, (envOf env mono).mu (.int i) = i)
    (hres : ∀ c, condenseStatic a = .ok c → ∀ m ∈ allMods c, isBad (envOf env mono) m = false)
    (hrule : absentRuleBad (envOf env mono) a = false)
    (h : condenseToMassAnn (envOf env mono) a p = .ok n)
    (hδ : ∀ c, condenseStatic a = .ok c → ∀ m ∈ outsideMods c,
      |AbsMass.modMass (envOf env mono) m - AbsMass.modMass (envC (envOf env mono)) m| ≤ δ) :
    ∃ c s x, condenseStatic a = .ok c ∧ shiftsOf (envOf env mono) c p = .ok s ∧ n = render c s p ∧
      massOf (envOf env mono) a = .ok x ∧
      |outMass (envOf env mono) c s p - x| ≤ (writtenL c s : ℚ) * halfUlp p +
        (droppedL (envOf env mono) lm c : ℚ) * threshold + δ * ((outsideMods c).length : ℚ) :=
  C18.condense_mass_label_delta (envOf env mono) (coherent_envOf env mono) a n p m0 L lm δ hiso hl hr hint hres hrule h hδ

/-- what is assumed about the RESOLVED modification masses, in terms of the resolver alone: a plain shift is weighed as that
shift; a value with a composition has a tabulated mass within `δ` of the mass of that composition under the generated
element table (C03 / C10's subject; ≈ 1e-6 for Unimod / PSI-MOD names on /repo), and its element keys fit in 8 bytes -/
structure ResolverClose (env : Pept.Env) (mono : Bool) (δ : ℚ) : Prop where
  nonneg : 0 ≤ δ
  delta : ∀ v d, (env.res v).delta = .ok (some d) → muOf env mono v = d
  comp : ∀ v c, (env.res v).delta = .ok none → (env.res v).comp = .ok c →
    SmallKeys c ∧ |muOf env mono v - chemMassL (fun e => (elemMass mono e).getD 0) c| ≤ δ

/-- from the resolver-level hypothesis to the per-modification tolerance of the abstract theorem -/
theorem modMass_close (env : Pept.Env) (mono : Bool) (δ : ℚ) (h : ResolverClose env mono δ) (m : Mod)
    (hres : isBad (envOf env mono) m = false) :
    |AbsMass.modMass (envOf env mono) m - AbsMass.modMass (envC (envOf env mono)) m| ≤ δ * |(m.mult : ℚ)| := by
  have hb : (match modResOf env m.val with | .bad => true | _ => false) = false := hres
  show |muOf env mono m.val * (m.mult : ℚ) -
    (match modResOf env m.val with | .comp c => AbsMass.chemMass (emOf mono) c | .delta d => d | .bad => 0) * m.mult| ≤ _
  rw [← sub_mul, abs_mul]
  refine mul_le_mul_of_nonneg_right ?_ (abs_nonneg _)
  rcases modResOf_cases env m.val with ⟨d, hd, hr⟩ | ⟨c, hd, hc, hr⟩ | hr
  · rw [hr, h.delta _ d hd, sub_self, abs_zero]
    exact h.nonneg
  · obtain ⟨hk, hle⟩ := h.comp _ c hd hc
    rw [hr]
    simpa only [chemMass_decodeComp mono c hk] using hle
  · rw [hr] at hb
    cases hb

/-- **C18's mass clause with an isotope label over the concrete tables, hypotheses on the resolver only**: every modification
of the condensed annotation resolves, ints weigh themselves, the resolved masses are `δ`-close to their compositions
(`ResolverClose`). Bound: `k·½·10⁻ᵖ + z·10⁻⁶ + δ·Σ|multiplier|` over the modifications written outside residue positions. -/
theorem condense_mass_label_resolved (env : Pept.Env) (mono : Bool) (a n : Annotation) (p : ℕ) (m0 : Mod) (L : List Mod)
    (lm : LabelMap) (δ : ℚ) (hclose : ResolverClose env mono δ)
    (hiso : a.isotope = some (m0 :: L)) (hl : parseIsotopeMods (envOf env mono).knownLabel (m0 :: L) = .ok lm)
    (hr : InRange a) (hint : ∀ i : ℤ, (envOf env mono).mu (.int i) = i)
    (hres : ∀ c, condenseStatic a = .ok c → ∀ m ∈ allMods c, isBad (envOf env mono) m = false)
    (hrule : absentRuleBad (envOf env mono) a = false)
    (h : condenseToMassAnn (envOf env mono) a p = .ok n) :
    ∃ c s x, condenseStatic a = .ok c ∧ shiftsOf (envOf env mono) c p = .ok s ∧ n = render c s p ∧
      massOf (envOf env mono) a = .ok x ∧
      |outMass (envOf env mono) c s p - x| ≤ (writtenL c s : ℚ) * halfUlp p +
        (droppedL (envOf env mono) lm c : ℚ) * threshold + δ * multSum (outsideMods c) := by
  obtain ⟨c, s, x, hcd, hs, hn', hx, hb⟩ :=
    C18.condense_mass_label (envOf env mono) (coherent_envOf env mono) a n p m0 L lm hiso hl hr hint hres hrule h
  refine ⟨c, s, x, hcd, hs, hn', hx, ?_⟩
  have hsl := slack_leW (envOf env mono) c δ (fun m hm => by
    apply modMass_close env mono δ hclose m
    apply hres c hcd
    simp only [outsideMods, allMods, List.mem_append] at hm ⊢
    grind)
  linarith

end C18Concrete
end Pept
