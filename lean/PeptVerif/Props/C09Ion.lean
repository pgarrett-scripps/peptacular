import PeptVerif.Model.C09Ion
/-!
# C09 — `parse_ion_elements` is total

Model: Model/C09Ion.lean; `popCount`, `popSymbol`, `digitsUS`, `popCharge` are structural recursions / list combinators on
the text, so termination is checked by Lean.  A separate Props module because `Pept.Err` of the parser model
(Model/ModText.lean) and of the mass model (Model/Chem.lean, used by Props/C09Ext.lean) cannot be imported together.
`Mass.parseIonElements` (Model/Mass.lean, over code points, behind C02's adduct theorems) is a second model of the same function;
no theorem relates the two.
-/
namespace Pept
namespace Ion

/-- **`parse_ion_elements` is total.** For EVERY text and EVERY element table the repaired function returns
(count, symbol, charge) or raises ValueError — never TypeError / KeyError / IndexError. -/
theorem parseIon_total (known : List Char → Bool) (s : List Char) :
    (∃ r, parseIonElements true known s = .ok r) ∨ parseIonElements true known s = .error .value := by
  unfold parseIonElements
  cases popCount s 1 [] with
  | none => exact Or.inr rfl
  | some p =>
    obtain ⟨cnt, rest⟩ := p
    simp only
    split
    · exact Or.inr rfl
    · cases hc : popCharge (popSymbol rest).2 with
      | ok v => exact Or.inl ⟨_, rfl⟩
      | error e =>
        have : e = .value := by
          unfold popCharge at hc
          simp only at hc
          split at hc
          · cases hc
          · split at hc
            · cases hc
            · cases hc; rfl
        subst this; exact Or.inr rfl

example : parseIonElements true (fun s => s = ['M', 'g']) "+2Mg2-".toList = .ok (2, ['M', 'g'], -2) := by decide
example : parseIonElements true (fun s => s = ['N', 'a']) "Na1_0+".toList = .ok (1, ['N', 'a'], 10) := by decide
example : parseIonElements true (fun _ => true) "+Na+x".toList = .error .value := by decide
example : parseIonElements true (fun _ => false) "+Foo+".toList = .error .value := by decide

/-- The full statement is FALSE for the code before fix e1f2554: no symbol at all (`''`, `'+'`, `'2+'`) made
`count, ion = None` raise TypeError. -/
theorem parseIon_total_false_before_fix (known : List Char → Bool) :
    parseIonElements false known [] = .error .type ∧ parseIonElements false known "2+".toList = .error .type := by
  constructor <;> rfl

/-- **Deferred validation of the ion symbol happens here.** Whatever the repaired function returns has a symbol that is the
electron `e` or a key of the element table: the later `ISOTOPIC_ATOMIC_MASSES[symbol]` of `_parse_adduct_mass` cannot raise
KeyError (it could before the fix: `parseIonElements false (fun _ => false) "+Foo+"` is accepted). -/
theorem parseIon_symbol_known (known : List Char → Bool) (s : List Char) (cnt ch : Int) (sym : List Char)
    (h : parseIonElements true known s = .ok (cnt, sym, ch)) : sym = ['e'] ∨ known sym = true := by
  unfold parseIonElements at h
  cases hp : popCount s 1 [] with
  | none => simp [hp] at h
  | some p =>
    obtain ⟨c, rest⟩ := p
    simp only [hp] at h
    split at h
    · cases h
    · rename_i hk
      cases hc : popCharge (popSymbol rest).2 with
      | error e => simp [hc] at h
      | ok v =>
        simp [hc] at h
        obtain ⟨_, hs, _⟩ := h
        subst hs
        simp at hk
        by_cases he : (popSymbol rest).1 = ['e']
        · exact Or.inl he
        · exact Or.inr (hk he)

example : parseIonElements false (fun _ => false) "+Foo+".toList = .ok (1, ['F', 'o', 'o'], 1) := by decide

end Ion
end Pept
