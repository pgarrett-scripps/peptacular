import PeptVerif.Lemmas.SpansSemi
/-!
# C06 — digestion returns exactly the spans the rules define

`IsEnz`, `IsSemi`, `IsSpan`, `NonSpecific` are the set specification of
`Spec/Spans.lean`; the left-hand sides are the models of `/repo/src/peptacular/spans.py`
(`Model/Spans.lean`). Every theorem is for ALL `n`, ALL site lists (unsorted, with duplicates), ALL
`mc`, `lo`, `hi` (or `none`) — no size bound anywhere.

Domain hypotheses that appear below, and why they are not removable (each is outside the domain the
property quantifies over: sites come from a regex over a string of length `n`, `min_len ≥ 1`):

* `hlo : 1 ≤ lo.getD 1` (non-specific and semi case). With `min_len = 0` the code returns empty spans
  `(s,s,0)` (and, semi-specific, even twice), which the specification does not regard as spans.
  See `lo_zero_gives_empty_spans`.
* `hn : 0 ≤ n`, `hb : ∀ s ∈ sites, 0 ≤ s ∧ s ≤ n` (non-specific and semi case). The shortcut test
  `len(set(sites)) == n+1` and the default `max_len = n` used for the parents of semi spans are only
  meaningful for sites inside `[0,n]`. See `site_outside_loses_semi_spans`.

The enzymatic case (`semi = false`) needs no hypothesis except that the shortcut is not taken.
-/
namespace Spans

/-- `build_non_enzymatic_spans(span, lo, hi)`: all `(s,e,0)` with `start ≤ s < stop`, `e ≤ stop`, length
at least `lo` (default 1), at most `hi` (default: no bound) and strictly less than the parent's length. -/
theorem mem_buildNonEnzymatic (span : Span) (lo hi : Option Int) (x : Span) :
    x ∈ buildNonEnzymatic span lo hi ↔
      span.1 ≤ x.1 ∧ x.1 < span.2.1 ∧ x.2.1 ≤ span.2.1 ∧ x.2.2 = 0 ∧
        lo.getD 1 ≤ x.2.1 - x.1 ∧ x.2.1 - x.1 ≤ hi.getD (span.2.1 - span.1 - 1) ∧
        x.2.1 - x.1 < span.2.1 - span.1 := by
  obtain ⟨s, e, v⟩ := x
  exact mk_mem_buildNonEnzymatic span lo hi s e v

theorem nodup_buildNonEnzymatic (span : Span) (lo hi : Option Int) : (buildNonEnzymatic span lo hi).Nodup :=
  buildNonEnzymatic_nodup span lo hi

example : (1, 3, 0) ∈ buildNonEnzymatic (0, 4, 7) none (some 2) := by decide +kernel

/-- `build_left_semi_spans(span, lo, hi)`: same start and value as the parent, end strictly before the
parent's end (and not before the start), length in `[lo, hi]` (defaults 1 and the parent's length). -/
theorem mem_buildLeftSemi (span : Span) (lo hi : Option Int) (x : Span) :
    x ∈ buildLeftSemi span lo hi ↔
      x.1 = span.1 ∧ x.2.2 = span.2.2 ∧ x.1 ≤ x.2.1 ∧ x.2.1 < span.2.1 ∧
        lo.getD 1 ≤ x.2.1 - x.1 ∧ x.2.1 - x.1 ≤ hi.getD (span.2.1 - span.1) := by
  obtain ⟨s, e, v⟩ := x
  exact mk_mem_buildLeftSemi span lo hi s e v

theorem nodup_buildLeftSemi (span : Span) (lo hi : Option Int) : (buildLeftSemi span lo hi).Nodup :=
  buildLeftSemi_nodup span lo hi

example : (2, 5, 1) ∈ buildLeftSemi (2, 9, 1) (some 2) (some 3) := by decide +kernel

/-- `build_right_semi_spans(span, lo, hi)`: same end and value as the parent, start strictly after the
parent's start (and not after the end), length in `[lo, hi]`. -/
theorem mem_buildRightSemi (span : Span) (lo hi : Option Int) (x : Span) :
    x ∈ buildRightSemi span lo hi ↔
      x.2.1 = span.2.1 ∧ x.2.2 = span.2.2 ∧ span.1 < x.1 ∧ x.1 ≤ x.2.1 ∧
        lo.getD 1 ≤ x.2.1 - x.1 ∧ x.2.1 - x.1 ≤ hi.getD (span.2.1 - span.1) := by
  obtain ⟨s, e, v⟩ := x
  exact mk_mem_buildRightSemi span lo hi s e v

theorem nodup_buildRightSemi (span : Span) (lo hi : Option Int) : (buildRightSemi span lo hi).Nodup :=
  buildRightSemi_nodup span lo hi

example : (6, 9, 1) ∈ buildRightSemi (2, 9, 1) (some 2) (some 3) := by decide +kernel

/-- C06, enzymatic builder: exactly the spans between cleavage points of `S ∪ {0,n}` with at most
`mc` cleavage points strictly inside, within the inclusive length bounds; the value is that count.
For every `n`, every site list (unsorted, with duplicates), every `mc`, `lo`, `hi`. -/
theorem mem_buildEnzymatic (n : Int) (sites : List Int) (mc : Nat) (lo hi : Option Int) (x : Span) :
    x ∈ buildEnzymatic n sites mc lo hi ↔
      IsEnz n sites mc x ∧ lo.getD 1 ≤ x.2.1 - x.1 ∧ x.2.1 - x.1 ≤ hi.getD n := by
  obtain ⟨s, e, v⟩ := x
  exact mk_mem_buildEnzymatic n sites mc lo hi s e v

/-- non-vacuity: a concrete enzymatic span with one missed cleavage -/
example : IsEnz 14 [5, 10] 2 (0, 10, 1) := by decide +kernel

theorem nodup_buildEnzymatic (n : Int) (sites : List Int) (mc : Nat) (lo hi : Option Int) :
    (buildEnzymatic n sites mc lo hi).Nodup :=
  nodup_enzGo _ _ _ _ (ssorted_plus n sites)

/-- the per-group loop of `_grouped_left_semi_span_builder`, on ANY group of strictly decreasing length
(not only enzymatic ones): `x` is emitted from the parent `p` iff it keeps `p`'s start and value, is strictly
shorter than `p`, has length in `[lo, hi]`, and is strictly longer than every shorter parent of the group —
i.e. every left semi span is produced exactly from its next longer parent. This is where
`new_min = max(min_len, next_len + 1)`, `new_max = min(max_len, len - 1)` and the `<=` break live. -/
theorem mem_groupLoop_left (lo : Int) (hi : Option Int) (G : List Span)
    (hG : G.Pairwise (fun a b => spanLen b < spanLen a)) (x : Span) :
    x ∈ groupLoop buildLeftSemi false lo hi G ↔
      ∃ p ∈ G, (x.1 = p.1 ∧ x.2.2 = p.2.2) ∧ lo ≤ spanLen x ∧ (∀ m, hi = some m → spanLen x ≤ m) ∧
        0 ≤ spanLen x ∧ spanLen x < spanLen p ∧ ∀ q ∈ G, spanLen q < spanLen p → spanLen q < spanLen x := by
  rw [mem_groupLoop buildSpec_left false lo hi G hG]
  simp only [optLe_iff, shL_iff]

/-- the same for `_grouped_right_semi_span_builder` (break condition `<`) -/
theorem mem_groupLoop_right (lo : Int) (hi : Option Int) (G : List Span)
    (hG : G.Pairwise (fun a b => spanLen b < spanLen a)) (x : Span) :
    x ∈ groupLoop buildRightSemi true lo hi G ↔
      ∃ p ∈ G, (x.2.1 = p.2.1 ∧ x.2.2 = p.2.2) ∧ lo ≤ spanLen x ∧ (∀ m, hi = some m → spanLen x ≤ m) ∧
        0 ≤ spanLen x ∧ spanLen x < spanLen p ∧ ∀ q ∈ G, spanLen q < spanLen p → spanLen q < spanLen x := by
  rw [mem_groupLoop buildSpec_right true lo hi G hG]
  simp only [optLe_iff, shR_iff]

example : [(0, 10, 1), (0, 5, 0)].Pairwise (fun a b : Span => spanLen b < spanLen a) ∧
    groupLoop buildLeftSemi false 2 (some 8) [(0, 10, 1), (0, 5, 0)] =
      [(0, 8, 1), (0, 7, 1), (0, 6, 1), (0, 4, 0), (0, 3, 0), (0, 2, 0)] := by decide +kernel

/-- `_grouped_left_semi_span_builder` applied to the enzymatic span list (built with the same `min_len`
and a `max_len` that drops no parent): exactly the spans whose start is a cleavage point, whose end is NOT
one, with a cleavage point at or after the end reachable with at most `mc` missed cleavages; the value is
the number of cleavage points strictly inside. No span is produced from two parents. -/
theorem mem_groupedLeft_enzymatic (n : Int) (sites : List Int) (mc : Nat) (lo hi : Int) (hiE : Option Int)
    (hlo : 1 ≤ lo) (hhi : ∀ a ∈ plus n sites, ∀ b ∈ plus n sites, b - a ≤ hiE.getD n) (x : Span) :
    x ∈ groupedLeft (buildEnzymatic n sites mc (some lo) hiE) (some lo) (some hi) ↔
      lo ≤ x.2.1 - x.1 ∧ x.2.1 - x.1 ≤ hi ∧ x.1 ∈ plus n sites ∧ x.2.1 ∉ plus n sites ∧
        x.2.2 = (inside (plus n sites) x.1 x.2.1 : Int) ∧
        ∃ e' ∈ plus n sites, x.2.1 ≤ e' ∧ inside (plus n sites) x.1 e' ≤ mc := by
  obtain ⟨s, e, v⟩ := x
  exact mem_groupedLeft_enz mc lo (hiE.getD n) hi (plus n sites) (ssorted_plus n sites) hlo hhi s e v

theorem mem_groupedRight_enzymatic (n : Int) (sites : List Int) (mc : Nat) (lo hi : Int) (hiE : Option Int)
    (hlo : 1 ≤ lo) (hhi : ∀ a ∈ plus n sites, ∀ b ∈ plus n sites, b - a ≤ hiE.getD n) (x : Span) :
    x ∈ groupedRight (buildEnzymatic n sites mc (some lo) hiE) (some lo) (some hi) ↔
      lo ≤ x.2.1 - x.1 ∧ x.2.1 - x.1 ≤ hi ∧ x.2.1 ∈ plus n sites ∧ x.1 ∉ plus n sites ∧
        x.2.2 = (inside (plus n sites) x.1 x.2.1 : Int) ∧
        ∃ s' ∈ plus n sites, s' ≤ x.1 ∧ inside (plus n sites) s' x.2.1 ≤ mc := by
  obtain ⟨s, e, v⟩ := x
  exact mem_groupedRight_enz mc lo (hiE.getD n) hi (plus n sites) (ssorted_plus n sites) hlo hhi s e v

theorem nodup_groupedLeft_enzymatic (n : Int) (sites : List Int) (mc : Nat) (lo hi hiE lo' : Option Int) :
    (groupedLeft (buildEnzymatic n sites mc lo hiE) lo' hi).Nodup :=
  nodup_groupedLeft_enz mc _ _ hi _ (ssorted_plus n sites) lo'

theorem nodup_groupedRight_enzymatic (n : Int) (sites : List Int) (mc : Nat) (lo hi hiE lo' : Option Int) :
    (groupedRight (buildEnzymatic n sites mc lo hiE) lo' hi).Nodup :=
  nodup_groupedRight_enz mc _ _ hi _ (ssorted_plus n sites) lo'

/-- non-vacuity: the doctest of `_grouped_left_semi_span_builder` and a hypothesis instance -/
example : groupedLeft (buildEnzymatic 5 [3] 1 (some 1) none) (some 1) (some 5) =
      [(0, 4, 1), (0, 2, 0), (0, 1, 0), (3, 4, 0)] ∧
    ∀ a ∈ plus 5 [3], ∀ b ∈ plus 5 [3], b - a ≤ (none : Option Int).getD 5 := by decide +kernel

/-- the shortcut test of `build_spans` (`len(sorted(set(sites))) == max_index + 1`) recognises exactly
the non-specific rule, as long as every site lies in `[0,n]` -/
theorem shortcut_iff_nonSpecific (n : Int) (sites : List Int) (hn : 0 ≤ n) (hb : ∀ s ∈ sites, 0 ≤ s ∧ s ≤ n) :
    ((sortDedup sites).length : Int) = n + 1 ↔ NonSpecific n sites :=
  length_sortDedup_iff n sites (by omega) hb

example : NonSpecific 3 [2, 0, 3, 1, 2] ∧ ∀ s ∈ [2, 0, 3, 1, 2], (0:Int) ≤ s ∧ s ≤ 3 := by decide +kernel

/-- C06, non-specific rule: when every position `0..n` is a site, the result is every proper sub-span
within the bounds, with value 0 — whatever `mc` and `semi` are. -/
theorem mem_buildSpans_nonspecific (n : Int) (sites : List Int) (mc : Nat) (lo hi : Option Int) (semi : Bool)
    (hn : 0 ≤ n) (hb : ∀ s ∈ sites, 0 ≤ s ∧ s ≤ n) (hlo : 1 ≤ lo.getD 1) (hns : NonSpecific n sites)
    (x : Span) :
    x ∈ buildSpans n sites mc lo hi semi ↔ IsSpan n sites mc (lo.getD 1) (hi.getD n) semi x := by
  have hlen := (shortcut_iff_nonSpecific n sites hn hb).mpr hns
  obtain ⟨s, e, v⟩ := x
  unfold buildSpans IsSpan
  simp only [hlen, if_true, hns]
  rw [mk_mem_buildNonEnzymatic]
  simp only [Option.getD_some]
  constructor <;> (intro h; omega)

example : IsSpan 3 [2, 0, 3, 1, 2] 0 1 3 true (1, 3, 0) := by decide +kernel

/-- C06, enzymatic digestion (`semi = False`), shortcut not taken: no hypothesis on `n`, sites or bounds. -/
theorem mem_buildSpans_enzymatic (n : Int) (sites : List Int) (mc : Nat) (lo hi : Option Int)
    (hlen : ((sortDedup sites).length : Int) ≠ n + 1) (x : Span) :
    x ∈ buildSpans n sites mc lo hi false ↔
      IsEnz n sites mc x ∧ lo.getD 1 ≤ x.2.1 - x.1 ∧ x.2.1 - x.1 ≤ hi.getD n := by
  obtain ⟨s, e, v⟩ := x
  exact mk_mem_buildSpans_enzymatic n sites mc lo hi hlen s e v

example : ((sortDedup [5, 10, 5]).length : Int) ≠ 14 + 1 := by decide +kernel

/-- C06, semi-specific digestion, shortcut not taken: exactly the spans that share one end with an
enzymatic span containing them (the enzymatic spans included), with the number of cleavage points
strictly inside as value, filtered by the length bounds. -/
theorem mem_buildSpans_semi (n : Int) (sites : List Int) (mc : Nat) (lo hi : Option Int)
    (hn : 0 ≤ n) (hb : ∀ s ∈ sites, 0 ≤ s ∧ s ≤ n) (hlo : 1 ≤ lo.getD 1)
    (hlen : ((sortDedup sites).length : Int) ≠ n + 1) (x : Span) :
    x ∈ buildSpans n sites mc lo hi true ↔
      IsSemi n sites mc x ∧ lo.getD 1 ≤ x.2.1 - x.1 ∧ x.2.1 - x.1 ≤ hi.getD n := by
  have hLb := plus_bounds n sites hn hb
  obtain ⟨s, e, v⟩ := x
  rw [buildSpans_semi_eq n sites mc lo hi hlen]
  exact mem_buildSemi_enz mc _ n _ _ (ssorted_plus n sites) hlo
    (fun a ha b hb' => by have := hLb a ha; have := hLb b hb'; omega) s e v

/-- non-vacuity (n = 14, S = [5,10], mc = 2, semi): a left semi span inside `(0,10)`, a right semi span,
and the hypotheses of `mem_buildSpans_semi` -/
example : IsSemi 14 [5, 10] 2 (0, 7, 1) ∧ IsSemi 14 [5, 10] 2 (3, 14, 2) ∧
    (∀ s ∈ [5, 10], (0:Int) ≤ s ∧ s ≤ 14) ∧ ((sortDedup [5, 10]).length : Int) ≠ 14 + 1 ∧
    (0, 7, 1) ∈ buildSpans 14 [5, 10] 2 none none true := by decide +kernel

/-- reading of the property text: the specification `IsSemi` says exactly "the span shares its start (or its
end) with an enzymatic span `p` that contains it", the value being the number of cleavage points strictly inside -/
theorem isSemi_iff_shares_end_with_enzymatic (n : Int) (S : List Int) (mc : Nat) (x : Span) :
    IsSemi n S mc x ↔
      x.1 < x.2.1 ∧ x.2.2 = (inside (plus n S) x.1 x.2.1 : Int) ∧
        ∃ p, IsEnz n S mc p ∧ ((p.1 = x.1 ∧ x.2.1 ≤ p.2.1) ∨ (p.2.1 = x.2.1 ∧ p.1 ≤ x.1)) := by
  obtain ⟨s, e, v⟩ := x
  simp only [IsSemi, IsEnz]
  constructor
  · rintro ⟨hse, hv, ⟨hs, e', he', hee', hmc⟩ | ⟨he, s', hs', hss', hmc⟩⟩
    · exact ⟨hse, hv, (s, e', (inside (plus n S) s e' : Int)), ⟨hs, he', by simp only; omega, rfl, hmc⟩, Or.inl ⟨rfl, hee'⟩⟩
    · exact ⟨hse, hv, (s', e, (inside (plus n S) s' e : Int)), ⟨hs', he, by simp only; omega, rfl, hmc⟩, Or.inr ⟨rfl, hss'⟩⟩
  · rintro ⟨hse, hv, ⟨ps, pe, pv⟩, ⟨hps, hpe, _, _, hmc⟩, ⟨h1, h2⟩ | ⟨h1, h2⟩⟩
    · simp only at h1 h2 hps hpe hmc; subst h1
      exact ⟨hse, hv, Or.inl ⟨hps, pe, hpe, h2, hmc⟩⟩
    · simp only at h1 h2 hps hpe hmc; subst h1
      exact ⟨hse, hv, Or.inr ⟨hpe, ps, hps, h2, hmc⟩⟩

/-- C06, obligation 1: `build_spans` returns exactly the specified set — non-specific, enzymatic and
semi-specific case together. -/
theorem mem_buildSpans (n : Int) (sites : List Int) (mc : Nat) (lo hi : Option Int) (semi : Bool)
    (hn : 0 ≤ n) (hb : ∀ s ∈ sites, 0 ≤ s ∧ s ≤ n) (hlo : 1 ≤ lo.getD 1) (x : Span) :
    x ∈ buildSpans n sites mc lo hi semi ↔ IsSpan n sites mc (lo.getD 1) (hi.getD n) semi x := by
  by_cases hns : NonSpecific n sites
  · exact mem_buildSpans_nonspecific n sites mc lo hi semi hn hb hlo hns x
  · have hlen : ((sortDedup sites).length : Int) ≠ n + 1 :=
      fun h => hns ((shortcut_iff_nonSpecific n sites hn hb).mp h)
    cases semi
    · rw [mem_buildSpans_enzymatic n sites mc lo hi hlen]
      simp only [IsSpan, hns, if_false, Bool.false_eq_true]
      constructor
      · intro h; exact ⟨h.2.1, h.2.2, h.1⟩
      · intro h; exact ⟨h.2.2, h.1, h.2.1⟩
    · rw [mem_buildSpans_semi n sites mc lo hi hn hb hlo hlen]
      simp only [IsSpan, hns, if_false, if_true]
      constructor
      · intro h; exact ⟨h.2.1, h.2.2, h.1⟩
      · intro h; exact ⟨h.2.2, h.1, h.2.1⟩

example : IsSpan 14 [5, 10] 2 1 14 true (5, 12, 1) := by decide +kernel

/-- C06: `build_spans` never returns a span twice -/
theorem nodup_buildSpans (n : Int) (sites : List Int) (mc : Nat) (lo hi : Option Int) (semi : Bool)
    (hlo : 1 ≤ lo.getD 1) : (buildSpans n sites mc lo hi semi).Nodup := by
  by_cases hlen : ((sortDedup sites).length : Int) = n + 1
  · unfold buildSpans; simp only [hlen, if_true]; exact buildNonEnzymatic_nodup _ _ _
  cases semi
  · unfold buildSpans; simp only [hlen, if_false, Bool.false_eq_true]; exact nodup_buildEnzymatic _ _ _ _ _
  · rw [buildSpans_semi_eq n sites mc lo hi hlen]
    exact nodup_buildSemi_enz mc _ n _ _ (ssorted_plus n sites) hlo

/-- C06, obligation 3: every reported value is the number of cleavage points strictly inside the span
(enzymatic and semi-specific digestion; under the non-specific rule the value is 0 by
`mem_buildSpans_nonspecific`). -/
theorem value_is_inside (n : Int) (sites : List Int) (mc : Nat) (lo hi : Option Int) (semi : Bool)
    (hn : 0 ≤ n) (hb : ∀ s ∈ sites, 0 ≤ s ∧ s ≤ n) (hlo : 1 ≤ lo.getD 1) (hns : ¬ NonSpecific n sites)
    (x : Span) (hx : x ∈ buildSpans n sites mc lo hi semi) :
    x.2.2 = (inside (plus n sites) x.1 x.2.1 : Int) := by
  rw [mem_buildSpans n sites mc lo hi semi hn hb hlo] at hx
  simp only [IsSpan, hns, if_false] at hx
  cases semi
  · simp only [Bool.false_eq_true, if_false] at hx; exact hx.2.2.2.2.2.1
  · simp only [if_true] at hx; exact hx.2.2.2.1

/-- C06, obligation 4: the sorted span list of `digest` contains exactly the spans of `build_spans`,
plus the undigested sequence `(0,n,0)` when digestion is partial. -/
theorem mem_digestSpans (n : Int) (sites : List Int) (mc : Nat) (lo hi : Option Int) (semi complete : Bool)
    (hn : 0 ≤ n) (hb : ∀ s ∈ sites, 0 ≤ s ∧ s ≤ n) (hlo : 1 ≤ lo.getD 1) (x : Span) :
    x ∈ digestSpans n sites mc lo hi semi complete ↔
      (complete = false ∧ x = (0, n, 0)) ∨ IsSpan n sites mc (lo.getD 1) (hi.getD n) semi x := by
  unfold digestSpans
  rw [mem_sortDedupSpans, List.mem_append, mem_buildSpans n sites mc lo hi semi hn hb hlo]
  cases complete <;> simp

/-- the output of `digest(..., sort_output=True)` is strictly increasing (as tuples), hence duplicate-free -/
theorem sorted_digestSpans (n : Int) (sites : List Int) (mc : Nat) (lo hi : Option Int) (semi complete : Bool) :
    (digestSpans n sites mc lo hi semi complete).Pairwise SpanLT :=
  pairwise_sortDedupSpans _

theorem nodup_digestSpans (n : Int) (sites : List Int) (mc : Nat) (lo hi : Option Int) (semi complete : Bool) :
    (digestSpans n sites mc lo hi semi complete).Nodup :=
  nodup_of_pairwise_spanLT (pairwise_sortDedupSpans _)

example : digestSpans 5 [3] 0 none none false false = [(0, 3, 0), (0, 5, 0), (3, 5, 0)] := by decide +kernel

/-- `min_len = 0`: the code returns empty spans, one of them twice -/
theorem lo_zero_gives_empty_spans :
    (2, 2, 0) ∈ buildSpans 4 [2] 0 (some 0) none true ∧ ¬ (buildSpans 4 [2] 0 (some 0) none true).Nodup ∧
      ¬ IsSpan 4 [2] 0 0 4 true (2, 2, 0) := by decide +kernel

/-- a site outside `[0,n]`: the parent `(2,5)` is dropped by the default `max_len = n`, and its semi
spans with it -/
theorem site_outside_loses_semi_spans :
    IsSpan 2 [5] 0 1 2 true (2, 3, 0) ∧ (2, 3, 0) ∉ buildSpans 2 [5] 0 none none true := by decide +kernel

end Spans
