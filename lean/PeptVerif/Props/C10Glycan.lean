import PeptVerif.Model.ModDbGen
import PeptVerif.Lemmas.ModDbLemmas
import PeptVerif.Props.C10Generic
/-!
C10 for the 27 monosaccharide entries: `Glycan:` (any letter case) followed by the name, the accession or any synonym
resolves to the entry's own tabulated masses and composition.  Table fact by kernel evaluation + the generic glycan lemmas.
-/
namespace C10Glycan
open ModDb Formula

abbrev T : Tables := Gen.tables

/-- every key of the entry (accession, name, synonyms) is found by the glycan look-up and leads to this entry; no key
contains `:`, `#` or `|`; the entry has both masses and a composition -/
def monoKeyOK (db : List Entry) (e : Entry) : Bool :=
  (e.id :: e.name :: e.syns).all (fun k => monoLookup db k == some e && !k.contains 58 && !k.contains 35 && !k.contains 124)
    && e.mono.isSome && e.avg.isSome && e.comp.isSome

theorem mono_keys_resolve : Gen.Mono.entries.all (monoKeyOK Gen.Mono.entries) = true := by decide +kernel

theorem filter_noColon {k : Str} (h : 58 ∉ k) : k.filter (· != 58) = k :=
  (ModDbGeneric.spanP_noColon h).2

/-- monosaccharides: every `Glycan:` spelling of accession, name or synonym gives the tabulated mono / average mass and
the tabulated composition of the entry -/
theorem spelling_invariant_mono (e : Entry) (he : e ∈ Gen.Mono.entries) (k : Str) (hk : k ∈ e.id :: e.name :: e.syns)
    (p' : Str) (hl : lower p' = str% "glycan:") :
    ∃ m a f, e.mono = some m ∧ e.avg = some a ∧ e.comp = some f ∧
      modMass T (p' ++ k) true = .ok (some m.toRat) ∧ modMass T (p' ++ k) false = .ok (some a.toRat) ∧
      modComp T (p' ++ k) = parseChem f [] := by
  have hfact := List.all_eq_true.mp mono_keys_resolve e he
  simp only [monoKeyOK, Bool.and_eq_true, List.all_eq_true, Bool.not_eq_true', beq_iff_eq] at hfact
  obtain ⟨⟨⟨hkeys, hm⟩, ha⟩, hc⟩ := hfact
  obtain ⟨⟨⟨hlook, h58⟩, h35⟩, h124⟩ := hkeys k hk
  have h58' : 58 ∉ k := by simpa using h58
  have h35' : 35 ∉ k := by simpa using h35
  have h124' : 124 ∉ k := by simpa using h124
  obtain ⟨m, hm⟩ := Option.isSome_iff_exists.mp hm
  obtain ⟨a, ha⟩ := Option.isSome_iff_exists.mp ha
  obtain ⟨f, hf⟩ := Option.isSome_iff_exists.mp hc
  obtain ⟨_, _, _, h35p, h124p⟩ := spelled_decomp (p := str% "glycan:") (by decide) hl
  have hbar : 124 ∉ p' ++ k := by simp [h124p, h124']
  have hlook' : monoLookup T.mono k = some e := hlook
  refine ⟨m, a, f, hm, ha, hf, ?_, ?_, ?_⟩
  · rw [C10Generic.modMass_single T _ true hbar, C10Generic.glycan_mass_spelled T p' k true hl h35', filter_noColon h58',
      hlook']
    simp [hm]
  · rw [C10Generic.modMass_single T _ false hbar, C10Generic.glycan_mass_spelled T p' k false hl h35', filter_noColon h58',
      hlook']
    simp [ha]
  · have hs : startsWith (lower (p' ++ k)) (str% "glycan:") = true := by
      rw [lower_append, hl]; exact startsWith_append _ _
    have h35all : 35 ∉ p' ++ k := by simp [h35p, h35']
    have hj : joinAfterColon (p' ++ k) = k := by
      rw [ModDbGeneric.joinAfterColon_prefix (q := str% "glycan") k (by rw [hl]; rfl) (by decide), filter_noColon h58']
    rw [C10Generic.modComp_single T _ hbar, C10Generic.glycan_comp T _ hs h35all]
    simp only [glycanCompProforma, hs, if_true, hj, hlook', hf]
    cases parseChem f [] <;> rfl

example : ∃ e ∈ Gen.Mono.entries, e.name = str% "d-Hex" ∧ str% "HexD" ∈ e.id :: e.name :: e.syns := by decide +kernel

/-- concrete instance through the real resolver: `glycan:HexD` (synonym, lower-case prefix) = d-Hex = 146.057908799 -/
theorem glycan_synonym_resolves :
    modMass T (str% "glycan:HexD") true = .ok (some (146057908799 / 1000000000)) ∧
    modMass T (str% "GLYCAN:0C4F1FA5") true = .ok (some (146057908799 / 1000000000)) ∧
    modMass T (str% "Glycan:d-Hex") true = .ok (some (146057908799 / 1000000000)) := by decide +kernel

end C10Glycan
