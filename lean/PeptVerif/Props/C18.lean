import PeptVerif.Lemmas.CondenseLabel
import PeptVerif.Lemmas.DecText
/-!
# C18 — condensing modifications to mass shifts preserves the peptide

Model: `Model/CondenseMass.lean` — `condense_to_mass_mods` as the function is written at /repo commits 9295698 and
dc0999f; `condenseToMassAnn` is the annotation just before it is serialised, `shiftsOf` the
numbers written, `render` the annotation carrying them. Every mass is a parameter (`Env`), so the theorems hold for ANY
residue and modification weights.

`condense_mass` covers annotations without an isotope label (every `mass` call takes the fast path) for ANY weights.
`condense_mass_label` covers a label in force: the per-piece difference then runs through the composition calculator, and
the statement holds in every environment in which the two calculators agree on the parameters (`Coherent`: residue mass =
mass of the residue composition, charge / ion-type term = mass of its composition — the table part of C03's subject; how far
the tabulated modification masses are from the masses of their compositions is not assumed, it enters the bound as `slack`:
~1e-6 per named modification on the implementation, which the oracle measures and allows).
-/
namespace Pept
namespace C18
open Static AbsMass CondenseMass

theorem condenseToMassAnn_eq (E : Env) (a n : Annotation) (p : ℕ) (h : condenseToMassAnn E a p = .ok n) :
    ∃ c s, condenseStatic a = .ok c ∧ shiftsOf E c p = .ok s ∧ n = render c s p := by
  unfold condenseToMassAnn at h
  cases hc : condenseStatic a with
  | error e => simp [hc] at h
  | ok c =>
    simp only [hc] at h
    cases hs : shiftsOf E c p with
    | error e => simp [hs] at h
    | ok s => simp only [hs, Except.ok.injEq] at h; exact ⟨c, s, rfl, hs, h.symm⟩

/-- every residue weighs 100, an integer modification its value, every named modification 42.0106, water 18 -/
def exEnv : Env :=
  { res := fun _ => 100, mu := fun v => match v with | .int i => i | .str _ => 420106 / 10000 | _ => 0, adj := 18,
    aaComp := fun _ => [], modRes := fun _ => .bad, ionAdj := [], chargeComp := [], em := fun _ => 0 }

/-- `<[Methyl]@E,C-Term>[10]-PEP[1][Acetyl]/2` -/
def exA : Annotation :=
  { seq := "PEP".toList, static := some [⟨.str "[Methyl]@E,C-Term".toList, 1⟩], nterm := some [⟨.int 10, 1⟩], internal := some [(2, [⟨.int 1, 1⟩, ⟨.str "Acetyl".toList, 1⟩])], charge := some 2 }

/-- `[10]-PE[42.011]P[43.011]-[42.011]/2` at precision 3 -/
def exOut : Annotation :=
  { seq := "PEP".toList, nterm := some [⟨.int 10, 1⟩], cterm := some [⟨.flt "42.011".toList, 1⟩], internal := some [(1, [⟨.flt "42.011".toList, 1⟩]), (2, [⟨.flt "43.011".toList, 1⟩])], charge := some 2 }

example : condenseToMassAnn exEnv exA 3 = .ok exOut := by decide +kernel
example : serialize exOut true = "[+10]-PE[+42.011]P[+43.011]-[+42.011]/2".toList := by decide +kernel
example : InRange exA ∧ exA.isotope = none ∧ (∀ i : ℤ, exEnv.mu (.int i) = i) ∧ exEnv.ionP = true :=
  ⟨by unfold InRange; decide, rfl, fun _ => rfl, rfl⟩

/-- **same residues** -/
theorem condense_residues (E : Env) (a n : Annotation) (p : ℕ) (h : condenseToMassAnn E a p = .ok n) :
    n.seq = a.seq := by
  obtain ⟨c, s, hc, _, hn⟩ := condenseToMassAnn_eq E a n p h
  subst hn
  exact condenseStatic_seq a c hc

/-- a numeric modification: an int or a float value, multiplier 1 -/
def NumericMod (m : Mod) : Prop := m.mult = 1 ∧ ((∃ i, m.val = .int i) ∨ (∃ r, m.val = .flt r))

theorem numeric_toMods (p : ℕ) (x : Num) : ∀ m ∈ x.toMods p, NumericMod m := by
  intro m hm
  simp only [Num.toMods, List.mem_singleton] at hm
  subst hm
  cases x with
  | int i => exact ⟨rfl, Or.inl ⟨i, rfl⟩⟩
  | dec k => exact ⟨rfl, Or.inr ⟨_, rfl⟩⟩

/-- **numeric modifications only**: no global rule, no label, and every modification anywhere in the output is a number
with multiplier 1 -/
theorem condense_numeric_only (E : Env) (a n : Annotation) (p : ℕ) (h : condenseToMassAnn E a p = .ok n) :
    n.static = none ∧ n.isotope = none ∧ ∀ m ∈ allMods n, NumericMod m := by
  obtain ⟨c, s, _, _, hn⟩ := condenseToMassAnn_eq E a n p h
  subst hn
  refine ⟨rfl, rfl, fun m hm => ?_⟩
  obtain ⟨x, rfl⟩ := allMods_render c s p m hm
  exact numeric_toMods p x _ List.mem_cons_self

/-- **an unmodified peptide is returned unchanged** (a charge state and adducts are not modifications and are kept) -/
theorem condense_unmodified_id (E : Env) (sq : List Char) (ch : Option Int) (ad : Option (List Mod)) (p : ℕ) :
    condenseToMassAnn E { seq := sq, charge := ch, adducts := ad } p = .ok { seq := sq, charge := ch, adducts := ad } := by
  have hs := shiftsOf_nolabel E { seq := sq, charge := ch, adducts := ad } p rfl rfl
  have hz : shiftsFrom p (diffsOf E { seq := sq, charge := ch, adducts := ad }) 0 = [] :=
    shiftsFrom_eq_nil p _ 0 fun d hd => by
      obtain ⟨j, _, rfl⟩ := List.mem_map.mp hd
      exact not_significant_zero
  simp only [condenseToMassAnn, condenseStatic, hs, render, shiftsWith, hz, termNum_zero, Option.map_none]

/-- position lemma for the loop: a shift is written at index `i` only for a significant difference there -/
theorem shiftsFrom_mem (p : ℕ) (ds : List ℚ) (start : ℕ) :
    ∀ q ∈ shiftsFrom p ds start, ∃ j, j < ds.length ∧ q.1 = start + j ∧
      ∃ d, ds[j]? = some d ∧ absQ d > threshold ∧ q.2 = roundNum d p := by
  induction ds generalizing start with
  | nil => intro q hq; cases hq
  | cons d r ih =>
    intro q hq
    have hrest : q ∈ shiftsFrom p r (start + 1) → ∃ j, j < (d :: r).length ∧ q.1 = start + j ∧
        ∃ d', (d :: r)[j]? = some d' ∧ absQ d' > threshold ∧ q.2 = roundNum d' p := fun h => by
      obtain ⟨j, hj, hq1, d', hd', hg, hq2⟩ := ih (start + 1) q h
      exact ⟨j + 1, Nat.succ_lt_succ hj, by omega, d', hd', hg, hq2⟩
    simp only [shiftsFrom] at hq
    split at hq
    · rename_i hg
      rcases List.mem_cons.mp hq with rfl | h
      · exact ⟨0, Nat.zero_lt_succ _, rfl, d, rfl, hg, rfl⟩
      · exact hrest h
    · exact hrest hq

/-- **shifts sit where the peptide was modified** (no isotope label in force; `c` is the annotation with its static rules
written out, see C12 `condense_spec`): a residue shift is written only on a residue that carries modifications, it is the
rounded total of the modifications listed there, and that total is nonzero; a terminal / labile / unknown-position shift
is written exactly when the peptide has such modifications; the intervals keep their place. -/
theorem condense_positions (E : Env) (a c : Annotation) (p : ℕ) (s : Shifts) (hiso : a.isotope = none)
    (hc : condenseStatic a = .ok c) (hs : shiftsOf E c p = .ok s) :
    (∀ q ∈ s.internal, q.1 < a.seq.length ∧ (∃ l, (((q.1 : ℕ) : Int), l) ∈ c.internal.getD []) ∧
        sumAt E c.internal (q.1 : ℕ) ≠ 0 ∧ q.2 = roundNum (sumAt E c.internal (q.1 : ℕ)) p) ∧
      s.nterm.isSome = c.nterm.isSome ∧ s.cterm.isSome = c.cterm.isSome ∧ s.labile.isSome = c.labile.isSome ∧
      s.unknown.isSome = c.unknown.isSome ∧ s.intervals.map (fun l => l.map (·.1)) = c.intervals := by
  have hciso : c.isotope = none := (condenseStatic_untouched a c hc).1.trans hiso
  have hst := condenseStatic_static a c hc
  rw [shiftsOf_nolabel E c p hciso hst] at hs
  simp only [Except.ok.injEq] at hs
  subst hs
  simp only [shiftsWith, termNum_zero, Option.isSome_map, true_and]
  refine ⟨?_, ?_⟩
  · intro q hq
    obtain ⟨j, hj, hq1, d, hd, hg, hq2⟩ := shiftsFrom_mem p (diffsOf E c) 0 q hq
    have hj' : j < c.seq.length := by simpa [diffsOf] using hj
    have hqj : q.1 = j := by omega
    have hdv : d = sumAt E c.internal (j : ℕ) := by
      simp only [diffsOf, List.getElem?_map, List.getElem?_range hj', Option.map_some, Option.some.injEq] at hd
      exact hd.symm
    have hne : sumAt E c.internal (j : ℕ) ≠ 0 := fun h0 => not_significant_zero (h0 ▸ hdv ▸ hg)
    rw [hqj]
    exact ⟨by rw [← condenseStatic_seq a c hc]; exact hj', exists_mem_of_sumAt_ne_zero E _ _ hne, hne, by rw [hq2, hdv]⟩
  · cases hi : c.intervals with
    | none => rfl
    | some l =>
      simp only [Option.map_some, List.map_map]
      exact congrArg some ((List.map_congr_left fun _ _ => rfl).trans (List.map_id l))

/-- **mass preserved within the rounding precision.** For an annotation without isotope label whose residue-modification
keys are positions of the sequence, ion type `p`, and any environment that weighs an integer modification by its value
(what `mod_mass` does; residue and all other modification weights arbitrary): the mass of the output — residues, the
numbers written, the same charge / ion-type term (`outMass`) — differs from the mass of the input by at most ½·10⁻ᵖ per number
written, plus 10⁻⁶ per residue whose total modification mass is nonzero but below the function's own 10⁻⁶ cut-off (such a
residue gets no shift). -/
theorem condense_mass (E : Env) (a n : Annotation) (p : ℕ) (hiso : a.isotope = none) (hr : InRange a)
    (hn : ∀ i : ℤ, E.mu (.int i) = i) (hp : E.ionP = true) (h : condenseToMassAnn E a p = .ok n) :
    ∃ c s x, condenseStatic a = .ok c ∧ shiftsOf E c p = .ok s ∧ n = render c s p ∧ massOf E a = .ok x ∧
      |outMass E c s p - x| ≤ (written c s : ℚ) * halfUlp p + (droppedNonzero (diffsOf E c) : ℚ) * threshold := by
  obtain ⟨c, s, hc, hs, hn'⟩ := condenseToMassAnn_eq E a n p h
  have hciso : c.isotope = none := (condenseStatic_untouched a c hc).1.trans hiso
  have hst := condenseStatic_static a c hc
  have hx : massOf E a = .ok (plainMass E c + E.adj) := by
    rw [massOf_unlabelled E a hiso, ← massFast_of_condense E a c hc, massFast_of_static_none E c hst]
  exact ⟨c, s, _, hc, hs, hn', hx, outMass_err E c p s hciso hst (inRange_condense a c hc hr) hn hp hs⟩

/-- `outMass` is what `mass` returns for the output annotation in any environment that reads a written number as its value
(`NumericMu`: ints as themselves, the text `decText k p` as `k / 10^p`) -/
theorem condense_mass_output (E : Env) (c : Annotation) (s : Shifts) (p : ℕ) (hn : NumericMu E p) (hp : E.ionP = true) :
    massOf E (render c s p) = .ok (outMass E c s p) := by
  rw [massOf_unlabelled E _ rfl]
  exact massFast_render E c s p hn hp

/-- **the text written for a rounded shift denotes that number**: `decText k p` (sign, integer digits, `.`, fraction digits
with trailing zeros dropped — what `repr(round(x, p))` prints in the positional range) read back as a decimal is `k / 10^p` -/
theorem written_text_value (k : ℤ) (p : ℕ) : valOfText (decText k p) = (k : ℚ) / ((pow10 p : ℕ) : ℚ) :=
  valOfText_decText k p

/-- hence the hypothesis of `condense_mass_output` is satisfiable: every environment that reads an int as itself and a float
text as the decimal it spells is a `NumericMu` environment, at every precision -/
theorem numericMu_satisfiable (E : Env) (p : ℕ) (hi : ∀ i : ℤ, E.mu (.int i) = i)
    (hf : ∀ t, E.mu (.flt t) = valOfText t) : NumericMu E p :=
  numericMu_of_valOfText E p hi hf

/-- the bound of the property text, `k · ½ · 10⁻ᵖ` with `k` the number of shifts written, under the exact extra hypothesis:
no residue carries a nonzero total below the 10⁻⁶ cut-off -/
theorem condense_mass_k (E : Env) (a n : Annotation) (p : ℕ) (hiso : a.isotope = none) (hr : InRange a)
    (hn : ∀ i : ℤ, E.mu (.int i) = i) (hp : E.ionP = true) (h : condenseToMassAnn E a p = .ok n)
    (hcut : ∀ c, condenseStatic a = .ok c → droppedNonzero (diffsOf E c) = 0) :
    ∃ c s x, condenseStatic a = .ok c ∧ shiftsOf E c p = .ok s ∧ n = render c s p ∧ massOf E a = .ok x ∧
      |outMass E c s p - x| ≤ (written c s : ℚ) * halfUlp p := by
  obtain ⟨c, s, x, hc, hs, hn', hx, hb⟩ := condense_mass E a n p hiso hr hn hp h
  refine ⟨c, s, x, hc, hs, hn', hx, ?_⟩
  rw [hcut c hc] at hb
  simpa using hb

/-- **mass preserved with an isotope label in force** (labels expanded per residue, the terminal H / OH shift written once on
the termini), every modification resolving: in a table-coherent environment the mass of the output differs from the mass of the labelled input by at most
½·10⁻ᵖ per number written, plus 10⁻⁶ per nonzero quantity below the cut-off (residue totals, the two terminal label shifts),
plus the `slack`: the total discrepancy between the tabulated masses (`mod_mass`) and the composition masses of the
modifications written outside residue positions — the labelled input is weighed through compositions, the sums written for
termini / labile / unknown-position / interval modifications through `mod_mass`. -/
theorem condense_mass_label (E : Env) (hc : Coherent E) (a n : Annotation) (p : ℕ) (m0 : Mod) (L : List Mod) (lm : LabelMap)
    (hiso : a.isotope = some (m0 :: L)) (hl : parseIsotopeMods E.knownLabel (m0 :: L) = .ok lm) (hr : InRange a)
    (hn : ∀ i : ℤ, E.mu (.int i) = i) (hres : ∀ c, condenseStatic a = .ok c → ∀ m ∈ allMods c, isBad E m = false)
    (hrule : absentRuleBad E a = false)
    (h : condenseToMassAnn E a p = .ok n) :
    ∃ c s x, condenseStatic a = .ok c ∧ shiftsOf E c p = .ok s ∧ n = render c s p ∧ massOf E a = .ok x ∧
      |outMass E c s p - x| ≤ (writtenL c s : ℚ) * halfUlp p + (droppedL E lm c : ℚ) * threshold + slack E c := by
  obtain ⟨c, s, hcd, hs, hn'⟩ := condenseToMassAnn_eq E a n p h
  have hciso : c.isotope = some (m0 :: L) := (condenseStatic_untouched a c hcd).1.trans hiso
  have hst := condenseStatic_static a c hcd
  obtain ⟨x, hx, hb⟩ := outMass_err_label E hc c p s m0 L lm hst hciso hl (inRange_condense a c hcd hr) hn (hres c hcd) hs
  exact ⟨c, s, x, hcd, hs, hn', massOf_of_condense E a c hcd hrule ▸ hx, hb⟩

/-- **the ~1e-6 slack for named modifications, explicit**: if every modification written outside a residue position has a
tabulated mass within `δ` of the mass of its composition (a hypothesis on the RESOLVED masses, C03 / C10's subject; on
/repo δ ≈ 1e-6 for Unimod / PSI-MOD names), the bound is `k·½·10⁻ᵖ + z·10⁻⁶ + j·δ` with `j` the number of such modifications -/
theorem condense_mass_label_delta (E : Env) (hc : Coherent E) (a n : Annotation) (p : ℕ) (m0 : Mod) (L : List Mod)
    (lm : LabelMap) (δ : ℚ)
    (hiso : a.isotope = some (m0 :: L)) (hl : parseIsotopeMods E.knownLabel (m0 :: L) = .ok lm) (hr : InRange a)
    (hn : ∀ i : ℤ, E.mu (.int i) = i) (hres : ∀ c, condenseStatic a = .ok c → ∀ m ∈ allMods c, isBad E m = false)
    (hrule : absentRuleBad E a = false)
    (h : condenseToMassAnn E a p = .ok n)
    (hδ : ∀ c, condenseStatic a = .ok c → ∀ m ∈ outsideMods c, |modMass E m - modMass (envC E) m| ≤ δ) :
    ∃ c s x, condenseStatic a = .ok c ∧ shiftsOf E c p = .ok s ∧ n = render c s p ∧ massOf E a = .ok x ∧
      |outMass E c s p - x| ≤ (writtenL c s : ℚ) * halfUlp p + (droppedL E lm c : ℚ) * threshold +
        δ * ((outsideMods c).length : ℚ) := by
  obtain ⟨c, s, x, hcd, hs, hn', hx, hb⟩ := condense_mass_label E hc a n p m0 L lm hiso hl hr hn hres hrule h
  exact ⟨c, s, x, hcd, hs, hn', hx, hb.trans (add_le_add le_rfl (slack_le E c δ (hδ c hcd)))⟩

/-- when the tabulated modification masses ARE the composition masses (the two calculators agree exactly) there is no slack -/
theorem condense_mass_label_exact (E : Env) (hc : Coherent E) (a n : Annotation) (p : ℕ) (m0 : Mod) (L : List Mod)
    (lm : LabelMap)
    (hiso : a.isotope = some (m0 :: L)) (hl : parseIsotopeMods E.knownLabel (m0 :: L) = .ok lm) (hr : InRange a)
    (hn : ∀ i : ℤ, E.mu (.int i) = i) (hres : ∀ c, condenseStatic a = .ok c → ∀ m ∈ allMods c, isBad E m = false)
    (hrule : absentRuleBad E a = false)
    (h : condenseToMassAnn E a p = .ok n)
    (hm : ∀ m : Mod, modMass E m = modMass (envC E) m) :
    ∃ c s x, condenseStatic a = .ok c ∧ shiftsOf E c p = .ok s ∧ n = render c s p ∧ massOf E a = .ok x ∧
      |outMass E c s p - x| ≤ (writtenL c s : ℚ) * halfUlp p + (droppedL E lm c : ℚ) * threshold := by
  obtain ⟨c, s, x, hcd, hs, hn', hx, hb⟩ := condense_mass_label E hc a n p m0 L lm hiso hl hr hn hres hrule h
  refine ⟨c, s, x, hcd, hs, hn', hx, ?_⟩
  rw [slack_zero E c hm] at hb
  simpa using hb

/-- a coherent environment exists (so `condense_mass_label` is not vacuous): one residue type `C2` weighing 2·50, water
`H2O` = H + OH weighing 18, integer modifications as plain shifts, every named modification as one carbon -/
def exCoh : Env :=
  { res := fun _ => 100, mu := fun v => match v with | .int i => i | .str _ => 50 | .flt _ => 0, adj := 18,
    aaComp := fun _ => [(['C'], 2)],
    modRes := fun v => match v with | .int i => .delta i | .str _ => .comp [(['C'], 1)] | .flt _ => .delta 0,
    ionAdj := [(['H'], 2), (['O'], 1)], chargeComp := [],
    em := fun e => if e = ['C'] then 50 else if e = ['1', '3', 'C'] then 51 else if e = ['O'] then 16 else
      if e = ['1', '8', 'O'] then 18 else 1,
    ntermComp := [(['H'], 1)], ctermComp := [(['O'], 1), (['H'], 1)] }

theorem exCoh_coherent : Coherent exCoh := by
  refine ⟨fun _ => by simp [exCoh, chemMass]; norm_num, by simp [exCoh, chemMass]; norm_num, ?_, fun _ => by simp [exCoh, NodupKeys],
    by simp [exCoh, NodupKeys], by simp [exCoh, NodupKeys], by simp [exCoh, NodupKeys], by simp [exCoh, NodupKeys], rfl, rfl, rfl, rfl⟩
  intro x
  simp only [exCoh, compGet]
  by_cases h1 : ['H'] = x
  · subst h1; simp; norm_num
  · by_cases h2 : ['O'] = x
    · subst h2; simp
    · simp [h1, h2]

theorem exCoh_resolves : ∀ m : Mod, isBad exCoh m = false := by
  intro m
  obtain ⟨v, k⟩ := m
  cases v <;> simp [isBad, exCoh]

theorem exCoh_exact : ∀ m : Mod, modMass exCoh m = modMass (envC exCoh) m := by
  intro m
  obtain ⟨v, k⟩ := m
  cases v with
  | int i => simp [modMass, envC, exCoh]
  | flt r => simp [modMass, envC, exCoh]
  | str r => simp [modMass, envC, exCoh, chemMass]

/-- `<18O>[10]-PP[Acetyl]` in `exCoh` at precision 2: the residues have no O, the C-terminal OH gets +2, `[10]-` stays an int -/
def exLab : Annotation :=
  { seq := "PP".toList, isotope := some [⟨.str "18O".toList, 1⟩], nterm := some [⟨.int 10, 1⟩], internal := some [(1, [⟨.str "Acetyl".toList, 1⟩])] }

example : condenseToMassAnn exCoh exLab 2 =
    .ok { seq := "PP".toList, nterm := some [⟨.int 10, 1⟩], cterm := some [⟨.flt "2.0".toList, 1⟩], internal := some [(1, [⟨.flt "50.0".toList, 1⟩])] } := by
  decide +kernel
example : massOf exCoh exLab = .ok 280 := by decide +kernel

/-- the cut-off term of `condense_mass` is really there on the code as it is: a residue carrying +0.0000005 gets no shift
at any precision, so the output is lighter by 5·10⁻⁷ although nothing was rounded (`k = 0`) -/
theorem condense_mass_cutoff_witness :
    shiftsFrom 8 [(5 : ℚ) / 10000000] 0 = [] ∧ droppedNonzero [(5 : ℚ) / 10000000] = 1 := by
  have h : ¬ absQ ((5 : ℚ) / 10000000) > threshold := by
    rw [absQ_eq_abs, abs_of_pos (by norm_num)]; unfold threshold; norm_num
  exact ⟨by simp [shiftsFrom, h], by simp [droppedNonzero, h]⟩

end C18
end Pept
