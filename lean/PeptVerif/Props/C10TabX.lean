import PeptVerif.Model.ModDbGen
import PeptVerif.Model.ModDbFacts
import PeptVerif.Lemmas.ModDbCheck
import PeptVerif.Lemmas.ModDbTables
/-! C10 table facts about the generated XLMOD vocabulary, by kernel evaluation -/
namespace C10TabX
open ModDb

theorem xlmod_keys_distinct : keysDistinct Gen.XlMod.entries = true := by
  rw [Gen.XlMod.entries_flat]
  decide +kernel

theorem xlmod_keys_clean : Gen.XlMod.entries.all entryClean = true := by
  rw [Gen.XlMod.entries_flat, List.all_flatten, entryClean_eq_scan]
  decide +kernel

-- the size as of the tables this was written against; `C10.table_sizes` is the comparison that follows a regenerated table
example : Gen.XlMod.entries.length = 1101 := by
  rw [Gen.XlMod.entries_flat]
  decide +kernel

end C10TabX
