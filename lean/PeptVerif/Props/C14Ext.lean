import PeptVerif.Lemmas.IsotopePrune
import PeptVerif.Props.C14
/-!
# C14 — quantitative effect of the pruning and rounding steps

`Props/C14.lean` proves the clauses of C14 for the un-pruned, un-rounded run and leaves the effect of the thresholds
(`conv_min_abundance_threshold`, the hard-wired `10e-9` floor of `_calculate_elemental_distribution`, the final
`min_abundance_threshold`) and of `distribution_resolution` to correspondence.  This module bounds them, for every input
distribution with non-negative abundances, every threshold `θ ≥ 0`, every resolution and every number of rounds.  All
statements are about the model functions `convolve`, `elementalFrom`/`elemental`, `normalized` that the correspondence
stages `convolve`, `elemental`, `isotopic_distribution` compare with the code.
-/
namespace C14Ext
open Isotope

variable {κ : Type} [DecidableEq κ] [Add κ]

/-- **normal form of one convolution step** (`_convolve_distributions` without `max_isotopes`): the result is — as an
association list, entry for entry — all products `(m₁+m₂, a₁·a₂)` in loop order, filtered by
`a₁·a₂ >= min_abundance_threshold`, then merged under the rounded key.  Any key type, threshold, rounding function. -/
theorem convolve_normal_form (rnd : κ → κ) (thr : Option Rat) (d1 d2 : Dist κ) :
    convolve rnd thr none d1 d2 = pushforward rnd (keptProducts thr d1 d2) :=
  convolve_eq_pushforward rnd thr d1 d2

example : keptProducts (some (1 / 20)) exD exD = [((0 : Rat), 81 / 100), (1, 9 / 100), (1, 9 / 100)] ∧
    convolve id (some (1 / 20)) none exD exD = [((0 : Rat), 81 / 100), (1, 18 / 100)] := by decide +kernel

/-- **loss of one pruned convolution step**: with non-negative abundances and threshold `θ ≥ 0`, the per-product test
`new_abundance >= θ` removes at most `n₁·n₂·θ` of the total abundance `Σd₁·Σd₂` (n₁, n₂ = numbers of peaks) and never adds
any — whatever the rounding of the merged key. -/
theorem conv_prune_loss_bound (rnd : κ → κ) (θ : Rat) (hθ : 0 ≤ θ) (d1 d2 : Dist κ) (h1 : NonNeg d1) (h2 : NonNeg d2) :
    total d1 * total d2 - ((d1.length * d2.length : Nat) : Rat) * θ ≤ total (convolve rnd (some θ) none d1 d2) ∧
      total (convolve rnd (some θ) none d1 d2) ≤ total d1 * total d2 :=
  ⟨total_convolve_pruned_lower rnd θ hθ d1 d2 h1 h2, (total_convolve_pruned_bounds rnd θ d1 d2 h1 h2).2⟩

/-- sharp form: the loss is at most `(number of dropped products)·θ`. -/
theorem conv_prune_loss_bound_sharp (rnd : κ → κ) (θ : Rat) (d1 d2 : Dist κ) (h1 : NonNeg d1) (h2 : NonNeg d2) :
    total d1 * total d2 -
        (((d1.length * d2.length : Nat) : Rat) - ((keptProducts (some θ) d1 d2).length : Rat)) * θ
      ≤ total (convolve rnd (some θ) none d1 d2) :=
  (total_convolve_pruned_bounds rnd θ d1 d2 h1 h2).1

example : NonNeg exD ∧ total exD * total exD = 1 ∧ total (convolve id (some (1 / 20)) none exD exD) = 99 / 100 ∧
    ((exD.length * exD.length : Nat) : Rat) - ((keptProducts (some (1 / 20)) exD exD).length : Rat) = 1 :=
  ⟨nonNeg_exD, by decide +kernel, by decide +kernel, by decide +kernel⟩

/-- **binning preserves the total exactly**: rounding the merged mass (`distribution_resolution`) never changes the total
abundance of a convolution step, with or without pruning. -/
theorem conv_round_preserves_total (rnd : κ → κ) (thr : Option Rat) (d1 d2 : Dist κ) :
    total (convolve rnd thr none d1 d2) = total (convolve id thr none d1 d2) := by
  rw [total_convolve_pruned, total_convolve_pruned]

/-- **binning moves the first moment by at most half a bin width per unit of abundance**: with
`distribution_resolution = r ≥ 0` the first moment `Σ mass·abundance` of a convolution step differs from the un-rounded one
by at most `½·10^-r · Σ abundance` (any threshold, non-negative abundances). -/
theorem conv_round_moment_shift (r : Nat) (thr : Option Rat) (d1 d2 : Dist Rat) (h1 : NonNeg d1) (h2 : NonNeg d2) :
    |moment (convolve (roundOpt (some (r : Int))) thr none d1 d2) - moment (convolve id thr none d1 d2)|
      ≤ 1 / 2 / (10 : Rat) ^ r * total (convolve id thr none d1 d2) :=
  moment_convolve_round (roundOpt (some (r : Int))) _ (fun x => roundTo_err r x) thr d1 d2 h1 h2

/-- … hence the abundance-weighted **mean** of the binned step is within half a bin width `½·10^-r` of the un-binned mean
(the two totals are equal by `conv_round_preserves_total`). -/
theorem conv_round_mean_shift (r : Nat) (thr : Option Rat) (d1 d2 : Dist Rat) (h1 : NonNeg d1) (h2 : NonNeg d2)
    (hT : 0 < total (convolve id thr none d1 d2)) :
    |moment (convolve (roundOpt (some (r : Int))) thr none d1 d2) / total (convolve (roundOpt (some (r : Int))) thr none d1 d2)
        - moment (convolve id thr none d1 d2) / total (convolve id thr none d1 d2)|
      ≤ 1 / 2 / (10 : Rat) ^ r := by
  rw [conv_round_preserves_total, ← sub_div, abs_le, le_div_iff₀ hT, div_le_iff₀ hT, neg_mul]
  exact abs_le.1 (conv_round_moment_shift r thr d1 d2 h1 h2)

/-- the bound is attained up to the tie rule: at resolution 0 the peak `1/2 + 1/4 = 3/4` moves to `1` -/
example : moment (convolve (roundOpt (some ((0 : Nat) : Int))) none none [((1 / 2 : Rat), 1)] [((1 / 4 : Rat), 1)]) = 1 ∧
    moment (convolve id none none [((1 / 2 : Rat), 1)] [((1 / 4 : Rat), 1)]) = 3 / 4 ∧
    total (convolve id none none [((1 / 2 : Rat), 1)] [((1 / 4 : Rat), 1)]) = 1 := by decide +kernel

/-- **Python `round(x, r)` is within half a unit of the last place** (on the exact value; `r ≥ 0`). -/
theorem round_error_half_ulp (r : Nat) (q : Rat) : |roundTo (r : Int) q - q| ≤ 1 / 2 / (10 : Rat) ^ r :=
  roundTo_err r q

example : roundTo ((2 : Nat) : Int) (1005 / 1000) - 1005 / 1000 = -(1 / 2 / (10 : Rat) ^ 2) := by decide +kernel

/-- **k pruned rounds** (`_calculate_elemental_distribution` with its floor `θ`, isotope abundances positive and summing
to 1): after `n` rounds the total is at most the starting total and has lost at most `W·m·θ`, where `m` is the number of
isotopes and `W = elementalWork …` the number of peaks that entered the `n` rounds (Σ of the lengths of the intermediate
patterns), i.e. at most `θ` per product ever formed. -/
theorem elemental_prune_loss_bound (θ : Rat) (hθ : 0 ≤ θ) (isos : Dist κ) (hi : AllPos isos) (h1 : total isos = 1)
    (n : Nat) (d : Dist κ) (hd : AllPos d) :
    total d - ((elementalWork (some θ) isos n d * isos.length : Nat) : Rat) * θ
        ≤ total (elementalFrom (some θ) isos n d) ∧
      total (elementalFrom (some θ) isos n d) ≤ total d :=
  total_elementalFrom_pruned θ hθ isos hi h1 n d hd

/-- the same for `_calculate_elemental_distribution` itself (start `{0: 1.0}`): `1 − W·m·θ ≤ Σ abundances ≤ 1`. -/
theorem elemental_total_with_floor (θ : Rat) (hθ : 0 ≤ θ) (isos : Dist Rat) (hi : AllPos isos) (h1 : total isos = 1)
    (n : Nat) :
    1 - ((elementalWork (some θ) isos n [((0 : Rat), 1)] * isos.length : Nat) : Rat) * θ
        ≤ total (elemental (some θ) isos n) ∧
      total (elemental (some θ) isos n) ≤ 1 := by
  have h := total_elementalFrom_pruned θ hθ isos hi h1 n [((0 : Rat), 1)] allPos_start
  rwa [total_start] at h

example : total exD = 1 ∧ elementalWork (some (1 / 20)) exD 3 [((0 : Rat), 1)] = 5 ∧
    total (elemental (some (1 / 20)) exD 3) = 972 / 1000 := by decide +kernel

/-- **final reporting threshold** (`min_abundance_threshold = θ` after normalisation to the largest peak `mx`): the
normalised pattern loses at most `n·θ` of its total `Σ/mx` (n = number of peaks before the filter) and never gains. -/
theorem final_threshold_loss_bound (o : Opts) (t : Dist Rat) (mx : Rat) (hmx : 0 < mx) (ht : NonNeg t)
    (hθ : 0 ≤ o.minAbundanceThreshold.getD 0) :
    total t / mx - (t.length : Rat) * o.minAbundanceThreshold.getD 0 ≤ total (normalized o t mx) ∧
      total (normalized o t mx) ≤ total t / mx := by
  have hs : NonNeg (sortByKey t) := fun p hp => ht p ((sortByKey_perm t).mem_iff.1 hp)
  have hP : ∀ p ∈ sortByKey t, (fun p : Rat × Rat => decide (o.minAbundanceThreshold.getD 0 ≤ p.2 / mx)) p = false →
      p.2 ≤ o.minAbundanceThreshold.getD 0 * mx := by
    intro p _ hp
    simp only [decide_eq_false_iff_not, not_le, div_lt_iff₀ hmx] at hp
    exact le_of_lt hp
  have lo := total_filter_lower (sortByKey t) _ (o.minAbundanceThreshold.getD 0 * mx) (mul_nonneg hθ (le_of_lt hmx)) hs hP
  have hi := (total_filter_bounds (sortByKey t) _ (o.minAbundanceThreshold.getD 0 * mx) hs hP).2
  have eT : total (sortByKey t) = total t := integral_perm (sortByKey_perm t) _
  have eL : (sortByKey t).length = t.length := (sortByKey_perm t).length_eq
  rw [eT, eL] at lo
  rw [eT] at hi
  rw [total_normalized]
  constructor
  · rw [le_div_iff₀ hmx, sub_mul, div_mul_cancel₀ _ (ne_of_gt hmx), mul_assoc]; exact lo
  · exact (div_le_div_iff_of_pos_right hmx).mpr hi

/-- the reporting threshold **never removes the most abundant peak** when `θ ≤ 1`: the normalised pattern contains a peak of
relative abundance exactly 1. -/
theorem final_threshold_keeps_max (o : Opts) (t : Dist Rat) (mx : Rat) (hm : maxAb t = some mx) (hmx : mx ≠ 0)
    (hθ : o.minAbundanceThreshold.getD 0 ≤ 1) :
    ∃ q ∈ normalized o t mx, q.2 = 1 :=
  exists_one_normalized o t mx hm hmx hθ

example : maxAb exD = some (9 / 10) ∧ NonNeg exD ∧
    (exD.filter (fun p => decide ((1 / 5 : Rat) ≤ p.2 / (9 / 10)))).map (fun p => (p.1, p.2 / (9 / 10))) = [((0 : Rat), 1)] :=
  ⟨by norm_num [maxAb, exD], nonNeg_exD, by decide +kernel⟩

/-- **weighted mean of the rounded element loop**: no pruning (floor off, `max_isotopes`, `conv_min_abundance_threshold` None) but
`distribution_resolution = r ≥ 0`: if every element's isotope abundances sum to 1, the un-normalised pattern after the element
loop has total exactly 1 and its abundance-weighted mean is within `(number of elements)·½·10^-r` of the average mass
`Σ count·Σ_iso mass·abundance` of the (rounded) composition. -/
theorem weighted_mean_raw_rounded (f : Formula) (o : Opts) (t : Dist Rat) (p d m : Rat) (r : Nat)
    (hraw : rawDistribution f o = .ok (t, p, d, m))
    (hfl : o.floor = none) (hmi : o.maxIsotopes = none) (hct : o.convMinAbundanceThreshold = none)
    (hres : o.resolution = some (r : Int)) :
    ∃ L, resolve o (cleanFormula f) = some L ∧
      ((∀ x ∈ L, total x.1 = 1) →
        total t = 1 ∧ |moment t - momentSum L| ≤ (L.length : Rat) * (1 / 2 / (10 : Rat) ^ r)) :=
  raw_total_moment f o t p d m hraw hfl hmi hct _ (fun x => by rw [hres]; exact roundTo_err r x)

example : C14.rawOk C14.exF1 { floor := none, resolution := some ((2 : Nat) : Int) } = true := by decide +kernel

end C14Ext
