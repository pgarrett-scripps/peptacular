import PeptVerif.Model.Fragment
import PeptVerif.Lemmas.StaticMods
/-!
# C12, fragment-ion clause: the rule form and the explicit form have the same fragment ions

`Model/Fragment.lean` (C04) models `fragment` / `Fragmenter` with abstract weights; `annotation.condense_static_mods()` is a
parameter of that model (`Env.condenseStatic`, "property C12"). Here it is instantiated with the model of C12
(`Static.condenseStatic`, `Model/StaticMods.lean`) and the clause is proved: `fragment` writes the static rules out on its
working copy before it computes anything (`mkJob`: `env.condenseStatic (popLabile sequence)`), and the explicit form is a fixed point of that step, so
the whole output list — keys, masses, m/z, labels, fragment sequences — is the same for the two forms, for residue targets
and for N-Term / C-Term targets alike, whatever the per-residue weights (`Env.splitMass`), tables and label shifts are.

Chain to the implementation: `fragment` ≈ `Fragment.fragment` with `condenseStatic` supplied by Python (C04's correspondence);
Python's `condense_static_mods` ≈ `Static.condenseStatic` (C12's correspondence op `condense`); `c12.py` also runs the
Fragment driver with `condenseStatic` taken from the C12 driver on the rule form and on the explicit form and compares the
two replies; and the relational oracle `fragments_rule_vs_explicit` compares the two forms on the real `fragment`.
-/
namespace Pept
namespace C12Fragment
open Static

/-- `annotation.condense_static_mods()` as a total function (a rule text that does not parse raises inside `fragment` before
anything is computed: outside the clause) -/
def condTotal (a : Annotation) : Annotation :=
  match condenseStatic a with
  | .ok c => c
  | .error _ => a

/-- popping the labile mods and writing the rules out commute -/
theorem condense_popLabile (a c : Annotation) (h : condenseStatic a = .ok c) :
    condenseStatic (Fragment.popLabile a) = .ok (Fragment.popLabile c) := by
  rcases condenseStatic_ok a c h with ⟨hs, rfl⟩ | ⟨_, _, hs, hp, rfl⟩
  · simp [condenseStatic, Fragment.popLabile, hs]
  · simp only [condenseStatic, Fragment.popLabile, hs, hp]; rfl

/-- the working copy `fragment` prepares is the same for the rule form and for its condensed explicit form -/
theorem prepared_eq (a : Annotation) : condTotal (Fragment.popLabile (condTotal a)) = condTotal (Fragment.popLabile a) := by
  unfold condTotal
  cases h : condenseStatic a with
  | error e => rfl
  | ok c =>
    simp only
    rw [condense_popLabile a c h]
    simp only
    have hc := condenseStatic_idem a c h
    rw [condense_popLabile c c hc]

/-- **same fragment ions.** With `condense_static_mods` read as the model of C12, `fragment` returns the same list for an
annotation with static rules and for its condensed explicit form: every ion type, charge, isotope offset, loss rule, return
type and precision; any per-residue weights, tables and label shifts. -/
theorem fragments_condense (env : Fragment.Env) (henv : env.condenseStatic = condTotal) (a : Annotation)
    (args : Fragment.Args) :
    Fragment.fragment env (condTotal a) args = Fragment.fragment env a args := by
  have hj : Fragment.mkJob env (condTotal a) args none = Fragment.mkJob env a args none := by
    unfold Fragment.mkJob
    simp only [henv, prepared_eq]
  unfold Fragment.fragment
  simp only [hj]

/-- the same, stated for the explicit form `c` that C12's `condense_spec` characterises -/
theorem fragments_condense_explicit (env : Fragment.Env) (henv : env.condenseStatic = condTotal) (a c : Annotation)
    (hc : condenseStatic a = .ok c) (args : Fragment.Args) :
    Fragment.fragment env c args = Fragment.fragment env a args := by
  have : condTotal a = c := by unfold condTotal; rw [hc]
  rw [← this]
  exact fragments_condense env henv a args

/-- `Fragmenter`: the stored mass components are the same for the two forms -/
theorem fragmenter_components_condense (env : Fragment.Env) (henv : env.condenseStatic = condTotal) (a : Annotation)
    (mono : Bool) :
    (Fragment.Fragmenter.new env (condTotal a) mono).massComponents = (Fragment.Fragmenter.new env a mono).massComponents := by
  unfold Fragment.Fragmenter.new
  simp only [henv, prepared_eq]

/-- non-vacuity: a terminal rule and a residue rule — `<[10]@P,N-Term>P[1]EP` and `[10]-P[1][10]EP[10]` — are prepared alike -/
example :
    condTotal (Fragment.popLabile { seq := "PEP".toList, static := some [⟨.str "[10]@P,N-Term".toList, 1⟩], internal := some [(0, [⟨.int 1, 1⟩])] }) =
    { seq := "PEP".toList, nterm := some [⟨.int 10, 1⟩], internal := some [(0, [⟨.int 1, 1⟩, ⟨.int 10, 1⟩]), (2, [⟨.int 10, 1⟩])] } := by
  decide +kernel

end C12Fragment
end Pept
