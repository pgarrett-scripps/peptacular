import PeptVerif.Lemmas.CombinatoricText
/-! Outside `canon`: empty-but-present lists are not written, and every result is in normal form. -/
namespace Pept

theorem optMods_dropEmptyList (o c : Char) (plus : Plus) (x : Option (List Mod)) :
    optMods o c plus (dropEmptyList x) = optMods o c plus x := by
  rcases x with _ | ⟨_ | ⟨m, l⟩⟩ <;> simp [dropEmptyList, optMods, serializeMods]

theorem normList_dropEmptyList (x : Option (List Mod)) : normList (dropEmptyList x) = normList x := by
  rcases x with _ | ⟨_ | ⟨m, l⟩⟩ <;> simp [dropEmptyList, normList]

theorem serializeStart_dropEmpty (plus : Plus) (a : Annotation) : serializeStart plus (dropEmpty a) = serializeStart plus a := by
  simp [serializeStart, dropEmpty, optMods_dropEmptyList]

theorem serializeEnd_dropEmpty (plus : Plus) (a : Annotation) : serializeEnd plus (dropEmpty a) = serializeEnd plus a := by
  simp only [serializeEnd, dropEmpty, optMods_dropEmptyList]
  rcases a.cterm with _ | ⟨_ | ⟨m, l⟩⟩ <;> simp [dropEmptyList]

theorem pieces_dropEmpty (a : Annotation) : pieces (dropEmpty a) = pieces a := rfl

theorem sizeOf_dropEmpty (a : Annotation) (size : Option Nat) : sizeOf (dropEmpty a) size = sizeOf a size := rfl

theorem components_dropEmpty (a : Annotation) : components (dropEmpty a) = components a := rfl

theorem wrap_dropEmpty (a : Annotation) (sel : List (Char × List Mod)) : wrap (dropEmpty a) sel = wrap a sel := by
  simp [wrap, dropEmpty, normList_dropEmptyList]

theorem assemble_dropEmpty (a : Annotation) : assemble (dropEmpty a) = assemble a := by
  funext comps; rw [assemble_eq_wrap, assemble_eq_wrap, wrap_dropEmpty]

theorem expansionText_dropEmpty (plus : Plus) (a : Annotation) (sel : List Annotation) :
    expansionText plus (dropEmpty a) sel = expansionText plus a sel := by
  simp [expansionText, serializeStart_dropEmpty, serializeEnd_dropEmpty]

theorem reparse_dropEmpty (a : Annotation) : reparse (dropEmpty a) = reparse a := by
  funext sel; simp [reparse, expansionText_dropEmpty]

theorem one_le_mult_normMult (m : Mod) : 1 ≤ (normMult m).mult := by
  unfold normMult
  split <;> simp only <;> omega

theorem normMult_idem (m : Mod) : normMult (normMult m) = normMult m :=
  normMult_id _ (one_le_mult_normMult m)

theorem normList_idem (x : Option (List Mod)) : normList (normList x) = normList x := by
  rcases x with _ | ⟨_ | ⟨m, l⟩⟩ <;> simp [normList, normMult_idem]

theorem okList_normList (x : Option (List Mod)) : okList (normList x) = true := by
  rcases x with _ | ⟨_ | ⟨m, l⟩⟩
  · rfl
  · rfl
  · simp [normList, okList, one_le_mult_normMult]

end Pept
