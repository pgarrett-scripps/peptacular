import PeptVerif.Lemmas.Mass
/-!
Lemmas for `Props/C05.lean` and `Props/C05Ext.lean`: neutral offsets of the forward / backward terminal series in
`seriesOffset` form, what the ions of an annotation without rules and intervals share, positivity of residue sums, the
ion mass as an affine function of charge, isotope offset and loss, `mz` in terms of `mass`.
-/
namespace Pept.Mass
open Pept Pept.Chem Pept.Spec

theorem seriesOffset_a (T : MassTable) (mono : Bool) : (seriesOffset T mono (k "a")).getD 0 = -(T.compMass mono fCO) := rfl
theorem seriesOffset_c (T : MassTable) (mono : Bool) : (seriesOffset T mono (k "c")).getD 0 = T.compMass mono fNH3 := rfl
theorem seriesOffset_x (T : MassTable) (mono : Bool) :
    (seriesOffset T mono (k "x")).getD 0 = T.compMass mono fCO - T.compMass mono fH2 := rfl
theorem seriesOffset_z (T : MassTable) (mono : Bool) : (seriesOffset T mono (k "z")).getD 0 = -(T.compMass mono fNH3) := rfl

theorem offset_forward (T : MassTable) (mono : Bool) (f : Key) (hf : f ∈ [k "a", k "b", k "c"]) :
    neutralOffset T mono f = some ((seriesOffset T mono f).getD 0) ∧ f ≠ ionP ∧ f ≠ ionN := by
  simp only [List.mem_cons, List.mem_nil_iff, or_false] at hf
  rcases hf with rfl | rfl | rfl <;> exact ⟨rfl, by decide, by decide⟩

theorem offset_backward (T : MassTable) (mono : Bool) (g : Key) (hg : g ∈ [k "x", k "y", k "z"]) :
    neutralOffset T mono g = some ((seriesOffset T mono g).getD 0 + T.compMass mono fH2O) ∧ g ≠ ionP ∧ g ≠ ionN := by
  simp only [List.mem_cons, List.mem_nil_iff, or_false] at hg
  rcases hg with rfl | rfl | rfl <;> exact ⟨rfl, by decide, by decide⟩

theorem offset_internal (T : MassTable) (mono : Bool) (f b : Key) (hf : f ∈ [k "a", k "b", k "c"])
    (hb : b ∈ [k "x", k "y", k "z"]) :
    neutralOffset T mono (f * 256 + b) = some ((seriesOffset T mono f).getD 0 + (seriesOffset T mono b).getD 0) ∧
      f * 256 + b ≠ ionP ∧ f * 256 + b ≠ ionN := by
  simp only [List.mem_cons, List.mem_nil_iff, or_false] at hf hb
  refine ⟨?_, ?_, ?_⟩
  -- the internal rows are the last nine of the table: walked row by row, since a single `rfl` through the
  -- eighteen nested `if`s is deeper than the elaborator's recursion limit; the keys are made numerals first, so
  -- that each comparison on the way is one of literals and not of two `keyOfChars` folds
  · unfold neutralOffset offsetTable
    simp only [List.map, List.flatMap_cons, List.flatMap_nil, List.cons_append, List.nil_append, List.append_nil,
      show k "a" = 97 from rfl, show k "b" = 98 from rfl, show k "c" = 99 from rfl, show k "x" = 120 from rfl,
      show k "y" = 121 from rfl, show k "z" = 122 from rfl, show k "p" = 112 from rfl, show k "n" = 110 from rfl,
      show k "i" = 105 from rfl, Nat.reduceMul, Nat.reduceAdd] at hf hb ⊢
    rcases hf with rfl | rfl | rfl <;> rcases hb with rfl | rfl | rfl <;>
      simp (disch := decide) only [lookup_cons_ne, lookup_cons_self, Nat.reduceMul, Nat.reduceAdd]
  all_goals rcases hf with rfl | rfl | rfl <;> rcases hb with rfl | rfl | rfl <;> decide

theorem modsValue_nil (env : Env) (mono : Bool) : modsValue env mono [] = 0 := rfl

theorem flatMap_shift (I : List (Int × List Mod)) (n : Int) :
    (I.map (fun p => (p.1 + n, p.2))).flatMap (·.2) = I.flatMap (·.2) := by rw [List.flatMap_map]

/-- without global rules, intervals and modifications of unknown position, what the ions of an annotation share is the
residues plus the terminal and residue modifications -/
theorem ionBase_plain (env : Env) (mono : Bool) (a : Annotation) (hs : a.static = none) (hu : a.unknown = none)
    (hi : a.intervals = none) :
    ionBase env a mono = residueSum lib mono a.seq + (modsValue env mono (a.nterm.getD [])
      + modsValue env mono ((a.internal.getD []).flatMap (·.2)) + modsValue env mono (a.cterm.getD [])) := by
  unfold ionBase staticValue
  rw [placedMods_fragment a 98 (by decide), hs, hu, hi]
  simp only [Option.getD_none, List.flatMap_nil, List.append_nil, List.nil_append, modsValue_append]
  ring

theorem precursorMods_plain (env : Env) (mono : Bool) (a : Annotation) (hs : a.static = none) (hu : a.unknown = none)
    (hi : a.intervals = none) (hl : a.labile = none) :
    staticValue env mono a + modsValue env mono (placedMods a ionP) = modsValue env mono (a.nterm.getD [])
      + modsValue env mono ((a.internal.getD []).flatMap (·.2)) + modsValue env mono (a.cterm.getD []) := by
  unfold staticValue placedMods
  rw [hs, hu, hi, hl]
  simp only [if_true, Option.getD_none, List.flatMap_nil, List.append_nil, List.nil_append, modsValue_append]
  ring

/-- every residue of the hand-typed table has a non-negative mass in the library's element tables, both modes, and a
positive one unless it is `X` (whose composition is empty in `AA_COMPOSITIONS`: mass 0).  Stated on the numerator: an
`Int` comparison the kernel evaluates; `Rat.num_pos` / `Rat.num_nonneg` turn it into a statement about the mass. -/
def residuesPositive : Bool :=
  [true, false].all (fun mono => residueFormula.all (fun p =>
    decide (0 ≤ (lib.compMass mono p.2).num) && (p.1 == 88 || decide (0 < (lib.compMass mono p.2).num))))

theorem residueSum_nil (T : MassTable) (mono : Bool) : residueSum T mono [] = 0 := rfl

theorem residueSum_cons (T : MassTable) (mono : Bool) (c : Char) (s : List Char) :
    residueSum T mono (c :: s) = T.compMass mono ((lookup c.toNat residueFormula).getD []) + residueSum T mono s := rfl

theorem residueSum_append (T : MassTable) (mono : Bool) (s t : List Char) :
    residueSum T mono (s ++ t) = residueSum T mono s + residueSum T mono t := by
  unfold residueSum
  rw [List.map_append, sumR_append]

theorem ionBase_append (env : Env) (mono : Bool) (s₁ s₂ : List Char) (nt : Option (List Mod)) (I₁ I₂ : List (Int × List Mod)) :
    ionBase env { seq := s₁ ++ s₂, nterm := nt,
                  internal := some (I₁ ++ I₂.map (fun q => (q.1 + (s₁.length : Int), q.2))) } mono
      = ionBase env { seq := s₁, nterm := nt, internal := some I₁ } mono + residueSum lib mono s₂
        + modsValue env mono (I₂.flatMap (·.2)) := by
  simp only [ionBase_plain, Option.getD_some, List.flatMap_append, flatMap_shift, modsValue_append, residueSum_append]
  ring

/-- what the two pieces `p`, `s` of a cleavage `s₁ | s₂` carry (residues, terminal and residue modifications) is,
together, what the whole peptide `w` carries: the reason behind every complementary-pair relation -/
theorem ionBase_cleavage (env : Env) (mono : Bool) {s₁ s₂ : List Char} {nt ct : Option (List Mod)}
    {I₁ I₂ : List (Int × List Mod)} {p s w : Annotation}
    (hp : p = { seq := s₁, nterm := nt, internal := some I₁ })
    (hs : s = { seq := s₂, cterm := ct, internal := some I₂ })
    (hw : w = { seq := s₁ ++ s₂, nterm := nt, cterm := ct,
                internal := some (I₁ ++ I₂.map (fun q => (q.1 + (s₁.length : Int), q.2))) }) :
    ionBase env p mono + ionBase env s mono =
      residueSum lib mono w.seq + (staticValue env mono w + modsValue env mono (placedMods w ionP)) := by
  subst hp hs hw
  simp only [ionBase_plain, precursorMods_plain, Option.getD_none, Option.getD_some, List.flatMap_append, flatMap_shift,
    modsValue_append, modsValue_nil, residueSum_append]
  ring

/-- a forward ion of the N-terminal piece plus a backward ion of the C-terminal piece of one cleavage against the neutral
mass of the whole peptide: every complementary-pair relation is an instance -/
theorem cleavage_pair_mass (env : Env) (mono : Bool) {s₁ s₂ : List Char} {nt ct : Option (List Mod)}
    {I₁ I₂ : List (Int × List Mod)} {p s w : Annotation}
    (hp : p = { seq := s₁, nterm := nt, internal := some I₁ })
    (hs : s = { seq := s₂, cterm := ct, internal := some I₂ })
    (hw : w = { seq := s₁ ++ s₂, nterm := nt, cterm := ct,
                internal := some (I₁ ++ I₂.map (fun q => (q.1 + (s₁.length : Int), q.2))) })
    (hb : fragDomain env p mono) (hy : fragDomain env s mono) (hM : inDomain env w ionP mono none = true)
    (f g : Key) (hf : f ∈ [k "a", k "b", k "c"]) (hg : g ∈ [k "x", k "y", k "z"])
    (z₁ z₂ iso₁ iso₂ : Int) (l₁ l₂ : Rat) :
    ∃ mf mg M, mass env p (ionQuery f z₁ mono iso₁ l₁) = .ok mf ∧
      mass env s (ionQuery g z₂ mono iso₂ l₂) = .ok mg ∧
      mass env w (ionQuery ionP 0 mono 0 0) = .ok M ∧
      mf + mg = M + 2 * lib.hplus mono + (seriesOffset lib mono f).getD 0 + (seriesOffset lib mono g).getD 0
        + ((z₁ : Rat) + (z₂ : Rat) - 2) * Gen.protonMass + ((iso₁ : Rat) + (iso₂ : Rat)) * Gen.neutronMass + l₁ + l₂ := by
  obtain ⟨of, hfp, hfn⟩ := offset_forward lib mono f hf
  obtain ⟨og, hgp, hgn⟩ := offset_backward lib mono g hg
  refine ⟨_, _, _, mass_fragment env _ mono hb f hfp hfn _ of z₁ iso₁ l₁,
    mass_fragment env _ mono hy g hgp hgn _ og z₂ iso₂ l₂,
    mass_precursor env _ mono (by rw [hw]) (by rw [hw]) hM 0 0 0, ?_⟩
  show _ = _ + _ + _ + _ + _ * lib.proton + _ * lib.neutron + _ + _
  push_cast
  linarith [ionBase_cleavage env mono hp hs hw]

theorem residue_entry (hP : residuesPositive = true) (mono : Bool) (c : Char) (f : Comp)
    (hf : lookup c.toNat residueFormula = some f) :
    0 ≤ lib.compMass mono f ∧ (c ≠ 'X' → 0 < lib.compMass mono f) := by
  have hm := mem_of_lookup _ _ _ hf
  unfold residuesPositive at hP
  have h1 := List.all_eq_true.mp hP mono (by cases mono <;> simp)
  have h2 := List.all_eq_true.mp h1 _ hm
  simp only [Bool.and_eq_true, Bool.or_eq_true, decide_eq_true_eq, beq_iff_eq] at h2
  refine ⟨Rat.num_nonneg.mp h2.1, fun hc => ?_⟩
  rcases h2.2 with h | h
  · exfalso
    apply hc
    have : c = Char.ofNat c.toNat := (Char.ofNat_toNat c).symm
    rw [this, h]
  · exact Rat.num_pos.mp h

theorem residueSum_nonneg (hP : residuesPositive = true) (mono : Bool) (s : List Char)
    (hk : s.all (fun c => (lookup c.toNat residueFormula).isSome) = true) : 0 ≤ residueSum lib mono s := by
  induction s with
  | nil => exact le_refl _
  | cons c s ih =>
    rw [List.all_cons, Bool.and_eq_true] at hk
    obtain ⟨f, hf⟩ := Option.isSome_iff_exists.mp hk.1
    have hp := (residue_entry hP mono c f hf).1
    rw [residueSum_cons, hf]
    have := ih hk.2
    simp only [Option.getD_some]
    linarith

theorem residueSum_pos (hP : residuesPositive = true) (mono : Bool) (s : List Char) (hs : s ≠ []) (hx : 'X' ∉ s)
    (hk : s.all (fun c => (lookup c.toNat residueFormula).isSome) = true) : 0 < residueSum lib mono s := by
  cases s with
  | nil => exact absurd rfl hs
  | cons c s =>
    rw [List.all_cons, Bool.and_eq_true] at hk
    obtain ⟨f, hf⟩ := Option.isSome_iff_exists.mp hk.1
    have hc : c ≠ 'X' := fun h => hx (by rw [h]; exact List.mem_cons_self)
    have hp := (residue_entry hP mono c f hf).2 hc
    rw [residueSum_cons, hf]
    have := residueSum_nonneg hP mono s hk.2
    simp only [Option.getD_some]
    linarith

/-- the mass of an ion is affine in charge, isotope offset and loss: two plain queries on the same annotation, ion type and
mode differ by `Δz · PROTON_MASS + Δiso · NEUTRON_MASS + Δloss` -/
theorem mass_ionQuery_shift (env : Env) (a : Annotation) (t : Key) (mono : Bool) (hl : a.isotope = none)
    (had : a.adducts = none) (hdom : inDomain env a t mono none = true) (z₀ z iso₀ iso : Int) (loss₀ loss : Rat) :
    ∃ m, mass env a (ionQuery t z₀ mono iso₀ loss₀) = .ok m ∧
      mass env a (ionQuery t z mono iso loss) = .ok (m + ((z : Rat) - (z₀ : Rat)) * Gen.protonMass
        + ((iso : Rat) - (iso₀ : Rat)) * Gen.neutronMass + (loss - loss₀)) := by
  refine ⟨_, mass_ionQuery env a t mono hl had hdom z₀ iso₀ loss₀, ?_⟩
  rw [mass_ionQuery env a t mono hl had hdom z iso loss]
  apply congrArg Except.ok
  unfold specMassT Spec.chargeTerm
  have hp : lib.proton = Gen.protonMass := rfl
  have hn : lib.neutron = Gen.neutronMass := rfl
  split_ifs <;> rw [hp, hn] <;> ring

/-- `mz(...)` of a plain ion query is `adjust_mz` of `mass(...)` of the same query -/
theorem mz_of_mass (env : Env) (a : Annotation) (t : Key) (z : Int) (mono : Bool) (iso : Int) (loss m : Rat)
    (h : mass env a (ionQuery t z mono iso loss) = .ok m) :
    mz env a (ionQuery t z mono iso loss) = .ok (if z = 0 then m else m / (z : Rat)) := by
  have h' : massWith CompCalc.compMass env a (ionQuery t z mono iso loss) = .ok m := h
  unfold mz mzWith
  change (massWith CompCalc.compMass env a (ionQuery t z mono iso loss) >>= fun m => pure (adjustMz m (some z) none)) = _
  rw [h']
  rfl

end Pept.Mass
