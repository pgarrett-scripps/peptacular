import PeptVerif.Model.Serialize
/-!
Helper lemmas for C09: every error of the (repaired) parser model is of the ValueError family, and every phase
makes the progress the chain loop needs. Also `StartStop`: where the start phase stops (C01 states its round trip with it).
No Mathlib.
-/
namespace Pept

/-- the punctuation of the notation is not a residue letter. A simp lemma without textual user: the bare `simp` after
`rw [parseX.eq_def]` in ParserSurface, ParserMiddle and ParserChain decides the `isAA` tests on punctuation with it -/
@[simp] theorem isAA_punct : isAA '{' = false ∧ isAA '<' = false ∧ isAA '[' = false ∧ isAA '(' = false ∧
    isAA ')' = false ∧ isAA '?' = false ∧ isAA '-' = false ∧ isAA '+' = false ∧ isAA '/' = false := by decide

/-- the result is `ok` or an error of the ValueError family -/
def VF {α} (r : Except Err α) : Prop := ∀ e, r = .error e → e.valueFamily = true

theorem VF_ok {α} (x : α) : VF (Except.ok x : Except Err α) := by intro e h; cases h
theorem VF_format {α} : VF (Except.error .format : Except Err α) := by intro e h; cases h; rfl
theorem VF_value {α} : VF (Except.error .value : Except Err α) := by intro e h; cases h; rfl

theorem parseModBody_vf (o c : Char) (s : List Char) : VF (parseModBody o c s) := by
  intro e h
  unfold parseModBody at h
  split at h
  · cases h; rfl
  · split at h
    · split at h
      · cases h; rfl
      · split at h
        · cases h; rfl
        · cases h
    · cases h

theorem parseMods_vf (o c : Char) (s : List Char) : VF (parseMods o c s) := by
  intro e h
  -- Here and below `fun_induction` yields one goal per path through the function, and the alternatives answer the up to
  -- four kinds of path in this order: it returns `.ok` (`h` is impossible); a literal error (its class is read off; none
  -- in this function); the result of the recursive call (induction hypothesis); the error of a callee (its own lemma).
  fun_induction parseMods o c s <;> first
    | (cases h; done)
    | (cases h; apply_assumption; assumption)
    | (cases h; exact parseModBody_vf _ _ _ _ (by assumption))

theorem parseMiddle_vf (a : Annotation) (d : Option (Int × Bool)) (s : List Char) : VF (parseMiddle a d s) := by
  intro e h
  fun_induction parseMiddle a d s <;> first
    | (cases h; done)
    | (cases h; rfl)
    | (rename_i ih; exact ih h)
    | (cases h; exact parseMods_vf _ _ _ _ (by assumption))

theorem parseInteger_vf (s : List Char) : VF (parseInteger s) := by
  intro e h; unfold parseInteger at h; split at h
  · cases h
  · cases h; rfl

theorem parseEnd_vf (a : Annotation) (cn : Option Bool) (s : List Char) : VF (parseEnd a cn s) := by
  intro e h
  fun_induction parseEnd a cn s <;> first
    | (cases h; done)
    | (cases h; rfl)
    | (rename_i ih; exact ih h)
    | (cases h; exact parseMods_vf _ _ _ _ (by assumption))
    | (cases h; exact parseInteger_vf _ _ (by assumption))

/-- where `_parse_sequence_start` stops: at the end of the input, or in front of a residue / an interval -/
def StartStop (r : List Char) : Prop := r = [] ∨ ∃ c t, r = c :: t ∧ (isAA c = true ∨ c = '(')

theorem parseStart_progress (fixed : Bool) (a : Annotation) (s : List Char) (a' : Annotation) (r : List Char)
    (h : parseStart fixed a s = .ok (a', r)) : r.length ≤ s.length ∧ StartStop r := by
  fun_induction parseStart fixed a s generalizing a' r <;> first
    | (cases h; done)
    | (cases h; exact ⟨Nat.le_refl _, Or.inl rfl⟩)
    | (cases h; rename_i hc; exact ⟨Nat.le_refl _, Or.inr ⟨_, _, rfl, hc⟩⟩)
    | (rename_i ih; have := ih _ _ h; exact ⟨by first | omega | (simp only [List.length_cons] at *; omega), this.2⟩)

theorem parseMiddle_length (a : Annotation) (d : Option (Int × Bool)) (s : List Char) (a' : Annotation)
    (r : List Char) (h : parseMiddle a d s = .ok (a', r)) : r.length ≤ s.length := by
  fun_induction parseMiddle a d s generalizing a' r <;> first
    | (cases h; done)
    | (cases h; simp; done)
    | (cases h; have := parseMods_length _ _ _ _ _ (by assumption); simp only [List.length_cons]; omega)
    | (rename_i ih; have := ih _ _ h; first | omega | (simp only [List.length_cons]; omega))

theorem parseMiddle_progress (a : Annotation) (c : Char) (t : List Char) (a' : Annotation) (r : List Char)
    (hc : isAA c = true ∨ c = '(') (h : parseMiddle a none (c :: t) = .ok (a', r)) :
    r.length < (c :: t).length := by
  rw [parseMiddle.eq_def] at h
  simp only at h
  rcases hc with hc | hc
  · simp only [hc, ↓reduceIte] at h
    have := parseMiddle_length _ _ _ _ _ h
    simp only [List.length_cons]; omega
  · subst hc
    simp at h
    have := parseMiddle_length _ _ _ _ _ h
    simp only [List.length_cons]; omega

theorem parseEnd_length (a : Annotation) (cn : Option Bool) (s : List Char) (a' : Annotation) (cn' : Option Bool)
    (r : List Char) (h : parseEnd a cn s = .ok (a', cn', r)) : r.length ≤ s.length := by
  fun_induction parseEnd a cn s generalizing a' cn' r <;> first
    | (cases h; done)
    | (cases h; simp; done)
    | (cases h; simp only [List.length_cons, List.length_tail]; omega)
    | (rename_i ih; have := ih _ _ _ h; first | omega | (simp only [List.length_cons]; omega))

theorem Err.not_hang_of_valueFamily {e : Err} (h : e.valueFamily = true) : e ≠ .hang :=
  fun he => by subst he; exact Bool.noConfusion h

theorem VF.noHang {α} {r : Except Err α} (h : VF r) : r ≠ .error .hang :=
  fun h' => Err.not_hang_of_valueFamily (h _ h') rfl

theorem addGlobals_error (fixed : Bool) (a : Annotation) (ms : List Mod) (e : Err)
    (h : addGlobals fixed a ms = .error e) : e ≠ .hang ∧ (fixed = true → e.valueFamily = true) := by
  fun_induction addGlobals fixed a ms <;> first
    | (cases h; done)
    | (cases h; exact ⟨Err.not_hang_of_valueFamily rfl, fun _ => rfl⟩)
    | (rename_i ih; exact ih h)
    | (cases h; cases fixed <;> simp [Err.valueFamily])

/-- the start phase never reports `hang`, and after the fix only errors of the ValueError family (before it also
`index` and `type`) -/
theorem parseStart_error (fixed : Bool) (a : Annotation) (s : List Char) (e : Err)
    (h : parseStart fixed a s = .error e) : e ≠ .hang ∧ (fixed = true → e.valueFamily = true) := by
  fun_induction parseStart fixed a s <;> first
    | (cases h; done)
    | (cases h; exact ⟨Err.not_hang_of_valueFamily rfl, fun _ => rfl⟩)
    | (rename_i ih; exact ih h)
    | (cases h; have hv := parseMods_vf _ _ _ _ (by assumption); exact ⟨Err.not_hang_of_valueFamily hv, fun _ => hv⟩)
    | (cases h; have hv := parseModBody_vf _ _ _ _ (by assumption); exact ⟨Err.not_hang_of_valueFamily hv, fun _ => hv⟩)
    | (cases h; exact addGlobals_error _ _ _ _ (by assumption))
    | (cases h; cases fixed <;> simp [Err.valueFamily])

end Pept
