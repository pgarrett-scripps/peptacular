import PeptVerif.Lemmas.FormulaRT
/-!
`sortBy key` (`Model/Formula.lean`) is the model of Python's `sorted(items, key=…)`: a left fold of the stable insertion
`insertBy`.  Here: the result is sorted by `key`, and the sort is stable (for every key value the entries with that key keep
their original relative order).  Together with `sortBy_perm` these three facts determine the result uniquely.
Stability is stated by filters (`sortBy_stable`), a form `Lemmas/ListSort.lean` does not have.
-/
namespace Formula
open ModDb ListSort

abbrev SortedBy {α : Type} (key : α → Nat) (l : List α) : Prop := l.Pairwise (fun a b => key a ≤ key b)

theorem insertBy_sorted {α : Type} (key : α → Nat) (x : α) (l : List α) (h : SortedBy key l) :
    SortedBy key (insertBy key x l) :=
  insertBy_eq key x l ▸ pairwise_insert (R := fun a b => key a ≤ key b) (fun _ _ _ => Nat.le_trans)
    (fun y _ => by simp [Decides]; omega) h

theorem sortBy_sorted {α : Type} (key : α → Nat) (l : List α) : SortedBy key (sortBy key l) :=
  sortBy_eq key l ▸ pairwise_sort (R := fun a b => key a ≤ key b) (fun _ _ _ => Nat.le_trans)
    (fun x y => by simp [Decides]; omega) _

/-- stable insertion: among the entries of one key value, the new entry comes last -/
theorem insertBy_filter {α : Type} (key : α → Nat) (n : Nat) (x : α) (l : List α) (h : SortedBy key l) :
    (insertBy key x l).filter (fun a => key a == n) =
      l.filter (fun a => key a == n) ++ (if key x == n then [x] else []) := by
  induction l with
  | nil => by_cases hx : key x == n <;> simp [insertBy, hx]
  | cons z r ih =>
    have hz := List.pairwise_cons.1 h
    by_cases hlt : key x < key z
    · simp only [insertBy, hlt, if_true]
      by_cases hx : key x == n
      · have hx' : key x = n := by simpa using hx
        have hnone : (z :: r).filter (fun a => key a == n) = [] := by
          apply List.filter_eq_nil_iff.2
          intro a ha
          have hge : key z ≤ key a := by
            rcases List.mem_cons.1 ha with rfl | ha
            · exact Nat.le_refl _
            · exact hz.1 a ha
          have : key a ≠ n := by omega
          simpa using this
        rw [List.filter_cons, if_pos hx, hnone]
        simp [hx]
      · rw [List.filter_cons, if_neg hx]
        simp [hx]
    · simp only [insertBy, hlt, if_false]
      rw [List.filter_cons, List.filter_cons, ih hz.2]
      by_cases hzn : key z == n <;> simp [hzn]

theorem foldl_insertBy_filter {α : Type} (key : α → Nat) (n : Nat) (l acc : List α) (h : SortedBy key acc) :
    (l.foldl (fun acc x => insertBy key x acc) acc).filter (fun a => key a == n) =
      acc.filter (fun a => key a == n) ++ l.filter (fun a => key a == n) := by
  induction l generalizing acc with
  | nil => simp
  | cons x l ih =>
    simp only [List.foldl_cons]
    rw [ih _ (insertBy_sorted key x acc h), insertBy_filter key n x acc h, List.filter_cons]
    by_cases hx : key x == n <;> simp [hx]

theorem sortBy_stable {α : Type} (key : α → Nat) (n : Nat) (l : List α) :
    (sortBy key l).filter (fun a => key a == n) = l.filter (fun a => key a == n) := by
  unfold sortBy
  simpa using foldl_insertBy_filter key n l [] List.Pairwise.nil

/-- Each head occurs in the other list's filter at its own key, so the two head keys are equal; the filter at that key
starts with both heads, so the heads are equal; the tails inherit the hypothesis. -/
theorem sorted_filter_ext {α : Type} (key : α → Nat) (r s : List α) (hr : SortedBy key r) (hs : SortedBy key s)
    (h : ∀ n, r.filter (fun a => key a == n) = s.filter (fun a => key a == n)) : r = s := by
  induction r generalizing s with
  | nil =>
    cases s with
    | nil => rfl
    | cons y s' =>
      have := h (key y)
      simp at this
  | cons x r' ih =>
    cases s with
    | nil =>
      have := h (key x)
      simp at this
    | cons y s' =>
      have hr' := List.pairwise_cons.1 hr
      have hs' := List.pairwise_cons.1 hs
      have hx : x ∈ (y :: s') := by
        have hm : x ∈ (x :: r').filter (fun a => key a == key x) := by simp
        rw [h (key x)] at hm
        exact (List.mem_filter.1 hm).1
      have hy : y ∈ (x :: r') := by
        have hm : y ∈ (y :: s').filter (fun a => key a == key y) := by simp
        rw [← h (key y)] at hm
        exact (List.mem_filter.1 hm).1
      have h1 : key y ≤ key x := by
        rcases List.mem_cons.1 hx with hxy | hx
        · rw [hxy]
        · exact hs'.1 x hx
      have h2 : key x ≤ key y := by
        rcases List.mem_cons.1 hy with hyx | hy
        · rw [hyx]
        · exact hr'.1 y hy
      have hk : key y = key x := by omega
      have h0 := h (key x)
      simp [hk] at h0
      obtain ⟨hxy, h0'⟩ := h0
      rw [← hxy]
      congr 1
      apply ih s' hr'.2 hs'.2
      intro n
      by_cases hn : key x == n
      · have hn' : key x = n := by simpa using hn
        rw [← hn']
        exact h0'
      · have hh := h n
        simpa [List.filter_cons, hn, hk] using hh

end Formula
