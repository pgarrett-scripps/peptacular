import PeptVerif.Model.ModBuilderRegex
import PeptVerif.Lemmas.RegexLite
/-! The regex-subset matcher as `mod_builder.py` uses it (C13): `rangesGo` tries every start position once, so its output is
the concatenation of `rangeAt`; every match of a pattern has the length `consumeCount`. -/
namespace Pept
namespace ModBuilder
open RegexLite

/-- number of consuming items = length of every match of the pattern (items never alternate or repeat) -/
def consumeCount : Pattern → Nat
  | [] => 0
  | .consume _ :: ps => consumeCount ps + 1
  | .behind _ :: ps => consumeCount ps
  | .ahead _ :: ps => consumeCount ps
  | .aheadNot _ :: ps => consumeCount ps
  | .notAhead _ :: ps => consumeCount ps

theorem matchItems_len (p : Pattern) (before after : List Char) (k : Nat)
    (h : matchItems p before after = some k) : k = consumeCount p := by
  induction p generalizing before after k with
  | nil => exact (Option.some.inj h).symm
  | cons it ps ih =>
    cases it with
    | consume cls =>
      cases after with
      | nil => cases h
      | cons c rest =>
        rw [matchItems] at h
        split at h
        · obtain ⟨j, hj, rfl⟩ := Option.map_eq_some_iff.mp h
          exact congrArg (· + 1) (ih _ _ _ hj)
        · cases h
    | _ =>
      rw [matchItems_cons_zeroWidth _ rfl] at h
      split at h
      · exact ih _ _ _ h
      · cases h

theorem consumeCount_append (p q : Pattern) : consumeCount (p ++ q) = consumeCount p + consumeCount q := by
  induction p with
  | nil => simp only [List.nil_append, consumeCount, Nat.zero_add]
  | cons it ps ih => cases it <;> simp only [List.cons_append, consumeCount, ih]; omega

theorem consumeCount_zeroWidth (p : Pattern) (hz : ∀ it ∈ p, it.zeroWidth = true) : consumeCount p = 0 := by
  induction p with
  | nil => rfl
  | cons it ps ih =>
    have := ih fun x hx => hz x (List.mem_cons_of_mem _ hx)
    cases it with
    | consume c => exact absurd (hz _ List.mem_cons_self) Bool.false_ne_true
    | _ => exact this

/-- the match that starts at position `i`, if there is one -/
def rangeAt (p : Pattern) (i : Nat) (before after : List Char) : List (Nat × Nat) :=
  match matchItems p before after with
  | some k => [(i, i + k)]
  | none => []

theorem mem_rangeAt {p : Pattern} {i : Nat} {before after : List Char} {r : Nat × Nat}
    (h : r ∈ rangeAt p i before after) : r = (i, i + consumeCount p) ∧ consumeCount p ≤ after.length := by
  unfold rangeAt at h
  split at h
  · rename_i k hm
    cases List.mem_singleton.mp h
    rw [← matchItems_len p _ _ k hm]
    exact ⟨rfl, matchItems_le p _ _ k hm⟩
  · nomatch h

theorem pairwise_rangeAt (R : Nat × Nat → Nat × Nat → Prop) (p : Pattern) (i : Nat) (before after : List Char) :
    (rangeAt p i before after).Pairwise R := by
  unfold rangeAt
  split
  · exact List.pairwise_singleton _ _
  · exact List.Pairwise.nil

theorem rangesGo_eq_flatMap (p : Pattern) (i : Nat) (before after : List Char) :
    rangesGo p i before after = (List.range (after.length + 1)).flatMap fun k =>
      rangeAt p (i + k) ((after.take k).reverse ++ before) (after.drop k) :=
  walk_eq_flatMap (rangeAt p) (rangesGo p) (fun _ _ => rfl) (fun _ _ _ _ => rfl) ..

/-- every range starts at a position of the text, has the length of the pattern and ends inside the text -/
theorem rangesGo_bounds (p : Pattern) (i : Nat) (before after : List Char) :
    ∀ r ∈ rangesGo p i before after,
      i ≤ r.1 ∧ r.2 = r.1 + consumeCount p ∧ r.2 ≤ i + after.length := by
  intro r hr
  rw [rangesGo_eq_flatMap] at hr
  obtain ⟨k, hk, hr⟩ := List.mem_flatMap.mp hr
  obtain ⟨rfl, h⟩ := mem_rangeAt hr
  rw [List.length_drop] at h
  have := List.mem_range.mp hk
  exact ⟨Nat.le_add_right _ _, rfl, by omega⟩

/-- the ranges come in strictly increasing order of their start: every start position is tried once -/
theorem rangesGo_sorted (p : Pattern) (i : Nat) (before after : List Char) :
    (rangesGo p i before after).Pairwise fun r r' => r.1 < r'.1 := by
  rw [rangesGo_eq_flatMap, List.pairwise_flatMap]
  refine ⟨fun k _ => pairwise_rangeAt .., List.pairwise_lt_range.imp ?_⟩
  intro k k' hk r hr r' hr'
  obtain ⟨rfl, -⟩ := mem_rangeAt hr
  obtain ⟨rfl, -⟩ := mem_rangeAt hr'
  exact Nat.add_lt_add_left hk i

/-- the shift from the start of a match to the residue index used by `mod_builder.py` (offset -1):
`-1` for an empty match, `0` for a non-empty one -/
def shiftOf (p : Pattern) : Int := if consumeCount p = 0 then -1 else 0

theorem modSites_eq_map (p : Pattern) (s : List Char) :
    modSites p s = (matchRanges p s).map fun r => (r.1 : Int) + shiftOf p := by
  unfold modSites matchIndices indicesOfRanges matchRanges
  refine List.map_congr_left ?_
  intro r hr
  obtain ⟨-, h2, -⟩ := rangesGo_bounds p 0 [] s r hr
  unfold shiftOf
  simp only [ne_eq, ite_not]
  split <;> split <;> omega

theorem modSites_sorted (p : Pattern) (s : List Char) : (modSites p s).Pairwise (· < ·) := by
  rw [modSites_eq_map, List.pairwise_map]
  refine (rangesGo_sorted p 0 [] s).imp ?_
  intro r r' h
  omega

/-- the site-list hypothesis of the C13 theorems (`SitesOK`, `Lemmas/ModBuilder`), for the model of the matcher -/
theorem modSites_nodup (p : Pattern) (s : List Char) : (modSites p s).Nodup :=
  (modSites_sorted p s).imp (fun h => by omega)

/-- positions lie in `-1 … n-1`; a consuming pattern only yields residue indices `0 … n-1` -/
theorem modSites_bounds (p : Pattern) (s : List Char) (x : Int) (hx : x ∈ modSites p s) :
    -1 ≤ x ∧ x < (s.length : Int) ∧ (consumeCount p ≠ 0 → 0 ≤ x) := by
  rw [modSites_eq_map] at hx
  obtain ⟨r, hr, rfl⟩ := List.mem_map.mp hx
  obtain ⟨-, h2, h3⟩ := rangesGo_bounds p 0 [] s r hr
  unfold shiftOf
  by_cases hc : consumeCount p = 0
  · simp [hc]; omega
  · simp [hc]; omega

theorem siteAt_eq_rangeAt (p : Pattern) (i : Nat) (before after : List Char) :
    siteAt p i before after = (rangeAt p i before after).map fun r => if r.1 = r.2 then r.1 else r.1 + 1 := by
  unfold siteAt rangeAt
  rcases matchItems p before after with _ | _ | k <;> simp

/-- `get_regex_match_indices` (offset 0) as modelled for C06 is the same function of the ranges -/
theorem sitesGo_eq_ranges (p : Pattern) (i : Nat) (before after : List Char) :
    sitesGo p i before after = (rangesGo p i before after).map fun r => if r.1 = r.2 then r.1 else r.1 + 1 := by
  simp only [sitesGo_eq_flatMap, rangesGo_eq_flatMap, List.map_flatMap, siteAt_eq_rangeAt]

theorem modSites_eq_sites (p : Pattern) (s : List Char) :
    modSites p s = (sites p s).map fun (x : Nat) => (x : Int) - 1 := by
  unfold modSites matchIndices indicesOfRanges matchRanges sites
  rw [sitesGo_eq_ranges, List.map_map]
  refine List.map_congr_left ?_
  intro r _
  simp only [Function.comp, ne_eq, ite_not]
  split
  · omega
  · push_cast; omega

/-- the empty pattern `''` (a bare terminal value): every position `-1 … n-1` once -/
theorem mem_modSites_empty (s : List Char) (x : Int) : x ∈ modSites [] s ↔ -1 ≤ x ∧ x < (s.length : Int) := by
  rw [modSites_eq_sites]
  simp only [List.mem_map, mem_sites_zeroWidth [] (by simp), holdsAt_nil, and_true]
  constructor
  · rintro ⟨y, hy, rfl⟩; omega
  · rintro ⟨h1, h2⟩
    exact ⟨(x + 1).toNat, by omega, by omega⟩

/-! ### one residue with look-around conditions: `S(?=P)`, `(?<=K)P`, `(?<=[KR])[ST](?!P)` … -/

/-- the condition under which `pre ++ [consume cls] ++ post` matches the residue `c` with neighbours `prev`, `next` -/
def oneHolds (pre : Pattern) (cls : List Char) (post : Pattern) (prev : Option Char) (c : Char) (next : Option Char) :
    Bool :=
  holdsAt pre prev (some c) && cls.contains c && holdsAt post (some c) next

theorem oneHolds_nil (cls : List Char) (prev next : Option Char) (c : Char) :
    oneHolds [] cls [] prev c next = cls.contains c := by
  simp only [oneHolds, holdsAt_nil, Bool.true_and, Bool.and_true]

theorem mem_modSites_one (pre post : Pattern) (cls : List Char) (hpre : ∀ it ∈ pre, it.zeroWidth = true)
    (hpost : ∀ it ∈ post, it.zeroWidth = true) (s : List Char) (x : Int) :
    x ∈ modSites (pre ++ .consume cls :: post) s ↔
      ∃ k : Nat, ∃ h : k < s.length, x = (k : Int) ∧
        oneHolds pre cls post (if k = 0 then none else s[k - 1]?) s[k] s[k + 1]? = true := by
  rw [modSites_eq_sites]
  simp only [List.mem_map, mem_sites_one pre post cls hpre hpost, oneHolds]
  constructor
  · rintro ⟨y, ⟨k, hk, rfl, hh⟩, rfl⟩
    exact ⟨k, hk, by omega, hh⟩
  · rintro ⟨k, hk, rfl, hh⟩
    exact ⟨k + 1, ⟨k, hk, rfl, hh⟩, by omega⟩

/-- a single residue class `K` / `[ST]`: exactly the residues of the class -/
theorem mem_modSites_class (cls : List Char) (s : List Char) (x : Int) :
    x ∈ modSites [.consume cls] s ↔ ∃ k : Nat, ∃ h : k < s.length, x = (k : Int) ∧ cls.contains s[k] = true := by
  simpa only [oneHolds_nil, List.nil_append] using
    mem_modSites_one [] [] cls (fun _ h => nomatch h) (fun _ h => nomatch h) s x

theorem resolveRules_sitesOK {α : Type} (s : List Char) (rules : List (Target × α))
    (h : ∀ r ∈ rules, ∀ l, r.1 = .sites l → l.Nodup) : ∀ r ∈ resolveRules s rules, r.1.Nodup := by
  intro r hr
  obtain ⟨r0, hr0, rfl⟩ := List.mem_map.mp hr
  cases ht : r0.1 with
  | sites l => simp only [Target.resolve]; exact h r0 hr0 l ht
  | pat p => simp only [Target.resolve]; exact modSites_nodup p s

end ModBuilder
end Pept
