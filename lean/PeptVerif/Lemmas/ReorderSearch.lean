import PeptVerif.Lemmas.Reorder
import PeptVerif.Props.C16
/-! A digested piece under the subsequence search of C16: anything that `==` the piece is found at the offset the piece
was cut from. -/
namespace Pept.Reorder
open Pept Pept.Search

theorem slice_found_at_offset (a : Annotation) (s e : Nat) (hs : s < e) (he : e ≤ a.seq.length) (q : Annotation)
    (heq : annEq (slice a (s : Int) (e : Int)) q = true) : s ∈ findSubsequenceIndices a q false := by
  have hseq : q.seq = pySlice a.seq s e := by rw [← ((annEq_iff _ _).1 heq).seq, slice_seq]
  have hlen : q.seq.length = e - s := by rw [hseq, pySlice_length_nat a.seq s e (by omega) he]
  rw [findSubsequenceIndices_of_ne a q false (List.ne_nil_of_length_pos (by omega)), if_neg Bool.false_ne_true,
    findIndices_spec_slice _ _ (by omega), hlen, sliceAt_eq, show s + (e - s) = e by omega]
  exact ⟨by omega, by rw [hseq, pySlice_of_le a.seq (by omega) he], heq⟩

end Pept.Reorder
