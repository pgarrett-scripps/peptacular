import PeptVerif.Model.Score
import PeptVerif.Spec.Score
import PeptVerif.Model.ScoreFrag
import PeptVerif.Lemmas.ListSort
import PeptVerif.Lemmas.AssocList
import PeptVerif.Lemmas.RatSum
import PeptVerif.Lemmas.ExceptList
import Mathlib.Algebra.Order.Field.Basic
import Mathlib.Algebra.Order.BigOperators.Group.List
import Mathlib.Tactic.Linarith
import Mathlib.Tactic.Ring
import Mathlib.Data.Finset.Card
/-! Lemmas for C17. The sweep of `get_matched_indices` is reduced to prefix lengths (`windowTW`, one turn of the loop in
`sweep_cons`); on sorted peaks the prefix-length window is the brute-force window (`sweep_window`). The two updates of
the coverage dict are one function `covUpd`, known through its `lookup` equation. -/
namespace Score
variable {α : Type}

theorem advance_eq (p : α → Bool) (ys : List α) (i : Nat) :
    advance p ys i = i + ((ys.drop i).takeWhile p).length := by
  fun_induction advance p ys i with
  | case1 i y h hp ih =>
    obtain ⟨hlt, rfl⟩ := List.getElem?_eq_some_iff.mp h
    rw [ih, List.drop_eq_getElem_cons hlt, List.takeWhile_cons, if_pos hp, List.length_cons]
    omega
  | case2 i y h hp =>
    obtain ⟨hlt, rfl⟩ := List.getElem?_eq_some_iff.mp h
    rw [List.drop_eq_getElem_cons hlt, List.takeWhile_cons, if_neg hp]
    rfl
  | case3 i h =>
    rw [List.drop_eq_nil_of_le (List.getElem?_eq_none_iff.mp h)]
    rfl

theorem takeWhile_drop_len (p : α → Bool) (l : List α) (i : Nat) (h : i ≤ (l.takeWhile p).length) :
    ((l.drop i).takeWhile p).length = (l.takeWhile p).length - i := by
  induction l generalizing i with
  | nil => simp
  | cons a l ih =>
    cases i with
    | zero => rfl
    | succ i =>
      by_cases hp : p a = true
      · rw [List.takeWhile_cons, if_pos hp] at h ⊢
        rw [List.drop_succ_cons, ih i (Nat.le_of_succ_le_succ h), List.length_cons, Nat.add_sub_add_right]
      · rw [List.takeWhile_cons, if_neg hp] at h
        exact absurd h (Nat.not_succ_le_zero i)

theorem takeWhile_len_mono (p q : α → Bool) (l : List α) (hpq : ∀ y, p y = true → q y = true) :
    (l.takeWhile p).length ≤ (l.takeWhile q).length := by
  induction l with
  | nil => exact Nat.le_refl _
  | cons a l ih =>
    rw [List.takeWhile_cons]
    split
    · next hp =>
      rw [List.takeWhile_cons, if_pos (hpq a hp)]
      exact Nat.succ_le_succ ih
    · exact Nat.zero_le _

theorem takeWhile_len_le (p : α → Bool) (l : List α) : (l.takeWhile p).length ≤ l.length :=
  (List.takeWhile_sublist p).length_le

/-- the window computed by prefix lengths: skip the maximal `below` prefix, then take the maximal
`within` prefix of the rest -/
def windowTW (below within : α → α → Bool) (ys : List α) (x : α) : Option (Nat × Nat) :=
  let s := (ys.takeWhile (fun y => below y x)).length
  let m := ((ys.drop s).takeWhile (fun y => within y x)).length
  if m = 0 then none else some (s, s + m)

theorem idxList_windowTW (below within : α → α → Bool) (ys : List α) (x : α) :
    idxList (windowTW below within ys x)
      = List.range' (ys.takeWhile (fun y => below y x)).length
          ((ys.drop (ys.takeWhile (fun y => below y x)).length).takeWhile (fun y => within y x)).length := by
  simp only [windowTW]
  split
  · next h => rw [h]; rfl
  · simp only [idxList, Nat.add_sub_cancel_left]

theorem windowTW_lt (below within : α → α → Bool) (ys : List α) (x : α) (s e : Nat)
    (h : windowTW below within ys x = some (s, e)) : s < e := by
  simp only [windowTW] at h
  split at h
  · cases h
  · cases h
    omega

theorem windowTW_none_iff (below within : α → α → Bool) (ys : List α) (x : α) :
    windowTW below within ys x = none ↔ idxList (windowTW below within ys x) = [] := by
  cases h : windowTW below within ys x with
  | none => exact iff_of_true rfl rfl
  | some w =>
    have := windowTW_lt below within ys x w.1 w.2 h
    refine iff_of_false (fun h => nomatch h) (List.ne_nil_of_length_pos ?_)
    rw [idxList, List.length_range']
    omega

theorem windowTW_eq_none_of_length_le (below within : α → α → Bool) (ys : List α) (x : α)
    (h : ys.length ≤ (ys.takeWhile (fun y => below y x)).length) : windowTW below within ys x = none := by
  rw [windowTW, List.drop_eq_nil_of_le h]
  rfl

/-- one turn of the loop of `get_matched_indices`: from an admissible shared pointer, the entry for `x` is its
prefix-length window and the pointer moves to the end of the `below` prefix of `x` (in the first early exit it is
there already) -/
theorem sweep_cons (below within : α → α → Bool) (ys : List α) (x : α) (xs : List α) (start : Nat)
    (hx : start ≤ (ys.takeWhile (fun y => below y x)).length) :
    sweep below within ys start (x :: xs)
      = windowTW below within ys x :: sweep below within ys (ys.takeWhile (fun y => below y x)).length xs := by
  have hle := takeWhile_len_le (fun y => below y x) ys
  have hs : advance (fun y => below y x) ys start = (ys.takeWhile (fun y => below y x)).length := by
    rw [advance_eq, takeWhile_drop_len _ _ _ hx]
    omega
  simp only [sweep, hs]
  split
  · next hge =>
    rw [windowTW_eq_none_of_length_le below within ys x (by omega), show start = _ from Nat.le_antisymm hx (by omega)]
  · split
    · next hge => rw [windowTW_eq_none_of_length_le below within ys x hge]
    · have he (s m : Nat) : s + m ≤ s ↔ m = 0 := by omega
      simp only [advance_eq, he, windowTW]

theorem sweep_eq_map_windowTW (below within : α → α → Bool) (ys : List α) (xs : List α) (start : Nat)
    (hmono : xs.Pairwise (fun x x' => ∀ y, below y x = true → below y x' = true))
    (hstart : ∀ x ∈ xs, start ≤ (ys.takeWhile (fun y => below y x)).length) :
    sweep below within ys start xs = xs.map (windowTW below within ys) := by
  induction xs generalizing start with
  | nil => rfl
  | cons x xs ih =>
    rw [List.pairwise_cons] at hmono
    rw [sweep_cons below within ys x xs start (hstart x List.mem_cons_self), List.map_cons,
      ih _ hmono.2 fun x' hx' => takeWhile_len_mono _ _ ys (hmono.1 x' hx')]

theorem below_mono [LinearOrder α] (lo : α → α) {xs : List α} (h : xs.Pairwise (fun a b => lo a ≤ lo b)) :
    xs.Pairwise (fun x x' => ∀ y, decide (y < lo x) = true → decide (y < lo x') = true) :=
  h.imp fun hab _ hy => decide_eq_true (lt_of_lt_of_le (of_decide_eq_true hy) hab)

theorem windowFrom_nil_of_forall (inWin : α → α → Bool) (x : α) (j : Nat) (l : List α)
    (h : ∀ y ∈ l, inWin y x = false) : windowFrom inWin x j l = [] := by
  induction l generalizing j with
  | nil => rfl
  | cons y l ih =>
    simp only [windowFrom, h y (by simp)]
    exact ih (j+1) (fun z hz => h z (by simp [hz]))

theorem windowFrom_eq_zipIdx (inWin : α → α → Bool) (x : α) (j : Nat) (l : List α) :
    windowFrom inWin x j l = ((l.zipIdx j).filter fun a => inWin a.1 x).map (·.2) := by
  induction l generalizing j with
  | nil => rfl
  | cons y l ih =>
    simp only [windowFrom, List.zipIdx_cons, List.filter_cons, ih]
    split <;> rfl

theorem mem_window (inWin : α → α → Bool) (ys : List α) (x : α) (j : Nat) :
    j ∈ window inWin ys x ↔ ∃ y, ys[j]? = some y ∧ inWin y x = true := by
  rw [window, windowFrom_eq_zipIdx, List.mem_map]
  constructor
  · rintro ⟨⟨y, j'⟩, hm, rfl⟩
    obtain ⟨hz, hp⟩ := List.mem_filter.mp hm
    exact ⟨y, List.mem_zipIdx_iff_getElem?.mp hz, hp⟩
  · rintro ⟨y, hy, hp⟩
    exact ⟨(y, j), List.mem_filter.mpr ⟨List.mem_zipIdx_iff_getElem?.mpr hy, hp⟩, rfl⟩

theorem mem_entry_of_windows {inWin : α → α → Bool} {res : List (Option (Nat × Nat))} {xs ys : List α}
    (hcorr : res.map idxList = xs.map (window inWin ys)) {i j : Nat} {x y : α} (hx : xs[i]? = some x)
    (hy : ys[j]? = some y) : j ∈ idxList ((res[i]?).getD none) ↔ inWin y x = true := by
  have hi : (res[i]?).map idxList = some (window inWin ys x) := by
    rw [← List.getElem?_map, hcorr, List.getElem?_map, hx]
    rfl
  cases hg : res[i]? with
  | none => rw [hg] at hi; cases hi
  | some w =>
    rw [hg] at hi
    rw [Option.getD_some, Option.some.inj hi, mem_window]
    exact ⟨fun ⟨y', hy', hp⟩ => (Option.some.inj (hy.symm.trans hy')) ▸ hp, fun hp => ⟨y, hy, hp⟩⟩

/-- reading the peaks at the indices of a brute-force window = filtering the peaks by the window test -/
theorem window_filterMap {γ : Type} (inWin : α → α → Bool) (x : α) (mk : α × α → γ) (l : List (α × α)) :
    (window inWin (l.map (·.1)) x).filterMap (fun j => l[j]?.map mk) = (l.filter (fun p => inWin p.1 x)).map mk := by
  rw [window, windowFrom_eq_zipIdx, List.filterMap_map, List.zipIdx_map, List.filter_map, List.filterMap_map]
  conv => rhs; rw [← List.zipIdx_map_fst 0 l, List.filter_map, List.map_map]
  rw [← List.filterMap_eq_map]
  -- an element of `l.zipIdx` is `(l[j], j)`
  refine List.filterMap_congr fun a ha => ?_
  exact congrArg (Option.map mk) (List.mem_zipIdx_iff_getElem?.mp (List.mem_filter.mp ha).1)

section
variable [LinearOrder α] (lo hi : α → α)

theorem windowFrom_upper (x : α) (j : Nat) (l : List α) (hs : l.Pairwise (· ≤ ·)) (hlo : ∀ y ∈ l, lo x ≤ y) :
    windowFrom (fun y x => decide (lo x ≤ y) && decide (y ≤ hi x)) x j l
      = List.range' j (l.takeWhile (fun y => decide (y ≤ hi x))).length := by
  induction l generalizing j with
  | nil => rfl
  | cons y l ih =>
    obtain ⟨hyl, hs⟩ := List.pairwise_cons.mp hs
    have hy : lo x ≤ y := hlo y List.mem_cons_self
    by_cases hw : y ≤ hi x
    · simp only [windowFrom, hy, hw, decide_true, Bool.and_self, if_true, List.takeWhile_cons, List.length_cons]
      rw [ih (j+1) hs fun z hz => hlo z (List.mem_cons_of_mem y hz), List.range'_succ]
    · simp only [windowFrom, hw, decide_false, Bool.and_false, Bool.false_eq_true, if_false, List.takeWhile_cons]
      exact windowFrom_nil_of_forall _ x (j+1) l fun z hz => by
        rw [decide_eq_false fun h => hw (le_trans (hyl z hz) h), Bool.and_false]

theorem windowFrom_sorted (x : α) (j : Nat) (ys : List α) (hs : ys.Pairwise (· ≤ ·)) :
    windowFrom (fun y x => decide (lo x ≤ y) && decide (y ≤ hi x)) x j ys
      = List.range' (j + (ys.takeWhile (fun y => decide (y < lo x))).length)
          ((ys.drop (ys.takeWhile (fun y => decide (y < lo x))).length).takeWhile (fun y => decide (y ≤ hi x))).length := by
  induction ys generalizing j with
  | nil => rfl
  | cons y l ih =>
    by_cases hb : y < lo x
    · simp only [windowFrom, not_le.mpr hb, decide_false, Bool.false_and, Bool.false_eq_true, if_false,
        List.takeWhile_cons, hb, decide_true, if_true, List.length_cons, List.drop_succ_cons]
      rw [ih (j+1) (List.pairwise_cons.mp hs).2, Nat.add_assoc, Nat.add_comm 1]
    · have hl : lo x ≤ y := not_lt.mp hb
      rw [List.takeWhile_cons, if_neg fun h => hb (of_decide_eq_true h)]
      exact windowFrom_upper lo hi x j (y :: l) hs fun z hz =>
        (List.mem_cons.mp hz).elim (fun e => e ▸ hl) fun hz => le_trans hl ((List.pairwise_cons.mp hs).1 z hz)

theorem idxList_windowTW_sorted (ys : List α) (hys : ys.Pairwise (· ≤ ·)) (x : α) :
    idxList (windowTW (fun y x => decide (y < lo x)) (fun y x => decide (y ≤ hi x)) ys x)
      = window (fun y x => decide (lo x ≤ y) && decide (y ≤ hi x)) ys x := by
  rw [idxList_windowTW, window, windowFrom_sorted lo hi x 0 ys hys, Nat.zero_add]

/-- Only the lower bound has to be monotone, and only along the fragment list; the upper bound may be anything, since
the upper pointer restarts from the lower one. -/
theorem sweep_window (xs ys : List α) (hys : ys.Pairwise (· ≤ ·)) (hlo : xs.Pairwise (fun a b => lo a ≤ lo b)) :
    (sweep (fun y x => decide (y < lo x)) (fun y x => decide (y ≤ hi x)) ys 0 xs).map idxList
      = xs.map (window (fun y x => decide (lo x ≤ y) && decide (y ≤ hi x)) ys) := by
  rw [sweep_eq_map_windowTW _ _ ys xs 0 (below_mono lo hlo) fun _ _ => Nat.zero_le _, List.map_map]
  exact List.map_congr_left fun x _ => idxList_windowTW_sorted lo hi ys hys x

end

@[simp] theorem rat_sub (a b : Rat) : Num.sub a b = a - b := rfl
@[simp] theorem rat_add (a b : Rat) : Num.add a b = a + b := rfl
@[simp] theorem rat_mul (a b : Rat) : Num.mul a b = a * b := rfl
@[simp] theorem rat_div (a b : Rat) : Num.div a b = a / b := rfl
@[simp] theorem rat_lt (a b : Rat) : Num.lt a b = decide (a < b) := rfl
@[simp] theorem rat_le (a b : Rat) : Num.le a b = decide (a ≤ b) := rfl
@[simp] theorem rat_eq (a b : Rat) : Num.eq a b = decide (a = b) := rfl
@[simp] theorem rat_zero : (Num.zero : Rat) = 0 := rfl
@[simp] theorem rat_million : (Num.million : Rat) = 1000000 := rfl

theorem below_rat (t : Tol) (tol : Rat) : below t tol = fun y x => decide (y < lo t tol x) := rfl
theorem within_rat (t : Tol) (tol : Rat) : within t tol = fun y x => decide (y ≤ hi t tol x) := rfl
theorem inWindow_rat (t : Tol) (tol : Rat) :
    inWindow t tol = fun y x => decide (lo t tol x ≤ y) && decide (y ≤ hi t tol x) := rfl

theorem getMatchedIndices_eq_map_windowTW (t : Tol) (tol : Rat) (xs ys : List Rat)
    (hlo : xs.Pairwise (fun a b => lo t tol a ≤ lo t tol b)) :
    getMatchedIndices t tol xs ys
      = xs.map (windowTW (fun y x => decide (y < lo t tol x)) (fun y x => decide (y ≤ hi t tol x)) ys) :=
  sweep_eq_map_windowTW _ _ ys xs 0 (below_mono (lo t tol) hlo) fun _ _ => Nat.zero_le _

theorem getMatchedIndices_window (t : Tol) (tol : Rat) (xs ys : List Rat) (hys : ys.Pairwise (· ≤ ·))
    (hlo : xs.Pairwise (fun a b => lo t tol a ≤ lo t tol b)) :
    (getMatchedIndices t tol xs ys).map idxList = bruteForce t tol xs ys :=
  sweep_window (lo t tol) (hi t tol) xs ys hys hlo

section
variable {β γ : Type}

/-- The loop of `argBestGo` for a strict partial order `lt'` ("strictly better"), seen on the whole list `pre ++ vs`
with `pre` the part already scanned: if the current best `b` is at `bi` and nothing in `pre` beats it, then nothing in
the whole list beats the element at the returned index. -/
theorem argBestGo_spec (lt' : β → β → Prop) [DecidableRel lt'] (irr : ∀ a, ¬ lt' a a)
    (tr : ∀ a b c, lt' a b → lt' b c → lt' a c) (vs pre : List β) (bi : Nat) (b : β)
    (hb : (pre ++ vs)[bi]? = some b) (hbest : ∀ u ∈ pre, ¬ lt' u b) :
    ∃ w, (pre ++ vs)[argBestGo (fun v b => decide (lt' v b)) bi b pre.length vs]? = some w ∧
      ∀ u ∈ pre ++ vs, ¬ lt' u w := by
  induction vs generalizing pre bi b with
  | nil =>
    rw [List.append_nil] at hb ⊢
    exact ⟨b, hb, hbest⟩
  | cons v vs ih =>
    rw [List.append_cons] at hb ⊢
    have hlen : (pre ++ [v]).length = pre.length + 1 := List.length_append
    rw [argBestGo, ← hlen]
    split
    · next hvb =>
      have hvb := of_decide_eq_true hvb
      refine ih (pre ++ [v]) pre.length v (by simp) fun u hu hbad => ?_
      rcases List.mem_append.mp hu with hu | hu
      · exact hbest u hu (tr _ _ _ hbad hvb)
      · rw [List.mem_singleton.mp hu] at hbad
        exact irr v hbad
    · next hvb =>
      refine ih (pre ++ [v]) bi b hb fun u hu => ?_
      rcases List.mem_append.mp hu with hu | hu
      · exact hbest u hu
      · rw [List.mem_singleton.mp hu]
        exact fun h => hvb (decide_eq_true h)

theorem argBest_spec (lt' : β → β → Prop) [DecidableRel lt'] (irr : ∀ a, ¬ lt' a a)
    (tr : ∀ a b c, lt' a b → lt' b c → lt' a c) (l : List β) (hl : l ≠ []) :
    ∃ r w, argBest (fun v b => decide (lt' v b)) l = some r ∧ l[r]? = some w ∧ ∀ u ∈ l, ¬ lt' u w := by
  cases l with
  | nil => exact absurd rfl hl
  | cons v vs =>
    obtain ⟨w, hw, hmin⟩ := argBestGo_spec lt' irr tr vs [v] 0 v rfl fun u hu => by
      rw [List.mem_singleton.mp hu]
      exact irr v
    exact ⟨_, w, rfl, hw, hmin⟩

theorem mapM_zip_map_ok {δ ε ζ : Type} (F : γ × δ → Except ε ζ) (f : γ → δ) (g : γ → ζ) (l : List γ)
    (h : ∀ a ∈ l, F (a, f a) = .ok (g a)) : (l.zip (l.map f)).mapM F = .ok (l.map g) := by
  rw [← List.map_prod_left_eq_zip, List.mapM_map]
  exact ExceptList.mapM_ok h

theorem slice_length (l : List γ) (s e : Nat) (he : e ≤ l.length) : (slice l s e).length = e - s := by
  rw [slice, List.length_take, List.length_drop]
  omega

theorem slice_getElem? (l : List γ) (s e i : Nat) (he : e ≤ l.length) (hi : s + i < e) :
    (slice l s e)[i]? = some (l[s + i]'(by omega)) := by
  rw [slice, List.getElem?_take, if_pos (by omega), List.getElem?_drop, List.getElem?_eq_getElem]

/-- what `closest` and `largest` share: `s +` the arg-best of the values `g l[s], …, g l[e-1]` is a position of
`[s, e)` whose value nothing in `[s, e)` beats -/
theorem argBest_slice (lt' : β → β → Prop) [DecidableRel lt'] (irr : ∀ a, ¬ lt' a a)
    (tr : ∀ a b c, lt' a b → lt' b c → lt' a c) (g : γ → β) (l : List γ) (s e : Nat) (hse : s < e)
    (he : e ≤ l.length) :
    ∃ r, argBest (fun v b => decide (lt' v b)) ((slice l s e).map g) = some r ∧ ∃ hr : s + r < e,
      ∀ k (hk : k < e), s ≤ k → ¬ lt' (g (l[k]'(by omega))) (g (l[s + r]'(by omega))) := by
  have hlen : ((slice l s e).map g).length = e - s := by rw [List.length_map, slice_length l s e he]
  obtain ⟨r, w, hr, hw, hmin⟩ := argBest_spec lt' irr tr ((slice l s e).map g)
    (List.ne_nil_of_length_pos (by omega))
  have hrl : s + r < e := by
    have := (List.getElem?_eq_some_iff.mp hw).1
    omega
  rw [List.getElem?_map, slice_getElem? l s e r he hrl] at hw
  cases hw
  refine ⟨r, hr, hrl, fun k hk hsk => hmin _ (List.mem_map_of_mem (List.mem_of_getElem? (i := k - s) ?_))⟩
  rw [slice_getElem? l s e (k - s) he (by omega)]
  simp only [Nat.add_sub_cancel' hsk]

end

theorem pick_all [Num α] (ys : List α) (ints : Option (List α)) (x : α) (w : Option (Nat × Nat))
    (hw : ∀ s e, w = some (s, e) → s < e) :
    pick .all ys ints x w = .ok (hitOfWindow (idxList w)) := by
  cases w with
  | none => rfl
  | some p =>
    have := hw p.1 p.2 rfl
    have hne : List.range' p.1 (p.2 - p.1) ≠ [] := List.ne_nil_of_length_pos (by rw [List.length_range']; omega)
    simp only [pick, pickAll, hitOfWindow, idxList, hne, if_false]

theorem absDiff_rat (a b : Rat) : absDiff a b = |a - b| := by
  simp only [absDiff, rat_sub, rat_lt, rat_zero, decide_eq_true_eq]
  split
  · next h => rw [abs_of_neg h, zero_sub]
  · next h => rw [abs_of_nonneg (not_lt.mp h)]

theorem pickClosest_argmin (ys : List Rat) (x : Rat) (s e : Nat) (hse : s < e) (he : e ≤ ys.length) :
    ∃ j, pickClosest ys x s e = some j ∧ s ≤ j ∧ ∃ hj : j < e,
      ∀ k (hk : k < e), s ≤ k → |x - ys[j]'(by omega)| ≤ |x - ys[k]'(by omega)| := by
  obtain ⟨r, hr, hlt, hmin⟩ := argBest_slice (fun a b : Rat => a < b) lt_irrefl (fun _ _ _ => lt_trans)
    (absDiff x) ys s e hse he
  refine ⟨s + r, congrArg (Option.map (s + ·)) hr, Nat.le_add_right s r, hlt, fun k hk hsk => ?_⟩
  rw [← absDiff_rat, ← absDiff_rat]
  exact not_lt.mp (hmin k hk hsk)

theorem pickLargest_argmax (ints : List Rat) (s e : Nat) (hse : s < e) (he : e ≤ ints.length) :
    ∃ j, pickLargest ints s e = some j ∧ s ≤ j ∧ ∃ hj : j < e,
      ∀ k (hk : k < e), s ≤ k → ints[k]'(by omega) ≤ ints[j]'(by omega) := by
  obtain ⟨r, hr, hlt, hmin⟩ := argBest_slice (fun a b : Rat => b < a) lt_irrefl (fun _ _ _ h1 h2 => lt_trans h2 h1)
    id ints s e hse he
  rw [List.map_id] at hr
  exact ⟨s + r, congrArg (Option.map (s + ·)) hr, Nat.le_add_right s r, hlt, fun k hk hsk => not_lt.mp (hmin k hk hsk)⟩

theorem sumL_eq_sum (l : List Rat) : sumL l = l.sum :=
  (RatSum.foldl_add id l 0).trans (by rw [List.map_id, zero_add])

theorem matchedIntensityPercentage_rat (ms : List (Rat × Rat)) (ints : List Rat) :
    matchedIntensityPercentage ms ints = if ints.sum = 0 then 0 else ((groupByMz ms).map (·.2)).sum / ints.sum := by
  simp only [matchedIntensityPercentage, sumL_eq_sum, rat_eq, rat_zero, rat_div, decide_eq_true_eq]

theorem dictSet_eq_alter (k v : Rat) (d : List (Rat × Rat)) :
    dictSet Num.eq k v d = AssocList.alter (fun _ => v) k d := by
  induction d with
  | nil => rfl
  | cons p d ih =>
    obtain ⟨k', v'⟩ := p
    rw [dictSet, AssocList.alter, ih]
    rfl

theorem dictSet_consistent (k v : Rat) (d : List (Rat × Rat)) (hc : ∀ p ∈ d, p.1 = k → p.2 = v) :
    dictSet Num.eq k v d = if (k, v) ∈ d then d else d ++ [(k, v)] := by
  rw [dictSet_eq_alter]
  cases h : d.lookup k with
  | none =>
    have hk := AssocList.lookup_eq_none_iff.mp h
    rw [AssocList.alter_of_not_mem _ hk, if_neg fun hm => hk (List.mem_map_of_mem (f := (·.1)) hm)]
  | some w =>
    have hw := AssocList.mem_of_lookup h
    cases hc _ hw rfl
    rw [AssocList.alter_eq_self h rfl, if_pos hw]

theorem groupByMz_concat (ms : List (Rat × Rat)) (m : Rat × Rat) :
    groupByMz (ms ++ [m]) = dictSet Num.eq m.1 m.2 (groupByMz ms) := by
  simp only [groupByMz, List.foldl_append, List.foldl_cons, List.foldl_nil]

theorem groupByMz_spec (ms : List (Rat × Rat)) (hf : ∀ p ∈ ms, ∀ q ∈ ms, p.1 = q.1 → p.2 = q.2) :
    (groupByMz ms).Nodup ∧ ∀ p, p ∈ groupByMz ms ↔ p ∈ ms := by
  induction ms using List.reverseRecOn with
  | nil => exact ⟨List.nodup_nil, fun p => Iff.rfl⟩
  | append_singleton ms m ih =>
    obtain ⟨hnd, hmem⟩ := ih fun p hp q hq => hf p (List.mem_append_left _ hp) q (List.mem_append_left _ hq)
    obtain ⟨k, v⟩ := m
    rw [groupByMz_concat, dictSet_consistent k v _ fun p hp =>
      hf p (List.mem_append_left _ ((hmem p).mp hp)) (k, v) (List.mem_append_right _ List.mem_cons_self)]
    split
    · next hin =>
      refine ⟨hnd, fun p => ?_⟩
      rw [hmem, List.mem_append, List.mem_singleton]
      exact ⟨Or.inl, fun h => h.elim id fun e => e ▸ (hmem _).mp hin⟩
    · next hin =>
      refine ⟨List.nodup_append.mpr ⟨hnd, List.nodup_singleton _, fun a ha b hb e => hin ?_⟩, fun p => ?_⟩
      · rw [← List.mem_singleton.mp hb, ← e]
        exact ha
      · rw [List.mem_append, List.mem_append, hmem]

theorem matched_sum_eq (ps ms : List (Rat × Rat)) (hnd : (ps.map (·.1)).Nodup) (hsub : ∀ m ∈ ms, m ∈ ps) :
    ((groupByMz ms).map (·.2)).sum = ((matchedPeaks ps ms).map (·.2)).sum := by
  have hfun : ∀ p ∈ ps, ∀ q ∈ ps, p.1 = q.1 → p.2 = q.2 := by
    intro p hp q hq h
    have := List.inj_on_of_nodup_map hnd hp hq h
    rw [this]
  obtain ⟨hg1, hg2⟩ := groupByMz_spec ms (fun p hp q hq => hfun p (hsub p hp) q (hsub q hq))
  have hps : ps.Nodup := List.Nodup.of_map _ hnd
  have hperm : (groupByMz ms).Perm (matchedPeaks ps ms) := by
    unfold matchedPeaks
    rw [List.perm_ext_iff_of_nodup hg1 (hps.filter _)]
    intro a
    rw [hg2 a]
    simp only [List.mem_filter, decide_eq_true_eq]
    constructor
    · intro h; exact ⟨hsub a h, h⟩
    · intro h; exact h.2
  exact (hperm.map _).sum_eq

theorem matched_sum_bounds (ps ms : List (Rat × Rat)) (hnn : ∀ p ∈ ps, 0 ≤ p.2) :
    ((matchedPeaks ps ms).map (·.2)).sum ≤ (ps.map (·.2)).sum ∧ 0 ≤ ((matchedPeaks ps ms).map (·.2)).sum := by
  have h0 : ∀ l : List (Rat × Rat), l.Sublist ps → ∀ a ∈ l.map (·.2), 0 ≤ a := fun l hl a ha => by
    obtain ⟨p, hp, rfl⟩ := List.mem_map.mp ha
    exact hnn p (hl.subset hp)
  exact ⟨(List.filter_sublist.map _).sum_le_sum (h0 ps (List.Sublist.refl ps)), List.sum_nonneg (h0 _ List.filter_sublist)⟩

theorem dictSet_map_val {κ β γ : Type} (eq : κ → κ → Bool) (g : β → γ) (k : κ) (v : β) (d : List (κ × β)) :
    (dictSet eq k v d).map (fun p => (p.1, g p.2)) = dictSet eq k (g v) (d.map fun p => (p.1, g p.2)) := by
  induction d with
  | nil => rfl
  | cons p d ih =>
    obtain ⟨k', v'⟩ := p
    simp only [dictSet, List.map_cons]
    split
    · rfl
    · rw [List.map_cons, ih]

theorem foldl_dictSet_map_val {κ β γ μ : Type} (eq : κ → κ → Bool) (g : β → γ) (kf : μ → κ) (vf : μ → β) (ms : List μ)
    (d : List (κ × β)) :
    (ms.foldl (fun d m => dictSet eq (kf m) (vf m) d) d).map (fun p => (p.1, g p.2))
      = ms.foldl (fun d m => dictSet eq (kf m) (g (vf m)) d) (d.map fun p => (p.1, g p.2)) := by
  induction ms generalizing d with
  | nil => rfl
  | cons m ms ih => rw [List.foldl_cons, ih, dictSet_map_val, List.foldl_cons]

/-- `{f.mz: f for f in ms}` then `f.intensity for f in d.values()` = the values of `{f.mz: f.intensity …}` -/
theorem values_of_pairs [Num α] (ms : List (α × α)) :
    ((ms.foldl (fun d f => dictSet Num.eq f.1 f d) []).map (·.2)).map (fun f => f.2) = (groupByMz ms).map (·.2) := by
  have := foldl_dictSet_map_val (Num.eq (α := α)) (fun f : α × α => f.2) (fun m : α × α => m.1) (fun m => m) ms []
  simp only [List.map_nil] at this
  unfold groupByMz
  rw [← this, List.map_map, List.map_map]
  rfl

section
variable {β : Type}

theorem insertBy_eq (lt : β → β → Bool) (x : β) (l : List β) :
    insertBy lt x l = ListSort.insertB (fun a b => !lt b a) x l := by
  induction l with
  | nil => rfl
  | cons y ys ih =>
    rw [insertBy, ListSort.insertB, ih]
    cases lt y x <;> rfl

theorem sortBy_eq (lt : β → β → Bool) (l : List β) : sortBy lt l = ListSort.sortB (fun a b => !lt b a) l := by
  induction l with
  | nil => rfl
  | cons x xs ih => rw [sortBy, ih, insertBy_eq, ListSort.sortB_cons]

theorem sortBy_perm (lt : β → β → Bool) (l : List β) : (sortBy lt l).Perm l :=
  sortBy_eq lt l ▸ ListSort.perm_sort _ l

theorem mem_sortBy (lt : β → β → Bool) (z : β) (l : List β) : z ∈ sortBy lt l ↔ z ∈ l :=
  (sortBy_perm lt l).mem_iff

theorem sortBy_sorted (k : β → Rat) (l : List β) :
    ((sortBy (fun a b => decide (k a < k b)) l).map k).Pairwise (· ≤ ·) := by
  rw [List.pairwise_map, sortBy_eq]
  exact ListSort.pairwise_sort (R := fun a b => k a ≤ k b) (fun _ _ _ => le_trans)
    (fun x y => ⟨fun h => not_lt.mp (by simpa using h), fun h => le_of_lt (by simpa using h)⟩) l

theorem expandHit_hitOfWindow (peaks : List (Rat × Rat)) (f : Nat) (w : List Nat) :
    expandHit peaks f (hitOfWindow w) = w.filterMap (fun j => peaks[j]?.map fun p => (⟨f, p.1, p.2⟩ : FMatch Rat)) := by
  unfold hitOfWindow
  split
  · next h => rw [h]; rfl
  · rfl

end

abbrev Cov := List ((Nat × String) × List Nat)

/-- `cov[label] = f (cov.get(label, [0]*n))`: `covTouch` is the case `f = id`, `covAdd` the case `f = bump start stop`.
`lookup` is all that `rowVal` reads of a dict. -/
def covUpd (f : List Nat → List Nat) (n : Nat) (label : Nat × String) : Cov → Cov :=
  AssocList.alter (fun o => f (o.getD (List.replicate n 0))) label

theorem covTouch_eq (n : Nat) (l : Nat × String) (c : Cov) : covTouch n l c = covUpd id n l c := by
  induction c with
  | nil => rfl
  | cons p c ih =>
    obtain ⟨l', r⟩ := p
    rw [covTouch, covUpd, AssocList.alter, ← covUpd, ih]
    rfl

theorem covAdd_eq (n : Nat) (l : Nat × String) (s e : Nat) (c : Cov) : covAdd n l s e c = covUpd (bump s e) n l c := by
  induction c with
  | nil => rfl
  | cons p c ih =>
    obtain ⟨l', r⟩ := p
    rw [covAdd, covUpd, AssocList.alter, ← covUpd, ih]
    rfl

/-- the row `cov.get(label, [0]*n)` -/
def rowOr (n : Nat) (c : Cov) (l : Nat × String) : List Nat := (c.lookup l).getD (List.replicate n 0)

theorem lookup_covUpd (f : List Nat → List Nat) (n : Nat) (l l0 : Nat × String) (c : Cov) :
    (covUpd f n l c).lookup l0 = if l0 = l then some (f (rowOr n c l)) else c.lookup l0 :=
  AssocList.lookup_alter _ l l0 c

theorem isSome_lookup_covUpd (f : List Nat → List Nat) (n : Nat) (l l0 : Nat × String) (c : Cov)
    (h : l0 = l ∨ (c.lookup l0).isSome) : ((covUpd f n l c).lookup l0).isSome := by
  rw [lookup_covUpd]
  split
  · rfl
  · next hne => exact h.resolve_left hne

theorem covUpd_id_of_isSome (n : Nat) (l : Nat × String) (c : Cov) (h : (c.lookup l).isSome) : covUpd id n l c = c := by
  obtain ⟨row, hrow⟩ := Option.isSome_iff_exists.mp h
  exact AssocList.alter_eq_self hrow rfl

def rowsLen (n : Nat) (c : Cov) : Prop := ∀ l row, c.lookup l = some row → row.length = n

theorem rowsLen_nil (n : Nat) : rowsLen n [] := fun _ _ h => nomatch h

theorem rowOr_length {n : Nat} {c : Cov} (h : rowsLen n c) (l : Nat × String) : (rowOr n c l).length = n := by
  unfold rowOr
  cases hl : c.lookup l with
  | none => exact List.length_replicate
  | some row => exact h l row hl

theorem rowsLen_covUpd {n : Nat} {c : Cov} (f : List Nat → List Nat) (hf : ∀ row, (f row).length = row.length)
    (l : Nat × String) (h : rowsLen n c) : rowsLen n (covUpd f n l c) := by
  intro l0 row h0
  rw [lookup_covUpd] at h0
  split at h0
  · cases h0
    rw [hf, rowOr_length h]
  · exact h l0 row h0

theorem rowOr_getD (n : Nat) (c : Cov) (l : Nat × String) (i : Nat) : ((rowOr n c l)[i]?).getD 0 = rowVal c l i := by
  unfold rowOr rowVal
  cases c.lookup l with
  | none =>
    rw [Option.getD_none, List.getElem?_replicate]
    split <;> rfl
  | some row => rfl

theorem rowVal_covUpd (f : List Nat → List Nat) (n : Nat) (l l0 : Nat × String) (c : Cov) (i : Nat) :
    rowVal (covUpd f n l c) l0 i = if l0 = l then ((f (rowOr n c l))[i]?).getD 0 else rowVal c l0 i := by
  unfold rowVal
  rw [lookup_covUpd]
  split <;> rfl

theorem rowVal_covUpd_id (n : Nat) (l l0 : Nat × String) (c : Cov) (i : Nat) :
    rowVal (covUpd id n l c) l0 i = rowVal c l0 i := by
  rw [rowVal_covUpd]
  split
  · next h => rw [h]; exact rowOr_getD n c l i
  · rfl

theorem bump_length (s e : Nat) (l : List Nat) : (bump s e l).length = l.length := List.length_mapIdx

theorem bump_get (s e : Nat) (l : List Nat) (i : Nat) :
    (bump s e l)[i]? = l[i]?.map fun c => if s ≤ i ∧ i < e then c + 1 else c := List.getElem?_mapIdx

theorem rowVal_covUpd_bump (n : Nat) (l l0 : Nat × String) (s e : Nat) (c : Cov) (i : Nat) (hi : i < n)
    (h : rowsLen n c) :
    rowVal (covUpd (bump s e) n l c) l0 i = rowVal c l0 i + (if l = l0 ∧ s ≤ i ∧ i < e then 1 else 0) := by
  rw [rowVal_covUpd]
  by_cases h0 : l0 = l
  · cases h0
    have hrow : (rowOr n c l)[i]? = some ((rowOr n c l)[i]'(by rw [rowOr_length h]; exact hi)) :=
      List.getElem?_eq_getElem _
    rw [if_pos rfl, ← rowOr_getD n c l i, bump_get, hrow]
    simp only [Option.map_some, Option.getD_some, true_and]
    split <;> rfl
  · rw [if_neg h0, if_neg fun h => h0 h.1.symm]
    rfl

/-- the loop of `get_match_coverage`, both dict updates written with `covUpd` -/
theorem matchCoverageGo_cons {κ : Type} [DecidableEq κ] (dedupe : Bool) (n : Nat) (m : CovIn κ) (ms : List (CovIn κ))
    (seen : List κ) (cov : Cov) :
    matchCoverageGo dedupe n (m :: ms) seen cov =
      if dedupe && seen.contains m.key then matchCoverageGo dedupe n ms seen (covUpd id n (m.charge, m.ion) cov)
      else if m.start < m.stop ∧ m.stop > n then .error .indexError
      else matchCoverageGo dedupe n ms (m.key :: seen) (covUpd (bump m.start m.stop) n (m.charge, m.ion) cov) := by
  rw [matchCoverageGo, covTouch_eq, covAdd_eq]

/-- the invariant: `m` is still ahead in `pre`, or its key has been seen and its label has a row -/
theorem matchCoverageGo_dup {κ : Type} [DecidableEq κ] (n : Nat) (m : CovIn κ) (post : List (CovIn κ)) :
    ∀ (pre : List (CovIn κ)) (seen : List κ) (cov : Cov),
      (m ∈ pre ∨ (m.key ∈ seen ∧ (cov.lookup (m.charge, m.ion)).isSome)) →
      matchCoverageGo true n (pre ++ m :: post) seen cov = matchCoverageGo true n (pre ++ post) seen cov := by
  intro pre
  induction pre with
  | nil =>
    intro seen cov h
    obtain ⟨h1, h2⟩ := h.resolve_left List.not_mem_nil
    rw [List.nil_append, matchCoverageGo_cons, Bool.true_and, if_pos (List.contains_iff_mem.mpr h1),
      covUpd_id_of_isSome n _ cov h2, List.nil_append]
  | cons a pre ih =>
    intro seen cov h
    rw [List.cons_append, List.cons_append, matchCoverageGo_cons, matchCoverageGo_cons]
    have step : ∀ (f : List Nat → List Nat) (seen' : List κ), (∀ k ∈ seen, k ∈ seen') → (a = m → m.key ∈ seen') →
        m ∈ pre ∨ (m.key ∈ seen' ∧ ((covUpd f n (a.charge, a.ion) cov).lookup (m.charge, m.ion)).isSome) := by
      intro f seen' hsub hkey
      rcases h with h | ⟨h1, h2⟩
      · rcases List.mem_cons.mp h with rfl | h
        · exact Or.inr ⟨hkey rfl, isSome_lookup_covUpd _ _ _ _ _ (Or.inl rfl)⟩
        · exact Or.inl h
      · exact Or.inr ⟨hsub _ h1, isSome_lookup_covUpd _ _ _ _ _ (Or.inr h2)⟩
    split
    · next hd => exact ih _ _ (step id seen (fun _ h => h) fun e => List.contains_iff_mem.mp (e ▸ hd))
    · split
      · rfl
      · exact ih _ _ (step _ _ (fun _ h => List.mem_cons_of_mem _ h) fun e => e ▸ List.mem_cons_self)

theorem matchCoverageGo_nodup {κ : Type} [DecidableEq κ] (n : Nat) :
    ∀ (ms : List (CovIn κ)) (seen seen' : List κ) (cov : Cov),
      (∀ m ∈ ms, m.key ∉ seen) → (ms.map (·.key)).Nodup →
      matchCoverageGo true n ms seen cov = matchCoverageGo false n ms seen' cov := by
  intro ms
  induction ms with
  | nil => intro seen seen' cov _ _; rfl
  | cons a ms ih =>
    intro seen seen' cov h hnd
    obtain ⟨ha, hnd⟩ := List.nodup_cons.mp hnd
    rw [matchCoverageGo_cons, matchCoverageGo_cons, Bool.true_and, Bool.false_and,
      if_neg fun hc => h a List.mem_cons_self (List.contains_iff_mem.mp hc), if_neg Bool.false_ne_true]
    split
    · rfl
    · refine ih _ _ _ (fun m hm hk => ?_) hnd
      rcases List.mem_cons.mp hk with e | hk
      · exact ha (List.mem_map.mpr ⟨m, hm, e⟩)
      · exact h m (List.mem_cons_of_mem a hm) hk

section
variable {κ : Type} [DecidableEq κ]

/-- the fragments (keys) not seen before that cover position `i` under label `l` -/
def newKeys (l : Nat × String) (i : Nat) (seen : List κ) (ms : List (CovIn κ)) : Finset κ :=
  ((ms.filter fun m => decide (m.key ∉ seen ∧ hits l i m)).map (·.key)).toFinset

theorem newKeys_nil (l : Nat × String) (i : Nat) (ms : List (CovIn κ)) :
    newKeys l i [] ms = ((ms.filter fun m => decide (hits l i m)).map (·.key)).toFinset := by
  simp only [newKeys, List.not_mem_nil, not_false_eq_true, true_and]

theorem mem_newKeys {l : Nat × String} {i : Nat} {seen : List κ} {ms : List (CovIn κ)} {k : κ} :
    k ∈ newKeys l i seen ms ↔ k ∉ seen ∧ ∃ m ∈ ms, m.key = k ∧ hits l i m := by
  simp only [newKeys, List.mem_toFinset, List.mem_map, List.mem_filter, decide_eq_true_eq]
  constructor
  · rintro ⟨m, ⟨hm, hs, hq⟩, rfl⟩
    exact ⟨hs, m, hm, rfl, hq⟩
  · rintro ⟨hs, m, hm, rfl, hq⟩
    exact ⟨m, ⟨hm, hs, hq⟩, rfl⟩

/-- the count over one match, in the shape of the loop; `hf`: later matches with this key are this match -/
theorem card_newKeys_cons (l : Nat × String) (i : Nat) (seen : List κ) (m : CovIn κ) (ms : List (CovIn κ))
    (hf : ∀ a ∈ ms, a.key = m.key → a = m) :
    (newKeys l i seen (m :: ms)).card = if m.key ∈ seen then (newKeys l i seen ms).card
      else (if hits l i m then 1 else 0) + (newKeys l i (m.key :: seen) ms).card := by
  split
  · next hs =>
    rw [newKeys, List.filter_cons_of_neg fun h => (of_decide_eq_true h).1 hs]
    rfl
  · next hs =>
    have herase : newKeys l i (m.key :: seen) ms = (newKeys l i seen (m :: ms)).erase m.key := by
      ext k
      rw [Finset.mem_erase, mem_newKeys, mem_newKeys, List.mem_cons, not_or, and_assoc]
      refine and_congr_right fun hk => and_congr_right fun _ =>
        ⟨fun ⟨a, ha, h⟩ => ⟨a, List.mem_cons_of_mem m ha, h⟩, ?_⟩
      rintro ⟨a, ha, rfl, hq⟩
      exact ⟨a, (List.mem_cons.mp ha).resolve_left fun e => hk (e ▸ rfl), rfl, hq⟩
    have hm : m.key ∈ newKeys l i seen (m :: ms) ↔ hits l i m := by
      rw [mem_newKeys]
      constructor
      · rintro ⟨_, a, ha, e, hq⟩
        rwa [(List.mem_cons.mp ha).elim id fun ha => hf a ha e] at hq
      · exact fun hq => ⟨hs, m, List.mem_cons_self, rfl, hq⟩
    rw [herase]
    split
    · next hq => rw [Nat.add_comm, Finset.card_erase_add_one (hm.mpr hq)]
    · next hq => rw [Nat.zero_add, Finset.erase_eq_of_notMem fun h => hq (hm.mp h)]

theorem matchCoverageGo_count (n : Nat) (l : Nat × String) (i : Nat) (hi : i < n) :
    ∀ (ms : List (CovIn κ)) (seen : List κ) (cov cov' : Cov),
      (∀ m ∈ ms, ∀ m' ∈ ms, m.key = m'.key → m = m') → rowsLen n cov →
      matchCoverageGo true n ms seen cov = .ok cov' →
      rowVal cov' l i = rowVal cov l i + (newKeys l i seen ms).card := by
  intro ms
  induction ms with
  | nil =>
    intro seen cov cov' _ _ h
    cases h
    rfl
  | cons m ms ih =>
    intro seen cov cov' hf hr h
    have hf' : ∀ a ∈ ms, ∀ b ∈ ms, a.key = b.key → a = b := fun a ha b hb =>
      hf a (List.mem_cons_of_mem m ha) b (List.mem_cons_of_mem m hb)
    rw [matchCoverageGo_cons, Bool.true_and] at h
    rw [card_newKeys_cons l i seen m ms fun a ha => hf a (List.mem_cons_of_mem m ha) m List.mem_cons_self]
    by_cases hs : m.key ∈ seen
    · rw [if_pos (List.contains_iff_mem.mpr hs)] at h
      rw [if_pos hs, ih seen _ cov' hf' (rowsLen_covUpd id (fun _ => rfl) _ hr) h, rowVal_covUpd_id]
    · rw [if_neg fun hc => hs (List.contains_iff_mem.mp hc)] at h
      split at h
      · cases h
      · rw [if_neg hs, ih (m.key :: seen) _ cov' hf' (rowsLen_covUpd _ (bump_length _ _) _ hr) h,
          rowVal_covUpd_bump n _ l _ _ cov i hi hr, Nat.add_assoc]
        congr 2

end

section
open Fragment (Frag Ion)

/-- everything `get_match_coverage` reads of a match is a component of its key -/
theorem covInOf_eq_of_key_eq (m m' : FragMatch) (h : (covInOf m).key = (covInOf m').key) : covInOf m = covInOf m' :=
  congrArg (fun k : CovKey => (⟨k, k.1.1, k.1.2, k.2.1.toNat, k.2.2.1.toNat⟩ : CovIn CovKey)) h

theorem mem_range_zip_map {γ δ : Type} (l : List γ) (f : γ → δ) (j : Nat) (x : δ) :
    (j, x) ∈ (List.range l.length).zip (l.map f) ↔ l[j]?.map f = some x := by
  rw [List.mem_iff_getElem?, ← List.getElem?_map]
  constructor
  · rintro ⟨i, hi⟩
    obtain ⟨h1, h2⟩ := List.getElem?_zip_eq_some.mp hi
    obtain ⟨_, hij⟩ := List.getElem?_eq_some_iff.mp h1
    rw [List.getElem_range] at hij
    cases hij
    exact h2
  · intro h
    have hj : j < l.length := by
      have := (List.getElem?_eq_some_iff.mp h).1
      rwa [List.length_map] at this
    exact ⟨j, List.getElem?_zip_eq_some.mpr ⟨List.getElem?_range hj, h⟩⟩

end
end Score
