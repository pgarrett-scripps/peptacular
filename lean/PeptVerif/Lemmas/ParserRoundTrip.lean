import PeptVerif.Spec.ProForma
import PeptVerif.Lemmas.CanonFields
import PeptVerif.Lemmas.ParserTotal
/-!
Helper lemmas for C01 (round trip of the parser and the serializer): the bracket scan, numbers, modifications, the
charge block and the stop predicates between sections. Each piece of text is read once, in any spelling the grammar
allows (`SMod`, `SCharge` of Spec/ProForma.lean); what the serializer writes is one such spelling (`Mod.spelled`). No Mathlib.
-/
namespace Pept

theorem dropWhile_head_false {α} (p : α → Bool) (l : List α) (h : ∀ x, l.head? = some x → p x = false) :
    l.dropWhile p = l := by
  cases l with
  | nil => rfl
  | cons a t => simp [List.dropWhile, h a rfl]

theorem takeWhile_append_stop {α} (p : α → Bool) (l r : List α) (hl : ∀ x ∈ l, p x = true)
    (hr : ∀ x, r.head? = some x → p x = false) : (l ++ r).takeWhile p = l := by
  rw [List.takeWhile_append_of_pos hl]
  cases r with
  | nil => simp
  | cons x xs => simp [hr x rfl]

theorem dropWhile_append_stop {α} (p : α → Bool) (l r : List α) (hl : ∀ x ∈ l, p x = true)
    (hr : ∀ x, r.head? = some x → p x = false) : (l ++ r).dropWhile p = r := by
  rw [List.dropWhile_append_of_pos hl, dropWhile_head_false p r hr]

theorem scan_append (o c : Char) (w t : List Char) (d d' : Nat)
    (h : depthAfter o c d w = some d') :
    scan o c d (w ++ t) = (scan o c d' t).map (fun r => (w ++ r.1, r.2)) := by
  induction w generalizing d with
  | nil =>
    cases h
    simp only [List.nil_append]
    cases scan o c d' t <;> rfl
  | cons x xs ih =>
    -- `scan` and `depthAfter` branch on the same tests; in every branch the tail is read at the new depth
    have hrec : ∀ d₁, depthAfter o c d₁ xs = some d' →
        (scan o c d₁ (xs ++ t)).map (fun r => (x :: r.1, r.2)) =
          (scan o c d' t).map (fun r => (x :: xs ++ r.1, r.2)) := by
      intro d₁ h₁
      rw [ih _ h₁]; cases scan o c d' t <;> rfl
    simp only [depthAfter] at h
    simp only [List.cons_append, scan]
    split at h
    · rename_i hx; rw [if_pos hx]; exact hrec _ h
    · rename_i hx; rw [if_neg hx]
      split at h
      · rename_i hxc; rw [if_pos hxc]
        split at h
        · cases h
        · rename_i hd; rw [if_neg hd]; exact hrec _ h
      · rename_i hxc; rw [if_neg hxc]; exact hrec _ h

theorem scan_balanced (o c : Char) (hoc : o ≠ c) (w rest : List Char) (hb : balanced o c w = true) :
    scan o c 1 (w ++ c :: rest) = some (w, rest) := by
  have hb' : depthAfter o c 1 w = some 1 := by simpa [balanced] using hb
  rw [scan_append o c w (c :: rest) 1 1 hb']
  simp [scan]
  intro h; exact absurd h.symm hoc

theorem balanced_cons (o c x : Char) (w : List Char) (hxo : x ≠ o) (hxc : x ≠ c) :
    balanced o c (x :: w) = balanced o c w := by
  simp [balanced, depthAfter, hxo, hxc]

theorem natText_digits (n : Nat) : ∀ x ∈ natText n, x.isDigit = true :=
  fun _ hx => Nat.isDigit_of_mem_toDigits (by decide) (by decide) hx

theorem natText_ne_nil (n : Nat) : natText n ≠ [] := Nat.toDigits_ne_nil

theorem natText_value (n : Nat) : Nat.ofDigitChars 10 (natText n) 0 = n := Nat.ofDigitChars_ten_toDigits

/-- what may follow a modification group: not a multiplier sign, not a digit -/
def ModStop (r : List Char) : Prop := ∀ x, r.head? = some x → x ≠ '^' ∧ x.isDigit = false

theorem ModStop.nil : ModStop [] := by intro x h; simp at h

theorem ModStop.cons {x : Char} {t : List Char} (h1 : x ≠ '^') (h2 : x.isDigit = false) : ModStop (x :: t) := by
  intro y hy; simp at hy; subst hy; exact ⟨h1, h2⟩

/-- `_parse_modification` is entered after its caller has consumed the opening bracket: the lemmas below speak of the tail -/
theorem SMod.render_eq_cons (o c : Char) (s : SMod) : s.render o c = o :: (s.render o c).tail := rfl

theorem SMod.denote_mult_one (s : SMod)
    (h : (match s.mult with | none => true | some n => decide (n = 1)) = true) : s.denote.mult = 1 := by
  obtain ⟨txt, mult⟩ := s
  cases mult with
  | none => rfl
  | some n => simp only [decide_eq_true_eq] at h; subst h; rfl

theorem parseModBody_text (o c : Char) (hoc : o ≠ c) (s : SMod) (hw : s.wf o c = true) (rest : List Char)
    (hrest : ModStop rest) : parseModBody o c ((s.render o c).tail ++ rest) = .ok (s.denote, rest) := by
  obtain ⟨txt, mult⟩ := s
  simp only [SMod.wf, Bool.and_eq_true] at hw
  obtain ⟨hbal, hm⟩ := hw
  simp only [SMod.render, List.tail_cons, List.append_assoc, List.cons_append]
  unfold parseModBody
  rw [scan_balanced o c hoc _ _ hbal]
  cases mult with
  | none =>
    simp only [List.nil_append, SMod.denote]
    cases rest with
    | nil => rfl
    | cons x t =>
      have := (hrest x rfl).1
      split
      · rename_i r heq; cases heq; exact absurd rfl this
      · rfl
  | some n =>
    simp only [decide_eq_true_eq] at hm
    simp only [List.cons_append, SMod.denote]
    have htw := takeWhile_append_stop Char.isDigit (natText n) rest (natText_digits _) (fun x hx => (hrest x hx).2)
    have hdw := dropWhile_append_stop Char.isDigit (natText n) rest (natText_digits _) (fun x hx => (hrest x hx).2)
    rw [htw, hdw, if_neg (natText_ne_nil _), natText_value, if_neg (by omega)]

theorem renderMods_cons (o c : Char) (s : SMod) (t : List SMod) :
    renderMods o c (s :: t) = s.render o c ++ renderMods o c t := by simp [renderMods]

theorem renderMods_head (o c : Char) (s : SMod) (t : List SMod) (r : List Char) :
    (renderMods o c (s :: t) ++ r).head? = some o := by
  rw [renderMods_cons, SMod.render_eq_cons]; rfl

theorem modStop_renderMods (o c : Char) (ho1 : o ≠ '^') (ho2 : o.isDigit = false) (l : List SMod) (rest : List Char)
    (hrest : ModStop rest) : ModStop (renderMods o c l ++ rest) := by
  cases l with
  | nil => simpa [renderMods] using hrest
  | cons s t =>
    intro x hx
    rw [renderMods_head] at hx
    cases hx; exact ⟨ho1, ho2⟩

theorem parseMods_text (o c : Char) (hoc : o ≠ c) (ho1 : o ≠ '^') (ho2 : o.isDigit = false) (l : List SMod)
    (hl : l.all (SMod.wf o c) = true) (rest : List Char) (hrest : ModStop rest) (hro : rest.head? ≠ some o) :
    parseMods o c (renderMods o c l ++ rest) = .ok (l.map SMod.denote, rest) := by
  induction l with
  | nil =>
    simp only [renderMods, List.flatMap_nil, List.nil_append, List.map_nil]
    rw [parseMods.eq_def]
    cases rest with
    | nil => rfl
    | cons x xs =>
      have : x ≠ o := by intro h; apply hro; simp [h]
      simp [this]
  | cons s t ih =>
    simp only [List.all_cons, Bool.and_eq_true] at hl
    rw [renderMods_cons, SMod.render_eq_cons]
    simp only [List.cons_append, List.append_assoc]
    rw [parseMods.eq_def]
    simp only [↓reduceIte]
    have h1 := parseModBody_text o c hoc s hl.1 (renderMods o c t ++ rest) (modStop_renderMods o c ho1 ho2 t rest hrest)
    split
    · rename_i e he; rw [h1] at he; cases he
    · rename_i m' rest' hb
      rw [h1] at hb; cases hb
      rw [ih hl.2]; rfl

/-- what `Mod.serialize` writes, as a piece of surface syntax: the value with or without `+`, the multiplier only when
it exceeds 1 -/
def Mod.spelled (plus : Bool) (m : Mod) : SMod := ⟨m.val.shown plus, if m.mult > 1 then some m.mult.natAbs else none⟩

theorem Mod.serialize_eq_render (o c : Char) (plus : Bool) (m : Mod) :
    Mod.serialize o c plus m = (m.spelled plus).render o c := by
  unfold Mod.serialize Mod.spelled SMod.render
  split
  · rename_i h; simp only [intText, if_neg (show ¬ m.mult < 0 by omega)]
  · rfl

/-- a canonical modification is well formed as written and denotes itself: `convert_type` undoes `shown` in both
spellings, and a multiplier is written exactly when it is not 1 -/
theorem canonMod_spelled (o c : Char) (hpo : '+' ≠ o) (hpc : '+' ≠ c) (plus : Bool) (m : Mod)
    (hm : canonMod o c m = true) : (m.spelled plus).wf o c = true ∧ (m.spelled plus).denote = m := by
  obtain ⟨v, mult⟩ := m
  obtain ⟨hmult, hval⟩ := canonMod_iff.1 hm
  simp only [canonVal, Bool.and_eq_true, beq_iff_eq, Bool.or_eq_true, Bool.not_eq_eq_eq_not, Bool.not_true] at hmult hval
  obtain ⟨⟨hconv, hbal⟩, hplus⟩ := hval
  have hshown : balanced o c (v.shown plus) = true ∧ convertType (v.shown plus) = v := by
    unfold ModVal.shown; split
    · rename_i hp
      exact ⟨by rw [balanced_cons _ _ _ _ hpo hpc]; exact hbal, hplus.resolve_left (by simp [hp.2])⟩
    · exact ⟨hbal, hconv⟩
  by_cases h : mult > 1
  · simp only [Mod.spelled, SMod.wf, SMod.denote, hshown, Bool.true_and, if_pos h, decide_eq_true_eq]
    exact ⟨by omega, by congr 1; simp only [Int.ofNat_eq_natCast]; omega⟩
  · simp only [Mod.spelled, SMod.wf, SMod.denote, hshown, Bool.true_and, if_neg h]
    exact ⟨trivial, by congr 1; omega⟩

abbrev spelledMods (plus : Plus) (l : List Mod) : List SMod := l.map fun m => m.spelled (plus m)

theorem serializeMods_eq_render (o c : Char) (plus : Plus) (l : List Mod) :
    serializeMods o c plus l = renderMods o c (spelledMods plus l) := by
  simp [serializeMods, renderMods, List.flatMap_map, Mod.serialize_eq_render]

theorem canonMods_spelled (o c : Char) (hpo : '+' ≠ o) (hpc : '+' ≠ c) (plus : Plus) (l : List Mod)
    (hl : l.all (canonMod o c) = true) :
    (spelledMods plus l).all (SMod.wf o c) = true ∧ (spelledMods plus l).map SMod.denote = l := by
  rw [List.all_eq_true] at hl
  constructor
  · simp only [List.all_map, List.all_eq_true]
    exact fun m hm => (canonMod_spelled o c hpo hpc (plus m) m (hl m hm)).1
  · rw [List.map_map]
    exact (List.map_congr_left fun m hm => (canonMod_spelled o c hpo hpc (plus m) m (hl m hm)).2).trans (List.map_id l)

theorem serializeMods_cons (o c : Char) (plus : Plus) (m : Mod) (t : List Mod) :
    serializeMods o c plus (m :: t) = Mod.serialize o c (plus m) m ++ serializeMods o c plus t := by
  simp [serializeMods]

theorem serializeMods_append (o c : Char) (plus : Plus) (l1 l2 : List Mod) :
    serializeMods o c plus (l1 ++ l2) = serializeMods o c plus l1 ++ serializeMods o c plus l2 := by
  simp [serializeMods]

theorem isDigit_toNat (c : Char) : c.isDigit = true ↔ 48 ≤ c.toNat ∧ c.toNat ≤ 57 := by
  unfold Char.isDigit
  simp only [Bool.and_eq_true, decide_eq_true_eq, ge_iff_le, UInt32.le_iff_toNat_le]
  show (48 ≤ c.val.toNat ∧ c.val.toNat ≤ 57) ↔ _
  rfl

theorem isAA_not_digit (c : Char) (h : isAA c = true) : c.isDigit = false := by
  cases hd : c.isDigit with
  | false => rfl
  | true =>
    rw [isDigit_toNat] at hd
    simp only [isAA, Bool.and_eq_true, decide_eq_true_eq] at h
    omega

theorem isAA_ne (c x : Char) (h : isAA c = true) (hx : isAA x = false) : c ≠ x := by
  intro he; subst he; rw [h] at hx; cases hx

theorem optMods_eq (o c : Char) (plus : Plus) (x : Option (List Mod)) :
    optMods o c plus x = serializeMods o c plus (x.getD []) := by
  cases x <;> simp [optMods, serializeMods]

theorem renderMods_spelledMods (o c : Char) (plus : Plus) (x : Option (List Mod)) :
    renderMods o c (spelledMods plus (x.getD [])) = optMods o c plus x := by
  rw [optMods_eq, serializeMods_eq_render]

theorem canonOptMods_spelled (o c : Char) (hpo : '+' ≠ o) (hpc : '+' ≠ c) (plus : Plus) (x : Option (List Mod))
    (h : canonOptMods o c x = true) :
    (spelledMods plus (x.getD [])).all (SMod.wf o c) = true ∧ optList ((spelledMods plus (x.getD [])).map SMod.denote) = x := by
  obtain ⟨hall, hopt⟩ := canonGlobal_getD (canonOptMods_eq o c ▸ h)
  obtain ⟨hw, hd⟩ := canonMods_spelled o c hpo hpc plus _ hall
  exact ⟨hw, by rw [hd, hopt]⟩

/-- `appendRun` of the Spec, for any kind of entry -/
def optAppend {α} (cur : Option (List α)) (l : List α) : Option (List α) :=
  if l = [] then cur else some (cur.getD [] ++ l)

theorem optAppend_nil {α} (cur : Option (List α)) : optAppend cur [] = cur := rfl

theorem optAppend_append {α} (cur : Option (List α)) (l₁ l₂ : List α) :
    optAppend (optAppend cur l₁) l₂ = optAppend cur (l₁ ++ l₂) := by
  unfold optAppend
  by_cases h1 : l₁ = [] <;> by_cases h2 : l₂ = [] <;> simp [h1, h2]

theorem optAppend_none {α} (l : List α) : optAppend none l = optList l := by
  cases l <;> rfl

theorem digitsUS_digits (prev : Bool) (ds : List Char) (hd : ∀ x ∈ ds, x.isDigit = true) :
    digitsUS prev ds = (ds, []) := by
  induction ds generalizing prev with
  | nil => rfl
  | cons c t ih =>
    simp only [digitsUS, hd c (by simp), ↓reduceIte]
    rw [ih true (fun x hx => hd x (by simp [hx]))]

theorem isDigit_not_space (c : Char) (h : c.isDigit = true) : isPySpace c = false := by
  rw [isDigit_toNat] at h
  simp only [isPySpace, Bool.or_eq_false_iff, Bool.and_eq_false_imp, decide_eq_true_eq, decide_eq_false_iff_not]
  omega

theorem pyStrip_id (l : List Char) (h1 : ∀ x, l.head? = some x → isPySpace x = false)
    (h2 : ∀ x, l.getLast? = some x → isPySpace x = false) : pyStrip l = l := by
  unfold pyStrip
  rw [dropWhile_head_false _ _ h1, dropWhile_head_false _ l.reverse (by simpa using h2), List.reverse_reverse]

theorem natText_head_digit (n : Nat) : ∀ x, (natText n).head? = some x → x.isDigit = true := by
  intro x hx
  exact natText_digits n x (List.mem_of_mem_head? hx)

theorem natText_last_digit (n : Nat) : ∀ x, (natText n).getLast? = some x → x.isDigit = true := by
  intro x hx
  exact natText_digits n x (List.mem_of_getLast? hx)

theorem pyInt_natText (n : Nat) : pyInt? (natText n) = some (Int.ofNat n) := by
  unfold pyInt?
  have hs : pyStrip (natText n) = natText n :=
    pyStrip_id _ (fun x hx => isDigit_not_space x (natText_head_digit n x hx))
      (fun x hx => isDigit_not_space x (natText_last_digit n x hx))
  rw [hs]
  have hsg : splitSign (natText n) = (false, natText n) := by
    cases hnt : natText n with
    | nil => exact absurd hnt (natText_ne_nil n)
    | cons c t =>
      have hc : c.isDigit = true := natText_head_digit n c (by simp [hnt])
      unfold splitSign
      split
      · rename_i heq; cases heq; exact absurd hc (by decide)
      · rename_i heq; cases heq; exact absurd hc (by decide)
      · rfl
  simp only [hsg, digitsUS_digits false _ (natText_digits n), natText_value]
  simp [natText_ne_nil]

/-- Python's `int` on a signed run of digits -/
theorem pyInt_sign_natText (c : Char) (hc : c = '+' ∨ c = '-') (n : Nat) :
    pyInt? (c :: natText n) = some (if c = '-' then -(n : Int) else n) := by
  have hs : pyStrip (c :: natText n) = c :: natText n := by
    apply pyStrip_id
    · intro x hx; simp at hx; subst hx; rcases hc with rfl | rfl <;> decide
    · intro x hx
      rw [List.getLast?_cons_of_ne_nil (natText_ne_nil _)] at hx
      exact isDigit_not_space x (natText_last_digit _ x hx)
  unfold pyInt?
  rw [hs]
  rcases hc with rfl | rfl <;>
    simp [splitSign, digitsUS_digits false _ (natText_digits _), natText_value, natText_ne_nil]

theorem pyInt_intText (i : Int) : pyInt? (intText i) = some i := by
  unfold intText
  split
  · rw [pyInt_sign_natText _ (Or.inr rfl)]
    simp only [↓reduceIte, Option.some.injEq]
    omega
  · rw [pyInt_natText]
    simp only [Int.ofNat_eq_natCast, Option.some.injEq]
    omega

theorem intSpan_digits (n : Nat) (ds r : List Char) (hd : ∀ x ∈ ds, x.isDigit = true) :
    intSpan n (ds ++ r) = (ds ++ (intSpan (n + ds.length) r).1, (intSpan (n + ds.length) r).2) := by
  induction ds generalizing n with
  | nil => simp
  | cons c t ih =>
    simp only [List.cons_append, intSpan, hd c (by simp), ↓reduceIte]
    rw [ih (n + 1) (fun x hx => hd x (by simp [hx]))]
    simp only [List.length_cons]
    have : n + 1 + t.length = n + (t.length + 1) := by omega
    rw [this]

/-- what may follow the charge digits -/
def IntStop (r : List Char) : Prop := ∀ x, r.head? = some x → x.isDigit = false

theorem ModStop.intStop {r : List Char} (h : ModStop r) : IntStop r := fun x hx => (h x hx).2

theorem intSpan_stop (n : Nat) (r : List Char) (hn : n ≠ 0) (hr : IntStop r) :
    intSpan n r = ([], r) := by
  cases r with
  | nil => rfl
  | cons c t => simp [intSpan, hr c rfl, hn]

/-- digits are read whole, at any position of the literal -/
theorem intSpan_natText (k n : Nat) (r : List Char) (hr : IntStop r) :
    intSpan k (natText n ++ r) = (natText n, r) := by
  rw [intSpan_digits k _ r (natText_digits _),
    intSpan_stop _ r (by have := List.length_pos_iff.mpr (natText_ne_nil n); omega) hr]
  simp

/-- a sign is accepted in front of the first digit -/
theorem intSpan_sign (c : Char) (hc : c = '+' ∨ c = '-') (t : List Char) :
    intSpan 0 (c :: t) = (c :: (intSpan 0 t).1, (intSpan 0 t).2) := by
  rcases hc with rfl | rfl <;> simp [intSpan]

theorem parseInteger_intText (ch : Int) (r : List Char) (hr : IntStop r) :
    parseInteger (intText ch ++ r) = .ok (ch, r) := by
  have hspan : intSpan 0 (intText ch ++ r) = (intText ch, r) := by
    unfold intText
    split
    · rw [List.cons_append, intSpan_sign '-' (Or.inr rfl), intSpan_natText _ _ _ hr]
    · exact intSpan_natText 0 _ r hr
  unfold parseInteger
  rw [hspan]
  simp [pyInt_intText]

/-- what follows a chain: the end of the input, the `+` or the `//` that starts the next chain -/
def ChainStop (r : List Char) : Prop := r = [] ∨ (∃ t, r = '+' :: t) ∨ (∃ t, r = '/' :: '/' :: t)

/-- `self._current_connection` after the chain -/
def stopConn (conn : Option Bool) : List Char → Option Bool
  | [] => conn
  | '+' :: _ => some false
  | _ => some true

/-- the input after the joiner -/
def stopRest : List Char → List Char
  | [] => []
  | '+' :: t => t
  | r => r.drop 2

theorem ChainStop.modStop {r : List Char} (h : ChainStop r) : ModStop r := by
  rcases h with h | ⟨t, h⟩ | ⟨t, h⟩ <;> subst h
  · exact ModStop.nil
  · exact ModStop.cons (by decide) (by decide)
  · exact ModStop.cons (by decide) (by decide)

theorem ChainStop.head_ne {r : List Char} (h : ChainStop r) (x : Char) (hx : x ≠ '+') (hx2 : x ≠ '/') :
    r.head? ≠ some x := by
  rcases h with h | ⟨t, h⟩ | ⟨t, h⟩ <;> subst h <;> simp
  · exact fun h => hx h.symm
  · exact fun h => hx2 h.symm

theorem parseStart_stop (acc : Annotation) (rest : List Char) (h : StartStop rest) :
    parseStart true acc rest = .ok (acc, rest) := by
  rcases h with h | ⟨c, t, h, hc⟩
  · subst h; rw [parseStart.eq_def]
  · subst h; rw [parseStart.eq_def]; simp [hc]

theorem StartStop.modStop {r : List Char} (h : StartStop r) : ModStop r := by
  rcases h with h | ⟨c, t, h, hc⟩
  · subst h; exact ModStop.nil
  · subst h
    rcases hc with hc | hc
    · exact ModStop.cons (isAA_ne c '^' hc (by decide)) (isAA_not_digit c hc)
    · subst hc; exact ModStop.cons (by decide) (by decide)

theorem StartStop.head_ne {r : List Char} (h : StartStop r) (x : Char) (hx : isAA x = false) (hx2 : x ≠ '(') :
    r.head? ≠ some x := by
  rcases h with h | ⟨c, t, h, hc⟩
  · subst h; simp
  · subst h
    rcases hc with hc | hc
    · simp; exact isAA_ne c x hc hx
    · subst hc; simp; exact fun h => hx2 h.symm

theorem stopRest_length (r : List Char) : (stopRest r).length ≤ r.length := by
  unfold stopRest
  split <;> simp

theorem intText_head_ne (ch : Int) (r : List Char) : (intText ch ++ r).head? ≠ some '/' := by
  unfold intText
  split
  · simp
  · cases h : natText ch.natAbs with
    | nil => exact absurd h (natText_ne_nil _)
    | cons c t =>
      have := natText_head_digit ch.natAbs c (by simp [h])
      intro hx; simp at hx; subst hx; exact absurd this (by decide)

theorem parseEnd_stop (a : Annotation) (conn : Option Bool) (r : List Char) (h : ChainStop r) :
    parseEnd a conn r = .ok (a, stopConn conn r, stopRest r) := by
  rcases h with h | ⟨t, h⟩ | ⟨t, h⟩ <;> subst h
  · rw [parseEnd.eq_def]; simp [stopConn, stopRest]
  · rw [parseEnd.eq_def]; simp [stopConn, stopRest]
  · rw [parseEnd.eq_def]; simp [stopConn, stopRest]

def chargeDigits (q : SCharge) : List Char := (if q.explicitPlus ∧ q.ch ≥ 0 then ['+'] else []) ++ intText q.ch

theorem parseInteger_chargeDigits (q : SCharge) (r : List Char) (hr : IntStop r) :
    parseInteger (chargeDigits q ++ r) = .ok (q.ch, r) := by
  unfold chargeDigits
  by_cases hp : q.explicitPlus ∧ q.ch ≥ 0
  · rw [if_pos hp]
    have hnat : intText q.ch = natText q.ch.natAbs := by unfold intText; rw [if_neg (by omega)]
    rw [hnat]
    have hspan : intSpan 0 (['+'] ++ natText q.ch.natAbs ++ r) = ('+' :: natText q.ch.natAbs, r) := by
      rw [List.append_assoc, List.singleton_append, intSpan_sign '+' (Or.inl rfl), intSpan_natText _ _ _ hr]
    unfold parseInteger
    rw [hspan]
    simp only [pyInt_sign_natText '+' (Or.inl rfl), if_neg (show ¬ ('+' : Char) = '-' by decide)]
    congr 2
    have := hp.2
    omega
  · rw [if_neg hp]
    exact parseInteger_intText q.ch r hr

theorem chargeDigits_head_ne (q : SCharge) (r : List Char) : (chargeDigits q ++ r).head? ≠ some '/' := by
  unfold chargeDigits
  split
  · simp
  · simpa using intText_head_ne q.ch r

theorem SCharge.render_spelled (plus : Plus) (c : Int) (ad : Option (List Mod)) :
    (⟨c, false, spelledMods plus (ad.getD [])⟩ : SCharge).render = '/' :: (intText c ++ optMods '[' ']' plus ad) := by
  simp [SCharge.render, renderMods_spelledMods]

/-- the text is cut as `'/' :: chargeDigits q ++ (renderMods '[' ']' q.adducts ++ rest)`: the digits end where the adducts or
`rest` begin (`IntStop` from `modStop_renderMods`), and the test `mult > 1` that `_parse_sequence_end` makes on the adducts
is answered by `SCharge.wf` -/
theorem parseEnd_scharge (a : Annotation) (ha0 : a.adducts = none) (conn : Option Bool) (q : SCharge) (hq : q.wf = true)
    (rest : List Char) (hrest : ChainStop rest) :
    parseEnd a conn (q.render ++ rest) =
      .ok ({ a with charge := some q.ch, adducts := optList (q.adducts.map SMod.denote) }, stopConn conn rest,
           stopRest rest) := by
  have htext : q.render ++ rest = '/' :: (chargeDigits q ++ (renderMods '[' ']' q.adducts ++ rest)) := by
    simp [SCharge.render, chargeDigits]
  rw [htext, parseEnd.eq_def]
  simp only [↓reduceIte]
  rw [if_neg (chargeDigits_head_ne q _)]
  have hstop : IntStop (renderMods '[' ']' q.adducts ++ rest) :=
    (modStop_renderMods '[' ']' (by decide) (by decide) q.adducts rest hrest.modStop).intStop
  have hpi := parseInteger_chargeDigits q _ hstop
  split
  · rename_i e he; rw [hpi] at he; cases he
  · rename_i ch' rest' hb
    rw [hpi] at hb; cases hb
    cases had : q.adducts with
    | nil =>
      have : (renderMods '[' ']' [] ++ rest).head? ≠ some '[' := by
        simpa [renderMods] using hrest.head_ne '[' (by decide) (by decide)
      rw [if_neg this]
      simp only [renderMods, List.flatMap_nil, List.nil_append, List.map_nil, optList, List.isEmpty_nil, ↓reduceIte]
      rw [parseEnd_stop _ _ _ hrest, ← ha0]
    | cons s t =>
      simp only [SCharge.wf, had] at hq
      have hwf : (s :: t).all (SMod.wf '[' ']') = true := by
        rw [List.all_eq_true] at hq ⊢
        intro m hm; have := hq m hm; simp only [Bool.and_eq_true] at this; exact this.1
      have hhead : (renderMods '[' ']' (s :: t) ++ rest).head? = some '[' := renderMods_head _ _ _ _ _
      rw [if_pos hhead]
      have hpm := parseMods_text '[' ']' (by decide) (by decide) (by decide) (s :: t) hwf rest hrest.modStop
        (hrest.head_ne '[' (by decide) (by decide))
      split
      · rename_i e he; rw [hpm] at he; cases he
      · rename_i ms rest'' hb
        rw [hpm] at hb; cases hb
        have hany : (((s :: t).map SMod.denote).any fun m => decide (m.mult > 1)) = false := by
          rw [List.any_eq_false]; intro m hm
          obtain ⟨x, hx, rfl⟩ := List.mem_map.mp hm
          have := (List.all_eq_true.mp hq) x hx
          simp only [Bool.and_eq_true] at this
          simp [x.denote_mult_one this.2]
        simp only [hany, Bool.false_eq_true, ↓reduceIte]
        rw [parseEnd_stop _ _ _ hrest]
        simp [addMods, ha0, optList]

theorem canonAdducts_spelled (plus : Plus) (ch : Int) (ad : Option (List Mod)) (had : canonAdducts (some ch) ad = true) :
    (⟨ch, false, spelledMods plus (ad.getD [])⟩ : SCharge).wf = true ∧
      optList ((spelledMods plus (ad.getD [])).map SMod.denote) = ad := by
  obtain ⟨_, hg⟩ := canonAdducts_iff.1 had
  obtain ⟨hq, hopt⟩ := canonGlobal_getD hg
  have hall : ∀ m ∈ ad.getD [], m.mult = 1 ∧ canonMod '[' ']' m = true := fun m hm => by
    have := List.all_eq_true.mp hq m hm
    simp only [Bool.and_eq_true, decide_eq_true_eq] at this
    exact ⟨this.1, canonMod_iff.2 ⟨by omega, this.2⟩⟩
  obtain ⟨hw, hd⟩ := canonMods_spelled '[' ']' (by decide) (by decide) plus _
    (List.all_eq_true.mpr fun m hm => (hall m hm).2)
  refine ⟨?_, by rw [hd, hopt]⟩
  simp only [SCharge.wf, List.all_map, List.all_eq_true, Function.comp_apply, Bool.and_eq_true]
  intro m hm
  refine ⟨List.all_eq_true.mp hw _ (List.mem_map.mpr ⟨m, hm, rfl⟩), ?_⟩
  simp [Mod.spelled, (hall m hm).1]

end Pept
