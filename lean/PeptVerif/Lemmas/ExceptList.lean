/-!
`Except` plumbing for the `do`-block models, generic in the error type.  Core Lean only.
-/
namespace ExceptList
universe u v w
variable {ε : Type u} {α β : Type v} {ι : Type w}

@[simp] theorem ok_bind (a : α) (f : α → Except ε β) : (Except.ok a >>= f) = f a := rfl
@[simp] theorem pure_eq_ok (a : α) : (pure a : Except ε α) = .ok a := rfl

theorem bind_eq_ok {x : Except ε α} {f : α → Except ε β} {b : β} :
    (x >>= f) = .ok b ↔ ∃ a, x = .ok a ∧ f a = .ok b := by
  cases x with
  | error e => exact ⟨nofun, fun ⟨_, h, _⟩ => nomatch h⟩
  | ok a => exact ⟨fun h => ⟨a, rfl, h⟩, fun ⟨_, h, h'⟩ => by cases h; exact h'⟩

theorem bind_eq_error {x : Except ε α} {f : α → Except ε β} {e : ε} :
    (x >>= f) = .error e ↔ x = .error e ∨ ∃ a, x = .ok a ∧ f a = .error e := by
  cases x with
  | error e' =>
    exact ⟨fun h => Or.inl (by cases h; rfl), fun h => h.elim (fun h => by cases h; rfl) fun ⟨_, h, _⟩ => nomatch h⟩
  | ok a => exact ⟨fun h => Or.inr ⟨a, rfl, h⟩, fun h => h.elim nofun fun ⟨_, h, h'⟩ => by cases h; exact h'⟩

theorem ok_or_error (x : Except ε α) : (∃ a, x = .ok a) ∨ ∃ e, x = .error e := by
  cases x with
  | error e => exact Or.inr ⟨e, rfl⟩
  | ok a => exact Or.inl ⟨a, rfl⟩

theorem mapM_ok {f : ι → Except ε β} {g : ι → β} {l : List ι} (h : ∀ x ∈ l, f x = .ok (g x)) :
    l.mapM f = .ok (l.map g) := by
  induction l with
  | nil => rfl
  | cons x l ih =>
    rw [List.mapM_cons, h x List.mem_cons_self, ih fun y hy => h y (List.mem_cons_of_mem _ hy)]; rfl

theorem foldlM_ok {f : β → ι → Except ε β} {g : β → ι → β} {l : List ι} (h : ∀ b, ∀ x ∈ l, f b x = .ok (g b x))
    (b : β) : l.foldlM f b = .ok (l.foldl g b) := by
  induction l generalizing b with
  | nil => rfl
  | cons x l ih =>
    rw [List.foldlM_cons, h b x List.mem_cons_self, ok_bind, ih fun b y hy => h b y (List.mem_cons_of_mem _ hy)]; rfl

end ExceptList
