import PeptVerif.Model.ModDbGen
import PeptVerif.Model.ModDbFacts
/-!
The generated vocabularies as the `flatten` of their chunks.  `entries` is the left-nested `c0 ++ c1 ++ …`, which the kernel
walks once per chunk each time a proof evaluates over the table; the appends of `flatten` nest to the right and are walked
once.  Also the one evaluation that serves both theorems about the names Unimod and PSI-MOD share.  Mathlib-free.
-/
namespace Gen

theorem Unimod.entries_flat : Unimod.entries = Unimod.chunks.flatten := by
  unfold Unimod.entries Unimod.chunks
  simp only [List.flatten_cons, List.flatten_nil, List.append_nil, List.append_assoc]

theorem PsiMod.entries_flat : PsiMod.entries = PsiMod.chunks.flatten := by
  unfold PsiMod.entries PsiMod.chunks
  simp only [List.flatten_cons, List.flatten_nil, List.append_nil, List.append_assoc]

theorem XlMod.entries_flat : XlMod.entries = XlMod.chunks.flatten := by
  unfold XlMod.entries XlMod.chunks
  simp only [List.flatten_cons, List.flatten_nil, List.append_nil, List.append_assoc]

/-- both verdicts on the names carried by Unimod and PSI-MOD, in one evaluation: within one declaration the kernel
remembers what the look-up of a name reduces to -/
theorem collisions_checked : ModDb.collisions.all (fun n =>
    ModDb.collisionOK Unimod.entries PsiMod.entries n && !ModDb.collisionAvgOK Unimod.entries PsiMod.entries n) = true := by
  rw [Unimod.entries_flat, PsiMod.entries_flat]
  decide +kernel

end Gen
