import PeptVerif.Lemmas.Spans
import PeptVerif.Model.SeqDigest
import PeptVerif.Spec.SeqDigest
/-! Sequential digest (C06). With zero missed cleavages the output of every stage is the list of consecutive pairs
of the sites used so far (`ConsList`); a local rule finds on a piece the sites it finds there on the whole text.
Core Lean only. -/
namespace Spans

/-- `x` is a pair of consecutive cleavage points of `S ∪ {0,n}`, reported with value 0 -/
structure Consec (n : Int) (S : List Int) (x : Span) : Prop where
  left_mem : x.1 ∈ plus n S
  right_mem : x.2.1 ∈ plus n S
  lt : x.1 < x.2.1
  none_between : ∀ y ∈ plus n S, ¬ (x.1 < y ∧ y < x.2.1)
  value : x.2.2 = 0

theorem isEnz_zero_iff (n : Int) (S : List Int) (x : Span) : IsEnz n S 0 x ↔ Consec n S x := by
  unfold IsEnz
  constructor
  · rintro ⟨h1, h2, h3, h4, h5⟩
    have h0 : inside (plus n S) x.1 x.2.1 = 0 := by omega
    exact { left_mem := h1, right_mem := h2, lt := h3, none_between := (inside_eq_zero_iff _ _ _).mp h0,
            value := by rw [h4, h0]; rfl }
  · intro h
    have h0 := (inside_eq_zero_iff _ _ _).mpr h.none_between
    exact ⟨h.left_mem, h.right_mem, h.lt, by rw [h.value, h0]; rfl, by omega⟩

theorem mem_digestSpans_plain (m : Int) (S : List Int) (lo hi : Option Int)
    (hlen : ((sortDedup S).length : Int) ≠ m + 1) (x : Span) :
    x ∈ digestSpans m S 0 lo hi false true ↔
      Consec m S x ∧ lo.getD 1 ≤ spanLen x ∧ spanLen x ≤ hi.getD m := by
  unfold digestSpans
  rw [mem_sortDedupSpans]
  simp only [if_true, List.nil_append]
  obtain ⟨s, e, v⟩ := x
  rw [mk_mem_buildSpans_enzymatic m S 0 lo hi hlen, isEnz_zero_iff]
  rfl

theorem LocalStage.bounds_whole {n : Int} {st : Stage} (hst : LocalStage n st) (hn : 0 ≤ n) :
    ∀ y ∈ st.sites 0 n, 0 ≤ y ∧ y ≤ n := by
  intro y hy
  have := hst.bounds 0 n (by omega) hn (by omega) y hy
  omega

theorem LocalStage.bounds_append {n : Int} {st : Stage} (hst : LocalStage n st) (hn : 0 ≤ n) {U : List Int}
    (hU : ∀ y ∈ U, 0 ≤ y ∧ y ≤ n) : ∀ y ∈ U ++ st.sites 0 n, 0 ≤ y ∧ y ≤ n :=
  fun y hy => (List.mem_append.mp hy).elim (hU y) (hst.bounds_whole hn y)

theorem consec_bounds {n : Int} {U : List Int} (hn : 0 ≤ n) (hU : ∀ y ∈ U, 0 ≤ y ∧ y ≤ n) {x : Span}
    (hx : Consec n U x) : 0 ≤ x.1 ∧ x.1 < x.2.1 ∧ x.2.1 ≤ n :=
  ⟨(plus_bounds n U hn hU _ hx.left_mem).1, hx.lt, (plus_bounds n U hn hU _ hx.right_mem).2⟩

theorem consec_eq_of_overlap {n : Int} {U : List Int} {f g : Span} (hf : Consec n U f) (hg : Consec n U g)
    (h₁ : f.1 < g.2.1) (h₂ : g.1 < f.2.1) : f = g := by
  have e1 := hf.none_between _ hg.left_mem; have e2 := hf.none_between _ hg.right_mem
  have e3 := hg.none_between _ hf.left_mem; have e4 := hg.none_between _ hf.right_mem
  have fab := hf.lt; have gab := hg.lt; have fv := hf.value; have gv := hg.value
  obtain ⟨f1, f2, f3⟩ := f; obtain ⟨g1, g2, g3⟩ := g
  simp only [Prod.mk.injEq] at *
  omega

theorem not_mem_digestSpans_zero (S : List Int) (hS : ∀ y ∈ S, 0 ≤ y ∧ y ≤ 0) (mc : Nat) (lo hi : Option Int)
    (x : Span) : x ∉ digestSpans 0 S mc lo hi false true := by
  obtain ⟨s, e, v⟩ := x
  unfold digestSpans
  rw [mem_sortDedupSpans]
  simp only [if_true, List.nil_append]
  by_cases hlen : ((sortDedup S).length : Int) = 0 + 1
  · unfold buildSpans
    simp only [hlen, if_true]
    rw [mk_mem_buildNonEnzymatic]
    simp only; omega
  · rw [mk_mem_buildSpans_enzymatic 0 S mc lo hi hlen]
    rintro ⟨⟨h1, h2, h3, _⟩, _⟩
    have hb := plus_bounds 0 S (by omega) hS
    simp only at h1 h2 h3
    have := hb _ h1; have := hb _ h2
    omega

/-- the invariant of the sequential digest: `acc` lists, each once, the pairs of consecutive cleavage points of
`U ∪ {0,n}` that are at least `lo` long -/
structure ConsList (n : Int) (U : List Int) (lo : Int) (acc : List Span) : Prop where
  nodup : acc.Nodup
  mem_iff : ∀ x, x ∈ acc ↔ Consec n U x ∧ lo ≤ spanLen x

theorem ConsList.consec {n : Int} {U : List Int} {lo : Int} {acc : List Span} (h : ConsList n U lo acc) {x : Span}
    (hx : x ∈ acc) : Consec n U x := ((h.mem_iff x).mp hx).1

theorem consList_digest {n : Int} {st : Stage} (hst : LocalStage n st) (hn : 0 ≤ n) (lo : Option Int) :
    ConsList n (st.sites 0 n) (lo.getD 1) (digestSpans n (st.sites 0 n) st.mc lo none st.semi st.complete) := by
  obtain ⟨hmc, hsemi, hcomp⟩ := hst.plain
  have hU := hst.bounds_whole hn
  refine { nodup := nodup_of_pairwise_spanLT (pairwise_sortDedupSpans _), mem_iff := fun x => ?_ }
  rw [hmc, hsemi, hcomp]
  -- `noShortcut` is assumed for non-empty pieces only: on `n = 0` the shortcut fires (`{0}` has `0 + 1` elements) and both
  -- sides are empty
  by_cases hpos : 0 < n
  · rw [mem_digestSpans_plain _ _ _ _ (by simpa using hst.noShortcut 0 n (by omega) hpos (by omega))]
    refine and_congr_right fun hx => and_iff_left ?_
    have := consec_bounds hn hU hx
    simp only [spanLen, Option.getD_none]; omega
  · have h0 : n = 0 := by omega
    subst h0
    refine iff_of_false (not_mem_digestSpans_zero _ hU _ _ _ x) fun h => ?_
    have := consec_bounds hn hU h.1
    omega

section step
variable {n : Int} {st : Stage} (hst : LocalStage n st) {U : List Int} (hn : 0 ≤ n)
  (hU : ∀ y ∈ U, 0 ≤ y ∧ y ≤ n)
include hst hn hU

/-- the cleavage points of a piece `[a,b)`, found on the piece's own text, are the cleavage points of the whole
sequence that lie in the piece: inside the piece by locality of the rule, and its two ends are cleavage points already -/
theorem mem_plus_piece {a b fv : Int} (hf : Consec n U (a, b, fv)) (y : Int) :
    y ∈ plus (b - a) (st.sites a b) ↔ 0 ≤ y ∧ y ≤ b - a ∧ a + y ∈ plus n (U ++ st.sites 0 n) := by
  obtain ⟨ha0, hab, hbn⟩ := consec_bounds hn hU hf
  have ha := hf.left_mem; have hb := hf.right_mem; have hnone := hf.none_between
  simp only at ha hb hnone ha0 hab hbn
  by_cases h0 : y = 0
  · subst h0; rw [Int.add_zero]
    exact iff_of_true (by rw [mem_plus]; exact Or.inl rfl) ⟨by omega, by omega, mem_plus_append.mpr (Or.inl ha)⟩
  by_cases h1 : y = b - a
  · subst h1; rw [show a + (b - a) = b by omega]
    exact iff_of_true (by rw [mem_plus]; exact Or.inr (Or.inl rfl)) ⟨by omega, by omega, mem_plus_append.mpr (Or.inl hb)⟩
  rw [mem_plus]
  constructor
  · intro h
    have hy := (h.resolve_left h0).resolve_left h1
    have hbd := hst.bounds a b ha0 (Int.le_of_lt hab) hbn y hy
    exact ⟨hbd.1, hbd.2, mem_plus_append.mpr (Or.inr ((hst.loc a b ha0 hab hbn y (by omega) (by omega)).mp hy))⟩
  · rintro ⟨h2, h3, h⟩
    refine Or.inr (Or.inr ((hst.loc a b ha0 hab hbn y (by omega) (by omega)).mpr ?_))
    -- `a + y` lies strictly between two consecutive points of `U ∪ {0,n}`, so it is a site of the stage
    rcases mem_plus_append.mp h with h | h
    · exact absurd ⟨by omega, by omega⟩ (hnone _ h)
    · exact h

theorem consec_piece {a b fv : Int} (hf : Consec n U (a, b, fv)) (d : Span) :
    Consec (b - a) (st.sites a b) d ↔
      0 ≤ d.1 ∧ d.2.1 ≤ b - a ∧ Consec n (U ++ st.sites 0 n) (a + d.1, a + d.2.1, d.2.2) := by
  have hA := mem_plus_piece hst hn hU hf
  constructor
  · intro hd
    obtain ⟨h1, _, h3⟩ := (hA _).mp hd.left_mem
    obtain ⟨_, h5, h6⟩ := (hA _).mp hd.right_mem
    have h12 := hd.lt
    refine ⟨h1, h5, { left_mem := h3, right_mem := h6, lt := by simp only; omega, value := hd.value,
                      none_between := fun z hz hbt => ?_ }⟩
    simp only at hbt
    refine hd.none_between (z - a) ((hA _).mpr ⟨by omega, by omega, ?_⟩) ⟨by omega, by omega⟩
    rwa [show a + (z - a) = z by omega]
  · rintro ⟨h1, h5, hc⟩
    have h12 := hc.lt
    simp only at h12
    exact { left_mem := (hA _).mpr ⟨h1, by omega, hc.left_mem⟩, right_mem := (hA _).mpr ⟨by omega, h5, hc.right_mem⟩,
            lt := by omega, value := hc.value,
            none_between := fun y hy hbt => hc.none_between (a + y) ((hA _).mp hy).2.2 ⟨by simp only; omega, by simp only; omega⟩ }

theorem consec_parent {s e v : Int} (hx : Consec n (U ++ st.sites 0 n) (s, e, v)) :
    ∃ a b, Consec n U (a, b, 0) ∧ a ≤ s ∧ e ≤ b := by
  have hS := hst.bounds_append hn hU
  obtain ⟨hs0, hse, hen⟩ := consec_bounds hn hS hx
  have hnone := hx.none_between
  simp only at hs0 hse hen hnone
  obtain ⟨a, ha, has, hamax⟩ := exists_greatest_le (plus n U) s ⟨0, by rw [mem_plus]; simp, hs0⟩
  obtain ⟨b, hb, heb, hbmin⟩ := exists_least_ge (plus n U) e ⟨n, by rw [mem_plus]; simp, hen⟩
  refine ⟨a, b, { left_mem := ha, right_mem := hb, lt := by simp only; omega, value := rfl,
                  none_between := fun z hz hbt => ?_ }, has, heb⟩
  simp only at hbt
  have := hnone z (mem_plus_append.mpr (Or.inl hz))
  by_cases hzs : z ≤ s
  · have := hamax z hz hzs; omega
  · by_cases hze : e ≤ z
    · have := hbmin z hz hze; omega
    · omega

theorem consList_seqStep (lo : Option Int) {acc : List Span} (hacc : ConsList n U (lo.getD 1) acc) :
    ConsList n (U ++ st.sites 0 n) (lo.getD 1) (seqStep st lo acc) := by
  obtain ⟨hmc, hsemi, hcomp⟩ := hst.plain
  have hpiece : ∀ f ∈ acc, ∀ d, d ∈ digestSpans (f.2.1 - f.1) (st.sites f.1 f.2.1) st.mc lo none st.semi st.complete ↔
      0 ≤ d.1 ∧ d.2.1 ≤ f.2.1 - f.1 ∧ Consec n (U ++ st.sites 0 n) (f.1 + d.1, f.1 + d.2.1, d.2.2) ∧
        lo.getD 1 ≤ spanLen d := by
    intro f hf d
    have hfc := hacc.consec hf
    obtain ⟨h0, hab, hbn⟩ := consec_bounds hn hU hfc
    rw [hmc, hsemi, hcomp, mem_digestSpans_plain _ _ _ _ (hst.noShortcut f.1 f.2.1 h0 hab hbn),
      consec_piece hst hn hU hfc d]
    simp only [spanLen, Option.getD_none]
    constructor
    · rintro ⟨⟨h1, h2, h3⟩, h4, _⟩; exact ⟨h1, h2, h3, h4⟩
    · rintro ⟨h1, h2, h3, h4⟩; exact ⟨⟨h1, h2, h3⟩, h4, by omega⟩
  unfold seqStep
  refine { nodup := ?_, mem_iff := ?_ }
  · simp only [List.Nodup]
    rw [List.pairwise_flatMap]
    constructor
    · intro f hf
      rw [List.pairwise_map]
      have hnd' : (digestSpans (f.2.1 - f.1) (st.sites f.1 f.2.1) st.mc lo none st.semi st.complete).Pairwise
          (fun a b => a ≠ b) := nodup_of_pairwise_spanLT (pairwise_sortDedupSpans _)
      refine hnd'.imp_of_mem ?_
      intro d d' hd hd' hne heq
      obtain ⟨_, _, hc, _⟩ := (hpiece f hf d).mp hd
      obtain ⟨_, _, hc', _⟩ := (hpiece f hf d').mp hd'
      have h1 := hc.value; have h2 := hc'.value
      apply hne
      obtain ⟨d1, d2, dv⟩ := d; obtain ⟨e1, e2, ev⟩ := d'
      simp only [Prod.mk.injEq] at heq ⊢; simp only at h1 h2; omega
    · have hp : acc.Pairwise (fun a b => a ≠ b) := hacc.nodup
      refine hp.imp_of_mem ?_
      -- two pieces that share a span overlap, and consecutive pairs that overlap are equal
      intro f g hf hg hfg x hx y hy hxy
      subst hxy
      simp only [List.mem_map] at hx hy
      obtain ⟨d, hd, rfl⟩ := hx
      obtain ⟨d', hd', heq⟩ := hy
      obtain ⟨h1, h2, h3, _⟩ := (hpiece f hf d).mp hd
      obtain ⟨h1', h2', h3', _⟩ := (hpiece g hg d').mp hd'
      have h12 := h3.lt; have h12' := h3'.lt
      simp only [Prod.mk.injEq] at heq h12 h12'
      exact hfg (consec_eq_of_overlap (hacc.consec hf) (hacc.consec hg) (by omega) (by omega))
  · rintro ⟨s, e, v⟩
    simp only [List.mem_flatMap, List.mem_map]
    constructor
    · rintro ⟨f, hf, d, hd, hx⟩
      simp only [Prod.mk.injEq] at hx
      obtain ⟨rfl, rfl, rfl⟩ := hx
      obtain ⟨_, _, hc, hlo⟩ := (hpiece f hf d).mp hd
      exact ⟨{ hc with value := (hacc.consec hf).value }, by simp only [spanLen] at hlo ⊢; omega⟩
    · rintro ⟨hx, hlo⟩
      obtain ⟨a, b, hf, has, heb⟩ := consec_parent hst hn hU hx
      simp only [spanLen] at hlo
      have hse := hx.lt
      obtain rfl : v = 0 := hx.value
      simp only at hse
      have hfm : (a, b, 0) ∈ acc := (hacc.mem_iff _).mpr ⟨hf, by simp only [spanLen]; omega⟩
      refine ⟨(a, b, 0), hfm, (s - a, e - a, 0), (hpiece _ hfm _).mpr ?_, ?_⟩
      · simp only [spanLen]
        rw [show a + (s - a) = s by omega, show a + (e - a) = e by omega]
        exact ⟨by omega, by omega, hx, by omega⟩
      · simp only [Prod.mk.injEq, and_true]
        omega

end step

theorem consList_seqFold {n : Int} (lo : Option Int) (hn : 0 ≤ n) (rest : List Stage)
    (hrest : ∀ st ∈ rest, LocalStage n st) (U : List Int) (hU : ∀ y ∈ U, 0 ≤ y ∧ y ≤ n) (acc : List Span)
    (hacc : ConsList n U (lo.getD 1) acc) :
    ConsList n (U ++ rest.flatMap (fun st => st.sites 0 n)) (lo.getD 1)
      (rest.foldl (fun acc st => if acc.isEmpty then acc else seqStep st lo acc) acc) := by
  induction rest generalizing U acc with
  | nil => simpa using hacc
  | cons st rest ih =>
    have hst := hrest st (by simp)
    simp only [List.foldl_cons, List.flatMap_cons, ← List.append_assoc]
    refine ih (fun s hs => hrest s (by simp [hs])) (U ++ st.sites 0 n) (hst.bounds_append hn hU) _ ?_
    have hstep := consList_seqStep hst hn hU lo hacc
    split
    · -- an empty stage is skipped, and stepping from it would give nothing either
      rename_i h
      have : acc = [] := by simpa using h
      subst this
      simpa [seqStep] using hstep
    · exact hstep

theorem bounds_flatMap_sites {n : Int} (hn : 0 ≤ n) (stages : List Stage) (hst : ∀ st ∈ stages, LocalStage n st) :
    ∀ y ∈ stages.flatMap (fun st => st.sites 0 n), 0 ≤ y ∧ y ≤ n := by
  intro y hy
  obtain ⟨st, hs, hy⟩ := List.mem_flatMap.mp hy
  exact (hst st hs).bounds_whole hn y hy

/-- what `sequential_digest` holds before the final `max_len` filter -/
theorem consList_seqStages {n : Int} (lo : Option Int) (hn : 0 ≤ n) (st : Stage) (rest : List Stage)
    (hst : ∀ s ∈ st :: rest, LocalStage n s) :
    ConsList n ((st :: rest).flatMap (fun st => st.sites 0 n)) (lo.getD 1)
      (rest.foldl (fun acc st => if acc.isEmpty then acc else seqStep st lo acc)
        (digestSpans n (st.sites 0 n) st.mc lo none st.semi st.complete)) := by
  have hst0 := hst st List.mem_cons_self
  rw [List.flatMap_cons]
  exact consList_seqFold lo hn rest (fun s hs => hst s (List.mem_cons_of_mem _ hs)) _ (hst0.bounds_whole hn) _
    (consList_digest hst0 hn lo)

open RegexLite

theorem length_pieceText (text : List Char) (a b : Nat) (hb : b ≤ text.length) :
    (pieceText text (a : Nat) (b : Nat)).length = b - a := by
  unfold pieceText
  have h1 : ((a : Int)).toNat = a := by omega
  have h2 : ((b : Int) - (a : Int)).toNat = b - a := by omega
  rw [h1, h2, List.length_take, List.length_drop]; omega

theorem getElem?_pieceText (text : List Char) (a b j : Nat) (hj : j < b - a) :
    (pieceText text (a : Nat) (b : Nat))[j]? = text[a + j]? := by
  unfold pieceText
  have h1 : ((a : Int)).toNat = a := by omega
  have h2 : ((b : Int) - (a : Int)).toNat = b - a := by omega
  rw [h1, h2, List.getElem?_take, if_pos hj, List.getElem?_drop]

theorem getElem?_pieceText_end (text : List Char) (a b : Nat) (hb : b ≤ text.length) :
    (pieceText text (a : Nat) (b : Nat))[b - a]? = none := by
  rw [List.getElem?_eq_none_iff, length_pieceText text a b hb]; omega

theorem pieceText_full (text : List Char) : pieceText text 0 (text.length : Nat) = text := by
  unfold pieceText
  simp

theorem mem_ruleSites (regex : List Pattern) (t : List Char) (x : Int) :
    x ∈ ruleSites regex t ↔ ∃ p ∈ regex, ∃ k ∈ sites p t, x = (k : Int) := by
  unfold ruleSites
  simp only [List.mem_flatMap, List.mem_map]
  constructor
  · rintro ⟨p, hp, k, hk, rfl⟩; exact ⟨p, hp, k, hk, rfl⟩
  · rintro ⟨p, hp, k, hk, rfl⟩; exact ⟨p, hp, k, hk, rfl⟩

theorem mem_ruleSites_natCast (regex : List Pattern) (t : List Char) (k : Nat) :
    (k : Int) ∈ ruleSites regex t ↔ ∃ p, p ∈ regex ∧ k ∈ sites p t := by
  simp only [mem_ruleSites, Int.natCast_inj, exists_eq_right']

theorem ruleSites_flatMap {α} (l : List α) (f : α → List Pattern) (t : List Char) :
    ruleSites (l.flatMap f) t = l.flatMap (fun c => ruleSites (f c) t) := by
  unfold ruleSites
  rw [List.flatMap_assoc]

theorem holdsAt_endSafe (p : Pattern) (h : endSafe p = true) (prev : Option Char) :
    holdsAt p prev none = false := by
  obtain ⟨it, hit, hb⟩ := List.any_eq_true.mp h
  refine holdsAt_eq_false hit ?_
  cases it with
  | ahead _ | aheadNot _ => rfl
  | behind _ | notAhead _ | consume _ => cases hb

theorem localRule_cases (p : Pattern) (h : localRule p = true) :
    (∃ cls zw, p = .consume cls :: zw ∧ ∀ it ∈ zw, it.zeroWidth = true) ∨
      ((∀ it ∈ p, it.zeroWidth = true) ∧ cutsAt p = holdsAt p) := by
  cases p with
  | nil => right; exact ⟨by simp, by funext a b; simp [cutsAt]⟩
  | cons it ps =>
    cases it with
    | consume cls =>
      left; refine ⟨cls, ps, rfl, ?_⟩
      simpa [localRule, List.all_eq_true] using h
    | _ => right; exact ⟨by simpa [localRule, List.all_eq_true] using h, by funext a b; simp [cutsAt]⟩

theorem mem_sites_local (p : Pattern) (h : localRule p = true) (s : List Char) (x : Nat) :
    x ∈ sites p s ↔ x ≤ s.length ∧ cutsAt p (if x = 0 then none else s[x - 1]?) s[x]? = true := by
  rcases localRule_cases p h with ⟨cls, zw, rfl, hz⟩ | ⟨hz, hc⟩
  · rw [mem_sites_consumeZW cls zw hz]
    simp only [cutsAt]
    constructor
    · rintro ⟨k, hk, rfl, h1, h2⟩
      refine ⟨by omega, ?_⟩
      have : ¬ k + 1 = 0 := by omega
      simp only [this, if_false, Nat.add_sub_cancel, List.getElem?_eq_getElem hk, h1, h2, Bool.and_self]
    · rintro ⟨hx, hcut⟩
      cases x with
      | zero => simp at hcut
      | succ k =>
        have hk : k < s.length := by omega
        have : ¬ k + 1 = 0 := by omega
        simp only [this, if_false, Nat.add_sub_cancel, List.getElem?_eq_getElem hk, Bool.and_eq_true] at hcut
        exact ⟨k, hk, rfl, hcut.1, hcut.2⟩
  · rw [hc]; exact mem_sites_zeroWidth p hz s x

theorem cutsAt_startSafe (p : Pattern) (hl : localRule p = true) (h : startSafe p = true) (next : Option Char) :
    cutsAt p none next = false := by
  rcases localRule_cases p hl with ⟨cls, zw, rfl, hz⟩ | ⟨hz, hc⟩
  · rfl
  · rw [hc]
    obtain ⟨it, hit, hb⟩ := List.any_eq_true.mp h
    refine holdsAt_eq_false hit ?_
    cases it with
    | behind _ => rfl
    | consume _ => exact absurd (hz _ hit) Bool.false_ne_true
    | ahead _ | aheadNot _ | notAhead _ => cases hb

theorem cutsAt_endSafe (p : Pattern) (hl : localRule p = true) (h : endSafe p = true) (prev : Option Char) :
    cutsAt p prev none = false := by
  rcases localRule_cases p hl with ⟨cls, zw, rfl, hz⟩ | ⟨hz, hc⟩
  · have hzw : endSafe zw = true := by
      unfold endSafe at h ⊢
      simpa using h
    cases prev with
    | none => simp [cutsAt]
    | some c => simp [cutsAt, holdsAt_endSafe zw hzw]
  · rw [hc]; exact holdsAt_endSafe p h prev

/-- locality: strictly inside a piece a local rule cuts exactly where it cuts in the whole text -/
theorem mem_sites_pieceText (p : Pattern) (h : localRule p = true) (text : List Char) (a b x : Nat)
    (hb : b ≤ text.length) (hx0 : 0 < x) (hxb : x < b - a) :
    x ∈ sites p (pieceText text (a : Nat) (b : Nat)) ↔ a + x ∈ sites p text := by
  rw [mem_sites_local p h, mem_sites_local p h, if_neg (by omega), if_neg (by omega),
    getElem?_pieceText text a b (x - 1) (by omega), getElem?_pieceText text a b x hxb,
    length_pieceText text a b hb, show a + (x - 1) = a + x - 1 by omega]
  exact and_congr_left' (iff_of_true (by omega) (by omega))

theorem localStage_toStage (text : List Char) (c : EnzymeConfig)
    (hplain : c.mc = 0 ∧ c.semi = false ∧ c.complete = true)
    (hzw : ∀ p ∈ c.regex, localRule p = true) (hns : StageShortcutFree text c) :
    LocalStage (text.length : Nat) (c.toStage text) where
  plain := hplain
  bounds := by
    intro a b ha hab hb x hx
    obtain ⟨a, rfl⟩ := Int.eq_ofNat_of_zero_le ha
    obtain ⟨b, rfl⟩ := Int.eq_ofNat_of_zero_le (by omega : (0:Int) ≤ b)
    simp only [EnzymeConfig.toStage, mem_ruleSites] at hx
    obtain ⟨p, _, k, hk, rfl⟩ := hx
    have := sites_le p _ k hk
    rw [length_pieceText text a b (by omega)] at this
    omega
  loc := by
    intro a b ha hab hb x hx0 hxm
    obtain ⟨a, rfl⟩ := Int.eq_ofNat_of_zero_le ha
    obtain ⟨b, rfl⟩ := Int.eq_ofNat_of_zero_le (by omega : (0:Int) ≤ b)
    obtain ⟨x, rfl⟩ := Int.eq_ofNat_of_zero_le (by omega : (0:Int) ≤ x)
    simp only [EnzymeConfig.toStage, pieceText_full]
    rw [← Int.natCast_add, mem_ruleSites_natCast, mem_ruleSites_natCast]
    exact exists_congr fun p => and_congr_right fun hp =>
      mem_sites_pieceText p (hzw p hp) text a b x (by omega) (by omega) (by omega)
  noShortcut := by
    intro a b ha hab hb
    obtain ⟨a, rfl⟩ := Int.eq_ofNat_of_zero_le ha
    obtain ⟨b, rfl⟩ := Int.eq_ofNat_of_zero_le (by omega : (0:Int) ≤ b)
    exact hns b (by omega) a (by omega)

theorem localStages_toStage (text : List Char) (configs : List EnzymeConfig)
    (hplain : ∀ c ∈ configs, c.mc = 0 ∧ c.semi = false ∧ c.complete = true)
    (hzw : ∀ c ∈ configs, ∀ p ∈ c.regex, localRule p = true) (hstage : ∀ c ∈ configs, StageShortcutFree text c) :
    ∀ st ∈ configs.map (EnzymeConfig.toStage text), LocalStage (text.length : Nat) st := by
  intro st hs
  obtain ⟨c, hc, rfl⟩ := List.mem_map.mp hs
  exact localStage_toStage text c (hplain c hc) (hzw c hc) (hstage c hc)

/-- syntactic sufficient condition: no rule of the config cuts at the start of a text (`startSafe`: a look-behind or a
consumed residue), or none cuts at its end (`endSafe`: a positive look-ahead) — then no piece is cut at both of its
ends, so the shortcut cannot fire on a piece -/
theorem stageShortcutFree_of_safe (text : List Char) (c : EnzymeConfig)
    (hzw : ∀ p ∈ c.regex, localRule p = true)
    (hsafe : (∀ p ∈ c.regex, startSafe p = true) ∨ (∀ p ∈ c.regex, endSafe p = true)) :
    StageShortcutFree text c := by
  intro b hb a hab hlen
  have hpl := length_pieceText text a b (by omega)
  have hbnd : ∀ x ∈ sortDedup (ruleSites c.regex (pieceText text (a : Nat) (b : Nat))),
      (0:Int) ≤ x ∧ x ≤ (b : Int) - a := by
    intro x hx
    rw [mem_sortDedup, mem_ruleSites] at hx
    obtain ⟨p, _, k, hk, rfl⟩ := hx
    have := sites_le p _ k hk
    rw [hpl] at this; omega
  have hall := (ssorted_length _ (ssorted_sortDedup _) 0 ((b : Int) - a) hbnd).2 (by omega)
  rcases hsafe with hs | hs
  · have h0 := hall 0 (by omega) (by omega)
    rw [mem_sortDedup, mem_ruleSites] at h0
    obtain ⟨p, hp, k, hk, hk0⟩ := h0
    have : k = 0 := by omega
    subst this
    rw [mem_sites_local p (hzw p hp)] at hk
    simp only [if_true] at hk
    rw [cutsAt_startSafe p (hzw p hp) (hs p hp)] at hk
    simp at hk
  · have hm := hall ((b : Int) - a) (by omega) (by omega)
    rw [mem_sortDedup, mem_ruleSites] at hm
    obtain ⟨p, hp, k, hk, hkm⟩ := hm
    have : k = b - a := by omega
    subst this
    rw [mem_sites_local p (hzw p hp)] at hk
    rw [getElem?_pieceText_end text a b (by omega), cutsAt_endSafe p (hzw p hp) (hs p hp)] at hk
    simp at hk

end Spans
