import PeptVerif.Model.ModBuilder
import PeptVerif.Spec.ModBuilder
import PeptVerif.Lemmas.AssocList
import Mathlib.Data.List.Nodup
import Mathlib.Data.List.Perm.Basic
import Mathlib.Data.List.Forall2
/-! Lemmas about the model of `mod_builder.py` (C13). Static rules: each of the three loops writes one field, with the
folded value of `eff`. Variable rules: one level of the recursion (`varRec_succ`), one invariant (`varRec_sound`), and in
mode skip the enumeration `boundedChoices` of the eligible sites; the terminal variants are a product of terminal states.
`annotEq` is this model's own reading of `ProFormaAnnotation.__eq__` (Model/ModBuilder), not `AnnotEq.annEq` of C20; nothing
relates the two. -/
namespace Pept
namespace ModBuilder
open AssocList (alter)

theorem foldl_noop {α β : Type} (f : β → α → β) (ps : List α) (h : ∀ p ∈ ps, ∀ b, f b p = b) (b : β) :
    ps.foldl f b = b :=
  List.foldlRecOn (motive := (· = b)) ps f rfl fun _ hb p hp => hb ▸ h p hp b

theorem flatMap_filterMap_eq_flatMap {α β γ : Type} (l : List α) (f : α → Option β) (g : β → List γ) :
    (l.filterMap f).flatMap g = l.flatMap fun x => match f x with | some y => g y | none => [] := by
  rw [List.filterMap_eq_flatMap_toList, List.flatMap_assoc]
  exact List.flatMap_congr fun x _ => by cases f x <;> simp

theorem flatMap_swap {α β γ : Type} (l : List α) (m : List β) (f : α → β → List γ) :
    (l.flatMap fun a => m.flatMap fun b => f a b).Perm (m.flatMap fun b => l.flatMap fun a => f a b) := by
  induction l with
  | nil => simp
  | cons a l ih =>
    simp only [List.flatMap_cons]
    exact (List.Perm.append_left _ ih).trans (List.flatMap_append_perm m (f a) fun b => l.flatMap fun a => f a b)

theorem filter_eq_of_nodup {α : Type} [DecidableEq α] (sites : List α) (h : sites.Nodup) (i : α) :
    sites.filter (· = i) = if i ∈ sites then [i] else [] := by
  rw [List.filter_eq, h.count]
  split <;> rfl

theorem flatMap_ite_eq_of_nodup {α β : Type} [DecidableEq α] (sites : List α) (h : sites.Nodup) (j : α) (gs : List β) :
    (sites.flatMap fun i => if j = i then gs else []) = if j ∈ sites then gs else [] := by
  induction sites with
  | nil => rfl
  | cons x r ih =>
    obtain ⟨hx, hr⟩ := List.nodup_cons.mp h
    rw [List.flatMap_cons, ih hr]
    by_cases hjx : j = x
    · subst hjx; simp [hx]
    · simp [hjx]

theorem nodup_product_map {α β γ δ : Type} (l₁ : List α) (l₂ : List β) (f : α → γ) (g : β → δ)
    (h₁ : (l₁.map f).Nodup) (h₂ : (l₂.map g).Nodup) :
    (l₁.flatMap fun x => l₂.map fun y => (f x, g y)).Nodup := by
  simpa [List.product, List.flatMap_map, List.map_map, Function.comp_def, SProd.sprod] using h₁.product h₂

theorem isPerm_refl {α : Type} [BEq α] (hr : ∀ x : α, (x == x) = true) (l : List α) : l.isPerm l = true := by
  induction l with
  | nil => rfl
  | cons x l ih =>
    simp only [List.isPerm, Bool.and_eq_true]
    refine ⟨?_, ?_⟩
    · simp only [List.contains_cons, hr, Bool.true_or]
    · simp only [List.erase_cons, hr, if_true]; exact ih

/-- no rule lists a position twice (`finditer` yields every start position at most once) -/
def SitesOK {α : Type} (rules : List (Rule α)) : Prop := ∀ r ∈ rules, r.1.Nodup

/-- the rule dict `apply_static_mods` works with after `fix_list_of_mods` -/
def staticInternalRules (internal : Option (List (Rule ModsIn))) : List (Rule (List Mod)) :=
  (internal.getD []).map fun r => (r.1, fixListOfMods r.2)

/-- the rule dict `apply_variable_mods` works with after `fix_list_of_list_of_mods` / `remove_empty…` -/
def varInternalRules (internal : Option (List (Rule VarIn))) : List (Rule (List Group)) :=
  varRules (internal.getD [])

theorem lookup_eq (l : IMods) (i : Int) : lookup l i = l.lookup i := by
  induction l with
  | nil => rfl
  | cons p l ih => obtain ⟨k, v⟩ := p; rw [lookup, AssocList.lookup_cons, ih]

theorem setKey_eq (l : IMods) (i : Int) (v : List Mod) : setKey l i v = alter (fun _ => v) i l := by
  induction l with
  | nil => rfl
  | cons p l ih => obtain ⟨k, w⟩ := p; simp [setKey, alter, ih]

theorem extendKey_eq (l : IMods) (i : Int) (v : List Mod) : extendKey l i v = alter (fun o => o.getD [] ++ v) i l := by
  induction l with
  | nil => rfl
  | cons p l ih => obtain ⟨k, w⟩ := p; simp [extendKey, alter, ih]

theorem mapGet_eq (m : ModMap) (i : Int) : mapGet m i = m.lookup i := by
  induction m with
  | nil => rfl
  | cons p m ih => obtain ⟨k, v⟩ := p; rw [mapGet, AssocList.lookup_cons, ih]

theorem mapPush_eq (m : ModMap) (i : Int) (g : Group) : mapPush m i g = alter (fun o => o.getD [] ++ [g]) i m := by
  induction m with
  | nil => rfl
  | cons p m ih => obtain ⟨k, v⟩ := p; simp [mapPush, alter, ih]

theorem lookup_setKey (l : IMods) (i j : Int) (v : List Mod) :
    lookup (setKey l i v) j = if j = i then some v else lookup l j := by
  rw [lookup_eq, lookup_eq, setKey_eq, AssocList.lookup_alter]

theorem lookup_extendKey (l : IMods) (i j : Int) (v : List Mod) :
    lookup (extendKey l i v) j = if j = i then some ((lookup l i).getD [] ++ v) else lookup l j := by
  rw [lookup_eq, lookup_eq, lookup_eq, extendKey_eq, AssocList.lookup_alter]

theorem extendKey_of_lookup_none (l : IMods) (i : Int) (v : List Mod) (h : lookup l i = none) :
    extendKey l i v = l ++ [(i, v)] := by
  rw [extendKey_eq, AssocList.alter_of_not_mem _ (AssocList.lookup_eq_none_iff.1 (lookup_eq l i ▸ h))]
  rfl

theorem length_setKey (l : IMods) (i : Int) (v : List Mod) :
    (setKey l i v).length = if (lookup l i).isSome then l.length else l.length + 1 := by
  rw [setKey_eq, AssocList.length_alter, lookup_eq]

theorem length_extendKey (l : IMods) (i : Int) (v : List Mod) :
    (extendKey l i v).length = if (lookup l i).isSome then l.length else l.length + 1 := by
  rw [extendKey_eq, AssocList.length_alter, lookup_eq]

@[simp] theorem imods_addInternal (a : Annotation) (i : Int) (g : List Mod) (ap : Bool) :
    imods (addInternal a i g ap) = if ap then extendKey (imods a) i g else setKey (imods a) i g := by
  simp [imods, addInternal]

theorem modsAt_addInternal (a : Annotation) (i j : Int) (g : List Mod) (ap : Bool) :
    modsAt (addInternal a i g ap) j =
      if j = i then some (if ap then (modsAt a i).getD [] ++ g else g) else modsAt a j := by
  unfold modsAt
  rw [imods_addInternal]
  cases ap <;> simp [lookup_setKey, lookup_extendKey]

theorem hasInternalAt_eq (a : Annotation) (i : Int) : hasInternalAt a i = (modsAt a i).isSome := rfl

theorem countModified_addInternal (a : Annotation) (i : Int) (g : List Mod) (ap : Bool) :
    countModified (addInternal a i g ap) = if (modsAt a i).isSome then countModified a else countModified a + 1 := by
  unfold countModified modsAt
  rw [imods_addInternal]
  cases ap
  · exact length_setKey ..
  · exact length_extendKey ..

/-- `x` and `a` agree on everything except the internal mods -/
def FrameI (x a : Annotation) : Prop := { x with internal := none } = { a with internal := none }

/-- `x` and `a` agree on everything except internal, N-terminal and C-terminal mods -/
def FrameT (x a : Annotation) : Prop :=
  { x with internal := none, nterm := none, cterm := none } = { a with internal := none, nterm := none, cterm := none }

theorem FrameI.refl (a : Annotation) : FrameI a a := rfl
theorem FrameI.trans {x y z : Annotation} (h₁ : FrameI x y) (h₂ : FrameI y z) : FrameI x z := Eq.trans h₁ h₂
theorem frameI_addInternal (a : Annotation) (i : Int) (g : List Mod) (ap : Bool) : FrameI (addInternal a i g ap) a := rfl

theorem FrameI.seq {x a : Annotation} (h : FrameI x a) : x.seq = a.seq := (congrArg Annotation.seq h :)
theorem FrameI.nterm {x a : Annotation} (h : FrameI x a) : x.nterm = a.nterm := (congrArg Annotation.nterm h :)
theorem FrameI.cterm {x a : Annotation} (h : FrameI x a) : x.cterm = a.cterm := (congrArg Annotation.cterm h :)

theorem FrameT.refl (a : Annotation) : FrameT a a := rfl
theorem FrameT.trans {x y z : Annotation} (h₁ : FrameT x y) (h₂ : FrameT y z) : FrameT x z := Eq.trans h₁ h₂
theorem FrameT.seq {x a : Annotation} (h : FrameT x a) : x.seq = a.seq := (congrArg Annotation.seq h :)
theorem FrameI.toT {x a : Annotation} (h : FrameI x a) : FrameT x a :=
  (congrArg (fun y : Annotation => { y with nterm := none, cterm := none }) h :)

/-- the flattened list of loop iterations `(site, mods)` of a rule dict -/
def steps (rules : List (Rule (List Mod))) : List (Int × List Mod) :=
  rules.flatMap fun r => r.1.map fun i => (i, r.2)

theorem runRules_eq (step : List Mod → Annotation → Int → Annotation) (rules : List (Rule (List Mod)))
    (new : Annotation) :
    runRules step rules new = (steps rules).foldl (fun new p => step p.2 new p.1) new := by
  induction rules generalizing new with
  | nil => rfl
  | cons r rs ih =>
    simp only [runRules, List.foldl_cons, steps, List.flatMap_cons, List.foldl_append, List.foldl_map] at ih ⊢
    exact ih _

theorem staticOffers_eq (rules : List (Rule (List Mod))) (i : Int) :
    staticOffers rules i = ((steps (dropEmpty rules)).filter (fun p => p.1 = i)).map (·.2) := by
  unfold staticOffers steps dropEmpty
  induction rules.filter (fun r => !r.2.isEmpty) with
  | nil => rfl
  | cons r rs ih =>
    simp only [List.flatMap_cons, List.filter_append, List.map_append, ih, List.filter_map, List.map_map]
    congr 1

/-- what one loop iteration does to the mods at the position it addresses -/
def eff (mode : Mode) (orig cur : Option (List Mod)) (m : List Mod) : Option (List Mod) :=
  if orig.isSome then
    match mode with
    | .overwrite => some m
    | .append => some (cur.getD [] ++ m)
    | .skip => cur
  else some (cur.getD [] ++ m)

theorem fold_get (get : Annotation → Option (List Mod)) (step : List Mod → Annotation → Int → Annotation)
    (pos : Int) (mode : Mode) (orig : Option (List Mod))
    (h : ∀ m new i, get (step m new i) = if i = pos then eff mode orig (get new) m else get new)
    (ps : List (Int × List Mod)) (new : Annotation) :
    get (ps.foldl (fun new p => step p.2 new p.1) new)
      = (((ps.filter (fun p => p.1 = pos)).map (·.2)).foldl (eff mode orig) (get new)) := by
  rw [List.foldl_map, List.foldl_filter]
  exact (List.foldl_hom get fun x p => by simp only [h, decide_eq_true_eq]).symm

theorem fold_inv {β : Type} (f : Annotation → β) (step : List Mod → Annotation → Int → Annotation)
    (h : ∀ m new i, f (step m new i) = f new) (ps : List (Int × List Mod)) (new : Annotation) :
    f (ps.foldl (fun new p => step p.2 new p.1) new) = f new :=
  (List.foldl_hom f (g₂ := fun b _ => b) fun x p => (h p.2 x p.1).symm).symm.trans (List.foldl_fixed ps)

/-- a loop whose body only writes one field (`get` / `set`), and only in the iterations that address `pos`, writes the
folded value into that field -/
theorem fold_set (get : Annotation → Option (List Mod)) (set : Annotation → Option (List Mod) → Annotation)
    (hgs : ∀ x v, get (set x v) = v) (hss : ∀ x u v, set (set x u) v = set x v) (hsg : ∀ x, set x (get x) = x)
    (step : List Mod → Annotation → Int → Annotation) (pos : Int) (mode : Mode) (orig : Option (List Mod))
    (h : ∀ m new i, step m new i = set new (if i = pos then eff mode orig (get new) m else get new))
    (ps : List (Int × List Mod)) (new : Annotation) :
    ps.foldl (fun new p => step p.2 new p.1) new
      = set new (((ps.filter (fun p => p.1 = pos)).map (·.2)).foldl (eff mode orig) (get new)) := by
  induction ps generalizing new with
  | nil => exact (hsg new).symm
  | cons p ps ih =>
    rw [List.foldl_cons, ih, h, hgs, hss]
    by_cases hp : p.1 = pos <;> simp [hp]

theorem foldl_eff_append (mode : Mode) (orig : Option (List Mod)) (happ : orig = none ∨ mode = .append)
    (offs : List (List Mod)) (cur : Option (List Mod)) :
    offs.foldl (eff mode orig) cur = if offs = [] then cur else some (cur.getD [] ++ offs.flatten) := by
  induction offs generalizing cur with
  | nil => rfl
  | cons m ms ih =>
    have h1 : eff mode orig cur m = some (cur.getD [] ++ m) := by
      rcases happ with h | h <;> subst h <;> simp [eff]
    simp only [List.foldl_cons, ih, h1]
    by_cases hm : ms = [] <;> simp [hm]

theorem foldl_eff_skip (orig : Option (List Mod)) (offs : List (List Mod)) (h : offs ≠ [] → orig.isSome = true)
    (cur : Option (List Mod)) : offs.foldl (eff .skip orig) cur = cur := by
  induction offs generalizing cur with
  | nil => rfl
  | cons m ms ih =>
    have ho := h (List.cons_ne_nil _ _)
    rw [List.foldl_cons, show eff .skip orig cur m = cur by unfold eff; rw [if_pos ho]]
    exact ih (fun _ => ho) cur

theorem foldl_eff_overwrite (o : List Mod) (offs : List (List Mod)) (cur : Option (List Mod)) :
    offs.foldl (eff .overwrite (some o)) cur = if offs = [] then cur else offs.getLast? := by
  induction offs generalizing cur with
  | nil => rfl
  | cons m ms ih =>
    rw [List.foldl_cons, ih]
    cases ms <;> simp [eff, List.getLast?_cons_cons]

theorem foldl_eff_table (mode : Mode) (orig : Option (List Mod)) (offs : List (List Mod)) :
    offs.foldl (eff mode orig) orig = staticTable mode orig offs := by
  unfold staticTable
  cases orig with
  | none => rw [foldl_eff_append mode none (Or.inl rfl)]; simp
  | some o =>
    cases mode with
    | skip => rw [foldl_eff_skip _ _ fun _ => rfl]; simp
    | append => rw [foldl_eff_append .append (some o) (Or.inr rfl)]; simp
    | overwrite => rw [foldl_eff_overwrite]

theorem modsAt_staticInternalStep (a : Annotation) (mode : Mode) (j : Int) (m : List Mod) (new : Annotation) (i : Int) :
    modsAt (staticInternalStep a mode m new i) j
      = if i = j then eff mode (modsAt a j) (modsAt new j) m else modsAt new j := by
  unfold staticInternalStep eff
  rw [hasInternalAt_eq]
  by_cases hij : i = j
  · subst hij
    cases (modsAt a i).isSome <;> cases mode <;> simp [modsAt_addInternal]
  · have hji : ¬ j = i := fun h => hij h.symm
    cases (modsAt a i).isSome <;> cases mode <;> simp [hij, hji, modsAt_addInternal]

theorem staticInternalStep_others (a : Annotation) (mode : Mode) (m : List Mod) (new : Annotation) (i : Int) :
    FrameI (staticInternalStep a mode m new i) new := by
  unfold staticInternalStep
  split
  · cases mode <;> rfl
  · rfl

theorem addNterm_eq (a : Annotation) (m : List Mod) (ap : Bool) :
    addNterm a m ap = { a with nterm := some (if ap then a.nterm.getD [] ++ m else m) } := by
  unfold addNterm
  cases ap
  · rfl
  · cases a.nterm <;> rfl

theorem addCterm_eq (a : Annotation) (m : List Mod) (ap : Bool) :
    addCterm a m ap = { a with cterm := some (if ap then a.cterm.getD [] ++ m else m) } := by
  unfold addCterm
  cases ap
  · rfl
  · cases a.cterm <;> rfl

theorem staticNtermStep_eq (a : Annotation) (mode : Mode) (m : List Mod) (new : Annotation) (i : Int) :
    staticNtermStep a mode m new i =
      { new with nterm := if i = 0 then eff mode a.nterm new.nterm m else new.nterm } := by
  unfold staticNtermStep eff
  by_cases hi : i = 0
  · rw [if_pos hi, if_pos hi]
    by_cases hs : a.nterm.isSome = true
    · rw [if_pos hs, if_pos hs]
      cases mode with
      | skip => rfl
      | append => exact addNterm_eq ..
      | overwrite => exact addNterm_eq ..
    · rw [if_neg hs, if_neg hs]
      exact addNterm_eq ..
  · rw [if_neg hi, if_neg hi]

theorem staticCtermStep_eq (a : Annotation) (mode : Mode) (m : List Mod) (new : Annotation) (i : Int) :
    staticCtermStep a mode m new i =
      { new with cterm := if i = (a.seq.length : Int) - 1 then eff mode a.cterm new.cterm m else new.cterm } := by
  unfold staticCtermStep eff
  by_cases hi : i = (a.seq.length : Int) - 1
  · rw [if_pos hi, if_pos hi]
    by_cases hs : a.cterm.isSome = true
    · rw [if_pos hs, if_pos hs]
      cases mode with
      | skip => rfl
      | append => exact addCterm_eq ..
      | overwrite => exact addCterm_eq ..
    · rw [if_neg hs, if_neg hs]
      exact addCterm_eq ..
  · rw [if_neg hi, if_neg hi]

theorem runRules_internal (a : Annotation) (mode : Mode) (rules : List (Rule (List Mod))) (new : Annotation) :
    FrameI (runRules (staticInternalStep a mode) (dropEmpty rules) new) new ∧
    ∀ j, modsAt (runRules (staticInternalStep a mode) (dropEmpty rules) new) j
      = (staticOffers rules j).foldl (eff mode (modsAt a j)) (modsAt new j) := by
  simp only [runRules_eq, staticOffers_eq]
  exact ⟨fold_inv (fun x => ({ x with internal := none } : Annotation)) _ (staticInternalStep_others a mode) _ _,
    fun j => fold_get (fun x => modsAt x j) _ j mode _ (modsAt_staticInternalStep a mode j) _ _⟩

theorem runRules_nterm (a : Annotation) (mode : Mode) (rules : List (Rule (List Mod))) (new : Annotation) :
    runRules (staticNtermStep a mode) (dropEmpty rules) new
      = { new with nterm := (staticOffers rules 0).foldl (eff mode a.nterm) new.nterm } := by
  rw [runRules_eq, staticOffers_eq]
  exact fold_set Annotation.nterm (fun x v => { x with nterm := v }) (fun _ _ => rfl) (fun _ _ _ => rfl) (fun _ => rfl)
    _ 0 mode a.nterm (staticNtermStep_eq a mode) _ _

theorem runRules_cterm (a : Annotation) (mode : Mode) (rules : List (Rule (List Mod))) (new : Annotation) :
    runRules (staticCtermStep a mode) (dropEmpty rules) new
      = { new with cterm := (staticOffers rules ((a.seq.length : Int) - 1)).foldl (eff mode a.cterm) new.cterm } := by
  rw [runRules_eq, staticOffers_eq]
  exact fold_set Annotation.cterm (fun x v => { x with cterm := v }) (fun _ _ => rfl) (fun _ _ _ => rfl) (fun _ => rfl)
    _ _ mode a.cterm (staticCtermStep_eq a mode) _ _

theorem applyStaticCore_spec (a : Annotation) (internal nterm cterm : List (Rule (List Mod))) (mode : Mode) :
    StaticSpec a (applyStaticCore a internal nterm cterm mode) internal nterm cterm mode := by
  unfold applyStaticCore
  simp only [runRules_nterm, runRules_cterm]
  obtain ⟨hf, hm⟩ := runRules_internal a mode internal a
  generalize runRules (staticInternalStep a mode) (dropEmpty internal) a = r1 at hf hm
  refine ⟨fun j => (hm j).trans (foldl_eff_table ..), ?_, ?_, hf.toT⟩
  · show (staticOffers nterm 0).foldl (eff mode a.nterm) r1.nterm = _
    rw [hf.nterm, foldl_eff_table]
  · show (staticOffers cterm _).foldl (eff mode a.cterm) r1.cterm = _
    rw [hf.cterm, foldl_eff_table]

theorem applyStatic_eq (a : Annotation) (internal : Option (List (Rule ModsIn))) (nterm cterm : TermIn ModsIn)
    (mode : Mode) (es : List Int) :
    applyStatic a internal nterm cterm mode es
      = applyStaticCore a (staticInternalRules internal)
          (staticTermRules es nterm) (staticTermRules es cterm) mode := by
  cases internal <;> rfl

theorem mem_staticOffers_of_mem_steps (rules : List (Rule (List Mod))) (p : Int × List Mod)
    (hp : p ∈ steps (dropEmpty rules)) : p.2 ∈ staticOffers rules p.1 := by
  rw [staticOffers_eq]
  exact List.mem_map.mpr ⟨p, List.mem_filter.mpr ⟨hp, by simp⟩, rfl⟩

theorem staticTable_skip_isSome (old : Option (List Mod)) (offs : List (List Mod)) (h : offs ≠ []) :
    (staticTable .skip old offs).isSome = true := by
  unfold staticTable
  cases old <;> simp [h]

theorem applyStaticCore_skip_idem (a : Annotation) (internal nterm cterm : List (Rule (List Mod))) :
    applyStaticCore (applyStaticCore a internal nterm cterm .skip) internal nterm cterm .skip
      = applyStaticCore a internal nterm cterm .skip := by
  have sp := applyStaticCore_spec a internal nterm cterm .skip
  generalize applyStaticCore a internal nterm cterm .skip = r at sp ⊢
  have hseq : r.seq = a.seq := FrameT.seq sp.rest
  -- every matched position is modified after the first pass, so the second pass skips it
  have hI : runRules (staticInternalStep r .skip) (dropEmpty internal) r = r := by
    rw [runRules_eq]
    refine foldl_noop _ _ (fun p hp new => ?_) r
    have : hasInternalAt r p.1 = true := by
      rw [hasInternalAt_eq, sp.residues]
      exact staticTable_skip_isSome _ _ (List.ne_nil_of_mem (mem_staticOffers_of_mem_steps _ p hp))
    unfold staticInternalStep
    rw [if_pos this]
  show runRules _ _ (runRules _ _ (runRules _ _ r)) = r
  rw [hI, runRules_nterm, foldl_eff_skip _ _ fun h => by rw [sp.nterm]; exact staticTable_skip_isSome _ _ h,
    runRules_cterm, foldl_eff_skip _ _ fun h => by rw [sp.cterm, ← hseq]; exact staticTable_skip_isSome _ _ h]

theorem varStep_eq_none {mode : Mode} {a : Annotation} {i : Int} {g : Group} :
    varStep mode a i g = none ↔ mode = .skip ∧ (modsAt a i).isSome = true := by
  unfold varStep
  rw [hasInternalAt_eq]
  cases (modsAt a i).isSome <;> cases mode <;> simp

theorem varStep_some {mode : Mode} {a a' : Annotation} {i : Int} {g : Group} (h : varStep mode a i g = some a') :
    ¬(mode = .skip ∧ (modsAt a i).isSome = true) ∧ FrameI a' a ∧
    (∀ j, modsAt a' j = if j = i then some (newVal mode (modsAt a i) g) else modsAt a j) ∧
    countModified a' = if (modsAt a i).isSome then countModified a else countModified a + 1 := by
  have hns : ¬(mode = .skip ∧ (modsAt a i).isSome = true) := fun hs => by
    rw [varStep_eq_none.mpr hs] at h; cases h
  refine ⟨hns, ?_⟩
  -- whatever the mode, the step is one call of `add_internal_mod`
  obtain ⟨ap, rfl, hap⟩ : ∃ ap, a' = addInternal a i g ap ∧
      (if ap then (modsAt a i).getD [] ++ g else g) = newVal mode (modsAt a i) g := by
    unfold varStep at h
    rw [hasInternalAt_eq] at h
    cases hm : modsAt a i with
    | none => rw [hm] at h; exact ⟨true, (Option.some.inj h).symm, rfl⟩
    | some o =>
      rw [hm] at h
      cases mode with
      | skip => cases h
      | append => exact ⟨true, (Option.some.inj h).symm, rfl⟩
      | overwrite => exact ⟨false, (Option.some.inj h).symm, rfl⟩
  exact ⟨frameI_addInternal .., fun j => by rw [modsAt_addInternal, hap], countModified_addInternal ..⟩

/-- the groups `new_mod_map` holds for site `j` (none if `j` is not a key) -/
def mget (m : ModMap) (j : Int) : List Group := (mapGet m j).getD []

/-- one level of the recursion: the forms that include one of the groups offered at `idx`, then those that leave
`idx` alone -/
theorem varRec_succ (m : ModMap) (mode : Mode) (mc : Int) (rem idx : Nat) (a : Annotation) :
    varRec m mode mc (rem + 1) idx a =
      if (countModified a : Int) = mc then [a]
      else ((mget m idx).filterMap (varStep mode a idx)).flatMap (varRec m mode mc rem (idx + 1))
        ++ varRec m mode mc rem (idx + 1) a := by
  rw [varRec, flatMap_filterMap_eq_flatMap, mget]
  cases mapGet m idx
  · rfl
  · congr 2
    exact List.flatMap_congr fun g _ => by cases varStep mode a idx g <;> rfl

theorem varRec_sound (m : ModMap) (mode : Mode) (mc : Int) :
    ∀ (rem idx : Nat) (a x : Annotation), x ∈ varRec m mode mc rem idx a →
      FrameI x a ∧ ((countModified a : Int) ≤ mc → (countModified x : Int) ≤ mc) ∧
      ∀ j : Int, modsAt x j = modsAt a j ∨
        ((idx : Int) ≤ j ∧ j < (idx : Int) + rem ∧ ∃ g ∈ mget m j,
          ¬(mode = .skip ∧ (modsAt a j).isSome = true) ∧ modsAt x j = some (newVal mode (modsAt a j) g)) := by
  intro rem
  induction rem with
  | zero =>
    intro idx a x hx
    cases List.mem_singleton.mp hx
    exact ⟨FrameI.refl a, id, fun j => Or.inl rfl⟩
  | succ rem ih =>
    intro idx a x hx
    rw [varRec_succ] at hx
    split at hx
    · cases List.mem_singleton.mp hx
      exact ⟨FrameI.refl a, id, fun j => Or.inl rfl⟩
    · rcases List.mem_append.mp hx with hx | hx
      · obtain ⟨a', ha', hx⟩ := List.mem_flatMap.mp hx
        obtain ⟨g, hg, hv⟩ := List.mem_filterMap.mp ha'
        obtain ⟨hns, hfa, hmods, hcnt⟩ := varStep_some hv
        obtain ⟨hf, hle, hj⟩ := ih (idx + 1) a' x hx
        refine ⟨hf.trans hfa, fun h => hle (by rw [hcnt]; split <;> omega), fun j => ?_⟩
        by_cases hji : j = (idx : Int)
        · subst hji
          rcases hj (idx : Int) with h | h
          · exact Or.inr ⟨by omega, by omega, g, hg, hns, by rw [h, hmods, if_pos rfl]⟩
          · omega
        · have hsame : modsAt a' j = modsAt a j := by rw [hmods, if_neg hji]
          rcases hj j with h | ⟨h1, h2, r⟩
          · exact Or.inl (h.trans hsame)
          · rw [hsame] at r
            exact Or.inr ⟨by omega, by omega, r⟩
      · obtain ⟨hf, hle, hj⟩ := ih (idx + 1) a x hx
        exact ⟨hf, hle, fun j => (hj j).imp_right fun ⟨h1, h2, r⟩ => ⟨by omega, by omega, r⟩⟩

theorem varRec_mem_self (m : ModMap) (mode : Mode) (mc : Int) :
    ∀ (rem idx : Nat) (a : Annotation), a ∈ varRec m mode mc rem idx a := by
  intro rem
  induction rem with
  | zero => intro idx a; exact List.mem_singleton_self a
  | succ rem ih =>
    intro idx a
    rw [varRec_succ]
    split
    · exact List.mem_singleton_self a
    · exact List.mem_append_right _ (ih _ _)

theorem varRec_below (m : ModMap) (mode : Mode) (mc : Int) (rem idx : Nat) (a x : Annotation)
    (hx : x ∈ varRec m mode mc rem idx a) (j : Int) (hj : j < (idx : Int)) : modsAt x j = modsAt a j := by
  rcases (varRec_sound m mode mc rem idx a x hx).2.2 j with h | h
  · exact h
  · omega

theorem siteOK_nil (mode : Mode) (old : Option (List Mod)) : SiteOK mode old [] :=
  Or.inr ⟨List.nodup_nil, fun _ h => nomatch h⟩

/-- except in mode skip at a modified site, where nothing is written, the new state determines the group -/
theorem newVal_injective {mode : Mode} {old : Option (List Mod)} (h : ¬(mode = .skip ∧ old.isSome = true)) :
    Function.Injective (newVal mode old) := by
  intro g g' hgg
  cases old with
  | none => exact hgg
  | some o =>
    cases mode with
    | skip => exact absurd ⟨rfl, rfl⟩ h
    | append => exact List.append_cancel_left hgg
    | overwrite => exact hgg

theorem siteOK_of_nodup (mode : Mode) (old : Option (List Mod)) (gs : List Group) (h : gs.Nodup)
    (hne : ∀ g ∈ gs, some (newVal mode old g) ≠ old) : SiteOK mode old gs := by
  by_cases hs : mode = .skip ∧ old.isSome = true
  · exact Or.inl hs
  · exact Or.inr ⟨h.map (newVal_injective hs), hne⟩

theorem siteOK_skip (old : Option (List Mod)) (gs : List Group) (h : gs.Nodup) : SiteOK .skip old gs := by
  cases old with
  | some o => exact Or.inl ⟨rfl, rfl⟩
  | none => exact siteOK_of_nodup _ _ _ h fun _ _ => nofun

theorem siteOK_append (old : Option (List Mod)) (gs : List Group) (h : gs.Nodup) (hne : [] ∉ gs) :
    SiteOK .append old gs := by
  refine siteOK_of_nodup _ _ _ h fun g hg h' => ?_
  cases old with
  | none => cases h'
  | some o => exact hne (List.append_right_eq_self.mp (Option.some.inj h') ▸ hg)

theorem siteOK_overwrite (old : Option (List Mod)) (gs : List Group) (h : gs.Nodup)
    (hne : ∀ o, old = some o → o ∉ gs) : SiteOK .overwrite old gs := by
  refine siteOK_of_nodup _ _ _ h fun g hg h' => ?_
  cases old with
  | none => cases h'
  | some o => exact hne o rfl (Option.some.inj h' ▸ hg)

theorem varRec_nodup (m : ModMap) (mode : Mode) (mc : Int) :
    ∀ (rem idx : Nat) (a : Annotation),
      (∀ j : Int, (idx : Int) ≤ j → j < (idx : Int) + rem → SiteOK mode (modsAt a j) (mget m j)) →
      (varRec m mode mc rem idx a).Nodup := by
  intro rem
  induction rem with
  | zero => intro idx a _; exact List.nodup_singleton a
  | succ rem ih =>
    intro idx a hok
    rw [varRec_succ]
    split
    · exact List.nodup_singleton a
    · have hex : (varRec m mode mc rem (idx + 1) a).Nodup :=
        ih (idx + 1) a (fun j h1 h2 => hok j (by omega) (by omega))
      -- every form of the include branch for `g` shows the new value at `idx`
      have hinc : ∀ g a' x, varStep mode a (idx : Int) g = some a' → x ∈ varRec m mode mc rem (idx + 1) a' →
          modsAt x (idx : Int) = some (newVal mode (modsAt a (idx : Int)) g) := by
        intro g a' x hv hx
        rw [varRec_below m mode mc rem (idx + 1) a' x hx (idx : Int) (by omega), (varStep_some hv).2.2.1, if_pos rfl]
      rcases hok (idx : Int) (by omega) (by omega) with hsk | ⟨hnd, hne⟩
      · -- skip mode at a modified site: nothing is offered
        rw [List.filterMap_eq_nil_iff.mpr fun g _ => varStep_eq_none.mpr hsk]
        exact hex
      · refine List.nodup_append.mpr ⟨List.nodup_flatMap.mpr ⟨fun a' ha' => ?_, ?_⟩, hex, ?_⟩
        · obtain ⟨g, -, hv⟩ := List.mem_filterMap.mp ha'
          refine ih (idx + 1) a' (fun j h1 h2 => ?_)
          rw [(varStep_some hv).2.2.1, if_neg (by omega)]
          exact hok j (by omega) (by omega)
        · refine List.pairwise_filterMap.mpr ((List.pairwise_map.mp hnd).imp ?_)
          intro g g' hgg a₁ hv a₂ hv' x hx hx'
          exact hgg (Option.some.inj ((hinc g a₁ x hv hx).symm.trans (hinc g' a₂ x hv' hx')))
        · intro x hx y hx' hxy
          subst hxy
          obtain ⟨a₁, ha₁, hx⟩ := List.mem_flatMap.mp hx
          obtain ⟨g, hg, hv⟩ := List.mem_filterMap.mp ha₁
          refine hne g hg ((hinc g a₁ x hv hx).symm.trans ?_)
          exact varRec_below m mode mc rem (idx + 1) a x hx' (idx : Int) (by omega)

/-- eligible sites seen by the recursion from `idx` on -/
def eligibleFrom (m : ModMap) (a : Annotation) (rem idx : Nat) : List (Int × List Group) :=
  (List.range' idx rem).filterMap fun (i : Nat) =>
    if modsAt a (i : Int) = none ∧ mget m (i : Int) ≠ [] then some ((i : Int), mget m (i : Int)) else none

/-- choices of at most `k` sites, one group each, in the order of the recursion -/
def boundedChoices : List (Int × List Group) → Nat → List (List (Int × Group))
  | [], _ => [[]]
  | _ :: _, 0 => [[]]
  | (i, gs) :: E, k + 1 => (gs.flatMap fun g => (boundedChoices E k).map ((i, g) :: ·)) ++ boundedChoices E (k + 1)

theorem boundedChoices_zero (E : List (Int × List Group)) : boundedChoices E 0 = [[]] := by
  cases E <;> rfl

theorem eligibleFrom_succ (m : ModMap) (a : Annotation) (rem idx : Nat) :
    eligibleFrom m a (rem + 1) idx =
      (if modsAt a (idx : Int) = none ∧ mget m (idx : Int) ≠ [] then [((idx : Int), mget m (idx : Int))] else [])
        ++ eligibleFrom m a rem (idx + 1) := by
  unfold eligibleFrom
  rw [List.range'_succ, List.filterMap_cons]
  by_cases h : modsAt a (idx : Int) = none ∧ mget m (idx : Int) ≠ []
  · rw [if_pos h, if_pos h]; rfl
  · rw [if_neg h, if_neg h]; rfl

theorem eligibleFrom_congr (m : ModMap) (a a' : Annotation) (rem idx : Nat)
    (h : ∀ j : Int, (idx : Int) ≤ j → modsAt a' j = modsAt a j) : eligibleFrom m a' rem idx = eligibleFrom m a rem idx := by
  unfold eligibleFrom
  refine List.filterMap_congr fun i hi => ?_
  rw [h i (by have := (List.mem_range'_1.mp hi).1; omega)]

theorem withChoice_addInternal (a : Annotation) (i : Int) (g : Group) (h : modsAt a i = none)
    (T : List (Int × Group)) : withChoice (addInternal a i g true) T = withChoice a ((i, g) :: T) := by
  unfold withChoice addInternal
  rw [if_pos rfl, extendKey_of_lookup_none _ _ _ h]
  by_cases hT : T = []
  · subst hT; simp
  · simp [hT, imods]

theorem varRec_skip_eq (m : ModMap) (mc : Int) :
    ∀ (rem idx : Nat) (a : Annotation) (k : Nat), (countModified a : Int) + k = mc →
      varRec m .skip mc rem idx a = (boundedChoices (eligibleFrom m a rem idx) k).map (withChoice a) := by
  intro rem
  induction rem with
  | zero => intro idx a k _; cases k <;> rfl
  | succ rem ih =>
    intro idx a k hk
    rw [varRec_succ, eligibleFrom_succ]
    cases k with
    | zero => rw [if_pos (by omega), boundedChoices_zero]; rfl
    | succ k =>
      rw [if_neg (by omega), ih (idx + 1) a (k + 1) hk]
      by_cases ho : modsAt a (idx : Int) = none ∧ mget m (idx : Int) ≠ []
      · rw [if_pos ho, List.singleton_append, boundedChoices, List.map_append, List.map_flatMap]
        refine congrArg (· ++ _) ?_
        have hv : ∀ g, varStep .skip a (idx : Int) g = some (addInternal a (idx : Int) g true) := fun g => by
          simp [varStep, hasInternalAt_eq, ho.1]
        rw [List.filterMap_congr (g := fun g => some (addInternal a (idx : Int) g true)) fun g _ => hv g,
          List.filterMap_eq_map', List.flatMap_map]
        refine List.flatMap_congr fun g _ => ?_
        obtain ⟨-, -, hmods, hcnt⟩ := varStep_some (hv g)
        have hcnt : countModified (addInternal a (idx : Int) g true) = countModified a + 1 := by rw [hcnt, ho.1]; rfl
        rw [ih (idx + 1) _ k (by omega),
          eligibleFrom_congr m a _ rem (idx + 1) fun j hj => by rw [hmods, if_neg (by omega)], List.map_map]
        exact List.map_congr_left fun T _ => withChoice_addInternal a idx g ho.1 T
      · -- nothing is offered at `idx`, or the site is modified already
        rw [if_neg ho, List.nil_append, List.filterMap_eq_nil_iff.mpr, List.flatMap_nil, List.nil_append]
        intro g hg
        cases hm : modsAt a (idx : Int) with
        | some o => exact varStep_eq_none.mpr ⟨rfl, by rw [hm]; rfl⟩
        | none => exact absurd ⟨hm, List.ne_nil_of_mem hg⟩ ho

theorem filter_len_zero_sublists {α : Type} (E : List α) :
    (sublists E).filter (fun S => (S.length : Int) ≤ ((0 : Nat) : Int)) = [[]] := by
  induction E with
  | nil => rfl
  | cons x r ih =>
    rw [sublists, List.filter_append, ih, List.filter_map, List.filter_eq_nil_iff.mpr, List.map_nil, List.nil_append]
    intro S _
    simp

theorem boundedChoices_perm (E : List (Int × List Group)) (k : Nat) :
    (boundedChoices E k).Perm (((sublists E).filter fun S => (S.length : Int) ≤ (k : Int)).flatMap assignments) := by
  induction E generalizing k with
  | nil => simp [boundedChoices, sublists, assignments]
  | cons p E ih =>
    obtain ⟨i, gs⟩ := p
    cases k with
    | zero => rw [boundedChoices_zero, filter_len_zero_sublists]; simp [assignments]
    | succ k =>
      simp only [boundedChoices, sublists, List.filter_append, List.flatMap_append]
      refine List.Perm.append ?_ (ih (k + 1))
      -- the sub-lists that contain the head site
      have hf : ((sublists E).map ((i, gs) :: ·)).filter (fun S => (S.length : Int) ≤ ((k + 1 : Nat) : Int))
          = ((sublists E).filter fun S => (S.length : Int) ≤ (k : Int)).map ((i, gs) :: ·) := by
        rw [List.filter_map]
        congr 1
        refine List.filter_congr ?_
        intro S _
        simp only [Function.comp, List.length_cons, decide_eq_decide]
        omega
      rw [hf, List.flatMap_map]
      simp only [assignments]
      refine List.Perm.trans ?_ (flatMap_swap gs _ _)
      refine List.Perm.flatMap_left _ ?_
      intro g _
      rw [← List.map_flatMap]
      exact (ih k).map _

theorem mget_mapPush (m : ModMap) (i j : Int) (g : Group) :
    mget (mapPush m i g) j = if j = i then mget m i ++ [g] else mget m j := by
  unfold mget
  rw [mapGet_eq, mapGet_eq, mapGet_eq, mapPush_eq, AssocList.lookup_alter]
  split <;> rfl

/-- a loop each of whose iterations appends `h x` to the groups at `j` -/
theorem mget_foldl {α : Type} (f : ModMap → α → ModMap) (h : α → List Group) (j : Int) (l : List α)
    (hf : ∀ x ∈ l, ∀ m, mget (f m x) j = mget m j ++ h x) (m : ModMap) :
    mget (l.foldl f m) j = mget m j ++ l.flatMap h := by
  induction l generalizing m with
  | nil => simp
  | cons x l ih =>
    rw [List.foldl_cons, ih (fun y hy => hf y (List.mem_cons_of_mem _ hy)), hf x List.mem_cons_self,
      List.flatMap_cons, List.append_assoc]

theorem mget_buildModMap (rules : List (Rule (List Group))) (hnd : SitesOK rules) (j : Int) :
    mget (buildModMap rules) j = offered rules j := by
  refine mget_foldl _ (fun r => if j ∈ r.1 then r.2 else []) j rules (fun r hr m => ?_) []
  -- the site loop pushes the groups of `r` once per occurrence of `j` in `r.1`, `offered` once if `j` occurs: the same
  -- when the sites are distinct (`flatMap_ite_eq_of_nodup`)
  rw [mget_foldl _ (fun i => if j = i then r.2 else []) j r.1 (fun i _ m => ?_), flatMap_ite_eq_of_nodup _ (hnd r hr)]
  rw [mget_foldl _ (fun g => if j = i then [g] else []) j r.2 (fun g _ m => ?_)]
  · split <;> simp
  · rw [mget_mapPush]
    split <;> simp [*]

theorem eligibleFrom_buildModMap (a : Annotation) (rules : List (Rule (List Group))) (hnd : SitesOK rules) :
    eligibleFrom (buildModMap rules) a a.seq.length 0 = eligible a rules := by
  unfold eligibleFrom eligible
  simp only [mget_buildModMap rules hnd, List.range_eq_range']

/-- **mode skip, residues**: `_variable_mods_builder` yields exactly the forms of the subset enumeration, each as often -/
theorem variableBuilder_skip_perm (a : Annotation) (rules : List (Rule (List Group))) (maxMods : Int)
    (h0 : 0 ≤ maxMods) (hnd : SitesOK rules) :
    (variableBuilder a rules maxMods .skip).Perm (internalForms a rules maxMods) := by
  unfold variableBuilder internalForms
  obtain ⟨k, rfl⟩ := Int.eq_ofNat_of_zero_le h0
  rw [varRec_skip_eq _ _ _ _ a k (by omega), eligibleFrom_buildModMap a rules hnd]
  exact (boundedChoices_perm _ k).map _

theorem variableBuilder_sound (b : Annotation) (rules : List (Rule (List Group))) (maxMods : Int) (mode : Mode)
    (hnd : SitesOK rules) (x : Annotation) (hx : x ∈ variableBuilder b rules maxMods mode) :
    FrameI x b ∧ ∀ j : Int, modsAt x j = modsAt b j ∨
      (0 ≤ j ∧ j < (b.seq.length : Int) ∧ ∃ g ∈ offered rules j,
        ¬(mode = .skip ∧ (modsAt b j).isSome = true) ∧ modsAt x j = some (newVal mode (modsAt b j) g)) := by
  obtain ⟨hf, -, hj⟩ := varRec_sound _ _ _ _ _ _ _ hx
  simp only [mget_buildModMap rules hnd] at hj
  exact ⟨hf, fun j => (hj j).imp_right fun ⟨h1, h2, r⟩ => ⟨by omega, by omega, r⟩⟩

theorem variableBuilder_count_le (b : Annotation) (rules : List (Rule (List Group))) (maxMods : Int) (mode : Mode)
    (h0 : 0 ≤ maxMods) (x : Annotation) (hx : x ∈ variableBuilder b rules maxMods mode) :
    (countModified x : Int) ≤ maxMods + (countModified b : Int) :=
  (varRec_sound _ _ _ _ _ _ _ hx).2.1 (by omega)

theorem variableBuilder_nodup (b : Annotation) (rules : List (Rule (List Group))) (maxMods : Int) (mode : Mode)
    (hnd : SitesOK rules)
    (hok : ∀ j : Int, offered rules j ≠ [] → SiteOK mode (modsAt b j) (offered rules j)) :
    (variableBuilder b rules maxMods mode).Nodup := by
  refine varRec_nodup _ _ _ _ _ _ (fun j _ _ => ?_)
  rw [mget_buildModMap rules hnd]
  by_cases h : offered rules j = []
  · rw [h]; exact siteOK_nil ..
  · exact hok j h

theorem nWith_eq (mode : Mode) (a : Annotation) (p : Rule Group) :
    nWith mode a p = { a with nterm := staticTable mode a.nterm (staticOffers [p] 0) } := by
  show runRules (staticNtermStep a mode) (dropEmpty [p]) a = _
  rw [runRules_nterm, foldl_eff_table]

theorem cWith_eq (mode : Mode) (a : Annotation) (p : Rule Group) :
    cWith mode a p = { a with cterm := staticTable mode a.cterm (staticOffers [p] ((a.seq.length : Int) - 1)) } := by
  show runRules (staticCtermStep a mode) (dropEmpty [p]) a = _
  rw [runRules_cterm, foldl_eff_table]

theorem modsEq_refl (x : Option (List Mod)) : modsEq x x = true := by
  cases x with
  | none => rfl
  | some l => exact isPerm_refl (fun m => by simp) l

theorem intervalsEq_refl (x : Option (List Interval)) : intervalsEq x x = true := by
  cases x with
  | none => rfl
  | some l =>
    simp only [intervalsEq, beq_self_eq_true, Bool.true_and]
    refine isPerm_refl (fun iv => ?_) l
    show intervalEq iv iv = true
    simp [intervalEq, modsEq_refl]

/-- forms that differ only in their termini are compared by their termini -/
theorem annotEq_termini (a : Annotation) (vn vc : Option (List Mod)) :
    annotEq { a with nterm := vn, cterm := vc } a = (modsEq vn a.nterm && modsEq vc a.cterm) := by
  unfold annotEq
  have : (((imods { a with nterm := vn, cterm := vc }).map (·.1) ++ (imods a).map (·.1)).all fun k =>
      modsEq (modsAt { a with nterm := vn, cterm := vc } k) (modsAt a k)) = true :=
    List.all_eq_true.mpr fun k _ => modsEq_refl _
  simp only [this, modsEq_refl, intervalsEq_refl, beq_self_eq_true, Bool.true_and, Bool.and_true]

/-- the states (other than the current one, `old`) that `apply_variable_mods` gives a terminus whose residue has
index `pos` -/
def termVals (mode : Mode) (old : Option (List Mod)) (rules : List (Rule (List Group))) (pos : Int) :
    List (Option (List Mod)) :=
  (termPairs rules).filterMap fun p =>
    let v := staticTable mode old (staticOffers [p] pos)
    if modsEq v old then none else some v

theorem mem_termVals {mode : Mode} {old v : Option (List Mod)} {rules : List (Rule (List Group))} {pos : Int}
    (h : v ∈ termVals mode old rules pos) :
    ∃ p ∈ termPairs rules, v = staticTable mode old (staticOffers [p] pos) := by
  obtain ⟨p, hp, hv⟩ := List.mem_filterMap.mp h
  refine ⟨p, hp, ?_⟩
  simp only at hv
  split at hv
  · cases hv
  · exact (Option.some.inj hv).symm

theorem nBases_eq (mode : Mode) (a : Annotation) (nt : List (Rule (List Group))) :
    nBases mode a nt = (termVals mode a.nterm nt 0).map fun v => { a with nterm := v } := by
  unfold nBases termVals
  rw [List.map_filterMap]
  refine List.filterMap_congr ?_
  intro p _
  simp only [nWith_eq, annotEq_termini, modsEq_refl, Bool.and_true]
  split <;> simp

theorem cBases_eq (mode : Mode) (a b : Annotation) (ct : List (Rule (List Group)))
    (hc : b.cterm = a.cterm) (hs : b.seq = a.seq) :
    ((termPairs ct).filterMap fun p => if annotEq (cWith mode b p) b then none else some (cWith mode b p)) =
      (termVals mode a.cterm ct ((a.seq.length : Int) - 1)).map fun v => { b with cterm := v } := by
  unfold termVals
  rw [List.map_filterMap]
  refine List.filterMap_congr ?_
  intro p _
  simp only [cWith_eq, annotEq_termini, modsEq_refl, Bool.true_and]
  rw [hc, hs]
  split <;> simp

/-- the bases (terminal variants without residue mods) in the order in which `apply_variable_mods` expands them -/
def variantBases (mode : Mode) (a : Annotation) (nt ct : List (Rule (List Group))) : List Annotation :=
  nBases mode a nt ++
    (((termPairs ct).flatMap fun p =>
        ((nBases mode a nt).filterMap fun nb => if annotEq (cWith mode nb p) nb then none else some (cWith mode nb p))
        ++ (if annotEq (cWith mode a p) a then [] else [cWith mode a p]))
      ++ [a])

theorem applyVariableCore_eq (a : Annotation) (internal nt ct : List (Rule (List Group))) (maxMods : Int) (mode : Mode) :
    applyVariableCore a internal nt ct maxMods mode
      = (variantBases mode a nt ct).flatMap fun b => variableBuilder b internal maxMods mode := by
  unfold applyVariableCore variantBases
  simp only [List.flatMap_append, List.flatMap_cons, List.flatMap_nil, List.append_nil]
  refine congrArg (_ ++ ·) (congrArg (· ++ _) ?_)
  rw [List.flatMap_assoc]
  refine List.flatMap_congr ?_
  intro p _
  rw [List.flatMap_append, flatMap_filterMap_eq_flatMap]
  refine congrArg₂ (· ++ ·) ?_ ?_
  · exact List.flatMap_congr fun nb _ => by cases annotEq (cWith mode nb p) nb <;> rfl
  · cases annotEq (cWith mode a p) a <;> simp

/-- the bases are the products of terminal states (as a multiset), in every mode -/
theorem variantBases_perm (mode : Mode) (a : Annotation) (nt ct : List (Rule (List Group))) :
    (variantBases mode a nt ct).Perm
      ((a.nterm :: termVals mode a.nterm nt 0).flatMap fun vn =>
        (a.cterm :: termVals mode a.cterm ct ((a.seq.length : Int) - 1)).map fun vc =>
          ({ a with nterm := vn, cterm := vc } : Annotation)) := by
  unfold variantBases
  rw [nBases_eq]
  generalize termVals mode a.nterm nt 0 = N'
  generalize hC : termVals mode a.cterm ct ((a.seq.length : Int) - 1) = C'
  -- the N-terminal bases, `a` last: the C-terminal loop runs over them for every pair
  generalize hB : (N'.map fun v => ({ a with nterm := v } : Annotation)) = NB
  have hX : ((termPairs ct).flatMap fun p =>
        (NB.filterMap fun nb => if annotEq (cWith mode nb p) nb then none else some (cWith mode nb p))
        ++ (if annotEq (cWith mode a p) a then [] else [cWith mode a p])).Perm
      ((NB ++ [a]).flatMap fun b => C'.map fun v => ({ b with cterm := v } : Annotation)) := by
    have hp : ∀ p, (NB.filterMap fun nb => if annotEq (cWith mode nb p) nb then none else some (cWith mode nb p))
          ++ (if annotEq (cWith mode a p) a then [] else [cWith mode a p])
        = (NB ++ [a]).flatMap fun b => (if annotEq (cWith mode b p) b then none else some (cWith mode b p)).toList := by
      intro p
      rw [List.flatMap_append, ← List.filterMap_eq_flatMap_toList, List.flatMap_singleton]
      cases annotEq (cWith mode a p) a <;> rfl
    simp only [hp]
    refine (flatMap_swap _ _ _).trans (List.Perm.of_eq (List.flatMap_congr fun b hb => ?_))
    have hb' : b.cterm = a.cterm ∧ b.seq = a.seq := by
      rcases List.mem_append.mp hb with hb | hb
      · rw [← hB] at hb; obtain ⟨v, -, rfl⟩ := List.mem_map.mp hb; exact ⟨rfl, rfl⟩
      · cases List.mem_singleton.mp hb; exact ⟨rfl, rfl⟩
    rw [← List.filterMap_eq_flatMap_toList, ← hC]
    exact cBases_eq mode a b ct hb'.1 hb'.2
  -- every base, then its C-terminal variants
  have hY : ((NB ++ [a]).flatMap fun b => b :: C'.map fun v => ({ b with cterm := v } : Annotation)).Perm
      ((NB ++ [a]) ++ (NB ++ [a]).flatMap fun b => C'.map fun v => ({ b with cterm := v } : Annotation)) := by
    have h := (List.flatMap_append_perm (NB ++ [a]) (fun b => [b])
      (fun b => C'.map fun v => ({ b with cterm := v } : Annotation))).symm
    rwa [List.flatMap_singleton'] at h
  have hZ : ((a.nterm :: N').flatMap fun vn => (a.cterm :: C').map fun vc =>
        ({ a with nterm := vn, cterm := vc } : Annotation)) =
      ([a] ++ NB).flatMap fun b => b :: C'.map fun v => ({ b with cterm := v } : Annotation) := by
    rw [← hB]
    simp [List.flatMap_map]
  rw [hZ]
  refine (List.Perm.trans ?_ hY.symm).trans (List.Perm.flatMap_right _ List.perm_append_comm)
  refine (List.Perm.append_left _ ((List.Perm.append_right _ hX).trans List.perm_append_comm)).trans ?_
  rw [← List.append_assoc]

theorem mem_variantBases {mode : Mode} {a b : Annotation} {nt ct : List (Rule (List Group))}
    (h : b ∈ variantBases mode a nt ct) :
    ∃ vn vc, b = { a with nterm := vn, cterm := vc } ∧
      (vn = a.nterm ∨ ∃ p ∈ termPairs nt, vn = staticTable mode a.nterm (staticOffers [p] 0)) ∧
      (vc = a.cterm ∨ ∃ p ∈ termPairs ct,
        vc = staticTable mode a.cterm (staticOffers [p] ((a.seq.length : Int) - 1))) := by
  obtain ⟨vn, hvn, hb⟩ := List.mem_flatMap.mp ((variantBases_perm mode a nt ct).mem_iff.mp h)
  obtain ⟨vc, hvc, rfl⟩ := List.mem_map.mp hb
  exact ⟨vn, vc, rfl, (List.mem_cons.mp hvn).imp_right mem_termVals, (List.mem_cons.mp hvc).imp_right mem_termVals⟩

theorem self_mem_variantBases (mode : Mode) (a : Annotation) (nt ct : List (Rule (List Group))) :
    a ∈ variantBases mode a nt ct :=
  List.mem_append_right _ (List.mem_append_right _ (List.mem_singleton_self a))

/-- terminal state of a form -/
def termState (x : Annotation) : Option (List Mod) × Option (List Mod) := (x.nterm, x.cterm)

theorem applyVariableCore_nodup (a : Annotation) (internal nt ct : List (Rule (List Group))) (maxMods : Int)
    (mode : Mode) (hnd : SitesOK internal)
    (hok : ∀ j : Int, offered internal j ≠ [] → SiteOK mode (modsAt a j) (offered internal j))
    (hterm : ((variantBases mode a nt ct).map termState).Nodup) :
    (applyVariableCore a internal nt ct maxMods mode).Nodup := by
  rw [applyVariableCore_eq, List.nodup_flatMap]
  refine ⟨fun b hb => ?_, ?_⟩
  · -- `hok` speaks of `modsAt a`; a base has the `internal` of `a`, and `modsAt` reads nothing else
    obtain ⟨vn, vc, rfl, -, -⟩ := mem_variantBases hb
    exact variableBuilder_nodup _ _ _ _ hnd hok
  · refine (List.pairwise_map.mp hterm).imp ?_
    intro b b' hne
    simp only [Function.onFun]
    intro x hx hx'
    have h1 := (variableBuilder_sound b internal maxMods mode hnd x hx).1
    have h2 := (variableBuilder_sound b' internal maxMods mode hnd x hx').1
    apply hne
    unfold termState
    rw [← h1.nterm, ← h1.cterm, ← h2.nterm, ← h2.cterm]

theorem variantBases_keys_nodup (mode : Mode) (a : Annotation) (nt ct : List (Rule (List Group)))
    (hn : (a.nterm :: termVals mode a.nterm nt 0).Nodup)
    (hc : (a.cterm :: termVals mode a.cterm ct ((a.seq.length : Int) - 1)).Nodup) :
    ((variantBases mode a nt ct).map termState).Nodup := by
  refine ((variantBases_perm mode a nt ct).map termState).nodup_iff.mpr ?_
  rw [List.map_flatMap]
  simp only [List.map_map, Function.comp_def, termState]
  exact nodup_product_map _ _ id id (by simpa using hn) (by simpa using hc)

theorem staticOffers_single (p : Rule Group) (hne : p.2 ≠ []) (hnd : p.1.Nodup) (i : Int) :
    staticOffers [p] i = if i ∈ p.1 then [p.2] else [] := by
  unfold staticOffers
  have : (!p.2.isEmpty) = true := by simp [hne]
  simp only [List.filter_cons, this, if_true, List.filter_nil, List.flatMap_cons, List.flatMap_nil, List.append_nil,
    filter_eq_of_nodup _ hnd]
  split <;> simp

theorem staticTable_single (mode : Mode) (old : Option (List Mod)) (g : Group) :
    staticTable mode old [g] = some (newVal mode old g) := by
  unfold staticTable newVal
  cases old <;> cases mode <;> simp

theorem offered_single (L : List Int) (gs : List Group) (j : Int) : offered [(L, gs)] j = if j ∈ L then gs else [] :=
  List.flatMap_singleton ..

theorem applyStatic_one_rule (a : Annotation) (L : List Int) (hL : L.Nodup) (m : List Mod) (hm : m ≠ []) (mode : Mode)
    (es : List Int) :
    let r := applyStatic a (some [(L, .many m)]) .none .none mode es
    (∀ i : Int, modsAt r i = if i ∈ L then some (newVal mode (modsAt a i) m) else modsAt a i) ∧
      r.nterm = a.nterm ∧ r.cterm = a.cterm ∧ FrameT r a := by
  intro r
  have sp : StaticSpec a r [(L, m)] [] [] mode := applyStaticCore_spec ..
  refine ⟨fun i => ?_, sp.nterm, sp.cterm, sp.rest⟩
  rw [sp.residues, staticOffers_single (L, m) hm hL]
  split
  · exact staticTable_single ..
  · rfl

theorem mem_termPairs {rules : List (Rule (List Group))} {p : Rule Group} (h : p ∈ termPairs rules) :
    ∃ r ∈ rules, p.1 = r.1 ∧ p.2 ∈ r.2 := by
  unfold termPairs at h
  obtain ⟨r, hr, hp⟩ := List.mem_flatMap.mp h
  obtain ⟨g, hg, rfl⟩ := List.mem_map.mp hp
  exact ⟨r, hr, rfl, hg⟩

/-- rules as they come out of `varRules`: sites without repetition, no empty group -/
def GoodRules (rules : List (Rule (List Group))) : Prop := ∀ r ∈ rules, r.1.Nodup ∧ ∀ g ∈ r.2, g ≠ []

theorem GoodRules.sitesOK {rules : List (Rule (List Group))} (h : GoodRules rules) : SitesOK rules :=
  fun r hr => (h r hr).1

theorem termVals_eq (mode : Mode) (old : Option (List Mod)) (rules : List (Rule (List Group))) (pos : Int)
    (hg : GoodRules rules) :
    termVals mode old rules pos = (termOffered rules pos).filterMap fun g =>
      if modsEq (some (newVal mode old g)) old then none else some (some (newVal mode old g)) := by
  unfold termVals termOffered
  rw [List.filterMap_filterMap]
  refine List.filterMap_congr ?_
  intro p hp
  obtain ⟨r, hr, h1, h2⟩ := mem_termPairs hp
  have hne : p.2 ≠ [] := (hg r hr).2 _ h2
  have hnd : p.1.Nodup := h1 ▸ (hg r hr).1
  simp only [staticOffers_single p hne hnd]
  by_cases hpos : pos ∈ p.1
  · simp [hpos, staticTable_single]
  · simp [hpos, staticTable, modsEq_refl]

theorem termVals_nodup (mode : Mode) (old : Option (List Mod)) (rules : List (Rule (List Group))) (pos : Int)
    (hg : GoodRules rules) (hd : (termOffered rules pos).Nodup) :
    (old :: termVals mode old rules pos).Nodup := by
  rw [termVals_eq mode old rules pos hg]
  refine List.nodup_cons.mpr ⟨?_, ?_⟩
  · intro hmem
    obtain ⟨g, -, hg'⟩ := List.mem_filterMap.mp hmem
    split at hg'
    · simp at hg'
    · rename_i hne
      simp only [Option.some.injEq] at hg'
      rw [hg'] at hne
      exact hne (modsEq_refl _)
  · refine List.Nodup.filterMap ?_ hd
    intro g g' v hv hv'
    simp only [Option.mem_def] at hv hv'
    split at hv
    · simp at hv
    · rename_i hkeep
      split at hv'
      · simp at hv'
      · simp only [Option.some.injEq] at hv hv'
        have heq : newVal mode old g = newVal mode old g' := by
          have := hv.trans hv'.symm; simpa using this
        refine newVal_injective (fun hs => ?_) heq
        obtain ⟨rfl, ho⟩ := hs
        obtain ⟨o, rfl⟩ := Option.isSome_iff_exists.mp ho
        exact hkeep (modsEq_refl _)

theorem termVals_skip (old : Option (List Mod)) (rules : List (Rule (List Group))) (pos : Int) (hg : GoodRules rules) :
    termVals .skip old rules pos = if old.isSome then [] else (termOffered rules pos).map some := by
  rw [termVals_eq .skip old rules pos hg]
  cases old with
  | none => simp [newVal, modsEq]
  | some o => simp [newVal, modsEq_refl]

theorem withTerm_eq (a : Annotation) (n c : Option Group) :
    withTerm a n c = { a with nterm := n.or a.nterm, cterm := c.or a.cterm } := by
  cases n <;> cases c <;> rfl

/-- the bases of mode skip are the terminal variants of the specification (as a multiset) -/
theorem variantBases_skip_perm (a : Annotation) (nt ct : List (Rule (List Group)))
    (hn : GoodRules nt) (hc : GoodRules ct) :
    (variantBases .skip a nt ct).Perm
      ((nVariants a nt).flatMap fun n => (cVariants a ct).map fun c => withTerm a n c) := by
  refine (variantBases_perm .skip a nt ct).trans (List.Perm.of_eq ?_)
  have hN : a.nterm :: termVals .skip a.nterm nt 0 = (nVariants a nt).map (·.or a.nterm) := by
    rw [termVals_skip _ _ _ hn, nVariants]
    cases a.nterm <;> simp [Function.comp_def]
  have hC : a.cterm :: termVals .skip a.cterm ct ((a.seq.length : Int) - 1) = (cVariants a ct).map (·.or a.cterm) := by
    rw [termVals_skip _ _ _ hc, cVariants]
    cases a.cterm <;> simp [Function.comp_def]
  rw [hN, hC]
  simp only [List.flatMap_map, List.map_map, Function.comp_def, withTerm_eq]

theorem specForms_eq (a : Annotation) (internal nt ct : List (Rule (List Group))) (maxMods : Int) :
    specForms a internal nt ct maxMods =
      ((nVariants a nt).flatMap fun n => (cVariants a ct).map fun c => withTerm a n c).flatMap
        fun b => internalForms b internal maxMods := by
  unfold specForms
  rw [List.flatMap_assoc]
  refine List.flatMap_congr ?_
  intro n _
  rw [List.flatMap_map]

/-- **mode skip**: `apply_variable_mods` returns the forms of the specification, each as often -/
theorem applyVariableCore_skip_perm (a : Annotation) (internal nt ct : List (Rule (List Group))) (maxMods : Int)
    (h0 : 0 ≤ maxMods) (hi : SitesOK internal) (hn : GoodRules nt) (hc : GoodRules ct) :
    (applyVariableCore a internal nt ct maxMods .skip).Perm (specForms a internal nt ct maxMods) := by
  rw [applyVariableCore_eq, specForms_eq]
  refine (List.Perm.flatMap_left _ fun b _ => variableBuilder_skip_perm b internal maxMods h0 hi).trans ?_
  exact List.Perm.flatMap_right _ (variantBases_skip_perm a nt ct hn hc)

theorem mem_sublists {α : Type} (l S : List α) : S ∈ sublists l ↔ S.Sublist l := by
  induction l generalizing S with
  | nil => simp [sublists]
  | cons x r ih =>
    simp only [sublists, List.mem_append, List.mem_map]
    constructor
    · rintro (⟨S', hS', rfl⟩ | h)
      · exact ((ih S').mp hS').cons_cons x
      · exact ((ih S).mp h).cons x
    · intro h
      cases h with
      | cons _ h => exact Or.inr ((ih S).mpr h)
      | cons_cons _ h => exact Or.inl ⟨_, (ih _).mpr h, rfl⟩

theorem mem_assignments (S : List (Int × List Group)) (T : List (Int × Group)) :
    T ∈ assignments S ↔ List.Forall₂ (fun t s => t.1 = s.1 ∧ t.2 ∈ s.2) T S := by
  induction S generalizing T with
  | nil => simp [assignments]
  | cons p r ih =>
    obtain ⟨i, gs⟩ := p
    simp only [assignments, List.mem_flatMap, List.mem_map, List.forall₂_cons_right_iff]
    constructor
    · rintro ⟨g, hg, T', hT', rfl⟩
      exact ⟨(i, g), T', ⟨rfl, hg⟩, (ih T').mp hT', rfl⟩
    · rintro ⟨⟨i', g⟩, T', ⟨hi, hg⟩, hT', rfl⟩
      simp only at hi hg
      subst hi
      exact ⟨g, hg, T', (ih T').mpr hT', rfl⟩

theorem mem_internalForms (a : Annotation) (rules : List (Rule (List Group))) (maxMods : Int) (x : Annotation) :
    x ∈ internalForms a rules maxMods ↔
      ∃ S T, S.Sublist (eligible a rules) ∧ (S.length : Int) ≤ maxMods ∧
        List.Forall₂ (fun t s => t.1 = s.1 ∧ t.2 ∈ s.2) T S ∧ x = withChoice a T := by
  unfold internalForms
  simp only [List.mem_map, List.mem_flatMap, List.mem_filter, mem_sublists, mem_assignments, decide_eq_true_eq]
  constructor
  · rintro ⟨T, ⟨S, ⟨h1, h2⟩, h3⟩, rfl⟩
    exact ⟨S, T, h1, h2, h3, rfl⟩
  · rintro ⟨S, T, h1, h2, h3, rfl⟩
    exact ⟨T, ⟨S, ⟨h1, h2⟩, h3⟩, rfl⟩

theorem removeEmpty_some {l gs : List (List Mod)} (h : removeEmpty l = some gs) : ∀ g ∈ gs, g ≠ [] := by
  unfold removeEmpty at h
  simp only at h
  split at h
  · simp at h
  · simp only [Option.some.injEq] at h
    subst h
    intro g hg
    have := (List.mem_filter.mp hg).2
    simpa using this

theorem goodRules_varRules (rules : List (Rule VarIn)) (h : SitesOK rules) : GoodRules (varRules rules) := by
  intro r hr
  unfold varRules at hr
  obtain ⟨r0, hr0, hx⟩ := List.mem_filterMap.mp hr
  cases hre : removeEmpty (fixListOfListOfMods r0.2) with
  | none => simp [hre] at hx
  | some gs =>
    simp only [hre, Option.some.injEq] at hx
    subst hx
    exact ⟨h r0 hr0, removeEmpty_some hre⟩

theorem goodRules_varTermRules (es : List Int) (hes : es.Nodup) (t : TermIn VarIn)
    (h : ∀ rules, t = .dict rules → SitesOK rules) : GoodRules (varTermRules es t) := by
  cases t with
  | none => intro r hr; simp [varTermRules] at hr
  | dict rules => exact goodRules_varRules rules (h rules rfl)
  | direct v =>
    simp only [varTermRules]
    split
    · exact goodRules_varRules _ (fun r hr => by
        simp only [List.mem_singleton] at hr; subst hr; exact hes)
    · intro r hr; cases hr

end ModBuilder
end Pept
