import Mathlib.Data.Rat.Floor
import PeptVerif.Lemmas.RoundHalfEven
import PeptVerif.Lemmas.AbsMass
import PeptVerif.Lemmas.ExceptList
import PeptVerif.Model.CondenseMass
/-! C18, the mass bound. What `shiftsOf` writes is a function of the differences of the one-residue pieces and of the label
shifts of the two terminal groups (`shiftsWith`); every number written is within half a unit in the last place of the
quantity it stands for, a quantity below the cut-off is lost, and errors add (`outMass_shiftsWith_err`). Without a label the
differences are the per-residue modification totals (`diffsOf`); `CondenseLabel` computes them with a label in force. -/
namespace Pept
namespace CondenseMass
open Static AbsMass

theorem absQ_eq_abs (x : ℚ) : absQ x = |x| := by
  unfold absQ
  split
  · rename_i h; rw [abs_of_neg h]
  · rename_i h; rw [abs_of_nonneg (not_lt.mp h)]

/-- errors add -/
theorem abs_add_sub_add_le {a b c d x y : ℚ} (h1 : |a - b| ≤ x) (h2 : |c - d| ≤ y) :
    |a + c - (b + d)| ≤ x + y := by
  rw [add_sub_add_comm]
  exact (abs_add_le _ _).trans (add_le_add h1 h2)

theorem roundHalfEven_err (x : ℚ) : |(roundHalfEven x : ℚ) - x| ≤ 1 / 2 := Chem.roundHalfEvenInt_err x

theorem pow10_pos (p : ℕ) : (0 : ℚ) < ((pow10 p : ℕ) : ℚ) := by
  unfold pow10; positivity

/-- half a unit in the last place -/
def halfUlp (p : ℕ) : ℚ := (1 / 2) / ((pow10 p : ℕ) : ℚ)

theorem halfUlp_nonneg (p : ℕ) : 0 ≤ halfUlp p := by
  unfold halfUlp; have := pow10_pos p; positivity

theorem roundNum_err (x : ℚ) (p : ℕ) : |(roundNum x p : ℚ) / ((pow10 p : ℕ) : ℚ) - x| ≤ halfUlp p :=
  Chem.roundHalfEvenInt_scaled_err x (pow10_pos p)

/-- an environment that weighs a numeric modification by its value (what `mod_mass` does for ints and floats); the error bounds
below need `int` only and take it as a bare hypothesis -/
structure NumericMu (E : Env) (p : ℕ) : Prop where
  int : ∀ i : ℤ, E.mu (.int i) = i
  dec : ∀ k : ℤ, E.mu (.flt (decText k p)) = (k : ℚ) / ((pow10 p : ℕ) : ℚ)

def numO (p : ℕ) : Option Num → ℚ
  | none => 0
  | some n => n.toRat p

def outInternal (p : ℕ) : List (ℕ × ℤ) → ℚ
  | [] => 0
  | q :: r => (q.2 : ℚ) / ((pow10 p : ℕ) : ℚ) + outInternal p r

def outIntervalsL (p : ℕ) : List (Interval × Option Num) → ℚ
  | [] => 0
  | q :: r => numO p q.2 + outIntervalsL p r

def outIntervals (p : ℕ) : Option (List (Interval × Option Num)) → ℚ
  | none => 0
  | some l => outIntervalsL p l

/-- the mass of the output, from the numbers written -/
def outMass (E : Env) (c : Annotation) (s : Shifts) (p : ℕ) : ℚ :=
  sumRes E c.seq + numO p s.labile + numO p s.unknown + numO p s.nterm + outIntervals p s.intervals +
    outInternal p s.internal + numO p s.cterm + E.adj

theorem sumMods_toMods (E : Env) (p : ℕ) (h : NumericMu E p) (n : Num) : sumMods E (n.toMods p) = n.toRat p := by
  cases n with
  | int i => simp [Num.toMods, Num.toVal, Num.toRat, sumMods, modMass, h.int]
  | dec k => simp [Num.toMods, Num.toVal, Num.toRat, sumMods, modMass, h.dec]

theorem optSum_map_toMods (E : Env) (p : ℕ) (h : NumericMu E p) (o : Option Num) :
    optSum E (o.map (Num.toMods p)) = numO p o := by
  cases o with
  | none => rfl
  | some n => simp [optSum, numO, sumMods_toMods E p h]

theorem sumInternal_render (E : Env) (p : ℕ) (h : NumericMu E p) (l : List (ℕ × ℤ)) :
    sumInternal E (l.map fun q => (Int.ofNat q.1, (Num.dec q.2).toMods p)) = outInternal p l := by
  induction l with
  | nil => rfl
  | cons q l ih =>
    simp only [List.map_cons, sumInternal, outInternal, ih, sumMods_toMods E p h, Num.toRat]

theorem sumIntervals_render (E : Env) (p : ℕ) (h : NumericMu E p) (l : List (Interval × Option Num)) :
    sumIntervals E (l.map fun q => { q.1 with mods := q.2.map (Num.toMods p) }) = outIntervalsL p l := by
  induction l with
  | nil => rfl
  | cons q l ih =>
    simp only [List.map_cons, sumIntervals, outIntervalsL, ih, optSum_map_toMods E p h]

theorem massFast_render (E : Env) (c : Annotation) (s : Shifts) (p : ℕ) (h : NumericMu E p) (hp : E.ionP = true) :
    massFast E (render c s p) = .ok (outMass E c s p) := by
  have hint : optInt E (render c s p).internal = outInternal p s.internal := by
    unfold render
    cases hs : s.internal with
    | nil => simp [optInt, outInternal]
    | cons q l =>
      simp only [optInt]
      exact sumInternal_render E p h (q :: l)
  have hiv : optIntervals E (render c s p).intervals = outIntervals p s.intervals := by
    unfold render
    cases hs : s.intervals with
    | none => simp [optIntervals, outIntervals]
    | some l => simp only [optIntervals, outIntervals, Option.map_some]; exact sumIntervals_render E p h l
  rw [massFast_of_static_none E _ rfl]
  unfold plainMass outMass
  rw [hint, hiv]
  simp only [render, hp, if_true, optSum_map_toMods E p h]

theorem allMods_render (c : Annotation) (s : Shifts) (p : ℕ) :
    ∀ m ∈ allMods (render c s p), ∃ x : Num, m = ⟨x.toVal p, 1⟩ := by
  intro m hm
  have hopt : ∀ o : Option Num, m ∈ (o.map (Num.toMods p)).getD [] → ∃ x : Num, m = ⟨x.toVal p, 1⟩ := by
    intro o hm
    cases o with
    | none => simp at hm
    | some x => exact ⟨x, by simpa [Num.toMods] using hm⟩
  simp only [allMods, render, List.mem_append] at hm
  rcases hm with ((((hm | hm) | hm) | hm) | hm) | hm
  · exact hopt _ hm
  · exact hopt _ hm
  · exact hopt _ hm
  · exact hopt _ hm
  · cases hi : s.intervals with
    | none => simp [hi] at hm
    | some l =>
      simp only [hi, Option.map_some, Option.getD_some, List.mem_flatMap, List.mem_map] at hm
      obtain ⟨iv, ⟨q, _, hq⟩, hm⟩ := hm
      subst hq
      exact hopt q.2 hm
  · cases hi : s.internal with
    | nil => simp [hi] at hm
    | cons x l =>
      simp only [hi, Option.getD_some, List.mem_flatMap, List.mem_map] at hm
      obtain ⟨e, ⟨q, _, hq⟩, hm⟩ := hm
      subst hq
      exact hopt (some (.dec q.2)) hm

/-- `pieceShifts` with the differences (terminal label shifts already taken off) given -/
def shiftsFrom (p : ℕ) : List ℚ → ℕ → List (ℕ × ℤ)
  | [], _ => []
  | d :: r, i => if absQ d > threshold then (i, roundNum d p) :: shiftsFrom p r (i + 1) else shiftsFrom p r (i + 1)

/-- how many differences are nonzero but below the cut-off (they are dropped) -/
def droppedNonzero : List ℚ → ℕ
  | [] => 0
  | d :: r => (if d ≠ 0 ∧ ¬ absQ d > threshold then 1 else 0) + droppedNonzero r

def listSum : List ℚ → ℚ
  | [] => 0
  | d :: r => d + listSum r

theorem listSum_eq_sum (l : List ℚ) : listSum l = l.sum := by
  induction l with
  | nil => rfl
  | cons d r ih => rw [listSum, ih, List.sum_cons]

theorem listSum_append (a b : List ℚ) : listSum (a ++ b) = listSum a + listSum b := by
  simp only [listSum_eq_sum, List.sum_append]

theorem listSum_map_zero {α : Type} (l : List α) (f : α → ℚ) (h : ∀ j ∈ l, f j = 0) : listSum (l.map f) = 0 :=
  (listSum_eq_sum _).trans (RatSum.sum_map_eq_zero h)

theorem listSum_add_map (l : List ℕ) (f g : ℕ → ℚ) :
    listSum (l.map fun j => f j + g j) = listSum (l.map f) + listSum (l.map g) := by
  simp only [listSum_eq_sum, RatSum.sum_map_add]

theorem threshold_pos : (0 : ℚ) < threshold := by unfold threshold; norm_num

theorem not_significant_zero : ¬ absQ 0 > threshold := by
  rw [absQ_eq_abs, abs_zero]; exact not_lt.mpr threshold_pos.le

theorem shiftsFrom_eq_nil (p : ℕ) (ds : List ℚ) (i : ℕ) (h : ∀ d ∈ ds, ¬ absQ d > threshold) : shiftsFrom p ds i = [] := by
  induction ds generalizing i with
  | nil => rfl
  | cons d r ih =>
    rw [shiftsFrom, if_neg (h d List.mem_cons_self), ih _ fun d' hd' => h d' (List.mem_cons_of_mem _ hd')]

/-- a difference below the cut-off is dropped: that costs nothing when it is zero and at most the cut-off otherwise -/
theorem abs_le_dropped {d : ℚ} (h : ¬ absQ d > threshold) :
    |0 - d| ≤ ((if d ≠ 0 ∧ ¬ absQ d > threshold then 1 else 0 : ℕ) : ℚ) * threshold := by
  by_cases hd : d = 0
  · simp [hd]
  · rw [if_pos ⟨hd, h⟩, Nat.cast_one, one_mul, zero_sub, abs_neg, ← absQ_eq_abs]
    exact not_lt.mp h

/-- **the loop's error**: what is written differs from the sum of the differences by at most half a unit in the last place
per shift written plus the cut-off per nonzero difference dropped -/
theorem shiftsFrom_err (p : ℕ) (ds : List ℚ) (i : ℕ) :
    |outInternal p (shiftsFrom p ds i) - listSum ds| ≤
      ((shiftsFrom p ds i).length : ℚ) * halfUlp p + (droppedNonzero ds : ℚ) * threshold := by
  induction ds generalizing i with
  | nil => simp [shiftsFrom, outInternal, listSum, droppedNonzero]
  | cons d r ih =>
    simp only [shiftsFrom, listSum, droppedNonzero]
    split
    · rename_i hg
      rw [if_neg fun h => h.2 hg]
      simp only [outInternal, List.length_cons]
      refine (abs_add_sub_add_le (roundNum_err d p) (ih (i + 1))).trans (le_of_eq ?_)
      push_cast; ring
    · rename_i hg
      have := abs_add_sub_add_le (abs_le_dropped hg) (ih (i + 1))
      rw [zero_add] at this
      refine this.trans (le_of_eq ?_)
      push_cast; ring

def pieceDiffs (E : Env) : List Annotation → Except Static.Err (List ℚ)
  | [] => .ok []
  | q :: r =>
    match pieceDiff E q with
    | .error e => .error e
    | .ok d =>
      match pieceDiffs E r with
      | .error e => .error e
      | .ok ds => .ok (d :: ds)

theorem pieceShifts_eq_map (E : Env) (p : ℕ) (t : ℚ) (pieces : List Annotation) (i : ℕ) :
    pieceShifts E p t pieces i = (pieceDiffs E pieces).map fun ds => shiftsFrom p (ds.map (· - t)) i := by
  induction pieces generalizing i with
  | nil => rfl
  | cons q r ih =>
    simp only [pieceShifts, pieceDiffs, ih]
    cases pieceDiff E q with
    | error e => rfl
    | ok d =>
      cases pieceDiffs E r with
      | error e => rfl
      | ok ds => simp only [Except.map, List.map_cons, shiftsFrom]; split <;> rfl

theorem pieceShifts_of_diffs (E : Env) (p : ℕ) (t : ℚ) (pieces : List Annotation) (i : ℕ) (ds : List ℚ)
    (h : pieceDiffs E pieces = .ok ds) : pieceShifts E p t pieces i = .ok (shiftsFrom p (ds.map (· - t)) i) := by
  rw [pieceShifts_eq_map, h]; rfl

theorem pieceShifts_eq (E : Env) (p : ℕ) (t : ℚ) (pieces : List Annotation) (i : ℕ) (l : List (ℕ × ℤ))
    (h : pieceShifts E p t pieces i = .ok l) :
    ∃ ds, pieceDiffs E pieces = .ok ds ∧ l = shiftsFrom p (ds.map (· - t)) i := by
  rw [pieceShifts_eq_map] at h
  cases hd : pieceDiffs E pieces with
  | error e => rw [hd] at h; cases h
  | ok ds => rw [hd] at h; exact ⟨ds, rfl, (Except.ok.inj h).symm⟩

/-- total of the modifications listed under key `j`: every entry with that key, as `slice` keeps them (the model's list may
repeat a key, a Python dict cannot) -/
def sumAt (E : Env) (cur : Option (List (Int × List Mod))) (j : Int) : ℚ :=
  match cur with
  | none => 0
  | some d => sumInternal E (d.filter fun q => decide (q.1 = j))

theorem exists_mem_of_sumAt_ne_zero (E : Env) (cur : Option (List (Int × List Mod))) (j : Int) (h : sumAt E cur j ≠ 0) :
    ∃ l, (j, l) ∈ cur.getD [] := by
  cases cur with
  | none => exact absurd rfl h
  | some d =>
    cases hf : d.filter (fun q => decide (q.1 = j)) with
    | nil => rw [sumAt, hf] at h; exact absurd rfl h
    | cons x xs =>
      have hx : x ∈ d.filter (fun q => decide (q.1 = j)) := by rw [hf]; exact List.mem_cons_self
      rw [List.mem_filter] at hx
      exact ⟨x.2, by rw [← of_decide_eq_true hx.2]; exact hx.1⟩

theorem sumInternal_map_key (E : Env) (f : Int → Int) (d : List (Int × List Mod)) :
    sumInternal E (d.map fun q => (f q.1, q.2)) = sumInternal E d := by
  induction d with
  | nil => rfl
  | cons q d ih => simp only [List.map_cons, sumInternal, ih]

theorem plainMass_bare (E : Env) (sq : List Char) : plainMass E { seq := sq } = sumRes E sq := by
  simp [plainMass, optSum, optInt, optIntervals]

theorem massOf_bare (E : Env) (sq : List Char) : massOf E { seq := sq } = .ok (sumRes E sq + E.adj) := by
  rw [massOf_unlabelled E _ rfl, massFast_of_static_none E _ rfl, plainMass_bare]

def pieceSeq (c : Annotation) (j : ℕ) : List Char := (c.seq.take (j + 1)).drop j

def pieceInternal (cur : Option (List (Int × List Mod))) (j : ℕ) : Option (List (Int × List Mod)) :=
  cur.map fun d => (d.filter fun q => decide (q.1 = (j : Int))).map fun q => (q.1 - Int.ofNat j, q.2)

theorem optInt_pieceInternal (E : Env) (cur : Option (List (Int × List Mod))) (j : ℕ) :
    optInt E (pieceInternal cur j) = sumAt E cur j := by
  cases cur with
  | none => rfl
  | some d => simp only [pieceInternal, Option.map_some, optInt, sumAt, sumInternal_map_key E (fun k => k - Int.ofNat j)]

theorem isotope_internal_of_not_hasMods (b : Annotation) (h : hasMods b = false) : b.isotope = none ∧ b.internal = none := by
  constructor
  · cases hi : b.isotope with
    | none => rfl
    | some _ => simp [hasMods, hi] at h
  · cases hn : b.internal with
    | none => rfl
    | some _ => simp [hasMods, hn] at h

/-- when `core c` has nothing (`hasMods = false`) `slice` returns the bare sequence; the labels and the residue
modifications were `none` then anyway -/
theorem piece_core (c : Annotation) (j : ℕ) (hst : c.static = none) :
    ({ slice (core c) j (j + 1) with labile := none } : Annotation) =
      { seq := pieceSeq c j, isotope := c.isotope, internal := pieceInternal c.internal j } := by
  cases hm : hasMods (core c) with
  | false =>
    have hp : ({ slice (core c) j (j + 1) with labile := none } : Annotation) = { seq := pieceSeq c j } := by
      simp [slice, hm, pieceSeq]; rfl
    obtain ⟨hi, hn⟩ := isotope_internal_of_not_hasMods (core c) hm
    rw [hp, show c.isotope = none from hi, show c.internal = none from hn]
    rfl
  | true =>
    simp only [slice, hm, Bool.not_true, Bool.false_eq_true, if_false]
    simp only [core, hst, Option.map_none, ite_self, pieceInternal, pieceSeq]
    cases c.internal with
    | none => rfl
    | some d =>
      simp only [Option.map_some]
      congr 3
      apply List.filter_congr
      intro q _
      rw [Bool.eq_iff_iff]
      simp only [Bool.and_eq_true, decide_eq_true_eq, Int.ofNat_eq_natCast]
      push_cast; omega

/-- without a label the piece of residue `j` differs from its stripped form by exactly the modifications listed on
residue `j` -/
theorem pieceDiff_core (E : Env) (c : Annotation) (j : ℕ) (hiso : c.isotope = none) (hst : c.static = none) :
    pieceDiff E { slice (core c) j (j + 1) with labile := none } = .ok (sumAt E c.internal j) := by
  rw [piece_core c j hst, hiso]
  have hmass : massOf E { seq := pieceSeq c j, internal := pieceInternal c.internal j } =
      .ok (sumRes E (pieceSeq c j) + E.adj + sumAt E c.internal j) := by
    rw [massOf_unlabelled E _ rfl, massFast_of_static_none E _ rfl]
    simp only [plainMass, optSum, optIntervals, ite_self, optInt_pieceInternal]
    congr 1; ring
  unfold pieceDiff stripped
  rw [hmass, massOf_bare]
  simp

theorem pieceDiffs_eq_mapM (E : Env) (l : List Annotation) : pieceDiffs E l = l.mapM (pieceDiff E) := by
  induction l with
  | nil => rfl
  | cons q r ih =>
    rw [pieceDiffs, ih, List.mapM_cons]
    cases pieceDiff E q with
    | error e => rfl
    | ok d => cases r.mapM (pieceDiff E) <;> rfl

theorem pieceDiffs_map {α : Type} (E : Env) (f : α → Annotation) (g : α → ℚ) (l : List α)
    (h : ∀ i ∈ l, pieceDiff E (f i) = .ok (g i)) : pieceDiffs E (l.map f) = .ok (l.map g) := by
  rw [pieceDiffs_eq_mapM, List.mapM_map]; exact ExceptList.mapM_ok h

theorem splitPieces_core (c : Annotation) :
    splitPieces (core c) = (List.range c.seq.length).map fun i => { slice (core c) i (i + 1) with labile := none } := by
  simp [splitPieces, core]

/-- the differences of the pieces of a condensed unlabelled annotation -/
def diffsOf (E : Env) (c : Annotation) : List ℚ := (List.range c.seq.length).map fun i : ℕ => sumAt E c.internal (i : ℕ)

theorem pieceDiffs_core (E : Env) (c : Annotation) (hiso : c.isotope = none) (hst : c.static = none) :
    pieceDiffs E (splitPieces (core c)) = .ok (diffsOf E c) := by
  rw [splitPieces_core]
  exact pieceDiffs_map E _ _ _ (fun i _ => pieceDiff_core E c i hiso hst)

/-- `Static.KeysIn c.seq.length c.internal`, unfolded -/
def InRange (c : Annotation) : Prop := ∀ q ∈ c.internal.getD [], 0 ≤ q.1 ∧ q.1 < (c.seq.length : Int)

theorem inRange_condense (a c : Annotation) (hc : condenseStatic a = .ok c) (h : InRange a) : InRange c :=
  keysIn_condense a c hc h

theorem listSum_indicator (n : ℕ) (k : Int) (x : ℚ) (h0 : 0 ≤ k) (h1 : k < (n : Int)) :
    listSum ((List.range n).map fun j : ℕ => if k = (j : Int) then x else 0) = x := by
  induction n with
  | zero => omega
  | succ n ih =>
    rw [List.range_succ, List.map_append, listSum_append]
    by_cases hk : k = (n : Int)
    · rw [listSum_map_zero _ _ fun j hj => if_neg (by have := List.mem_range.mp hj; omega)]
      simp [listSum, hk]
    · rw [ih (by omega)]
      simp [listSum, hk]

theorem listSum_sumAt (E : Env) (n : ℕ) (d : List (Int × List Mod)) (h : ∀ q ∈ d, 0 ≤ q.1 ∧ q.1 < (n : Int)) :
    listSum ((List.range n).map fun j : ℕ => sumAt E (some d) (j : ℕ)) = sumInternal E d := by
  induction d with
  | nil => exact listSum_map_zero _ _ fun _ _ => rfl
  | cons q d ih =>
    have hq := h q (by simp)
    have hd := ih (fun q' hq' => h q' (by simp [hq']))
    have hsplit : (fun j : ℕ => sumAt E (some (q :: d)) (j : ℕ)) =
        fun j : ℕ => (if q.1 = (j : Int) then sumMods E q.2 else 0) + sumAt E (some d) (j : ℕ) := by
      funext j
      simp only [sumAt, List.filter_cons]
      by_cases hk : q.1 = (j : Int)
      · simp [hk, sumInternal]
      · simp [hk]
    rw [hsplit, listSum_add_map, hd, listSum_indicator n q.1 _ hq.1 hq.2]
    simp [sumInternal]

theorem listSum_diffsOf (E : Env) (c : Annotation) (h : InRange c) : listSum (diffsOf E c) = optInt E c.internal := by
  unfold diffsOf
  cases hi : c.internal with
  | none => exact listSum_map_zero _ _ fun _ _ => rfl
  | some d => exact listSum_sumAt E c.seq.length d fun q hq => h q (by simp [hi, hq])

theorem intSum_eq (E : Env) (hn : ∀ i : ℤ, E.mu (.int i) = i) (l : List Mod) (h : allInt l = true) :
    ((intSum l : ℤ) : ℚ) = sumMods E l := by
  induction l with
  | nil => simp [intSum, sumMods]
  | cons m l ih =>
    simp only [allInt, List.all_cons, Bool.and_eq_true] at h
    have hl : allInt l = true := h.2
    cases hv : m.val with
    | int i =>
      simp only [intSum, sumMods, modMass, hv, hn, ← ih hl]; push_cast; ring
    | flt r => rw [hv] at h; simp at h
    | str r => rw [hv] at h; simp at h

theorem roundedSum_err (E : Env) (p : ℕ) (hn : ∀ i : ℤ, E.mu (.int i) = i) (l : List Mod) :
    |(roundedSum E l p).toRat p - sumMods E l| ≤ halfUlp p := by
  unfold roundedSum
  split
  · rename_i h
    simp only [Num.toRat, intSum_eq E hn l h, sub_self, abs_zero]
    exact halfUlp_nonneg p
  · simp only [Num.toRat]
    exact roundNum_err _ p

def cnt {α : Type} : Option α → ℕ
  | none => 0
  | some _ => 1

theorem cnt_map {α β : Type} (f : α → β) (o : Option α) : cnt (o.map f) = cnt o := by cases o <;> rfl

theorem numO_err (E : Env) (p : ℕ) (hn : ∀ i : ℤ, E.mu (.int i) = i) (o : Option (List Mod)) :
    |numO p (o.map fun l => roundedSum E l p) - optSum E o| ≤ (cnt o : ℚ) * halfUlp p := by
  cases o with
  | none => simp [numO, optSum, cnt]
  | some l => simp only [Option.map_some, numO, optSum, cnt, Nat.cast_one, one_mul]; exact roundedSum_err E p hn l

theorem termNum_zero (E : Env) (p : ℕ) (o : Option (List Mod)) :
    termNum E p o 0 = o.map fun l => roundedSum E l p := by
  simp [termNum, not_significant_zero]

theorem termNum_err (E : Env) (p : ℕ) (hn : ∀ i : ℤ, E.mu (.int i) = i) (o : Option (List Mod)) (sh : ℚ) :
    |numO p (termNum E p o sh) - (optSum E o + sh)| ≤
      (cnt (termNum E p o sh) : ℚ) * halfUlp p + (if sh ≠ 0 ∧ ¬ absQ sh > threshold then 1 else 0 : ℕ) * threshold := by
  unfold termNum
  split
  · rename_i hg
    rw [if_neg fun h => h.2 hg, optSum_eq]
    simpa [numO, Num.toRat, cnt] using roundNum_err (sumMods E (o.getD []) + sh) p
  · rename_i hg
    have := abs_add_sub_add_le (numO_err E p hn o) (abs_le_dropped hg)
    rwa [add_zero, ← cnt_map fun l => roundedSum E l p] at this

def cntIntervals : List Interval → ℕ
  | [] => 0
  | iv :: r => cnt iv.mods + cntIntervals r

theorem intervals_err (E : Env) (p : ℕ) (hn : ∀ i : ℤ, E.mu (.int i) = i) (l : List Interval) :
    |outIntervalsL p (l.map fun iv => (iv, iv.mods.map fun ms => roundedSum E ms p)) - sumIntervals E l| ≤
      (cntIntervals l : ℚ) * halfUlp p := by
  induction l with
  | nil => simp [outIntervalsL, sumIntervals, cntIntervals]
  | cons iv l ih =>
    simp only [List.map_cons, outIntervalsL, sumIntervals, cntIntervals]
    refine (abs_add_sub_add_le (numO_err E p hn iv.mods) ih).trans (le_of_eq ?_)
    push_cast; ring

def cntIntervalsO : Option (List Interval) → ℕ
  | none => 0
  | some l => cntIntervals l

theorem optIntervals_err (E : Env) (p : ℕ) (hn : ∀ i : ℤ, E.mu (.int i) = i) (o : Option (List Interval)) :
    |outIntervals p (o.map fun l => l.map fun iv => (iv, iv.mods.map fun ms => roundedSum E ms p)) - optIntervals E o| ≤
      (cntIntervalsO o : ℚ) * halfUlp p := by
  cases o with
  | none => simp [outIntervals, optIntervals, cntIntervalsO]
  | some l => exact intervals_err E p hn l

/-- the numbers `shiftsOf` writes, as a function of the differences `ds` of the pieces (label shift of the terminal groups
taken off) and of the label shifts `nts`, `cts` of the terminal H and OH -/
def shiftsWith (E : Env) (c : Annotation) (p : ℕ) (ds : List ℚ) (nts cts : ℚ) : Shifts :=
  { internal := shiftsFrom p ds 0,
    nterm := termNum E p c.nterm nts,
    cterm := termNum E p c.cterm cts,
    labile := c.labile.map fun l => roundedSum E l p,
    unknown := c.unknown.map fun l => roundedSum E l p,
    intervals := c.intervals.map fun l => l.map fun iv => (iv, iv.mods.map fun ms => roundedSum E ms p) }

theorem shiftsOf_eq (E : Env) (c : Annotation) (p : ℕ) (nts cts : ℚ) (ds : List ℚ)
    (hn : termLabelShift E E.ntermComp c.isotope = .ok nts) (hc : termLabelShift E E.ctermComp c.isotope = .ok cts)
    (hd : pieceDiffs E (splitPieces (core c)) = .ok ds) :
    shiftsOf E c p = .ok (shiftsWith E c p (ds.map (· - (nts + cts))) nts cts) := by
  simp only [shiftsOf, hn, hc, pieceShifts_of_diffs E p (nts + cts) _ 0 ds hd, shiftsWith]

/-- how many numbers the function writes -/
def written (c : Annotation) (s : Shifts) : ℕ :=
  s.internal.length + cnt c.nterm + cnt c.cterm + cnt c.labile + cnt c.unknown + cntIntervalsO c.intervals

/-- how many numbers are written, label in force (the termini may get a number from the label alone) -/
def writtenL (c : Annotation) (s : Shifts) : ℕ :=
  s.internal.length + cnt s.nterm + cnt s.cterm + cnt c.labile + cnt c.unknown + cntIntervalsO c.intervals

/-- **the central bound of C18**, over the differences of the pieces: every number written is within half a unit in the
last place of the quantity it stands for, and a nonzero quantity below the cut-off is lost -/
theorem outMass_shiftsWith_err (E : Env) (c : Annotation) (p : ℕ) (ds : List ℚ) (nts cts : ℚ)
    (hn : ∀ i : ℤ, E.mu (.int i) = i) :
    |outMass E c (shiftsWith E c p ds nts cts) p -
        (sumRes E c.seq + optSum E c.labile + optSum E c.unknown + (optSum E c.nterm + nts) + optIntervals E c.intervals +
          listSum ds + (optSum E c.cterm + cts) + E.adj)| ≤
      (writtenL c (shiftsWith E c p ds nts cts) : ℚ) * halfUlp p +
        ((droppedNonzero ds + (if nts ≠ 0 ∧ ¬ absQ nts > threshold then 1 else 0) +
          (if cts ≠ 0 ∧ ¬ absQ cts > threshold then 1 else 0) : ℕ) : ℚ) * threshold := by
  have same : ∀ a : ℚ, |a - a| ≤ 0 := fun a => by rw [sub_self, abs_zero]
  have h := abs_add_sub_add_le (abs_add_sub_add_le (abs_add_sub_add_le (abs_add_sub_add_le (abs_add_sub_add_le
    (abs_add_sub_add_le (abs_add_sub_add_le (same (sumRes E c.seq)) (numO_err E p hn c.labile)) (numO_err E p hn c.unknown))
    (termNum_err E p hn c.nterm nts)) (optIntervals_err E p hn c.intervals)) (shiftsFrom_err p ds 0))
    (termNum_err E p hn c.cterm cts)) (same E.adj)
  simp only [outMass, writtenL, shiftsWith]
  refine h.trans (le_of_eq ?_)
  push_cast; ring

theorem shiftsOf_nolabel (E : Env) (c : Annotation) (p : ℕ) (hiso : c.isotope = none) (hst : c.static = none) :
    shiftsOf E c p = .ok (shiftsWith E c p (diffsOf E c) 0 0) := by
  have h := shiftsOf_eq E c p 0 0 _ (by rw [hiso]; rfl) (by rw [hiso]; rfl) (pieceDiffs_core E c hiso hst)
  simpa using h

/-- **the bound of C18** for a condensed, unlabelled annotation -/
theorem outMass_err (E : Env) (c : Annotation) (p : ℕ) (s : Shifts) (hiso : c.isotope = none) (hst : c.static = none)
    (hr : InRange c) (hn : ∀ i : ℤ, E.mu (.int i) = i) (hp : E.ionP = true) (hs : shiftsOf E c p = .ok s) :
    |outMass E c s p - (plainMass E c + E.adj)| ≤
      (written c s : ℚ) * halfUlp p + (droppedNonzero (diffsOf E c) : ℚ) * threshold := by
  rw [shiftsOf_nolabel E c p hiso hst] at hs
  obtain rfl := Except.ok.inj hs
  have h := outMass_shiftsWith_err E c p (diffsOf E c) 0 0 hn
  rw [listSum_diffsOf E c hr] at h
  have hw : written c (shiftsWith E c p (diffsOf E c) 0 0) = writtenL c (shiftsWith E c p (diffsOf E c) 0 0) := by
    simp only [written, writtenL, shiftsWith, termNum_zero, cnt_map]
  refine (le_of_eq (congrArg abs ?_)).trans (h.trans (le_of_eq ?_))
  · simp only [plainMass, hp, if_true]; ring
  · simp [hw]

end CondenseMass
end Pept
