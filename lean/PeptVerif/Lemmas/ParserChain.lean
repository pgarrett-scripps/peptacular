import PeptVerif.Lemmas.ParserAst
/-!
Helper lemmas for C01: `ChainText T a` (the three phases read exactly `T` into `a` whatever joiner follows), from which the
chain loop and the `_is_unmodified` shortcut are proved once. The rendering of a well-formed surface-syntax chain is one
(`chainText_render`), and the serializer's text of a canonical annotation is the rendering of `surfaceTree`
(`surfaceTree_spec`, which does not mention the parser). No Mathlib.
-/
namespace Pept

/-- `T` is the text of one chain denoting `a`, whatever follows it (the end of the input or a joiner). A chain of leading
sections alone is not one (no joiner can follow it) and goes through `parse_of_parseStart`. -/
structure ChainText (T : List Char) (a : Annotation) : Prop where
  ne_nil : T ≠ []
  phases : ∀ conn rest, ChainStop rest → ∃ a1 r1 a2 r2,
    parseStart true { seq := [] } (T ++ rest) = .ok (a1, r1) ∧ parseMiddle a1 none r1 = .ok (a2, r2) ∧
    parseEnd a2 conn r2 = .ok (a, stopConn conn rest, stopRest rest)

theorem parseChains_nil (fixed : Bool) (conn : Option Bool) : parseChains fixed conn [] = .ok [] := by
  rw [parseChains.eq_def]

/-- one iteration of the chain loop -/
theorem parseChains_phases {conn conn' : Option Bool} {s r1 r2 r3 : List Char} {a1 a2 a3 : Annotation}
    (h1 : parseStart true { seq := [] } s = .ok (a1, r1)) (h2 : parseMiddle a1 none r1 = .ok (a2, r2))
    (h3 : parseEnd a2 conn r2 = .ok (a3, conn', r3)) (hlen : r3.length < s.length) :
    parseChains true conn s =
      match parseChains true conn' r3 with
      | .error e => .error e
      | .ok l => .ok ((a3, conn') :: l) := by
  cases s with
  | nil => simp at hlen
  | cons c cs =>
    rw [parseChains.eq_def]
    simp only [h1, h2, h3, hlen, ↓reduceDIte]
    cases parseChains true conn' r3 <;> rfl

theorem ChainText.step {T : List Char} {a : Annotation} (h : ChainText T a) (conn : Option Bool) (rest : List Char)
    (hrest : ChainStop rest) :
    parseChains true conn (T ++ rest) =
      match parseChains true (stopConn conn rest) (stopRest rest) with
      | .error e => .error e
      | .ok l => .ok ((a, stopConn conn rest) :: l) := by
  obtain ⟨a1, r1, a2, r2, h1, h2, h3⟩ := h.phases conn rest hrest
  have hlen : (stopRest rest).length < (T ++ rest).length := by
    have := stopRest_length rest
    have := List.length_pos_iff.mpr h.ne_nil
    simp only [List.length_append]; omega
  exact parseChains_phases h1 h2 h3 hlen

theorem parseMiddle_allAA (acc : Annotation) (s : List Char) (hs : s.all isAA = true) :
    parseMiddle acc none s = .ok ({ acc with seq := acc.seq ++ s }, []) := by
  induction s generalizing acc with
  | nil => rw [parseMiddle.eq_def]; simp
  | cons c t ih =>
    simp only [List.all_cons, Bool.and_eq_true] at hs
    rw [parseMiddle_res _ _ _ _ hs.1, ih _ hs.2]
    simp

/-- the chain parser agrees with the `_is_unmodified` shortcut of `parse` on bare residue strings -/
theorem parseChains_allAA (conn : Option Bool) (s : List Char) (hs : s.all isAA = true) (hne : s ≠ []) :
    parseChains true conn s = .ok [({ seq := s }, conn)] := by
  cases s with
  | nil => exact absurd rfl hne
  | cons c t =>
    have hc : isAA c = true := by simp only [List.all_cons, Bool.and_eq_true] at hs; exact hs.1
    have he : parseEnd { seq := [] ++ c :: t } conn [] = .ok ({ seq := [] ++ c :: t }, conn, []) := by rw [parseEnd.eq_def]
    rw [parseChains_phases (parseStart_stop _ _ (Or.inr ⟨c, t, rfl, Or.inl hc⟩)) (parseMiddle_allAA _ _ hs) he (by simp),
      parseChains_nil]
    rfl

/-- on a bare residue string `parse` takes the `_is_unmodified` shortcut; by `parseChains_allAA` the chain parser agrees with it -/
theorem ChainText.parse_eq {T : List Char} {a : Annotation} (h : ChainText T a) : parse true T = .ok (.single a) := by
  have hchain := h.step none [] (Or.inl rfl)
  simp only [List.append_nil, stopConn, stopRest, parseChains_nil] at hchain
  unfold parse
  split
  · rename_i hun
    have := parseChains_allAA none T hun h.ne_nil
    rw [hchain] at this
    simp only [Except.ok.injEq, List.cons.injEq, Prod.mk.injEq, and_true] at this
    rw [← this]
  · rw [hchain]

def joiner (x : Bool) : List Char := if x then ['/', '/'] else ['+']

theorem joiner_chainStop (x : Bool) (r : List Char) : ChainStop (joiner x ++ r) := by
  cases x
  · exact Or.inr (Or.inl ⟨r, rfl⟩)
  · exact Or.inr (Or.inr ⟨r, rfl⟩)

theorem joiner_stop (conn : Option Bool) (x : Bool) (r : List Char) :
    stopConn conn (joiner x ++ r) = some x ∧ stopRest (joiner x ++ r) = r := by
  cases x <;> simp [joiner, stopConn, stopRest]

/-- the chain loop on joined chains: one result per chain, paired with the flag of the joiner that follows it; the
last chain keeps a stale flag, which `parse` drops -/
theorem parseChains_joined {ι : Type} (txt : ι → List Char) (den : ι → Annotation) (c : ι) (l : List (Bool × ι))
    (hc : ChainText (txt c) (den c)) (hl : ∀ p ∈ l, ChainText (txt p.2) (den p.2)) (conn : Option Bool) :
    ∃ last, parseChains true conn (txt c ++ l.flatMap fun p => joiner p.1 ++ txt p.2) =
      .ok ((den c :: l.map fun p => den p.2).zip (l.map (fun p => some p.1) ++ [last])) := by
  induction l generalizing c conn with
  | nil =>
    have := hc.step conn [] (Or.inl rfl)
    simp only [stopConn, stopRest, parseChains_nil] at this
    exact ⟨conn, this⟩
  | cons p t ih =>
    obtain ⟨last, h⟩ := ih p.2 (hl p (by simp)) (fun q hq => hl q (by simp [hq])) (some p.1)
    have := hc.step conn _ (joiner_chainStop p.1 (txt p.2 ++ t.flatMap fun p => joiner p.1 ++ txt p.2))
    rw [(joiner_stop conn p.1 _).1, (joiner_stop conn p.1 _).2, h] at this
    exact ⟨last, by simpa using this⟩

/-- **two or more chains**: `parse` returns the chains and the flags of the joiners -/
theorem parse_joinedChains {ι : Type} (txt : ι → List Char) (den : ι → Annotation) (c : ι) (p : Bool × ι)
    (t : List (Bool × ι)) (hc : ChainText (txt c) (den c)) (hl : ∀ q ∈ p :: t, ChainText (txt q.2) (den q.2)) :
    parse true (txt c ++ (p :: t).flatMap fun p => joiner p.1 ++ txt p.2) =
      .ok (.multi (den c :: (p :: t).map fun p => den p.2) ((p :: t).map fun p => some p.1)) := by
  obtain ⟨last, h⟩ := parseChains_joined txt den c (p :: t) hc hl none
  have hun : isUnmodified (txt c ++ (p :: t).flatMap fun p => joiner p.1 ++ txt p.2) = false := by
    cases hp : p.1 <;> simp [isUnmodified, joiner, hp]
  unfold parse
  rw [hun, h]
  generalize hL : (den c :: (p :: t).map fun p => den p.2).zip ((p :: t).map (fun p => some p.1) ++ [last]) = L
  have h2 : 2 ≤ L.length := by simp [← hL]
  have hf : L.map (·.1) = den c :: (p :: t).map fun p => den p.2 := by
    rw [← hL]; exact List.map_fst_zip (by simp)
  have hs : (L.map (·.2)).dropLast = (p :: t).map fun p => some p.1 := by
    rw [← hL, List.map_snd_zip (by simp), List.dropLast_concat]
  rw [← hf, ← hs]
  match L, h2 with
  | _ :: _ :: _, _ => rfl

theorem chainText_render (t : SChain) (hw : t.wf = true) : ChainText t.render t.denote :=
  ⟨schain_render_ne_nil t hw, schain_phases t hw⟩

/-- text of a chain: leading sections in the given order, then the serializer's middle and end sections of `b` -/
def surfaceText (plus : Plus) (items : List StartItem) (b : Annotation) : List Char :=
  renderStart plus items ++ (serializeMiddle plus b ++ serializeEnd plus b)

/-- what that text denotes: the leading sections accumulate in order of appearance -/
def surfaceDenote (items : List StartItem) (b : Annotation) : Annotation :=
  { (items.foldl StartItem.apply { seq := [] }) with
      seq := b.seq, internal := b.internal, intervals := b.intervals, cterm := b.cterm, charge := b.charge,
      adducts := b.adducts }

def chargeTree (plus : Plus) (ch : Option Int) (ad : Option (List Mod)) : Option SCharge :=
  ch.map fun c => ⟨c, false, spelledMods plus (ad.getD [])⟩

theorem chargeTree_spec (plus : Plus) (ch : Option Int) (ad : Option (List Mod)) : canonAdducts ch ad = true →
    (match chargeTree plus ch ad with | none => true | some q => q.wf) = true ∧
    (match chargeTree plus ch ad with | none => [] | some q => q.render) =
      (match ch with | none => [] | some c => '/' :: intText c) ++ optMods '[' ']' plus ad ∧
    (chargeTree plus ch ad).map (·.ch) = ch ∧
    (match chargeTree plus ch ad with | none => none | some q => optList (q.adducts.map SMod.denote)) = ad := by
  intro had
  cases ch with
  | none => simp [chargeTree, canonAdducts_none _ had, optMods]
  | some c =>
    obtain ⟨hw, hd⟩ := canonAdducts_spelled plus c _ had
    exact ⟨hw, by simp [chargeTree, SCharge.render_spelled], rfl, hd⟩

def surfaceTree (plus : Plus) (items : List StartItem) (b : Annotation) : SChain :=
  { start := items.map (StartItem.spelled plus)
    segs := middleSegs plus b
    cterm := spelledMods plus (b.cterm.getD [])
    charge := chargeTree plus b.charge b.adducts }

theorem surfaceTree_spec (plus : Plus) (items : List StartItem) (hok : ∀ it ∈ items, it.ok = true)
    (hadj : noAdjacentGlobals items = true) (b : Annotation) (hb : canon b = true) :
    (surfaceTree plus items b).wf = true ∧ (surfaceTree plus items b).render = surfaceText plus items b ∧
      (surfaceTree plus items b).denote = surfaceDenote items b := by
  have hb := canon_fields b hb
  obtain ⟨hMr, hMw, hMd⟩ := middleSegs_spec plus b hb.allAA hb.internal hb.intervals
  obtain ⟨hCw, hCd⟩ := canonOptMods_spelled '[' ']' (by decide) (by decide) plus _ hb.cterm
  obtain ⟨hQw, hQr, hQc, hQd⟩ := chargeTree_spec plus b.charge b.adducts hb.adducts
  obtain ⟨hSw, hSr, hSd⟩ := startItems_spelled_spec plus items hok
  refine ⟨?_, ?_, ?_⟩
  · have h3 : (middleSegs plus b).isEmpty = false := by
      simpa [middleSegs] using segsFrom_ne_nil plus _ 0 b.seq hb.seq_ne_nil _
    simp only [SChain.wf, surfaceTree, hSw, noAdjacentGlobals_spelled, hadj, h3, hMw, hCw, Bool.not_false, Bool.and_self,
      Bool.true_and]
    exact hQw
  · have hc : (if (spelledMods plus (b.cterm.getD [])).isEmpty then [] else
        '-' :: renderMods '[' ']' (spelledMods plus (b.cterm.getD []))) =
        (match b.cterm with | none => [] | some [] => [] | some l => '-' :: serializeMods '[' ']' plus l) := by
      rw [renderMods_spelledMods]
      cases b.cterm with
      | none => rfl
      | some l => cases l <;> simp [optMods]
    simp only [SChain.render, surfaceTree, surfaceText, hSr, hMr, serializeEnd, List.append_assoc]
    -- both sides are `renderStart ++ (serializeMiddle ++ (cterm ++ charge))`: the last two pieces agree by `hc`, `hQr`
    exact congrArg _ (congrArg _ (congr (congrArg _ hc) hQr))
  · obtain ⟨h1, h2, h3, _⟩ := sstarts_frame (items.map (StartItem.spelled plus)) { seq := [] }
    simp only [SChain.denote, surfaceTree, hMd _ h1 h2 h3, hCd, hQc, surfaceDenote, ← hSd]
    exact congrArg _ hQd

theorem chainText_surface (plus : Plus) (items : List StartItem) (hok : ∀ it ∈ items, it.ok = true)
    (hadj : noAdjacentGlobals items = true) (b : Annotation) (hb : canon b = true) :
    ChainText (surfaceText plus items b) (surfaceDenote items b) := by
  obtain ⟨hw, hr, hd⟩ := surfaceTree_spec plus items hok hadj b hb
  rw [← hr, ← hd]
  exact chainText_render _ hw

/-- the serializer's text is the surface text whose leading sections come in the serializer's order -/
theorem chainText_serialize (plus : Plus) (a : Annotation) (hc : canon a = true) : ChainText (serialize plus a) a := by
  have ha := canon_fields a hc
  obtain ⟨hok, hadj, hd⟩ := startItems_spec a ha.labile ha.static ha.isotope ha.unknown ha.nterm
  have h := chainText_surface plus (startItems a) hok hadj a hc
  have ht : surfaceText plus (startItems a) a = serialize plus a := by
    simp only [surfaceText, renderStart_startItems, serialize, List.append_assoc]
  rwa [ht, surfaceDenote, hd] at h

theorem parse_of_parseStart {T : List Char} {a : Annotation} (hS : parseStart true { seq := [] } T = .ok (a, [])) :
    parse true T = .ok (.single a) := by
  unfold parse
  cases T with
  | nil =>
    rw [parseStart.eq_def] at hS
    simp only [Except.ok.injEq, Prod.mk.injEq, and_true] at hS
    rw [← hS]; rfl
  | cons c cs =>
    split
    · -- before a residue the start phase stops at once, and would leave all of the text
      rename_i hun
      rw [parseStart.eq_def] at hS
      simp only [isUnmodified, List.all_cons, Bool.and_eq_true] at hun
      simp [hun.1] at hS
    · have hm : parseMiddle a none [] = .ok (a, []) := by rw [parseMiddle.eq_def]; rfl
      have he : parseEnd a none [] = .ok (a, none, []) := by rw [parseEnd.eq_def]
      rw [parseChains_phases hS hm he (by simp), parseChains_nil]

theorem parse_serialize_single (plus : Plus) (a : Annotation) (hc : (canon a || canonStartOnly a) = true) :
    parse true (serialize plus a) = .ok (.single a) := by
  rcases Bool.or_eq_true _ _ ▸ hc with hc | hc
  · exact (chainText_serialize plus a hc).parse_eq
  simp only [canonStartOnly, Bool.and_eq_true, List.isEmpty_iff, Option.isNone_iff_eq_none] at hc
  obtain ⟨⟨⟨⟨⟨⟨⟨⟨⟨⟨hseq, hlab⟩, hst⟩, hiso⟩, hunk⟩, hnt⟩, hD⟩, hL⟩, hct⟩, hch⟩, had⟩ := hc
  have ha : a = { seq := [], labile := a.labile, static := a.static, isotope := a.isotope, unknown := a.unknown,
                  nterm := a.nterm } :=
    Annotation.ext_fields hseq rfl rfl rfl rfl rfl hct hD hL hch had
  have htext : serialize plus a = serializeStart plus a ++ [] := by
    simp [serialize, serializeMiddle, serializeEnd, hseq, hct, hch, had, hL, serializeResidues, ivMarks, optMods]
  have hS := parseStart_sections plus a hlab hst hiso hunk hnt [] (Or.inl rfl)
  rw [← htext, ← ha] at hS
  exact parse_of_parseStart hS

/-- `MultiProFormaAnnotation.serialize` when every connection is `False` -/
def chainsText (plus : Plus) : List Annotation → List Char
  | [] => []
  | [a] => serialize plus a
  | a :: b :: t => serialize plus a ++ '+' :: chainsText plus (b :: t)

/-- chains written with `+` for a `False` connection and `//` for a `True` connection (what the parser reads) -/
def joinedText (plus : Plus) : List Annotation → List Bool → List Char
  | [], _ => []
  | [a], _ => serialize plus a
  | a :: b :: t, [] => serialize plus a ++ joiner false ++ joinedText plus (b :: t) []
  | a :: b :: t, x :: xs => serialize plus a ++ joiner x ++ joinedText plus (b :: t) xs

theorem joinedText_eq (plus : Plus) (a : Annotation) (t : List Annotation) (flags : List Bool)
    (hl : flags.length = t.length) :
    joinedText plus (a :: t) flags =
      serialize plus a ++ (flags.zip t).flatMap fun p => joiner p.1 ++ serialize plus p.2 := by
  induction t generalizing a flags with
  | nil => simp [joinedText]
  | cons b t ih =>
    cases flags with
    | nil => simp at hl
    | cons x xs => simp [joinedText, ih b xs (by simpa using hl)]

theorem joinedText_false (plus : Plus) (as : List Annotation) (k : Nat) :
    joinedText plus as (List.replicate k false) = chainsText plus as := by
  induction as generalizing k with
  | nil => rfl
  | cons a t ih =>
    cases t with
    | nil => rfl
    | cons b t' =>
      cases k with
      | zero => simpa [joinedText, chainsText, joiner] using ih 0
      | succ k => simpa [joinedText, chainsText, joiner, List.replicate_succ] using ih k

theorem parse_joinedText (plus : Plus) (a b : Annotation) (t : List Annotation) (hc : (a :: b :: t).all canon = true)
    (flags : List Bool) (hl : flags.length = (b :: t).length) :
    parse true (joinedText plus (a :: b :: t) flags) = .ok (.multi (a :: b :: t) (flags.map some)) := by
  simp only [List.all_cons, Bool.and_eq_true, List.all_eq_true] at hc
  rw [joinedText_eq plus a (b :: t) flags hl]
  cases flags with
  | nil => simp at hl
  | cons x xs =>
    have := parse_joinedChains (serialize plus) id a (x, b) (xs.zip t) (chainText_serialize plus a hc.1)
      (by
        intro q hq
        have hq' : q ∈ (x :: xs).zip (b :: t) := hq
        have : q.2 ∈ b :: t := (List.of_mem_zip (show (q.1, q.2) ∈ _ from hq')).2
        rcases List.mem_cons.mp this with h | h
        · rw [h]; exact chainText_serialize plus b hc.2.1
        · exact chainText_serialize plus q.2 (hc.2.2 q.2 h))
    have hz : (x, b) :: xs.zip t = (x :: xs).zip (b :: t) := rfl
    rw [hz] at this
    rw [this]
    have h1 : ((x :: xs).zip (b :: t)).map (fun p => id p.2) = b :: t := List.map_snd_zip (by omega)
    have h2 : ((x :: xs).zip (b :: t)).map (fun p => some p.1) = (x :: xs).map some := by
      rw [show (fun p : Bool × Annotation => some p.1) = some ∘ Prod.fst from rfl, ← List.map_map,
        List.map_fst_zip (by omega)]
    rw [h1, h2]; rfl

/-- `xj` is the crosslink joiner of `MultiProFormaAnnotation.serialize` (`\\` as coded, `//` fixed): it has to be `//`
only where it is used -/
theorem serializeMultiWith_joined (xj : List Char) (plus : Plus) (as : List Annotation) (flags : List Bool)
    (hl : flags.length + 1 = as.length) (hx : true ∈ flags → xj = crosslinkJoinerFixed) :
    serializeMultiWith xj plus as (flags.map some) = .ok (joinedText plus as flags) := by
  induction as generalizing flags with
  | nil => simp at hl
  | cons a t ih =>
    cases t with
    | nil => rfl
    | cons b t' =>
      cases flags with
      | nil => simp at hl
      | cons x xs =>
        have := ih xs (by simpa using hl) (fun h => hx (List.mem_cons_of_mem _ h))
        simp only [List.map_cons, serializeMultiWith, this, joinedText]
        cases x
        · simp [joiner]
        · simp [joiner, hx List.mem_cons_self, crosslinkJoinerFixed]

end Pept
