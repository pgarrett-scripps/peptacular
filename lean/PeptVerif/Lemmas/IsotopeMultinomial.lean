import PeptVerif.Lemmas.Isotope
import Mathlib.Data.Nat.Choose.Basic
/-! Helper lemmas for `C14.nfold_conv_eq_multinomial`: finite sums, Pascal's rule in summed form, the multinomial
expansion `multi` in iterated-binomial form and the one-atom recurrences of both sides. -/
namespace Isotope

/-- `Σ_{j=0..n} f j` -/
def sumUpTo : Nat → (Nat → Rat) → Rat
  | 0, f => f 0
  | n + 1, f => sumUpTo n f + f (n + 1)

theorem sumUpTo_succ_shift (n : Nat) (f : Nat → Rat) : sumUpTo (n + 1) f = f 0 + sumUpTo n (fun j => f (j + 1)) := by
  induction n with
  | zero => simp [sumUpTo]
  | succ n ih => rw [sumUpTo, ih]; simp only [sumUpTo]; ring

theorem sumUpTo_add (n : Nat) (f g : Nat → Rat) : sumUpTo n (fun j => f j + g j) = sumUpTo n f + sumUpTo n g := by
  induction n with
  | zero => simp [sumUpTo]
  | succ n ih => simp only [sumUpTo, ih]; ring

theorem sumUpTo_congr (n : Nat) (f g : Nat → Rat) (h : ∀ j, j ≤ n → f j = g j) : sumUpTo n f = sumUpTo n g := by
  induction n with
  | zero => simp [sumUpTo, h 0 (le_refl _)]
  | succ n ih => simp only [sumUpTo]; rw [ih (fun j hj => h j (Nat.le_succ_of_le hj)), h (n + 1) (le_refl _)]

theorem sumUpTo_mul_left (n : Nat) (c : Rat) (f : Nat → Rat) : sumUpTo n (fun j => c * f j) = c * sumUpTo n f := by
  induction n with
  | zero => simp [sumUpTo]
  | succ n ih => simp only [sumUpTo, ih]; ring

/-- Pascal's rule in summed form (the step of the binomial theorem) -/
theorem sumUpTo_pascal (n : Nat) (T : Nat → Rat) :
    sumUpTo (n + 1) (fun j => (Nat.choose (n + 1) j : Rat) * T j) =
      sumUpTo n (fun j => (Nat.choose n j : Rat) * T j) + sumUpTo n (fun j => (Nat.choose n j : Rat) * T (j + 1)) := by
  rw [sumUpTo_succ_shift]
  have h1 : sumUpTo n (fun j => (Nat.choose (n + 1) (j + 1) : Rat) * T (j + 1)) =
      sumUpTo n (fun j => (Nat.choose n j : Rat) * T (j + 1)) + sumUpTo n (fun j => (Nat.choose n (j + 1) : Rat) * T (j + 1)) := by
    rw [← sumUpTo_add]
    apply sumUpTo_congr
    intro j _
    rw [Nat.choose_succ_succ]; push_cast; ring
  rw [h1]
  have h2 : sumUpTo n (fun j => (Nat.choose n j : Rat) * T j) =
      T 0 + sumUpTo n (fun j => (Nat.choose n (j + 1) : Rat) * T (j + 1)) := by
    cases n with
    | zero => simp [sumUpTo]
    | succ n =>
      rw [sumUpTo_succ_shift]
      simp only [sumUpTo, Nat.choose_zero_right, Nat.cast_one, one_mul, Nat.choose_succ_self, Nat.cast_zero, zero_mul, add_zero]
  rw [h2]
  simp only [Nat.choose_zero_right, Nat.cast_one, one_mul]
  ring

/-- the multinomial expansion of `n` atoms over an isotope list, in iterated-binomial form:
`Σ_{j} C(n,j)·a₁^j · (expansion of the remaining isotopes with n−j atoms, shifted by j·m₁)` -/
def multi : Dist Rat → Nat → (Rat → Rat) → Rat
  | [], n, g => if n = 0 then g 0 else 0
  | (m, a) :: t, n, g => sumUpTo n (fun j => (Nat.choose n j : Rat) * a ^ j * multi t (n - j) (fun x => g (j * m + x)))

/-- peeling the first atom where the code adds the last: the two agree because the keys add associatively -/
theorem integral_elemental_succ (d : Dist Rat) (n : Nat) (g : Rat → Rat) :
    integral (elemental none d (n + 1)) g = integral d (fun k => integral (elemental none d n) (fun y => g (k + y))) := by
  induction n generalizing g with
  | zero => simp [elemental, elementalFrom, integral_convolve]
  | succ n ih =>
    rw [elemental_succ, integral_convolve, ih]
    refine integral_congr _ _ _ (fun q _ => ?_)
    rw [elemental_succ, integral_convolve]
    simp only [id, add_assoc]

theorem integral_sumUpTo (t : Dist Rat) (n : Nat) (F : Rat → Nat → Rat) :
    integral t (fun k => sumUpTo n (F k)) = sumUpTo n (fun j => integral t (fun k => F k j)) := by
  induction n with
  | zero => simp [sumUpTo]
  | succ n ih => simp only [sumUpTo]; rw [integral_add, ih]

/-- the multinomial expansion satisfies the same one-atom recurrence.  Pascal's rule splits the sum over `j` (atoms of the
first isotope) in two: the peeled atom is of the first isotope (`h1`), or it is of one of the others, which is the
recurrence for the rest of the list under the sum (`h2`). -/
theorem multi_succ (d : Dist Rat) : ∀ (n : Nat) (g : Rat → Rat),
    multi d (n + 1) g = integral d (fun k => multi d n (fun y => g (k + y))) := by
  induction d with
  | nil => intro n g; simp [multi]
  | cons q t ih =>
    obtain ⟨m, a⟩ := q
    intro n g
    have hL : multi ((m, a) :: t) (n + 1) g =
        sumUpTo (n + 1) (fun j => (Nat.choose (n + 1) j : Rat) *
          (a ^ j * multi t (n + 1 - j) (fun x => g (j * m + x)))) := by
      simp only [multi]
      apply sumUpTo_congr; intro j _; ring
    rw [hL, sumUpTo_pascal, integral_cons]
    have h1 : a * multi ((m, a) :: t) n (fun y => g (m + y)) =
        sumUpTo n (fun j => (Nat.choose n j : Rat) *
          (a ^ (j + 1) * multi t (n + 1 - (j + 1)) (fun x => g (((j + 1 : Nat) : Rat) * m + x)))) := by
      simp only [multi]
      rw [← sumUpTo_mul_left]
      apply sumUpTo_congr
      intro j _
      rw [Nat.add_sub_add_right]
      rw [show (fun x => g (m + (↑j * m + x))) = (fun x => g (((j + 1 : Nat) : Rat) * m + x)) from
        funext fun x => by congr 1; push_cast; ring]
      ring
    have h2 : integral t (fun k => multi ((m, a) :: t) n (fun y => g (k + y))) =
        sumUpTo n (fun j => (Nat.choose n j : Rat) * (a ^ j * multi t (n + 1 - j) (fun x => g (j * m + x)))) := by
      simp only [multi]
      rw [integral_sumUpTo]
      apply sumUpTo_congr
      intro j hj
      rw [integral_mul_left]
      have e : n + 1 - j = (n - j) + 1 := by omega
      rw [e, ih (n - j) (fun x => g (j * m + x))]
      have : integral t (fun k => multi t (n - j) (fun x => g (k + (↑j * m + x)))) =
          integral t (fun k => multi t (n - j) (fun y => g (↑j * m + (k + y)))) := by
        apply integral_congr; intro r _
        exact congrArg (multi t (n - j)) (funext fun x => by congr 1; ring)
      rw [this]; ring
    rw [h1, h2]; ring

theorem multi_zero (t : Dist Rat) : ∀ g : Rat → Rat, multi t 0 g = g 0 := by
  induction t with
  | nil => intro g; simp [multi]
  | cons q r ih => obtain ⟨m, a⟩ := q; intro g; simp [multi, sumUpTo, ih]

end Isotope
