import PeptVerif.Model.ModDbTypes
/-!
A fuel-based, structurally recursive bottom-up merge sort on code-point strings that reduces in the kernel
(core `List.mergeSort` is defined by well-founded recursion and does not), with the two facts needed to turn
"the sorted key list is strictly increasing" (checked by `decide +kernel`) into `List.Nodup keys`:
the sort is a permutation, and a strictly increasing list has no duplicates.  The definitions are what the checkers of
`Model/ModDbFacts.lean` run, hence fixed to `Str` and `ltStr`, and the permutation lemmas with them though none looks at
the order.  Mathlib-free.
-/
namespace KSort
open ModDb

/-- strict lexicographic order on code-point lists (written with `Nat.beq` / `Nat.ble` and `match` on `Bool`, which the
kernel evaluates much faster than `if a < b`) -/
def ltStr : Str → Str → Bool
  | [], [] => false
  | [], _ :: _ => true
  | _ :: _, [] => false
  | a :: as, b :: bs =>
    match Nat.beq a b with
    | true => ltStr as bs
    | false => Nat.ble a b

theorem beq_ne {a b : Nat} (h : a ≠ b) : Nat.beq a b = false :=
  Bool.eq_false_iff.mpr fun e => h (Nat.eq_of_beq_eq_true e)

theorem ltStr_cons (a b : Nat) (as bs : Str) :
    ltStr (a :: as) (b :: bs) = if a = b then ltStr as bs else decide (a < b) := by
  by_cases h : a = b
  · subst h; simp [ltStr]
  · have hb : Nat.ble a b = decide (a < b) := by
      rw [Bool.eq_iff_iff, Nat.ble_eq, decide_eq_true_iff]; omega
    simp [ltStr, beq_ne h, h, hb]

theorem ltStr_irrefl : ∀ a : Str, ltStr a a = false
  | [] => rfl
  | a :: as => by simp [ltStr_cons, ltStr_irrefl as]

theorem ltStr_trans : ∀ {a b c : Str}, ltStr a b = true → ltStr b c = true → ltStr a c = true
  | [], [], _, h, _ => by simp [ltStr] at h
  | [], _ :: _, [], _, h => by simp [ltStr] at h
  | [], _ :: _, _ :: _, _, _ => by simp [ltStr]
  | _ :: _, [], _, h, _ => by simp [ltStr] at h
  | _ :: _, _ :: _, [], _, h => by simp [ltStr] at h
  | a :: as, b :: bs, c :: cs, h1, h2 => by
    rw [ltStr_cons] at h1 h2 ⊢
    by_cases hab : a = b
    · subst hab
      by_cases hbc : a = c
      · subst hbc
        simp only [if_true] at h1 h2 ⊢
        exact ltStr_trans h1 h2
      · simp only [hbc, if_false] at h2 ⊢
        exact h2
    · simp only [hab, if_false, decide_eq_true_eq] at h1
      by_cases hbc : b = c
      · subst hbc
        simp [hab, h1]
      · simp only [hbc, if_false, decide_eq_true_eq] at h2
        have : a ≠ c := by omega
        simp only [this, if_false, decide_eq_true_eq]
        omega

def mergeF : Nat → List Str → List Str → List Str
  | 0, xs, ys => xs ++ ys
  | _ + 1, [], ys => ys
  | _ + 1, xs, [] => xs
  | f + 1, x :: xs, y :: ys =>
    if ltStr y x then y :: mergeF f (x :: xs) ys else x :: mergeF f xs (y :: ys)

theorem mergeF_perm : ∀ (f : Nat) (xs ys : List Str), (mergeF f xs ys).Perm (xs ++ ys)
  | 0, xs, ys => by simp [mergeF]
  | _ + 1, [], ys => by simp [mergeF]
  | _ + 1, x :: xs, [] => by simp [mergeF]
  | f + 1, x :: xs, y :: ys => by
    simp only [mergeF]
    split
    · have h := mergeF_perm f (x :: xs) ys
      have : (y :: mergeF f (x :: xs) ys).Perm (y :: ((x :: xs) ++ ys)) := h.cons y
      exact this.trans (List.perm_middle.symm)
    · have h := mergeF_perm f xs (y :: ys)
      exact h.cons x

def mergePairs (n : Nat) : List (List Str) → List (List Str)
  | a :: b :: r => mergeF n a b :: mergePairs n r
  | l => l

theorem mergePairs_perm (n : Nat) : ∀ ls : List (List Str), (mergePairs n ls).flatten.Perm ls.flatten
  | [] => by simp [mergePairs]
  | [a] => by simp [mergePairs]
  | a :: b :: r => by
    simp only [mergePairs, List.flatten_cons]
    have h1 := mergeF_perm n a b
    have h2 := mergePairs_perm n r
    have := h1.append h2
    simpa [List.append_assoc] using this

def msortAux (n : Nat) : Nat → List (List Str) → List Str
  | 0, ls => ls.flatten
  | _ + 1, [] => []
  | _ + 1, [a] => a
  | f + 1, a :: b :: r => msortAux n f (mergePairs n (a :: b :: r))

theorem msortAux_perm (n : Nat) : ∀ (f : Nat) (ls : List (List Str)), (msortAux n f ls).Perm ls.flatten
  | 0, ls => by simp [msortAux]
  | _ + 1, [] => by simp [msortAux]
  | _ + 1, [a] => by simp [msortAux]
  | f + 1, a :: b :: r => by
    simp only [msortAux]
    exact (msortAux_perm n f _).trans (mergePairs_perm n _)

/-- bottom-up merge sort; merge fuel = total length, 64 rounds (enough for 2^64 keys; with less fuel the result is
still a permutation, only possibly unsorted — sortedness is checked on the result, never assumed) -/
def msort (l : List Str) : List Str := msortAux l.length 64 (l.map fun x => [x])

theorem flatten_singletons : ∀ l : List Str, (l.map fun x => [x]).flatten = l
  | [] => rfl
  | x :: r => by simp [flatten_singletons r]

theorem msort_perm (l : List Str) : (msort l).Perm l := by
  have := msortAux_perm l.length 64 (l.map fun x => [x])
  rwa [flatten_singletons] at this

def strictSorted : List Str → Bool
  | a :: b :: r => ltStr a b && strictSorted (b :: r)
  | _ => true

theorem strictSorted_pairwise : ∀ l : List Str, strictSorted l = true → l.Pairwise (fun a b => ltStr a b = true)
  | [] => fun _ => List.Pairwise.nil
  | [a] => fun _ => by simp
  | a :: b :: r => fun h => by
    simp only [strictSorted, Bool.and_eq_true] at h
    have ih := strictSorted_pairwise (b :: r) h.2
    refine List.Pairwise.cons ?_ ih
    intro c hc
    rcases List.mem_cons.mp hc with rfl | hc
    · exact h.1
    · exact ltStr_trans h.1 ((List.pairwise_cons.mp ih).1 c hc)

theorem nodup_of_strictSorted (l : List Str) (h : strictSorted l = true) : l.Nodup := by
  have := strictSorted_pairwise l h
  refine this.imp ?_
  intro a b hab heq
  subst heq
  simp [ltStr_irrefl] at hab

/-- the kernel-checkable criterion: if the sorted keys are strictly increasing, the keys are pairwise distinct -/
theorem nodup_of_msort (l : List Str) (h : strictSorted (msort l) = true) : l.Nodup :=
  (msort_perm l).nodup_iff.mp (nodup_of_strictSorted _ h)

end KSort
