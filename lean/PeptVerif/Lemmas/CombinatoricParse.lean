import PeptVerif.Lemmas.CombinatoricText
import PeptVerif.Props.C01
/-! The string the Python builds for a selection of pieces is the serialization of the assembled annotation, which is
canonical; by the C01 round trip `parse_serialize` it parses back to that annotation. -/
namespace Pept

theorem residues_of_mem_pieces (a p : Annotation) (h : p ∈ pieces a) : ∃ r ∈ residues a, residues p = [r] := by
  have : residues p ∈ (pieces a).map residues := List.mem_map.2 ⟨p, h, rfl⟩
  rw [← components_eq_map_pieces, components_eq] at this
  obtain ⟨r, hr, e⟩ := List.mem_map.1 this
  exact ⟨r, hr, e.symm⟩

theorem flatten_residues_mem (a : Annotation) (sel : List Annotation) (h : ∀ p ∈ sel, p ∈ pieces a) :
    ∀ r ∈ (sel.map residues).flatten, r ∈ residues a := by
  intro r hr
  obtain ⟨l, hl, hrl⟩ := List.mem_flatten.1 hr
  obtain ⟨p, hp, rfl⟩ := List.mem_map.1 hl
  obtain ⟨r', hr', e⟩ := residues_of_mem_pieces a p (h p hp)
  rw [e] at hrl
  simp at hrl; subst hrl; exact hr'

theorem flatten_residues_ne_nil (a : Annotation) (sel : List Annotation) (h : ∀ p ∈ sel, p ∈ pieces a) (hne : sel ≠ []) :
    (sel.map residues).flatten ≠ [] := by
  cases sel with
  | nil => exact absurd rfl hne
  | cons p ps =>
    obtain ⟨r, _, e⟩ := residues_of_mem_pieces a p (h p (by simp))
    simp [e]

theorem expansionText_eq_serialize (plus : Plus) (a : Annotation) (hc : canon a = true) (sel : List Annotation)
    (h : ∀ p ∈ sel, p ∈ pieces a) :
    expansionText plus a sel = serialize plus (assemble a (sel.map residues)) := by
  rw [assemble_eq_wrap, serialize_wrap plus a hc _ (flatten_residues_mem a sel h), expansionText,
    flatten_serialize_pieces plus a sel h]

theorem reparse_eq_ok (a : Annotation) (hc : canon a = true) (sel : List Annotation) (h : ∀ p ∈ sel, p ∈ pieces a)
    (hne : sel ≠ []) : reparse a sel = .ok (.single (assemble a (sel.map residues))) := by
  unfold reparse
  rw [expansionText_eq_serialize _ a hc sel h]
  apply parse_serialize
  rw [assemble_eq_wrap]
  exact canon_wrap a hc _ (flatten_residues_ne_nil a sel h hne) (flatten_residues_mem a sel h)

theorem text_eq_of_enum {E : ∀ {α : Type}, Nat → List α → List (List α)} (hE : Selects E)
    (a : Annotation) (hc : canon a = true) (k : Nat) (hk : 1 ≤ k) :
    (E k (pieces a)).map (reparse a) = ((E k (components a)).map (assemble a)).map fun r => .ok (.single r) := by
  rw [components_eq_map_pieces, hE.map, List.map_map, List.map_map]
  apply List.map_congr_left
  intro sel hsel
  simp only [Function.comp_def]
  exact reparse_eq_ok a hc sel (hE.mem hsel).2 (hE.ne_nil hk hsel)

theorem canon_of_enum {E : ∀ {α : Type}, Nat → List α → List (List α)} (hE : Selects E)
    (a : Annotation) (hc : canon a = true) (k : Nat) (hk : 1 ≤ k) :
    ∀ r ∈ (E k (residues a)).map (wrap a), canon r = true := by
  intro r hr
  obtain ⟨sel, hsel, rfl⟩ := List.mem_map.1 hr
  exact canon_wrap a hc sel (hE.ne_nil hk hsel) (hE.mem hsel).2

theorem collect_map_ok (l : List Annotation) : collect (l.map fun r => (.ok (.single r) : Except Err Parsed)) = .ok (l.map .single) := by
  induction l with
  | nil => rfl
  | cons x xs ih => simp [collect, ih]

theorem serializeAll_map_single (l : List Annotation) :
    serializeAll (l.map .single) = .ok (l.map (serialize (constPlus false))) := by
  induction l with
  | nil => rfl
  | cons x xs ih => simp [serializeAll, serializeParsed, ih]

theorem expandStr_eq (f : Annotation → Option Nat → List (Except Err Parsed)) (g : Annotation → Option Nat → List Annotation)
    (plus : Plus) (a : Annotation) (hc : canon a = true) (size : Option Nat)
    (h : f a size = (g a size).map fun r => .ok (.single r)) :
    expandStr f (serialize plus a) size = .ok ((g a size).map (serialize (constPlus false))) := by
  simp only [expandStr, sequenceToAnnotation, parse_serialize plus a hc, h, collect_map_ok, serializeAll_map_single]

end Pept
