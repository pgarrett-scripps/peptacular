import PeptVerif.Lemmas.CompCalc
import PeptVerif.Lemmas.ModTablesC03
/-! Bridge between the vocabulary-table obligations (`ModTablesC03`) and the row gap of `mass_eq_compMass_*`. -/
namespace Pept.ModTables
open Pept Pept.Chem Pept.Mass Pept.CompCalc ModDb

theorem gap_some (e : Entry) (tab : Option Dec) (mono : Bool) (g : Rat)
    (h : (do let c ← entryComp e; let m ← tab; let x ← massOf mono c; pure (absQ (x - m.toRat))) = some g) :
    ∃ c m x, entryComp e = some c ∧ tab = some m ∧ massOf mono c = some x ∧ absQ (x - m.toRat) = g := by
  cases hc : entryComp e with
  | none => rw [hc] at h; cases h
  | some c =>
    cases hm : tab with
    | none => rw [hc, hm] at h; cases h
    | some m =>
      cases hx : massOf mono c with
      | none => rw [hc, hm] at h; simp [hx] at h
      | some x =>
        rw [hc, hm] at h
        simp [hx] at h
        exact ⟨c, m, x, rfl, rfl, hx, h⟩

theorem monoOk_unfold (e : Entry) (h : monoOk e = true) :
    ∃ c m x, entryComp e = some c ∧ e.mono = some m ∧ massOf true c = some x ∧ absQ (x - m.toRat) ≤ 1 / 10000 := by
  unfold monoOk at h
  cases hg : monoGap e with
  | none => rw [hg] at h; cases h
  | some g =>
    obtain ⟨c, m, x, hc, hm, hx, rfl⟩ := gap_some e e.mono true g hg
    rw [hg] at h
    exact ⟨c, m, x, hc, hm, hx, of_decide_eq_true h⟩

theorem avgOk_unfold (e : Entry) (h : avgOk e = true) :
    ∃ c m x, entryComp e = some c ∧ e.avg = some m ∧ massOf false c = some x ∧
      absQ (x - m.toRat) ≤ 1 / 1000 + 5 / 1000000 * absQ m.toRat := by
  unfold avgOk at h
  cases hg : avgGap e with
  | none => rw [hg] at h; cases h
  | some g =>
    obtain ⟨c, m, x, hc, hm, hx, rfl⟩ := gap_some e e.avg false g hg
    rw [hg, hm] at h
    exact ⟨c, m, x, hc, hm, hx, of_decide_eq_true h⟩

theorem chemMassComp_of_agreeOn {M : Formula.MassTable} {ks : List Str} (hM : agreeOn M ks = true) :
    ∀ c : Formula.Comp, c.all (fun kv => ks.contains kv.1) = true →
      Formula.chemMassComp M true c =
        .ok (chemMassL (fun e => (elemMassFast true e).getD 0) (c.map fun kv => (keyOfCodes kv.1, kv.2.val)))
  | [], _ => rfl
  | (k, v) :: c, hk => by
    simp only [List.all_cons, Bool.and_eq_true, List.contains_iff_mem] at hk
    have hag := List.all_eq_true.1 hM k hk.1
    split at hag
    · rename_i y hy
      rw [beq_iff_eq] at hag
      simp only [Formula.chemMassComp, hy, List.map_cons, chemMassComp_of_agreeOn hM c hk.2, chemMassL_cons, hag,
        Option.getD_some]
    · cases hag

/-- a row that is consistent within 1e-4 over the tables of `Model/Chem.lean` is consistent within 1e-3 over the loaded
element table `M`, through the formula model (`ModDb.monoMatchesComp`, C10) -/
theorem monoMatchesComp_of_monoOk {M : Formula.MassTable} {ks : List Str} (hM : agreeOn M ks = true) {e : Entry}
    (h : monoOk e = true) (hk : elemsIn ks e = true) : monoMatchesComp M e = true := by
  obtain ⟨c', m, x, hc, hm, hx, hb⟩ := monoOk_unfold e h
  cases hf : e.comp with
  | none => simp only [entryComp, hf] at hc; cases hc
  | some f =>
    cases hp : Formula.parseChem f [] with
    | error er => simp only [entryComp, hf, hp] at hc; cases hc
    | ok c =>
      simp only [entryComp, hf, hp, Option.some.injEq] at hc
      simp only [elemsIn, hf, hp] at hk
      subst hc
      unfold massOf at hx
      split at hx
      · simp only [Option.some.injEq] at hx
        have hb' : absRat (x - m.toRat) ≤ 1 / 1000 := absQ_eq_absRat ▸ le_trans hb (by norm_num)
        simp only [monoMatchesComp, hm, hf, Formula.chemMassStr, hp, chemMassComp_of_agreeOn hM c hk, hx, hb', decide_true]
      · cases hx

theorem gapOf_row (env : Env) (mono : Bool) (v : ModVal) (k : Int) (c : Comp) (m x : Rat)
    (hd : (env.res v).delta = .ok none) (hc : (env.res v).comp = .ok c) (hm : resMass env mono v = .ok m)
    (hx : chemMassL (μ mono) c = x) : gapOf env mono ⟨v, k⟩ = (m - x) * (k : Rat) := by
  have hk : isKept env ⟨v, k⟩ = true := by unfold isKept; simp only; rw [hd]
  have hr : (if mono then (env.res v).mono else (env.res v).avg) = resMass env mono v := rfl
  unfold gapOf
  simp only [hk, if_true]
  unfold Spec.modValue compOf
  simp only
  rw [hr, hm, hc, chemMassL_scale, hx]
  ring

/-- the tolerances of the row checks are stated with the absolute value of this file, the bounds of `mass_eq_compMass_*`
with that of `Lemmas/Mass.lean` -/
theorem absQ_eq_massAbsQ : absQ = Mass.absQ := rfl

theorem absQ_bounds (q ε : Rat) (h : absQ q ≤ ε) : -ε ≤ q ∧ q ≤ ε := by
  unfold absQ at h
  split_ifs at h with hq
  · constructor <;> linarith
  · have := not_lt.mp hq
    constructor <;> linarith

/-- for `c`, `m` a vocabulary row and `τ` its checked tolerance: `k` copies of a written modification that resolves to that
row move the gap of `mass_eq_compMass_*` by at most `|k|·τ` -/
theorem row_gap (env : Env) (mono : Bool) (v : ModVal) (k : Int) (c : Comp) (m : Dec) (x τ : Rat)
    (hx : massOf mono c = some x) (hb : absQ (x - m.toRat) ≤ τ)
    (hd : (env.res v).delta = .ok none) (hc : (env.res v).comp = .ok c) (hm : resMass env mono v = .ok m.toRat) :
    gapOf env mono ⟨v, k⟩ ≤ τ * Mass.absQ (k : Rat) ∧ -(τ * Mass.absQ (k : Rat)) ≤ gapOf env mono ⟨v, k⟩ := by
  obtain ⟨b1, b2⟩ := absQ_bounds _ _ hb
  rw [gapOf_row env mono v k c m.toRat x hd hc hm (massOf_eq mono c x hx).2]
  exact term_close (m.toRat - x) (k : Rat) τ (by linarith) (by linarith)

end Pept.ModTables
