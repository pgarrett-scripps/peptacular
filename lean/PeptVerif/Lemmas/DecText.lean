import PeptVerif.Lemmas.CondenseMass
/-! The text `decText k p` denotes the number `k / 10^p` (so `NumericMu` is satisfiable: an environment that reads a written
float through `valOfText`). Uses core's `Nat.toDigits` / `Nat.ofDigitChars` lemmas. -/
namespace Pept
namespace CondenseMass
open Static AbsMass

/-- value of a digit string read as a fraction: `0.d₁d₂…` -/
def fracVal (l : List Char) : ℚ := (Nat.ofDigitChars 10 l 0 : ℚ) / (10 : ℚ) ^ l.length

/-- the number an unsigned positional decimal `ip.fr` denotes -/
def valU (t : List Char) : ℚ :=
  (Nat.ofDigitChars 10 (t.takeWhile (· != '.')) 0 : ℚ) + fracVal ((t.dropWhile (· != '.')).drop 1)

/-- the reading of a float text assumed of the resolver (`float(text)` on the positional texts `decText` writes: optional
`-`, digits, `.`, digits); nothing here ties it to `Static.convertType` / `normFloat` -/
def valOfText : List Char → ℚ
  | '-' :: r => - valU r
  | r => valU r

theorem fracVal_append_zero (l : List Char) : fracVal (l ++ ['0']) = fracVal l := by
  unfold fracVal
  rw [Nat.ofDigitChars_append, Nat.ofDigitChars_cons, Nat.ofDigitChars_nil, List.length_append, List.length_singleton,
    pow_succ]
  push_cast
  rw [add_zero, mul_comm (10 : ℚ)]
  exact mul_div_mul_right _ _ (by norm_num)

theorem dropLeadingZeros_cons_ne (c : Char) (r : List Char) (h : c ≠ '0') : dropLeadingZeros (c :: r) = c :: r := by
  unfold dropLeadingZeros
  split
  · rename_i heq; simp at heq; exact absurd heq.1 h
  · rfl

theorem fracVal_reverse_dropLeadingZeros (l : List Char) : fracVal (dropLeadingZeros l).reverse = fracVal l.reverse := by
  induction l with
  | nil => simp [dropLeadingZeros]
  | cons c r ih =>
    by_cases h : c = '0'
    · subst h
      have : dropLeadingZeros ('0' :: r) = dropLeadingZeros r := by simp [dropLeadingZeros]
      rw [this, ih, List.reverse_cons, fracVal_append_zero]
    · rw [dropLeadingZeros_cons_ne c r h]

theorem fracVal_dropTrailingZeros (l : List Char) : fracVal (dropTrailingZeros l) = fracVal l := by
  unfold dropTrailingZeros
  rw [fracVal_reverse_dropLeadingZeros, List.reverse_reverse]

theorem fracVal_frac (l : List Char) :
    fracVal (match dropTrailingZeros l with | [] => ['0'] | x => x) = fracVal l := by
  cases h : dropTrailingZeros l with
  | nil =>
    have := fracVal_dropTrailingZeros l
    rw [h] at this
    simp only
    rw [← this]
    simp [fracVal, Nat.ofDigitChars]
  | cons c r =>
    simp only
    rw [← h, fracVal_dropTrailingZeros]

theorem ofDigitChars_padLeft (l : List Char) (p : ℕ) : Nat.ofDigitChars 10 (padLeft l p) 0 = Nat.ofDigitChars 10 l 0 := by
  unfold padLeft
  rw [Nat.ofDigitChars_append, Nat.ofDigitChars_replicate_zero]
  simp

theorem toDigits_all_digit (n : ℕ) : ∀ c ∈ Nat.toDigits 10 n, c.isDigit = true :=
  fun _ hc => Nat.isDigit_of_mem_toDigits (by decide) (by decide) hc

theorem span_at_dot (a r : List Char) (h : ∀ c ∈ a, (c != '.') = true) :
    (a ++ '.' :: r).takeWhile (· != '.') = a ∧ (a ++ '.' :: r).dropWhile (· != '.') = '.' :: r := by
  rw [List.takeWhile_append_of_pos h, List.dropWhile_append_of_pos h]; simp

theorem digit_ne_dot (c : Char) (h : c.isDigit = true) : (c != '.') = true := by
  simp only [bne_iff_ne, ne_eq]
  intro e; subst e; simp [Char.isDigit] at h

theorem fracVal_padLeft (m p : ℕ) (hm : m < pow10 p) :
    fracVal (padLeft (toString m).toList p) = (m : ℚ) / ((pow10 p : ℕ) : ℚ) := by
  have hl : (toString m).toList = Nat.toDigits 10 m := by simp
  rw [hl, fracVal, ofDigitChars_padLeft, Nat.ofDigitChars_ten_toDigits]
  by_cases hp : p = 0
  · subst hp
    have : m = 0 := by simpa [pow10] using hm
    subst this; simp
  · have := (Nat.length_toDigits_le_iff (by decide) (Nat.pos_of_ne_zero hp)).mpr hm
    have hlen : (padLeft (Nat.toDigits 10 m) p).length = p := by
      unfold padLeft; simp only [List.length_append, List.length_replicate]; omega
    rw [hlen, pow10, Nat.cast_pow, Nat.cast_ofNat]

/-- the unsigned text of `n / 10^p` -/
def bodyText (n p : ℕ) : List Char :=
  (toString (n / pow10 p)).toList ++ ['.'] ++
    (match dropTrailingZeros (padLeft (toString (n % pow10 p)).toList p) with | [] => ['0'] | l => l)

theorem valU_bodyText (n p : ℕ) : valU (bodyText n p) = (n : ℚ) / ((pow10 p : ℕ) : ℚ) := by
  have hip : (toString (n / pow10 p)).toList = Nat.toDigits 10 (n / pow10 p) := by simp
  have hnd : ∀ c ∈ Nat.toDigits 10 (n / pow10 p), (c != '.') = true :=
    fun c hc => digit_ne_dot c (toDigits_all_digit _ c hc)
  have hP : 0 < pow10 p := Nat.pow_pos (by decide)
  unfold bodyText valU
  rw [hip, List.append_assoc, List.singleton_append]
  obtain ⟨h1, h2⟩ := span_at_dot (Nat.toDigits 10 (n / pow10 p))
    (match dropTrailingZeros (padLeft (toString (n % pow10 p)).toList p) with | [] => ['0'] | l => l) hnd
  rw [h1, h2, List.drop_one, List.tail_cons, Nat.ofDigitChars_ten_toDigits, fracVal_frac,
    fracVal_padLeft _ _ (Nat.mod_lt _ hP)]
  -- integer part + remainder / 10^p, put back together
  conv_rhs => rw [← Nat.div_add_mod n (pow10 p), Nat.cast_add, Nat.cast_mul, add_div,
    mul_div_cancel_left₀ _ (pow10_pos p).ne']

/-- the unsigned text starts with a digit, so it is read as it stands -/
theorem valOfText_bodyText (n p : ℕ) : valOfText (bodyText n p) = valU (bodyText n p) := by
  have hip : (toString (n / pow10 p)).toList = Nat.toDigits 10 (n / pow10 p) := by simp
  unfold bodyText
  rw [hip]
  cases hd : Nat.toDigits 10 (n / pow10 p) with
  | nil => exact absurd hd Nat.toDigits_ne_nil
  | cons d ds =>
    have hdig := toDigits_all_digit (n / pow10 p) d (by rw [hd]; simp)
    have hne : d ≠ '-' := by rintro rfl; simp [Char.isDigit] at hdig
    simp only [List.cons_append]
    unfold valOfText
    split
    · rename_i heq; exact absurd (List.cons.inj heq).1 hne
    · rfl

theorem decText_eq (k : ℤ) (p : ℕ) :
    decText k p = (if k < 0 then ['-'] else []) ++ bodyText k.natAbs p := by
  unfold decText bodyText
  simp only [List.append_assoc]
  cases dropTrailingZeros (padLeft (toString (k.natAbs % pow10 p)).toList p) <;> rfl

theorem valOfText_decText (k : ℤ) (p : ℕ) : valOfText (decText k p) = (k : ℚ) / ((pow10 p : ℕ) : ℚ) := by
  rw [decText_eq]
  by_cases hk : k < 0
  · have : ((k.natAbs : ℕ) : ℚ) = -(k : ℚ) := by
      rw [← Int.cast_natCast, Int.ofNat_natAbs_of_nonpos hk.le, Int.cast_neg]
    rw [if_pos hk, List.singleton_append, valOfText, valU_bodyText, this, neg_div, neg_neg]
  · have : ((k.natAbs : ℕ) : ℚ) = (k : ℚ) := by
      rw [← Int.cast_natCast, Int.natAbs_of_nonneg (not_lt.mp hk)]
    rw [if_neg hk, List.nil_append, valOfText_bodyText, valU_bodyText, this]

theorem numericMu_of_valOfText (E : Env) (p : ℕ) (hi : ∀ i : ℤ, E.mu (.int i) = i)
    (hf : ∀ t, E.mu (.flt t) = valOfText t) : NumericMu E p :=
  ⟨hi, fun k => by rw [hf, valOfText_decText]⟩

end CondenseMass
end Pept
