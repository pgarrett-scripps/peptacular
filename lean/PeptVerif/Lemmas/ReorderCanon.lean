import PeptVerif.Lemmas.Reorder
import PeptVerif.Lemmas.CanonFields
import PeptVerif.Lemmas.InternalLookup
import PeptVerif.Model.C07Strings
/-!
The editors of `Model/Reorder.lean` and the ProForma round trip of C01 (`Pept.canon`, `Pept.parse_serialize`): the result
of slice / reverse / shift / shuffle / sort_residues is, after the unobservable normalisation of the residue-modification
dict (`{}` ↦ `None`, entries in key order), again a canonical annotation, and neither the serializer nor `==` sees the
normalisation. Mathlib-free.
-/
namespace Pept.Reorder
open Pept

/-- the key `normInternal` sorts by (written out there; `normInternal_some` is where the two spellings meet) -/
def entryKey (p : Int × List Mod) : Nat := p.1.toNat

/-- `{}` ↦ `None`, entries ordered by key (Python dict order and emptiness are not observable: `==` and the serializer
look entries up by key and treat `{}` like `None`) -/
def normInternal : Option Dict → Option Dict
  | none => none
  | some d =>
    match sortBy (fun (p : Int × List Mod) => p.1.toNat) d with
    | [] => none
    | l => some l

def normalize (a : Annotation) : Annotation := { a with internal := normInternal a.internal }

theorem normInternal_some (l : Dict) (h : l ≠ []) : normInternal (some l) = some (sortBy entryKey l) := by
  show (match sortBy entryKey l with | [] => none | x => some x) = _
  cases hS : sortBy entryKey l with
  | nil => exact absurd ((hS ▸ sortBy_perm entryKey l).symm.eq_nil) h
  | cons x t => rfl

theorem canonIntervals_of (n : Int) (L : List Interval)
    (h1 : ∀ iv ∈ L, 0 ≤ iv.start ∧ iv.start < iv.stop ∧ iv.stop ≤ n ∧ canonOptMods '[' ']' iv.mods = true)
    (h2 : L.Pairwise (fun x y => x.stop ≤ y.start)) : canonIntervals n (noneIfEmpty (some L)) = true := by
  cases L with
  | nil => rfl
  | cons x t => exact canonIntervals_some.2 ⟨h1, h2, List.cons_ne_nil x t⟩

theorem nodup_keys_of_strict (d : Dict) (h : d.Pairwise (fun p q => p.1 < q.1)) : (d.map (·.1)).Nodup := by
  rw [List.nodup_iff_pairwise_ne, List.pairwise_map]
  exact h.imp (fun h => by omega)

theorem keysOK_of_canon (a : Annotation) (hca : canon a = true) : KeysOK a := by
  intro d hd
  have c8 := (canon_fields a hca).internal
  rw [hd] at c8
  obtain ⟨hall, hstrict, _⟩ := canonInternal_some.1 c8
  exact ⟨nodup_keys_of_strict d hstrict, fun p hp => ⟨(hall p hp).1, by have := (hall p hp).2.1; simpa using this⟩⟩

theorem sorted_strict_of_nodup (d : Dict) (hnn : ∀ p ∈ d, 0 ≤ p.1) (hnd : (d.map (·.1)).Nodup)
    (hs : d.Pairwise (fun p q => entryKey p ≤ entryKey q)) : d.Pairwise (fun p q => p.1 < q.1) := by
  have hne : d.Pairwise (fun p q => p.1 ≠ q.1) := by
    rw [List.nodup_iff_pairwise_ne, List.pairwise_map] at hnd; exact hnd
  refine (hs.and hne).imp_of_mem ?_
  intro p q hp hq h
  have := hnn p hp
  have := hnn q hq
  unfold entryKey at h
  omega

theorem canonInternal_normInternal (n : Int) (d : Dict)
    (hall : ∀ p ∈ d, 0 ≤ p.1 ∧ p.1 < n ∧ p.2.isEmpty = false ∧ p.2.all (canonMod '[' ']') = true)
    (hnd : (d.map (·.1)).Nodup) : canonInternal n (normInternal (some d)) = true := by
  have hperm := sortBy_perm entryKey d
  have hsorted := sortBy_sorted entryKey d
  have hnd' : ((sortBy entryKey d).map (·.1)).Nodup := ((hperm.map (·.1)).nodup_iff).2 hnd
  have hall' : ∀ p ∈ sortBy entryKey d, 0 ≤ p.1 ∧ p.1 < n ∧ p.2.isEmpty = false ∧ p.2.all (canonMod '[' ']') = true :=
    fun p hp => hall p (hperm.mem_iff.1 hp)
  have hstrict := sorted_strict_of_nodup _ (fun p hp => (hall' p hp).1) hnd' hsorted
  cases d with
  | nil => rfl
  | cons x t =>
    rw [normInternal_some _ (List.cons_ne_nil x t)]
    exact canonInternal_some.2 ⟨hall', hstrict, fun h => List.cons_ne_nil x t (h ▸ hperm).symm.eq_nil⟩

theorem nodup_of_canon_normalize (x : Annotation) (h : canon (normalize x) = true) :
    ∀ l, x.internal = some l → (l.map (·.1)).Nodup := by
  intro l hl
  have c8 := (canon_fields _ h).internal
  simp only [normalize, hl] at c8
  cases l with
  | nil => exact List.nodup_nil
  | cons y t =>
    rw [normInternal_some _ (List.cons_ne_nil y t)] at c8
    exact (((sortBy_perm entryKey (y :: t)).map (·.1)).nodup_iff).1
      (nodup_keys_of_strict _ (canonInternal_some.1 c8).2.1)

theorem getInternal_normalize (x : Annotation) (hnd : ∀ l, x.internal = some l → (l.map (·.1)).Nodup) (k : Int) :
    getInternal (normalize x) k = getInternal x k := by
  unfold getInternal
  simp only [normalize]
  cases hd : x.internal with
  | none => rfl
  | some l =>
    have hperm := sortBy_perm entryKey l
    cases l with
    | nil => rfl
    | cons y t =>
      rw [normInternal_some _ (List.cons_ne_nil y t)]
      simp only
      exact AssocList.lookup_perm (((hperm.map (·.1)).nodup_iff).2 (hnd _ hd)) hperm k

/-- the library's `==` does not distinguish an annotation from its normal form -/
theorem annEq_normalize (x : Annotation) (hnd : ∀ l, x.internal = some l → (l.map (·.1)).Nodup) :
    annEq (normalize x) x = true :=
  annEq_of_getInternal_eq x _ (getInternal_normalize x hnd)

theorem serialize_normalize (plus : Plus) (a : Annotation)
    (hnd : ∀ l, a.internal = some l → (l.map (·.1)).Nodup) :
    serialize plus (normalize a) = serialize plus a :=
  serialize_of_getInternal_eq plus a _ (getInternal_normalize a hnd)

/-- residue modifications already in key order and not `{}`: the normal form is the annotation itself -/
theorem normalize_of_sorted (x : Annotation)
    (hs : ∀ l, x.internal = some l → l.Pairwise (fun p q => p.1 < q.1) ∧ l ≠ [] ∧ ∀ p ∈ l, 0 ≤ p.1) : normalize x = x := by
  cases hd : x.internal with
  | none =>
    cases x; simp_all [normalize, normInternal]
  | some l =>
    obtain ⟨h1, h2, h3⟩ := hs l hd
    have hsorted : sortBy entryKey l = l := by
      apply sortBy_of_sorted
      refine h1.imp_of_mem ?_
      intro p q hp hq h
      have := h3 p hp; have := h3 q hq
      unfold entryKey; omega
    have : normInternal (some l) = some l := by rw [normInternal_some l h2, hsorted]
    cases x
    simp only [normalize] at hd ⊢
    subst hd
    simp only [this]

theorem slice_internal_of_canon (a : Annotation) (s e : Int) (hca : canon a = true) (d' : Dict)
    (hd' : (slice a s e).internal = some d') :
    d'.Pairwise (fun p q => p.1 < q.1) ∧
      ∀ p ∈ d', 0 ≤ p.1 ∧ p.1 < e - s ∧ p.2.isEmpty = false ∧ p.2.all (canonMod '[' ']') = true := by
  rw [slice_internal] at hd'
  cases hd : a.internal with
  | none => rw [hd] at hd'; cases hd'
  | some d =>
    have c8 := (canon_fields a hca).internal
    rw [hd] at hd' c8
    cases hd'
    obtain ⟨hall, hstrict, _⟩ := canonInternal_some.1 c8
    refine ⟨filterMap_sliceEntry_strict s e d hstrict, fun p' hp' => ?_⟩
    obtain ⟨p, hp, h1, h2, rfl⟩ := mem_filterMap_sliceEntry hp'
    exact ⟨by simp only; omega, by simp only; omega, (hall p hp).2.2⟩

theorem normalize_slice (a : Annotation) (s e : Int) (hca : canon a = true)
    (hne : (slice a s e).internal ≠ some []) : normalize (slice a s e) = slice a s e :=
  normalize_of_sorted _ fun l hl =>
    have h := slice_internal_of_canon a s e hca l hl
    ⟨h.1, fun h0 => hne (h0 ▸ hl), fun p hp => (h.2 p hp).1⟩

theorem all_isAA_of_subset (l l' : List Char) (h : l.all isAA = true) (hsub : ∀ c ∈ l', c ∈ l) : l'.all isAA = true := by
  rw [List.all_eq_true] at h ⊢
  exact fun c hc => h c (hsub c hc)

theorem Rekeys.canonInternal {κ g} {a b : Annotation} (h : Rekeys a.seq.length κ g) (hca : canon a = true)
    (hlen : b.seq.length = a.seq.length) (hb : b.internal = rekey κ a.internal) (d' : Dict) (hd' : b.internal = some d') :
    (d'.map (·.1)).Nodup ∧
      ∀ p ∈ d', 0 ≤ p.1 ∧ p.1 < (b.seq.length : Int) ∧ p.2.isEmpty = false ∧ p.2.all (canonMod '[' ']') = true := by
  obtain ⟨hnd, hr⟩ := h.keysOK rfl hlen (keysOK_of_canon a hca) hb d' hd'
  obtain ⟨d, hd, rfl⟩ := rekey_eq_some (hb ▸ hd')
  have c8 := (canon_fields a hca).internal
  rw [hd] at c8
  refine ⟨hnd, fun p' hp' => ⟨(hr p' hp').1, (hr p' hp').2, ?_⟩⟩
  obtain ⟨p, hp, rfl⟩ := List.mem_map.1 hp'
  exact ((canonInternal_some.1 c8).1 p hp).2.2

/-- what the editors have in common: the global fields are those of `a`, the residues are drawn from those of `a`, and
the terminal modifications, the entries of the residue-modification dict (under distinct keys) and the intervals are
well-formed for the new length -/
theorem canon_normalize_of (a b : Annotation) (hca : canon a = true) (hne : b.seq ≠ [])
    (hsub : ∀ c ∈ b.seq, c ∈ a.seq)
    (g1 : b.isotope = a.isotope) (g2 : b.static = a.static) (g3 : b.labile = a.labile) (g4 : b.unknown = a.unknown)
    (g5 : b.charge = a.charge) (g6 : b.adducts = a.adducts)
    (hnt : canonOptMods '[' ']' b.nterm = true) (hct : canonOptMods '[' ']' b.cterm = true)
    (hint : ∀ d, b.internal = some d → (d.map (·.1)).Nodup ∧
      ∀ p ∈ d, 0 ≤ p.1 ∧ p.1 < (b.seq.length : Int) ∧ p.2.isEmpty = false ∧ p.2.all (canonMod '[' ']') = true)
    (hiv : canonIntervals (b.seq.length : Int) b.intervals = true) : canon (normalize b) = true := by
  have cf := canon_fields a hca
  rw [canon_iff]
  simp only [normalize]
  rw [g1, g2, g3, g4, g5, g6]
  refine ⟨?_, all_isAA_of_subset a.seq _ cf.allAA hsub, cf.labile, cf.static, cf.isotope, cf.unknown, hnt, ?_, hiv, hct,
    cf.adducts⟩
  · cases h : b.seq with
    | nil => exact absurd h hne
    | cons x t => rfl
  · cases hd : b.internal with
    | none => rfl
    | some d => exact canonInternal_normInternal _ d (hint d hd).2 (hint d hd).1

theorem canon_normalize_slice (a : Annotation) (s e : Nat) (hs : s < e) (he : e ≤ a.seq.length) (hca : canon a = true)
    (hc : CutsOK a.intervals a.seq.length [s, e]) : canon (normalize (slice a (s : Int) (e : Int))) = true := by
  rw [slice_eq_general]
  have cf := canon_fields a hca
  have hlen : (sliceGeneral a (s : Int) (e : Int)).seq.length = e - s := pySlice_length_nat a.seq s e (by omega) he
  refine canon_normalize_of a _ hca (List.ne_nil_of_length_pos (by omega)) ?_ rfl rfl rfl rfl rfl rfl ?_ ?_ ?_ ?_
  · intro c hcm
    rw [show (sliceGeneral a (s : Int) (e : Int)).seq = pySlice a.seq s e from rfl, pySlice_nat] at hcm
    exact List.mem_of_mem_drop (List.mem_of_mem_take hcm)
  · dsimp only [sliceGeneral]
    split
    · rfl
    · exact cf.nterm
  · dsimp only [sliceGeneral]
    split
    · rfl
    · exact cf.cterm
  · intro d' hd'
    rw [hlen]
    obtain ⟨hstrict, hall⟩ := slice_internal_of_canon a s e hca d' (slice_eq_general a s e ▸ hd')
    exact ⟨nodup_keys_of_strict _ hstrict, fun p hp => ⟨(hall p hp).1, by have := (hall p hp).2.1; omega, (hall p hp).2.2⟩⟩
  · rw [hlen]
    show canonIntervals _ (noneIfEmpty (a.intervals.map (·.filterMap (sliceInterval s e)))) = true
    cases hL : a.intervals with
    | none => rfl
    | some L =>
      have c9 := cf.intervals
      rw [hL] at c9
      obtain ⟨hall, hpw, _⟩ := canonIntervals_some.1 c9
      rw [Option.map_some, hc.filterMap_sliceInterval hL]
      apply canonIntervals_of
      · intro iv' hiv'
        obtain ⟨iv, hiv, rfl⟩ := List.mem_map.1 hiv'
        obtain ⟨hiv, hcont⟩ := List.mem_filter.1 hiv
        rw [decide_eq_true_eq] at hcont
        have hw := hc.wf hL hiv
        exact ⟨by simp only; omega, by simp only; omega, by simp only; omega, (hall iv hiv).2.2.2⟩
      · rw [List.pairwise_map]
        exact (hpw.filter _).imp fun h => by simp only; omega

theorem canon_normalize_reverse (a : Annotation) (sw : Bool) (hca : canon a = true) :
    canon (normalize (reverse a sw)) = true := by
  have cf := canon_fields a hca
  have hlen : (reverse a sw).seq.length = a.seq.length := List.length_reverse
  refine canon_normalize_of a _ hca ?_ (fun c hc => List.mem_reverse.1 hc) rfl rfl rfl rfl rfl rfl ?_ ?_ ?_ ?_
  · exact fun h => cf.seq_ne_nil (List.reverse_eq_nil_iff.1 h)
  · show canonOptMods '[' ']' (if sw then a.cterm else a.nterm) = true
    cases sw
    · exact cf.nterm
    · exact cf.cterm
  · show canonOptMods '[' ']' (if sw then a.nterm else a.cterm) = true
    cases sw
    · exact cf.cterm
    · exact cf.nterm
  · exact (rekeys_reverse _).canonInternal hca hlen (reverse_internal a sw)
  · rw [hlen]
    show canonIntervals _ (a.intervals.map fun l => l.reverse.map (reverseInterval a.seq.length)) = true
    cases hL : a.intervals with
    | none => rfl
    | some L =>
      have c9 := cf.intervals
      rw [hL] at c9
      obtain ⟨hall, hpw, hne⟩ := canonIntervals_some.1 c9
      have hform : ∀ iv ∈ L, reverseInterval (a.seq.length : Int) iv =
          { iv with start := (a.seq.length : Int) - iv.stop, stop := (a.seq.length : Int) - iv.start } := by
        intro iv hiv
        have := hall iv hiv
        unfold reverseInterval
        rw [if_neg (by omega)]
      refine canonIntervals_some.2 ⟨?_, ?_, fun h => hne (List.reverse_eq_nil_iff.1 (List.map_eq_nil_iff.1 h))⟩
      · intro iv' hiv'
        obtain ⟨iv, hiv, rfl⟩ := List.mem_map.1 hiv'
        have hiv2 : iv ∈ L := List.mem_reverse.1 hiv
        have := hall iv hiv2
        simp only [Int.ofNat_eq_natCast] at this
        rw [hform iv hiv2]
        exact ⟨by simp only; omega, by simp only; omega, by simp only; omega, this.2.2.2⟩
      · rw [List.pairwise_map, List.pairwise_reverse]
        refine hpw.imp_of_mem ?_
        intro x y hx hy hxy
        rw [hform x hx, hform y hy]
        simp only; omega

theorem canon_normalize_permuteBy (a : Annotation) (perm : List Nat) (newSeq : List Char) (hca : canon a = true)
    (hp : perm.Perm (List.range a.seq.length)) (hseq : newSeq.Perm a.seq) :
    canon (normalize (permuteBy a perm newSeq)) = true := by
  have cf := canon_fields a hca
  have hlen : (permuteBy a perm newSeq).seq.length = a.seq.length := hseq.length_eq
  refine canon_normalize_of a _ hca ?_ (fun c hc => hseq.mem_iff.1 hc) rfl rfl rfl rfl rfl rfl cf.nterm cf.cterm
    ((rekeys_perm perm _ hp).canonInternal hca hlen rfl) (by rw [hlen]; exact cf.intervals)
  exact fun h => cf.seq_ne_nil ((show newSeq = [] from h) ▸ hseq).symm.eq_nil

/-- without wrap every shifted interval is `iv` moved by a constant, so the shifted intervals are still pairwise disjoint
(`hdis`: a symmetric relation, hence kept by the permutation that `sortBy` applies); a list sorted by start whose
members are non-empty and pairwise disjoint is in sequence order -/
theorem shifted_intervals_canon (n eff : Int) (L : List Interval) (he0 : 0 ≤ eff) (he : eff < n) (hne : L ≠ [])
    (hall : ∀ iv ∈ L, 0 ≤ iv.start ∧ iv.start < iv.stop ∧ iv.stop ≤ n ∧ canonOptMods '[' ']' iv.mods = true)
    (hpw : L.Pairwise (fun x y => x.stop ≤ y.start)) (hnw : ∀ iv ∈ L, ¬ wraps eff iv) :
    canonIntervals n (some (sortBy (fun (iv : Interval) => iv.start.toNat) (L.map (shiftInterval eff n)))) = true := by
  have hform : ∀ iv ∈ L, shiftInterval eff n iv =
      { iv with start := if eff ≤ iv.start then iv.start - eff else iv.start - eff + n,
                stop := if eff ≤ iv.start then iv.stop - eff else iv.stop - eff + n } := fun iv hiv =>
    shiftInterval_nowrap eff n iv he0 he ⟨(hall iv hiv).1, (hall iv hiv).2.1, (hall iv hiv).2.2.1⟩ (hnw iv hiv)
  have hperm := sortBy_perm (fun (iv : Interval) => iv.start.toNat) (L.map (shiftInterval eff n))
  have hall' : ∀ iv' ∈ L.map (shiftInterval eff n),
      0 ≤ iv'.start ∧ iv'.start < iv'.stop ∧ iv'.stop ≤ n ∧ canonOptMods '[' ']' iv'.mods = true := by
    intro iv' hiv'
    obtain ⟨iv, hiv, rfl⟩ := List.mem_map.1 hiv'
    have h := hall iv hiv
    have hw := hnw iv hiv
    unfold wraps at hw
    rw [hform iv hiv]
    by_cases hc : eff ≤ iv.start
    · simp only [hc, if_true]; exact ⟨by omega, by omega, by omega, h.2.2.2⟩
    · simp only [hc, if_false]; exact ⟨by omega, by omega, by omega, h.2.2.2⟩
  have hdis : (L.map (shiftInterval eff n)).Pairwise (fun x y => x.stop ≤ y.start ∨ y.stop ≤ x.start) := by
    rw [List.pairwise_map]
    refine hpw.imp_of_mem ?_
    intro x y hx hy hxy
    have h1 := hall x hx
    have h2 := hall y hy
    have w1 := hnw x hx
    have w2 := hnw y hy
    unfold wraps at w1 w2
    rw [hform x hx, hform y hy]
    by_cases c1 : eff ≤ x.start <;> by_cases c2 : eff ≤ y.start <;> simp only [c1, c2, if_true, if_false] <;> omega
  have hdis' := hperm.symm.pairwise hdis (fun h => h.symm)
  have hsorted := sortBy_sorted (fun (iv : Interval) => iv.start.toNat) (L.map (shiftInterval eff n))
  refine canonIntervals_some.2 ⟨?_, ?_, fun h => hne (List.map_eq_nil_iff.1 (h ▸ hperm).symm.eq_nil)⟩
  · exact fun iv hiv => hall' iv (hperm.mem_iff.1 hiv)
  · refine (hsorted.and hdis').imp_of_mem ?_
    intro x y hx hy h
    have h1 := hall' x (hperm.mem_iff.1 hx)
    have h2 := hall' y (hperm.mem_iff.1 hy)
    omega

theorem canon_normalize_shift (a : Annotation) (k : Int) (hca : canon a = true) (hnw : NoWrap a k) :
    ∃ b, shift a k = .ok b ∧ canon (normalize b) = true := by
  have cf := canon_fields a hca
  have hk := keysOK_of_canon a hca
  obtain ⟨he0, he⟩ := emod_range k (List.length_pos_iff.mpr cf.seq_ne_nil)
  have hlen := shiftBy_length a (k % (a.seq.length : Int))
  refine ⟨_, shift_eq a k cf.seq_ne_nil hk, ?_⟩
  refine canon_normalize_of a _ hca (fun h => by rw [h] at hlen; exact cf.seq_ne_nil (List.eq_nil_of_length_eq_zero hlen.symm))
    ?_ rfl rfl rfl rfl rfl rfl cf.nterm cf.cterm ?_ ?_
  · intro c hc
    rcases List.mem_append.1 hc with h | h
    · exact List.mem_of_mem_drop h
    · exact List.mem_of_mem_take h
  · exact (rekeys_shift _ _ he0 he).canonInternal hca hlen rfl
  · rw [hlen]
    unfold shiftBy
    cases hL : a.intervals with
    | none => rfl
    | some L =>
      cases L with
      | nil => rfl
      | cons iv t =>
        have c9 := cf.intervals
        rw [hL] at c9
        obtain ⟨hall, hpw, hne⟩ := canonIntervals_some.1 c9
        exact shifted_intervals_canon _ _ _ he0 he hne (by simpa using hall) hpw (hnw _ hL)

theorem serialize_plain (plus : Plus) (s : List Char) : serialize plus (plain s) = s := by
  simp [serialize, serializeMiddle, serializeResidues_eq, serializeStart, serializeEnd, plain, optMods, ivMarks,
    getInternal, serializeMods]
  rw [← List.map_eq_flatMap, List.zipIdx_map_fst]

theorem digestPieceSpans_eq (a : Annotation) (spans : List Spans.Span) :
    digestPieceSpans a spans = spans.map fun sp => (slice a sp.1 sp.2.1, sp) :=
  dispatch_eq a _ _ (fun h sp => by rw [slice_of_not_hasMods a _ _ h]) spans

theorem digestStrings_eq (plus : Plus) (a : Annotation) (spans : List Spans.Span) :
    digestStrings plus a spans = spans.map fun sp => serialize plus (slice a sp.1 sp.2.1) :=
  dispatch_eq a _ _ (fun h sp => by rw [slice_of_not_hasMods a _ _ h, serialize_plain]) spans

theorem digestStringSpans_eq (plus : Plus) (a : Annotation) (spans : List Spans.Span) :
    digestStringSpans plus a spans = spans.map fun sp => (serialize plus (slice a sp.1 sp.2.1), sp) :=
  dispatch_eq a _ _ (fun h sp => by rw [slice_of_not_hasMods a _ _ h, serialize_plain]) spans

end Pept.Reorder
