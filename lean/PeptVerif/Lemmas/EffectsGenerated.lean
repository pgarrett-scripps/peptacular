import PeptVerif.Lemmas.EffectsApi
import PeptVerif.Generated.Effects
/-! C08: the obligations over the regenerated API, getter and verdict tables, decided by the kernel in one evaluation -/

namespace C08
open Effects

/-- the verdict claimed (and checked) for function `f` -/
abbrev V (f : Nat) : Verdict := verdictOf Gen.verdicts f

/-- member of the explicit list `Effects.declaredSharing` (Model/EffectsApi.lean) -/
def isDeclaredSharing (e : Gen.ApiEntry) : Bool := declaredSharingCodes.contains e.code

/-- member of the explicit list `Effects.declaredOutside` (Model/EffectsApi.lean) -/
def isOutside (e : Gen.ApiEntry) : Bool := declaredOutsideCodes.contains e.code

/-- member of the explicit list `Effects.declaredDbEditors` -/
def isDbEditor (e : Gen.ApiEntry) : Bool := declaredDbEditorCodes.contains e.code

/-- the entry refers to a translated function -/
def fidOK (e : Gen.ApiEntry) : Bool := e.fid < Gen.fnsIdx.length

theorem V_eq_strideGet (c f : Nat) : V f = strideGet c Gen.verdicts f {} := (strideGet_eq c Gen.verdicts f {}).symm

/-- Every obligation that is read off the verdict table.  They consult the same verdicts, the same name lists and the same
function count, and within one evaluation the kernel computes each of these once; decided one by one they cost several
times as much.  The parts are stated, with what they mean, in Props/C08.lean, which takes them by position. -/
theorem verdict_table_checked :
    Gen.api.all (fun e => e.editor || e.random || isOutside e ||
      (fidOK e && ((V e.fid).writes == []) && ((V e.fid).globals == []))) = true ∧
    Gen.api.all (fun e => !e.editor || e.random || isOutside e ||
      (fidOK e && (V e.fid).writes.all (fun j => j == 0) && ((V e.fid).globals == []))) = true ∧
    Gen.api.all (fun e => !e.random ||
      (fidOK e && (V e.fid).writes.all (fun j => e.editor && j == 0) && (V e.fid).globals.all (fun g => g == 0))) = true ∧
    Gen.api.all (fun e => e.editor || isOutside e || isDeclaredSharing e ||
      (fidOK e && ((V e.fid).share == []) && ((V e.fid).shareGlobals == []))) = true ∧
    Gen.api.all (fun e => !isDeclaredSharing e || (fidOK e && !((V e.fid).share == []))) = true ∧
    Gen.api.all (fun e => isDbEditor e || (fidOK e &&
      (V e.fid).globals.all (fun g => !Gen.dbGlobals.contains g && g == 0) &&
      (V e.fid).shareGlobals.all (fun g => !Gen.dbGlobals.contains g))) = true ∧
    (!Gen.dbEditors.isEmpty && !Gen.dbGlobals.isEmpty &&
      Gen.dbEditors.all (fun f => f < Gen.fnsIdx.length && (V f).globals.any (fun g => Gen.dbGlobals.contains g))) = true ∧
    Gen.getters.all (fun f => f < Gen.fnsIdx.length && ((V f).writes == []) && ((V f).globals == [])) = true := by
  -- the verdict test first: `||` stops at the first `true`, and searching the name lists is the dear part;
  -- strides of 16 suit a table of a few hundred verdicts (any stride is correct)
  simp only [V_eq_strideGet 16, Bool.or_comm _ (fidOK _ && _ && _)]
  decide +kernel

end C08
