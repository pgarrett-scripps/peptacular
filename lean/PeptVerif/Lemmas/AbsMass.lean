import Mathlib.Tactic.Ring
import Mathlib.Tactic.Linarith
import Mathlib.Data.Rat.Defs
import Mathlib.Algebra.Order.Field.Rat
import PeptVerif.Model.AbsMass
import PeptVerif.Lemmas.StaticMods
import PeptVerif.Lemmas.Dict
/-! Every slot of the fast path is `sumMods` over a flat list, so the fast-path mass is unchanged by condensing, which
permutes the modifications placed (`Lemmas/StaticMods.lean`); `chem_mass` is a weighted sum over a dict (`Lemmas/Dict.lean`);
relabelling a composition shifts its mass by count × mass difference, and that shift depends on the counts only (`shiftG`). -/
namespace Pept
namespace AbsMass
open Static

theorem sumMods_eq_sum (E : Env) (l : List Mod) : sumMods E l = (l.map (modMass E)).sum := by
  induction l with
  | nil => rfl
  | cons m l ih => rw [sumMods, ih]; rfl

theorem sumRes_eq_sum (E : Env) (s : List Char) : sumRes E s = (s.map E.res).sum := by
  induction s with
  | nil => rfl
  | cons c s ih => rw [sumRes, ih]; rfl

theorem sumMods_eq_sum_of (E : Env) (w : Mod → ℚ) (h : ∀ m, modMass E m = w m) (l : List Mod) :
    sumMods E l = (l.map w).sum := by
  rw [sumMods_eq_sum, funext h]

theorem sumMods_append (E : Env) (a b : List Mod) : sumMods E (a ++ b) = sumMods E a + sumMods E b := by
  simp only [sumMods_eq_sum, List.map_append, List.sum_append]

theorem sumMods_perm (E : Env) {l l' : List Mod} (h : l.Perm l') : sumMods E l = sumMods E l' := by
  rw [sumMods_eq_sum, sumMods_eq_sum]; exact RatSum.sum_perm (h.map _)

theorem sumMods_replicate (E : Env) (ms : List Mod) (n : Nat) :
    sumMods E (List.replicate n ms).flatten = sumMods E ms * (n : Nat) := by
  rw [sumMods_eq_sum, sumMods_eq_sum, ← List.flatMap_id, RatSum.sum_flatMap, List.map_replicate, RatSum.sum_replicate,
    mul_comm]; rfl

theorem optSum_appendMods (E : Env) (cur : Option (List Mod)) (ms : List Mod) :
    optSum E (appendMods cur ms) = optSum E cur + sumMods E ms := by
  cases cur with
  | none => simp [appendMods, optSum]
  | some l => simp [appendMods, optSum, sumMods_append]

theorem optSum_eq (E : Env) (o : Option (List Mod)) : optSum E o = sumMods E (o.getD []) := by cases o <;> rfl

theorem optIntervals_eq (E : Env) (o : Option (List Interval)) :
    optIntervals E o = sumMods E ((o.getD []).flatMap fun iv => iv.mods.getD []) := by
  cases o with
  | none => rfl
  | some l =>
    show sumIntervals E l = sumMods E (l.flatMap fun iv => iv.mods.getD [])
    induction l with
    | nil => rfl
    | cons iv l ih => simp only [List.flatMap_cons, sumMods_append, sumIntervals, ih, optSum_eq]

theorem optInt_eq (E : Env) (cur : Option (List (Int × List Mod))) : optInt E cur = sumMods E (intMods cur) := by
  cases cur with
  | none => rfl
  | some d =>
    show sumInternal E d = sumMods E (d.flatMap (·.2))
    induction d with
    | nil => rfl
    | cons q d ih => simp only [List.flatMap_cons, sumMods_append, sumInternal, ih]

theorem sumMods_residueRuleMods (E : Env) (seq : List Char) (m : StaticMap) :
    sumMods E (residueRuleMods seq m) = staticResidueMass E seq m := by
  induction m with
  | nil => rfl
  | cons p m ih =>
    obtain ⟨k, ms⟩ := p
    unfold residueRuleMods at ih ⊢
    simp only [List.flatMap_cons, staticResidueMass, sumMods_append, ih]
    split <;> simp [sumMods, sumMods_replicate]

theorem optInt_applyResidueRules (E : Env) (seq : List Char) (m : StaticMap) (cur : Option (List (Int × List Mod))) :
    optInt E (applyResidueRules seq cur m) = optInt E cur + staticResidueMass E seq m := by
  rw [optInt_eq, sumMods_perm E (applyResidueRules_perm seq m cur), sumMods_append, sumMods_residueRuleMods, optInt_eq]

theorem plainMass_applyMap (E : Env) (a : Annotation) (m : StaticMap) :
    plainMass E (applyMap a m) = staticMass E a.seq m + plainMass E a := by
  unfold plainMass staticMass
  simp only [applyMap, optInt_applyResidueRules]
  cases h1 : dictGet m nTermKey <;> cases h2 : dictGet m cTermKey <;>
    simp only [optSum_appendMods] <;> ring

/-- **central lemma of C12 (mass)**: on the fast path, condensing the static rules does not change the mass —
for any residue weights, modification weights and charge / ion-type term; errors included -/
theorem massFast_condense (E : Env) (a : Annotation) :
    (condenseStatic a >>= massFast E) = massFast E a := by
  unfold condenseStatic massFast
  cases hs : a.static with
  | none => simp [hs, bind, Except.bind]
  | some rules =>
    simp only
    cases hp : parseStaticMods (some rules) with
    | error e => simp [bind, Except.bind]
    | ok m =>
      simp only [bind, Except.bind]
      have : (applyMap a m).static = none := rfl
      simp only [this, plainMass_applyMap]

theorem massFast_of_condense (E : Env) (a c : Annotation) (h : condenseStatic a = .ok c) :
    massFast E c = massFast E a := by
  have := massFast_condense E a
  rwa [h] at this

theorem massFast_of_static_none (E : Env) (a : Annotation) (h : a.static = none) :
    massFast E a = .ok (plainMass E a + E.adj) := by
  unfold massFast; rw [h]

theorem massOf_unlabelled (E : Env) (a : Annotation) (h : a.isotope = none) : massOf E a = massFast E a := by
  unfold massOf; rw [h]

theorem massOf_labelled (E : Env) (a : Annotation) (m : Mod) (L : List Mod) (h : a.isotope = some (m :: L)) :
    massOf E a = massLabel E a := by
  unfold massOf; rw [h]


section Dict
open AssocList RatSum

theorem compGet_eq (c : Comp) (k : List Char) : compGet c k = (c.lookup k).getD 0 := by
  induction c with
  | nil => rfl
  | cons p c ih => obtain ⟨a, v⟩ := p; rw [compGet, AssocList.lookup_cons, ih]; split <;> rfl

theorem compAdd1_eq (c : Comp) (k : List Char) (v : Rat) : compAdd1 c k v = alter (fun o => o.getD 0 + v) k c := by
  induction c with
  | nil => simp [compAdd1, alter]
  | cons p c ih => obtain ⟨a, w⟩ := p; simp [compAdd1, alter, ih]

theorem compAdd_eq (c d : Comp) : compAdd c d = Dict.addAll c d := by
  unfold compAdd Dict.addAll
  simp only [compAdd1_eq]

theorem chemMass_eq (em : List Char → Rat) (c : Comp) : chemMass em c = wsum em c := by
  induction c with
  | nil => rfl
  | cons p c ih => obtain ⟨k, v⟩ := p; rw [chemMass, ih, wsum_cons, Rat.mul_comm]

theorem compHas_eq_true (c : Comp) (k : List Char) : compHas c k = true ↔ k ∈ c.map (·.1) := by
  induction c with
  | nil => simp [compHas]
  | cons p c ih =>
    obtain ⟨k', v⟩ := p
    rw [compHas, Bool.or_eq_true, ih, List.map_cons, List.mem_cons, beq_iff_eq, eq_comm]

theorem relabel1_eq (c : Comp) (el lab : List Char) : relabel1 c el lab = Dict.relabel1 c el lab := by
  unfold relabel1 Dict.relabel1
  by_cases hm : el ∈ c.map (·.1)
  · rw [if_pos ((compHas_eq_true c el).2 hm)]
    by_cases he : el = lab
    · rw [if_pos he, if_neg fun h => h.2 he]
    · rw [if_neg he, if_pos ⟨hm, he⟩, compAdd1_eq, compGet_eq]; rfl
  · rw [if_neg fun h => hm ((compHas_eq_true c el).1 h), if_neg fun h => hm h.1]

theorem relabel_eq (c : Comp) (m : LabelMap) : relabel c m = Dict.relabel c m := by
  unfold relabel Dict.relabel
  simp only [relabel1_eq]

theorem chemMass_compAdd1 (em : List Char → Rat) (c : Comp) (k : List Char) (v : Rat) :
    chemMass em (compAdd1 c k v) = chemMass em c + v * em k := by
  rw [chemMass_eq, chemMass_eq, compAdd1_eq, wsum_alter_add, mul_comm]

theorem chemMass_compAdd (em : List Char → Rat) (c d : Comp) :
    chemMass em (compAdd c d) = chemMass em c + chemMass em d := by
  rw [chemMass_eq, chemMass_eq, chemMass_eq, compAdd_eq]; exact Dict.wsum_addAll em c d

theorem chemMass_dropZeros (em : List Char → Rat) (c : Comp) : chemMass em (dropZeros c) = chemMass em c := by
  rw [chemMass_eq, chemMass_eq]; exact wsum_filter_ne_zero em c

theorem chemMass_append (em : List Char → Rat) (c d : Comp) :
    chemMass em (c ++ d) = chemMass em c + chemMass em d := by
  rw [chemMass_eq, chemMass_eq, chemMass_eq]; exact wsum_append em c d

/-- `(AssocList.keys c).Nodup` unfolded, so that a proof of it passes to `AssocList` / `Dict` as it stands -/
def NodupKeys (c : Comp) : Prop := (c.map (·.1)).Nodup

theorem nodupKeys_nil : NodupKeys [] := List.nodup_nil

theorem compGet_of_not_mem (c : Comp) (k : List Char) (h : k ∉ c.map (·.1)) : compGet c k = 0 := by
  rw [compGet_eq, lookup_eq_none_iff.2 h]; rfl

theorem nodupKeys_compAdd1 (c : Comp) (k : List Char) (v : Rat) (h : NodupKeys c) : NodupKeys (compAdd1 c k v) :=
  compAdd1_eq c k v ▸ nodup_keys_alter _ k h

theorem nodupKeys_compAdd (c d : Comp) (h : NodupKeys c) : NodupKeys (compAdd c d) :=
  compAdd_eq c d ▸ Dict.nodup_addAll c d h

theorem compGet_compAdd (c d : Comp) (x : List Char) (hn : NodupKeys d) :
    compGet (compAdd c d) x = compGet c x + compGet d x := by
  rw [compGet_eq, compGet_eq, compGet_eq, compAdd_eq]; exact Dict.lookup_addAll c d x hn

/-- **one relabelling step shifts the mass by count × (label mass − element mass)** -/
theorem chemMass_relabel1 (em : List Char → Rat) (c : Comp) (el lab : List Char) (hn : NodupKeys c) :
    chemMass em (relabel1 c el lab) = chemMass em c + compGet c el * (em lab - em el) := by
  rw [chemMass_eq, chemMass_eq, relabel1_eq, compGet_eq]; exact Dict.relabel1_shift em c el lab hn

theorem nodupKeys_relabel1 (c : Comp) (el lab : List Char) (h : NodupKeys c) : NodupKeys (relabel1 c el lab) :=
  relabel1_eq c el lab ▸ Dict.nodup_relabel1 c el lab h

theorem chemMass_compScale (em : List Char → ℚ) (c : Comp) (k : ℚ) : chemMass em (compScale c k) = k * chemMass em c := by
  rw [chemMass_eq, chemMass_eq]; exact RatSum.wsum_scale em k c

theorem chemMass_relabel_mass (em : List Char → Rat) (lm : LabelMap) (c : Comp) (h : NodupKeys c) :
    chemMass em (relabel c lm) = chemMass (Dict.labelMu lm em) c := by
  rw [chemMass_eq, chemMass_eq, relabel_eq]; exact Dict.relabel_mass em lm c h

end Dict

/-- the shift a label map produces on a composition, entry by entry (each entry sees the result of the previous ones) -/
def labelShift (em : List Char → Rat) : Comp → LabelMap → Rat
  | _, [] => 0
  | c, (el, lab) :: r => compGet c el * (em lab - em el) + labelShift em (relabel1 c el lab) r

theorem chemMass_relabel (em : List Char → Rat) (lm : LabelMap) (c : Comp) (hn : NodupKeys c) :
    chemMass em (relabel c lm) = chemMass em c + labelShift em c lm := by
  induction lm generalizing c with
  | nil => simp [relabel, labelShift]
  | cons p lm ih =>
    obtain ⟨el, lab⟩ := p
    have : relabel c ((el, lab) :: lm) = relabel (relabel1 c el lab) lm := rfl
    rw [this, ih _ (nodupKeys_relabel1 c el lab hn), chemMass_relabel1 em c el lab hn]
    simp only [labelShift]; ring

/-- one relabelling step on a count function: the right-hand side of `Dict.lookup_relabel1` -/
def relabelG {K : Type} [DecidableEq K] (g : K → ℚ) (el lab : K) : K → ℚ :=
  if el = lab then g else fun x => if x = el then 0 else g x + (if x = lab then g el else 0)

/-- the label shift of a count function. It stands beside the change of mass function (`chemMass_relabel_mass`) because
`Coherent.term` compares counts: the shift of a sum of dicts is the sum of the shifts (`shiftG_add`), which the weight form
cannot say of two dicts that only have the same counts. -/
def shiftG {K : Type} [DecidableEq K] (em : K → ℚ) : (K → ℚ) → List (K × K) → ℚ
  | _, [] => 0
  | g, (el, lab) :: r => g el * (em lab - em el) + shiftG em (relabelG g el lab) r

theorem compGet_relabel1_G (c : Comp) (el lab : List Char) :
    compGet (relabel1 c el lab) = relabelG (compGet c) el lab := by
  funext x
  rw [compGet_eq, relabel1_eq, Dict.lookup_relabel1, relabelG]
  simp only [← compGet_eq]
  split <;> rfl

theorem labelShift_eq_shiftG (em : List Char → ℚ) (lm : LabelMap) (c : Comp) :
    labelShift em c lm = shiftG em (compGet c) lm := by
  induction lm generalizing c with
  | nil => rfl
  | cons p lm ih =>
    obtain ⟨el, lab⟩ := p
    simp only [labelShift, shiftG, ih, compGet_relabel1_G]

theorem compGet_relabel1_other (c : Comp) (el lab x : List Char) (h1 : x ≠ el) (h2 : x ≠ lab) :
    compGet (relabel1 c el lab) x = compGet c x := by
  rw [compGet_relabel1_G, relabelG]
  by_cases he : el = lab
  · rw [if_pos he]
  · rw [if_neg he]; simp only [if_neg h1, if_neg h2, add_zero]

theorem relabelG_add {K : Type} [DecidableEq K] (g h : K → ℚ) (el lab : K) :
    relabelG (fun x => g x + h x) el lab = fun x => relabelG g el lab x + relabelG h el lab x := by
  unfold relabelG
  by_cases he : el = lab
  · simp [he]
  · simp only [if_neg he]
    funext x
    by_cases hx : x = el
    · simp [hx]
    · by_cases hl : x = lab
      · subst hl
        have : ¬ x = el := hx
        simp only [if_neg this, if_true]; ring
      · simp [hx, hl]

theorem shiftG_add {K : Type} [DecidableEq K] (em : K → ℚ) (lm : List (K × K)) (g h : K → ℚ) :
    shiftG em (fun x => g x + h x) lm = shiftG em g lm + shiftG em h lm := by
  induction lm generalizing g h with
  | nil => simp [shiftG]
  | cons p lm ih =>
    obtain ⟨el, lab⟩ := p
    simp only [shiftG, relabelG_add, ih]; ring

theorem relabelG_eq_zero {K : Type} [DecidableEq K] (g : K → ℚ) (el lab x : K) (hx : g x = 0) (hel : g el = 0) :
    relabelG g el lab x = 0 := by
  by_cases he : el = lab
  · rw [relabelG, if_pos he]; exact hx
  · rw [relabelG, if_neg he]; simp only [hx, hel, ite_self, add_zero]

theorem shiftG_eq_zero {K : Type} [DecidableEq K] (em : K → ℚ) (lm : List (K × K)) (g : K → ℚ)
    (h : ∀ p ∈ lm, g p.1 = 0) : shiftG em g lm = 0 := by
  induction lm generalizing g with
  | nil => rfl
  | cons p lm ih =>
    obtain ⟨el, lab⟩ := p
    have hel : g el = 0 := h (el, lab) (by simp)
    simp only [shiftG, hel, zero_mul, zero_add]
    exact ih _ fun q hq => relabelG_eq_zero g el lab q.1 (h q (by simp [hq])) hel

theorem shiftG_zero {K : Type} [DecidableEq K] (em : K → ℚ) (lm : List (K × K)) : shiftG em (fun _ => 0) lm = 0 :=
  shiftG_eq_zero em lm _ fun _ _ => rfl

theorem labelShift_zero (em : List Char → Rat) (lm : LabelMap) (c : Comp) (h : ∀ p ∈ lm, compGet c p.1 = 0) :
    labelShift em c lm = 0 := by
  rw [labelShift_eq_shiftG]
  exact shiftG_eq_zero em lm _ h

theorem chemMass_seqCompOf_sum (E : Env) (ν : List Char → ℚ) (s : List Char) (acc : Comp) :
    chemMass ν (seqCompOf E s acc) = chemMass ν acc + (s.map fun x => chemMass ν (E.aaComp x)).sum := by
  induction s generalizing acc with
  | nil => simp [seqCompOf]
  | cons x s ih => simp only [seqCompOf, ih, chemMass_compAdd, List.map_cons, List.sum_cons]; ring

theorem chemMass_seqCompOf (E : Env) (hres : ∀ x, E.res x = chemMass E.em (E.aaComp x)) (s : List Char) (acc : Comp) :
    chemMass E.em (seqCompOf E s acc) = chemMass E.em acc + sumRes E s := by
  rw [chemMass_seqCompOf_sum, sumRes_eq_sum, funext hres]

theorem nodupKeys_seqCompOf (E : Env) (s : List Char) (acc : Comp) (h : NodupKeys acc) : NodupKeys (seqCompOf E s acc) := by
  induction s generalizing acc with
  | nil => exact h
  | cons c s ih => exact ih _ (nodupKeys_compAdd acc _ h)

theorem sequenceComposition_congr (E : Env) (a b : Annotation) (h : a.seq = b.seq) :
    sequenceComposition E a = sequenceComposition E b := by
  unfold sequenceComposition; rw [h]

theorem nodupKeys_sequenceComposition (E : Env) (a : Annotation) : NodupKeys (sequenceComposition E a) :=
  nodupKeys_compAdd _ _ (nodupKeys_compAdd _ _ (nodupKeys_seqCompOf E a.seq [] nodupKeys_nil))

theorem nodupKeys_compSum (E : Env) (l : List Mod) (acc : Comp) (h : NodupKeys acc) : NodupKeys (compSum E acc l) := by
  induction l generalizing acc with
  | nil => exact h
  | cons m l ih => exact ih _ (nodupKeys_compAdd acc _ h)

theorem nodupKeys_modComposition (E : Env) (a : Annotation) : NodupKeys (modComposition E a) := by
  unfold modComposition
  apply nodupKeys_compAdd1
  apply nodupKeys_compSum
  apply nodupKeys_compSum
  apply nodupKeys_compSum
  split
  · apply nodupKeys_compSum
    apply nodupKeys_compSum
    exact nodupKeys_compSum E _ [] nodupKeys_nil
  · apply nodupKeys_compSum
    exact nodupKeys_compSum E _ [] nodupKeys_nil

theorem absentRuleBad_static_none (E : Env) (a : Annotation) (h : a.static = none) : absentRuleBad E a = false := by
  simp [absentRuleBad, h, parseStaticMods]

theorem absentRuleBad_isotope (E : Env) (a : Annotation) (L : Option (List Mod)) :
    absentRuleBad E { a with isotope := L } = absentRuleBad E a := rfl

theorem compMassOf_of_condense (E : Env) (a c : Annotation) (h : condenseStatic a = .ok c)
    (hrule : absentRuleBad E a = false) : compMassOf E c = compMassOf E a := by
  unfold compMassOf
  rw [condenseStatic_idem a c h, h, hrule, absentRuleBad_static_none E c (condenseStatic_static a c h)]

theorem massOf_of_condense (E : Env) (a c : Annotation) (h : condenseStatic a = .ok c)
    (hrule : absentRuleBad E a = false) : massOf E c = massOf E a := by
  unfold massOf massLabel
  rw [(condenseStatic_untouched a c h).1, massFast_of_condense E a c h, compMassOf_of_condense E a c h hrule]

/-- the composition path of `mass`, unfolded once -/
theorem massLabel_ok (E : Env) (a c : Annotation) (lm : LabelMap) (hc : condenseStatic a = .ok c)
    (hbad : (allMods c).any (isBad E) = false) (hrule : absentRuleBad E a = false)
    (hl : c.isotope.elim (.ok []) (parseIsotopeMods E.knownLabel) = .ok lm) :
    massLabel E a = .ok (chemMass E.em (relabel (sequenceComposition E c) lm) +
      chemMass E.em (if E.useIsotopeOnMods then relabel (modComposition E c) lm else modComposition E c) +
      deltaMass E c) := by
  simp only [massLabel, compMassOf, hc, hbad, hrule, Bool.or_self, Bool.false_eq_true, if_false]
  rcases hi : c.isotope with _ | L <;> rw [hi] at hl
  · cases hl
    simp only [chemMass_dropZeros, chemMass_compAdd, chemMass, zero_add]
  · simp only [show parseIsotopeMods E.knownLabel L = .ok lm from hl, chemMass_dropZeros, chemMass_compAdd, chemMass,
      zero_add]

end AbsMass
end Pept
