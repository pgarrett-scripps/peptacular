import PeptVerif.Lemmas.ModDbBranch
/-!
Spelling invariance of the resolver model for ANY tables that satisfy the (kernel-checkable) hygiene facts
`VocabFacts`; instantiated with the generated tables in `Props/C10.lean`.  Mathlib-free.
-/
namespace ModDb
open Formula KSort
open ModDbGeneric (signed)

/-- what the table checks of `Props/C10Tab*.lean` establish -/
structure VocabFacts (T : Tables) : Prop where
  uKeys : KeysOK T.unimod
  pKeys : KeysOK T.psimod
  xKeys : KeysOK T.xlmod
  uClean : ∀ e ∈ T.unimod, keyClean e.id = true ∧ keyClean e.name = true
  pClean : ∀ e ∈ T.psimod, keyClean e.id = true ∧ keyClean e.name = true
  xClean : ∀ e ∈ T.xlmod, keyClean e.id = true ∧ keyClean e.name = true
  uNum : ∀ e ∈ T.unimod, convertType e.name = .str
  pNum : ∀ e ∈ T.psimod, convertType e.name = .str
  cross : ∀ e ∈ T.unimod, e.name ∉ collisions → notPsiKey T e.name

/-- a prefixed spelling is never a key of a clean vocabulary -/
theorem notKey_of_prefixed {db : List Entry} (hclean : ∀ e ∈ db, keyClean e.id = true ∧ keyClean e.name = true)
    {s : Str} (hs : hasPrefix reserved s = true) : byId db s = none ∧ byName db s = none := by
  constructor
  · apply lookupLast_none
    intro e he heq
    have := (keyClean_unpack (hclean e he).1).2.2.1
    rw [heq, hs] at this; cases this
  · apply lookupLast_none
    intro e he heq
    have := (keyClean_unpack (hclean e he).2).2.2.1
    rw [heq, hs] at this; cases this

/-- the spelling `s` means the entry `e`: both mass kinds (or `e`'s own error) and the composition -/
structure Resolves (T : Tables) (s : Str) (e : Entry) : Prop where
  mass : ∀ mono, modMass T s mono = entryMass T e mono
  comp : modComp T s = entryCompParsed e

/-- a single alternative that the dispatch chains hand to `_get_mass` / `_get_comp` of the vocabulary `db` with a key
under which `db` finds `e` -/
theorem resolves_of_route {T : Tables} {db : List Entry} {e : Entry} {s k : Str} (h124 : 124 ∉ s) (hs : signed k = false)
    (hf : findEntry db k = some e)
    (hroute : (∀ mono, parseModMass T s mono = (getMass T db k mono).map some) ∧ parseModComp T s = compOfKey db k) :
    Resolves T s e :=
  ⟨fun mono => modMass_of_single mono h124 (by rw [hroute.1, getMass_of_find mono hs hf]),
    modComp_of_single h124 (by rw [hroute.2, compOfKey_of_find hs hf])⟩

theorem prefixed_resolves {T : Tables} {b : Branch} {ps : List Str} {db : List Entry} (hf : Family T b ps db)
    (hk : KeysOK db) (hclean : ∀ e ∈ db, keyClean e.id = true ∧ keyClean e.name = true) {e : Entry} (he : e ∈ db)
    {p' : Str} (hp : lower p' ∈ ps)
    (hP : b = .unimod → ∀ k, isDbStr pPsi T.psimod (p' ++ k) = false) :
    Resolves T (p' ++ e.name) e ∧ Resolves T (p' ++ e.id) e := by
  obtain ⟨_, _, _, _, h124⟩ := spelled_decomp (hf.good _ hp) rfl
  have hcn := keyClean_unpack (hclean e he).2
  have hci := keyClean_unpack (hclean e he).1
  exact ⟨resolves_of_route (by simp [h124, hcn.2.1]) hcn.2.2.2 (findEntry_name hk he)
      (parseMod_prefixed hf hp hcn.1 fun h => hP h _),
    resolves_of_route (by simp [h124, hci.2.1]) hci.2.2.2 (findEntry_id hk he) (parseMod_prefixed hf hp hci.1 fun h => hP h _)⟩

theorem bare_resolves {T : Tables} {b : Branch} {ps : List Str} {db : List Entry} (hf : Family T b ps db)
    (hk : KeysOK db) {e : Entry} (he : e ∈ db) (hc : keyClean e.name = true) (hnum : convertType e.name = .str)
    (hb : ∀ c, spelledBranch c (isDbStr pPsi T.psimod e.name) (isDbStr pUnimod T.unimod e.name) [] = b) :
    Resolves T e.name e :=
  have hcn := keyClean_unpack hc
  resolves_of_route hcn.2.1 hcn.2.2.2 (findEntry_name hk he) (parseMod_bare hf hc hnum hb)

theorem isDbStr_name {ps : List Str} {db : List Entry} (hk : KeysOK db) {e : Entry} (he : e ∈ db) :
    isDbStr ps db e.name = true := by
  rw [isDbStr, Bool.or_assoc, isDb_name hk he, Bool.or_true]

section
variable {T : Tables} (F : VocabFacts T)
include F

theorem resolves_unimod_prefixed {e : Entry} (he : e ∈ T.unimod) {p' : Str} (hp : lower p' ∈ pUnimod) :
    Resolves T (p' ++ e.name) e ∧ Resolves T (p' ++ e.id) e := by
  have hr := Family.reserved (T := T) .unimod _ hp
  -- the whole text has a reserved prefix, so it is no PSI-MOD key, and its prefix is none of PSI-MOD's
  exact prefixed_resolves .unimod F.uKeys F.uClean he hp fun _ k =>
    isDbStr_other_prefix T.psimod k hr (Family.reserved (T := T) .psi)
      (pUnimod_not_pPsi _ hp)
      (notKey_of_prefixed F.pClean (hasPrefix_spelled hr k))

/-- the bare Unimod name, unless it is also a PSI-MOD name -/
theorem resolves_unimod_bare {e : Entry} (he : e ∈ T.unimod) (hn : e.name ∉ collisions) : Resolves T e.name e := by
  have hc := (F.uClean e he).2
  refine bare_resolves .unimod F.uKeys he hc (F.uNum e he) fun c => ?_
  have hP : isDbStr pPsi T.psimod e.name = false := by
    rw [isDbStr, hasPrefix_sub (Family.reserved (T := T) .psi) (keyClean_unpack hc).2.2.1, (F.cross e he hn).1,
      (F.cross e he hn).2]
    rfl
  rw [hP, isDbStr_name F.uKeys he]
  cases c <;> rfl

theorem resolves_psi_bare {e : Entry} (he : e ∈ T.psimod) : Resolves T e.name e :=
  bare_resolves .psi F.pKeys he (F.pClean e he).2 (F.pNum e he) fun c => by
    rw [isDbStr_name F.pKeys he]; cases c <;> rfl

end

end ModDb
