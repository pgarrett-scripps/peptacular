import PeptVerif.Lemmas.CompCalc
import PeptVerif.Lemmas.CompDict
/-! Isotope-label substitution (C02 label path): relabelling a composition shifts its mass by count × (m(label) − m(element)). -/
namespace Pept
open Chem Mass Spec CompCalc

namespace Label

/-- the keys of a composition (dict) are distinct -/
def NodupKeys (c : Comp) : Prop := (c.map (·.1)).Nodup

/-- count of one key (0 when absent) -/
def compGet (c : Comp) (e : Elem) : Rat := (lookup e c).getD 0

theorem nodupKeys_eq_KN (c : Comp) : NodupKeys c = Fragment.KN c := rfl

theorem nodup_nil : NodupKeys [] := List.nodup_nil

theorem nodup_addKey (c : Comp) (e : Elem) (k : Rat) (h : NodupKeys c) : NodupKeys (addKey c e k) := by
  rw [nodupKeys_eq_KN] at h ⊢; exact Fragment.KN_addKey c e k h

theorem nodup_addAll (a b : Comp) (h : NodupKeys a) : NodupKeys (addAll a b) := by
  rw [nodupKeys_eq_KN] at h ⊢; exact Fragment.KN_addAll a b h

/-- **one label entry shifts the mass by count(element) × (m(label) − m(element))** -/
theorem relabel1_shift (ν : Elem → Rat) (c : Comp) (el lab : Elem) (h : NodupKeys c) :
    chemMassL ν (relabel1 c el lab) = chemMassL ν c + (if el = lab then 0 else compGet c el * (ν lab - ν el)) ∧
    NodupKeys (relabel1 c el lab) := by
  rw [nodupKeys_eq_KN] at h ⊢
  refine ⟨?_, Fragment.relabel1_KN c el lab h⟩
  rw [Fragment.KN_def] at h
  rw [relabel1_eq, chemMassL_eq, chemMassL_eq, Dict.relabel1_shift ν c el lab h, compGet, lookup_eq]
  split
  · next he => rw [he]; ring
  · rfl

/-- the shift of a whole label map, each entry seeing the composition left by the previous ones -/
def labelShift (ν : Elem → Rat) : Comp → List (Key × Key) → Rat
  | _, [] => 0
  | c, (el, lab) :: r =>
    (if el = lab then 0 else compGet c el * (ν lab - ν el)) + labelShift ν (relabel1 c el lab) r

theorem relabel_shift (ν : Elem → Rat) (c : Comp) (lm : List (Key × Key)) (h : NodupKeys c) :
    chemMassL ν (relabel c lm) = chemMassL ν c + labelShift ν c lm := by
  unfold relabel
  induction lm generalizing c with
  | nil => simp [labelShift]
  | cons p lm ih =>
    obtain ⟨el, lab⟩ := p
    obtain ⟨hm, hn⟩ := relabel1_shift ν c el lab h
    rw [List.foldl_cons, ih _ hn, hm]
    simp only [labelShift]
    ring

/-- the mass of the charge carrier in the library's terms: `z` (precursor) resp. `z − 1` (fragment) hydrogen cations plus,
for a fragment, the ion-type entry of `FRAGMENT_ION_COMPOSITIONS` -/
def carrierMassLib (mono : Bool) (ion : Key) (z : Int) : Rat :=
  if ion = ionP || ion = ionN then (z : Rat) * hplus mono
  else ((z : Rat) - 1) * hplus mono + (fragmentIonAdjMass mono ion).getD 0

theorem carrierMassLib_eq (mono : Bool) (ion : Key) (z : Int) :
    carrierMassLib mono ion z = carrierCount ion z * hplus mono + ownCarrierMass mono ion := by
  unfold carrierMassLib carrierCount ownCarrierMass
  split <;> simp

/-- **the label path = sum of parts with the element substituted** (static rules and adduct lists aside).  `hknown` (every
element of the composition has a mass) is asked of the result because `Consistent` leaves the elements of a modification's
composition free; from hypotheses on the inputs it follows by `addAlls_inv` (as C04's `compMass_labelled` does) -/
theorem mass_label_of_tables (hI : ionTablesOk = true) (env : Env) (a : Annotation) (o : Opts)
    (L : List Mod) (lm : List (Key × Key)) (hL : effLabels a o = some L) (hLne : L ≠ [])
    (hparse : parseIsotopeMods L = .ok lm)
    (hstatic : a.static = none) (had : o.adducts = none) (had' : a.adducts = none)
    (hres : KnownResidues a.seq) (hcons : AllConsistent env o.mono (writtenMods a))
    (hadj : (lookup o.ion neutralAdj).isSome = true)
    (hion : o.ion = ionP ∨ o.ion = ionN ∨ (lookup o.ion Gen.ionComp).isSome = true)
    (hknown : ∀ c d, compMass env a o.ion (effCharge a o) o.isotope none (some L) o.useIsotopeOnMods = .ok (c, d) →
      c.all (fun p => (elemMass o.mono p.1).isSome) = true) :
    ∃ sb mc d, NodupKeys sb ∧ NodupKeys mc ∧
      chemMassL (μ o.mono) sb = resSum o.mono a.seq + (fragmentAdjMass o.mono o.ion).getD 0
        + carrierMassLib o.mono o.ion ((effCharge a o).getD 0) ∧
      chemMassL (μ o.mono) mc + d + gapSum env o.mono (placedMods a o.ion)
        = modsValue env o.mono (placedMods a o.ion) + (o.isotope : Rat) * Gen.neutronMass ∧
      mass env a o = .ok (roundOpt (chemMassL (μ o.mono) sb + labelShift (μ o.mono) sb lm
        + (chemMassL (μ o.mono) mc + (if o.useIsotopeOnMods then labelShift (μ o.mono) mc lm else 0)) + d + o.loss)
        o.precision) := by
  obtain ⟨adj, hadj⟩ := Option.isSome_iff_exists.mp hadj
  obtain ⟨-, -, -, -, f7, f3, -⟩ := override_fields a (effCharge a o) none (some L)
  have hz : (overrideArgs a (effCharge a o) none (some L)).charge.getD 0 = (effCharge a o).getD 0 := by
    rw [f7]; unfold effCharge; cases o.charge <;> cases a.charge <;> rfl
  obtain ⟨car, hcar, hcc, hcm, -⟩ := defaultCarrier_ok hI o.mono o.ion ((effCharge a o).getD 0) hion
  have hadd : (overrideArgs a (effCharge a o) none (some L)).adducts = none := f3.trans had'
  obtain ⟨K, hK, hcomp'⟩ := compMass_labels env a o.ion (effCharge a o) o.isotope none o.useIsotopeOnMods L lm hparse hstatic hres
    hcons.ready adj hadj car (by rw [← hcar]; unfold carrierComp effAdducts; rw [hadd, hz]) (by rw [hadd]; simp) (fun _ => hcc)
  have nadd : ∀ l, NodupKeys (addAlls [] l) := fun l => nodupKeys_eq_KN _ ▸ Fragment.KN_addAlls [] l List.nodup_nil
  have nsb : NodupKeys (addAll (addAll (resComp a.seq) adj) car) := nodup_addAll _ _ (nodup_addAll _ _ (nadd _))
  have nmc : NodupKeys (addKey (modsCompOf env K) kNn (o.isotope : Rat)) := nodup_addKey _ _ _ (nadd _)
  refine ⟨_, _, sumF (deltaPart env) K, nsb, nmc, ?_, ?_, ?_⟩
  · have hfa : fragmentAdjMass o.mono o.ion = some (constMass o.mono adj) := congrArg (Option.map (constMass o.mono)) hadj
    rw [chemMassL_addAll, chemMassL_addAll, resComp_resSum, hcm, carrierMassLib_eq, hfa, constMass_eq_mu]
    rfl
  · have hv := modsValue_split env o.mono K fun m hm => hcons m (placedMods_subset a o.ion m (hK.subset hm))
    rw [modsValue_eq_sumF, gapSum_eq_sumF] at hv
    rw [chemMassL_addKey, mu_neutron, modsCompOf_mass, modsValue_eq_sumF,
      gapSum_eq_sumF, ← sumF_perm (gapOf env o.mono) hK, ← sumF_perm (modValue env o.mono) hK]
    linarith
  · obtain ⟨m, ms, rfl⟩ : ∃ m ms, L = m :: ms := by
      cases L with
      | nil => exact absurd rfl hLne
      | cons m ms => exact ⟨m, ms, rfl⟩
    obtain ⟨hB, hZ⟩ := noBZ a.seq hres
    rw [mass, massWith_labels _ env a o ⟨effCharge a o, none, some (m :: ms)⟩ m ms
      (by unfold resolveArgs; rw [had, had', hL]; rfl) rfl hB hZ, hcomp', ExceptList.ok_bind]
    simp only
    rw [chemMass_ok o.mono _ (hknown _ _ hcomp'), ExceptList.ok_bind, ExceptList.pure_eq_ok]
    apply congrArg Except.ok
    apply congrArg (fun q => roundOpt q o.precision)
    rw [chemMassL_dropZeros, chemMassL_addAll, chemMassL_addAll, chemMassL_nil, relabel_shift _ _ lm nsb]
    cases hu : o.useIsotopeOnMods
    · simp only [Bool.false_eq_true, if_false]; ring
    · simp only [if_true]
      rw [relabel_shift _ _ lm nmc]; ring

end Label
end Pept
