import PeptVerif.Model.Chem
import PeptVerif.Generated.ElementMasses
import PeptVerif.Lemmas.AssocList
/-!
The two derived element-mass tables of `Model/Chem.lean` equal the generated literals (`tables_lit`, the one kernel evaluation
of the nuclide table); `elemMass = elemMassLit = elemMassFast` as functions (`elemMassFast` looks the most used keys up in the
short front table first), for table obligations that look elements up thousands of times.  Mathlib-free.

Trap.  The kernel can bring `elemMass mono e` to weak head normal form only by computing `isotopicMasses` from the 354
nuclides, whatever `e` is, and it does so whenever an applied `elemMass` (or a `match` on one, as in `chemStep`)
meets a different term in a definitional check, since it unfolds the matcher first: after `unfold`, `simp only [elemMass]`,
`show`, `rfl`.  Unfolding the unapplied constant (`elemMass_lit`) compares two equal lambdas.  Recipe: general lemmas generalise
`elemMass mono` to a variable; table facts `delta` the definitions that hide it (this also opens partial applications
such as `constMass mono`), `rw [elemMass_fast]`, then evaluate.
-/
namespace Pept.Chem

/-- both at once: the two tables are computed from the same grouping of the nuclides, which the kernel then evaluates once -/
theorem tables_lit : isotopicMasses = Gen.isotopicLit ∧ averageMasses = Gen.averageLit := by decide +kernel

theorem isotopic_lit_ok : isotopicMasses = Gen.isotopicLit := tables_lit.1
theorem average_lit_ok : averageMasses = Gen.averageLit := tables_lit.2

theorem lookup_eq {β} (k : Nat) (l : List (Nat × β)) : lookup k l = l.lookup k := by
  induction l with
  | nil => rfl
  | cons p l ih => obtain ⟨a, v⟩ := p; rw [lookup, AssocList.lookup_cons, ih]

theorem lookup_cons_self {β} (k : Nat) (v : β) (r : List (Nat × β)) : lookup k ((k, v) :: r) = some v := if_pos rfl

theorem lookup_cons_ne {β} {k k' : Nat} (h : k' ≠ k) (v : β) (r : List (Nat × β)) :
    lookup k ((k', v) :: r) = lookup k r := if_neg h

theorem mem_of_lookup {β} (k : Nat) (l : List (Nat × β)) (v : β) (h : lookup k l = some v) : (k, v) ∈ l :=
  AssocList.mem_of_lookup (lookup_eq k l ▸ h)

theorem lookup_isSome_of_key {β} (k : Nat) (l : List (Nat × β)) (h : k ∈ l.map (·.1)) : (lookup k l).isSome = true := by
  rw [lookup_eq]
  exact Option.isSome_iff_ne_none.2 fun hn => AssocList.lookup_eq_none_iff.1 hn h

/-- one pass over each table; "every average key is an element symbol" and "every element symbol has an average" both follow -/
theorem average_keys :
    Gen.averageLit.map (·.1) = (Gen.isotopicLit.filter (fun p => !isIsotopeKey p.1)).map (·.1) := by decide +kernel

/-- every non-isotope key of the isotopic table has an average mass (so the source's `AVERAGE_ATOMIC_MASSES[element]` cannot
raise where the model answers; used by `Props/C02Gen`) -/
theorem avg_of_iso (e : Elem) (mi : Rat) (hi : lookup e isotopicMasses = some mi) (hiso : isIsotopeKey e = false) :
    ∃ a, lookup e averageMasses = some a := by
  rw [isotopic_lit_ok] at hi
  rw [average_lit_ok]
  refine Option.isSome_iff_exists.mp (lookup_isSome_of_key _ _ ?_)
  rw [average_keys]
  exact List.mem_map.mpr ⟨(e, mi), List.mem_filter.mpr ⟨mem_of_lookup e _ mi hi, by rw [hiso]; rfl⟩, rfl⟩

/-- `elemMass` over the literal tables -/
def elemMassLit (mono : Bool) (e : Elem) : Option Rat :=
  match lookup e Gen.isotopicLit with
  | none =>
    if e = kE then some Gen.electronMass
    else if e = kPp then some Gen.protonMass
    else if e = kNn then some Gen.neutronMass
    else none
  | some m =>
    if mono then some m
    else if isIsotopeKey e then some m
    else lookup e Gen.averageLit

theorem elemMass_lit : elemMass = elemMassLit := by
  delta elemMass
  funext mono e
  rw [isotopic_lit_ok, average_lit_ok]
  rfl

theorem elemMass_eq_lit (mono : Bool) (e : Elem) : elemMass mono e = elemMassLit mono e := by rw [elemMass_lit]

/-- the front table agrees with the two full tables -/
theorem front_ok : Gen.frontLit.all (fun p => decide (lookup p.1 Gen.isotopicLit = some p.2.1) &&
    decide (lookup p.1 Gen.averageLit = p.2.2)) = true := by decide +kernel

/-- `elemMass` with the most used keys looked up in the short front table first (kernel evaluation over thousands of
vocabulary compositions is dominated by these look-ups) -/
def elemMassFast (mono : Bool) (e : Elem) : Option Rat :=
  match lookup e Gen.frontLit with
  | some (m, a) => if mono then some m else if isIsotopeKey e then some m else a
  | none => elemMassLit mono e

theorem elemMassFast_eq (mono : Bool) (e : Elem) : elemMassFast mono e = elemMass mono e := by
  rw [elemMass_eq_lit]
  unfold elemMassFast
  cases hl : lookup e Gen.frontLit with
  | none => rfl
  | some p =>
    obtain ⟨m, a⟩ := p
    have hm := mem_of_lookup e _ (m, a) hl
    have hk := List.all_eq_true.mp front_ok (e, m, a) hm
    simp only [Bool.and_eq_true, decide_eq_true_eq] at hk
    obtain ⟨h1, h2⟩ := hk
    unfold elemMassLit
    rw [h1, h2]

theorem elemMass_fast : elemMass = elemMassFast := funext fun mono => funext fun e => (elemMassFast_eq mono e).symm

end Pept.Chem
