import PeptVerif.Model.ModDict
/-! Look-ups in `mod_dict`, `strip` + `add_mod_dict`, `create_annotation(**dict())`. Core Lean only. -/
namespace Pept

theorem lookup_optSeg {β : Type} (k k' : DKey) (f : β → DVal) (o : Option β) :
    (optSeg k' f o).lookup k = if k = k' then o.map f else none := by
  cases o with
  | none => simp [optSeg]
  | some x => by_cases h : k = k' <;> simp [optSeg, List.lookup_cons, h, beq_false_of_ne]

theorem lookup_idxSeg_named (o : Option (List (Int × List Mod))) (k : DKey) (h : ∀ i, k ≠ .idx i) :
    (idxSeg o).lookup k = none := by
  cases o with
  | none => rfl
  | some d =>
    induction d with
    | nil => rfl
    | cons p ps ih => rw [idxSeg, idxEntries, List.map_cons, List.lookup_cons, beq_false_of_ne (h p.1)]; exact ih

theorem intEntries_append (d d' : ModDict) : intEntries (d ++ d') = intEntries d ++ intEntries d' :=
  List.filterMap_append

theorem intEntries_optSeg {β : Type} (k : DKey) (f : β → DVal) (o : Option β) (h : ∀ i, k ≠ .idx i) :
    intEntries (optSeg k f o) = [] := by
  cases o with
  | none => rfl
  | some x => cases k <;> first | exact absurd rfl (h _) | rfl

theorem intEntries_idxSeg (o : Option (List (Int × List Mod))) : intEntries (idxSeg o) = o.getD [] := by
  cases o with
  | none => rfl
  | some d =>
    induction d with
    | nil => rfl
    | cons p ps ih => exact congrArg (p :: ·) ih

/-- `d` has the named fields of `a` under the named keys: what `'<key>' in d` / `d['<key>']` see -/
structure NamedFields (d : ModDict) (a : Annotation) : Prop where
  isotope : d.lookup .isotope = a.isotope.map .mods
  static : d.lookup .static = a.static.map .mods
  labile : d.lookup .labile = a.labile.map .mods
  unknown : d.lookup .unknown = a.unknown.map .mods
  nterm : d.lookup .nterm = a.nterm.map .mods
  cterm : d.lookup .cterm = a.cterm.map .mods
  intervals : d.lookup .intervals = a.intervals.map .ivs
  charge : d.lookup .charge = a.charge.map .charge
  adducts : d.lookup .adducts = a.adducts.map .mods

theorem namedFields_modDict (a : Annotation) : NamedFields (modDict a) a := by
  constructor <;>
    simp only [modDict, List.lookup_append, lookup_optSeg, lookup_idxSeg_named, ↓reduceIte, Option.or_none,
      Option.none_or, ne_eq, reduceCtorEq, not_false_eq_true, implies_true]

theorem namedFields_popMods (a : Annotation) : NamedFields (popMods a).1 a := by
  constructor <;>
    simp only [popMods, List.lookup_append, lookup_optSeg, ↓reduceIte, reduceCtorEq, Option.or_none, Option.none_or]

theorem intEntries_modDict (a : Annotation) : intEntries (modDict a) = a.internal.getD [] := by
  simp only [modDict, intEntries_append, intEntries_optSeg, intEntries_idxSeg, List.nil_append, ne_eq, reduceCtorEq,
    not_false_eq_true, implies_true]

theorem modDict_strip (a : Annotation) : modDict (strip a) = [] := by
  simp only [modDict, strip, optSeg, idxSeg, List.append_nil]

/-- a key whose entry was made from the field value `o` by `g`, read back by an `f` that undoes `g` -/
theorem onKey_of_lookup {β : Type} (d : ModDict) (k : DKey) (g : β → DVal) (o : Option β) (h : d.lookup k = o.map g)
    (f : DVal → Option β) (hf : ∀ x, f (g x) = some x) : onKey d k f none = o := by
  unfold onKey
  rw [h]
  cases o with
  | none => rfl
  | some x => exact hf x

/-- adding a dictionary to bare residues sets every named field to what the dictionary holds under its key and the
internal mods to the integer-keyed entries, in either append mode (nothing to append to) -/
theorem addModDict_of_namedFields {d : ModDict} {a : Annotation} (h : NamedFields d a) (s : List Char) (app : Bool) :
    addModDict { seq := s } d app =
      { a with seq := s, internal := if (intEntries d).length > 0 then some (intEntries d) else none } := by
  have hm : ∀ k o, d.lookup k = o.map .mods → onKey d k (addList none · app) none = o := fun k o hk =>
    onKey_of_lookup d k _ o hk _ fun l => by cases app <;> rfl
  have hi : onKey d .intervals (addIvs none · app) none = a.intervals :=
    onKey_of_lookup d _ _ _ h.intervals _ fun l => by cases app <;> rfl
  unfold addModDict
  simp only [hm _ _ h.isotope, hm _ _ h.static, hm _ _ h.labile, hm _ _ h.unknown, hm _ _ h.nterm, hm _ _ h.cterm,
    hm _ _ h.adducts, hi]
  rw [onKey_of_lookup d .charge _ _ h.charge _ fun _ => rfl]
  cases app <;> split <;> rfl

/-- `strip` then `add_mod_dict(mod_dict)` rebuilds every field; an *empty* internal dict comes back as None -/
theorem addModDict_strip_modDict (a : Annotation) (app : Bool) :
    addModDict (strip a) (modDict a) app = { a with internal := if a.internal = some [] then none else a.internal } := by
  rw [strip, addModDict_of_namedFields (namedFields_modDict a), intEntries_modDict]
  rcases a.internal with _ | _ | _ <;> rfl

theorem addModDict_strip_congr {a b : Annotation} (hs : a.seq = b.seq) (hd : modDict a = modDict b) (app : Bool) :
    addModDict (strip a) (modDict a) app = addModDict (strip b) (modDict b) app := by
  rw [strip, strip, hs, hd]

theorem fixList_modsInput (l : List Mod) : fixList (modsInput l) = l := by
  simp [fixList, modsInput, convertToMod, Function.comp_def]

theorem map_fixList_modsInput (o : Option (List Mod)) : (o.map modsInput).map fixList = o := by
  cases o <;> simp [fixList_modsInput]

theorem createAnnotation_dictArgs (a : Annotation) : createAnnotation (dictArgs a) = a := by
  cases a
  simp only [createAnnotation, dictArgs, map_fixList_modsInput]
  congr
  · rename_i internal _ _ _
    cases internal with
    | none => rfl
    | some d => simp [fixList_modsInput, Function.comp_def]
  · rename_i intervals _ _
    cases intervals with
    | none => rfl
    | some l => simp [fixIntervals, fixInterval, Function.comp_def]

end Pept
