import PeptVerif.Lemmas.Combinatoric
import PeptVerif.Model.CombinatoricText
import PeptVerif.Spec.ProForma
import PeptVerif.Lemmas.CanonFields
import PeptVerif.Lemmas.InternalLookup
/-! The text of an annotation without intervals is its start, its residues each followed by their own mods, and its end.
On a canonical annotation `wrap` changes the residues only, so a wrapped selection is canonical and its text is
`start ++ residues ++ end`. -/
namespace Pept

/-- residues with their own mods, written out -/
def resText (plus : Plus) (rs : List (Char × List Mod)) : List Char :=
  rs.flatMap fun r => r.1 :: serializeMods '[' ']' plus r.2

theorem serializeMiddle_noiv (plus : Plus) (p : Annotation) (h : p.intervals = none) :
    serializeMiddle plus p = resText plus (residues p) := by
  simp [serializeMiddle, serializeResidues_eq, h, ivMarks, resText, residues, List.flatMap_map]

theorem serialize_pieceAt (plus : Plus) (a : Annotation) (i : Nat) :
    serialize plus (pieceAt a i) = resText plus (residues (pieceAt a i)) := by
  rw [serialize, serializeMiddle_noiv plus _ rfl]
  exact (List.append_nil _).trans (List.nil_append _)

theorem resText_flatten (plus : Plus) (L : List (List (Char × List Mod))) :
    (L.map (resText plus)).flatten = resText plus L.flatten := by
  induction L with
  | nil => rfl
  | cons x xs ih => simp [resText, List.flatMap_append] at ih ⊢; rw [ih]

theorem components_eq_map_pieces (a : Annotation) : components a = (pieces a).map residues := rfl

theorem flatten_serialize_pieces (plus : Plus) (a : Annotation) (sel : List Annotation) (h : ∀ p ∈ sel, p ∈ pieces a) :
    (sel.map (serialize plus)).flatten = resText plus (sel.map residues).flatten := by
  rw [← resText_flatten, List.map_map]
  congr 1
  apply List.map_congr_left
  intro p hp
  have hp := h p hp
  rw [pieces, split_afterPop] at hp
  obtain ⟨i, _, rfl⟩ := List.mem_map.1 hp
  exact serialize_pieceAt plus a i

theorem okList_of_canonGlobal (p : Mod → Bool) (hp : ∀ m, p m = true → m.mult ≥ 1) (x : Option (List Mod))
    (h : canonGlobal p x = true) : okList x = true := by
  cases x with
  | none => rfl
  | some l =>
    obtain ⟨hne, hall⟩ := canonGlobal_some.1 h
    rw [okList, Bool.and_eq_true]
    exact ⟨by simpa using hne, List.all_eq_true.2 fun m hm => decide_eq_true (hp m (List.all_eq_true.1 hall m hm))⟩

theorem okList_of_canon (a : Annotation) (hc : canon a = true) :
    okList a.labile = true ∧ okList a.static = true ∧ okList a.isotope = true ∧ okList a.unknown = true ∧
    okList a.nterm = true ∧ okList a.cterm = true ∧ okList a.adducts = true := by
  have h := canon_fields a hc
  have opt : ∀ o c x, canonOptMods o c x = true → okList x = true :=
    fun o c x h => okList_of_canonGlobal _ (canonMod_mult o c) x (canonOptMods_eq o c ▸ h)
  refine ⟨opt _ _ _ h.labile, okList_of_canonGlobal _ canonStatic_mult _ h.static,
    okList_of_canonGlobal _ canonIsotope_mult _ h.isotope, opt _ _ _ h.unknown, opt _ _ _ h.nterm, opt _ _ _ h.cterm, ?_⟩
  refine okList_of_canonGlobal _ (fun m hm => ?_) _ (canonAdducts_iff.1 h.adducts).2
  rw [Bool.and_eq_true, decide_eq_true_eq] at hm; omega

theorem getInternal_canon (a : Annotation) (hc : canon a = true) (k : Int) :
    ((getInternal a k).getD []).all (canonMod '[' ']') = true := by
  have hint := (canon_fields a hc).internal
  rw [getInternal]
  cases hi : a.internal with
  | none => rfl
  | some d => exact lookup_canonInternalList (canonInternal_some_iff.1 (hi ▸ hint)).2 k

theorem mem_residues_canon (a : Annotation) (hc : canon a = true) (r : Char × List Mod) (hr : r ∈ residues a) :
    isAA r.1 = true ∧ r.2.all (canonMod '[' ']') = true := by
  obtain ⟨⟨c, i⟩, hq, rfl⟩ := List.mem_map.1 hr
  exact ⟨List.all_eq_true.1 (canon_fields a hc).allAA c (List.fst_mem_of_mem_zipIdx hq), getInternal_canon a hc i⟩

theorem map_normMult_canon (ms : List Mod) (h : ms.all (canonMod '[' ']') = true) : ms.map normMult = ms := by
  apply map_normMult_id
  apply List.all_eq_true.2
  intro m hm
  simpa using canonMod_mult _ _ m (List.all_eq_true.1 h m hm)

theorem canonInternalList_ents (rs : List (Char × List Mod)) (n : Int) (k : Nat) (lo : Int) (hlo : lo ≤ k)
    (hn : (k : Int) + rs.length ≤ n) (hall : ∀ r ∈ rs, r.2.all (canonMod '[' ']') = true) :
    canonInternalList n lo ((rs.zipIdx k).filterMap entF) = true := by
  induction rs generalizing k lo with
  | nil => rfl
  | cons r rs ih =>
    have hr := hall r List.mem_cons_self
    have hlen : ((k + 1 : Nat) : Int) + rs.length ≤ n := by rw [List.length_cons] at hn; omega
    have ih' := fun lo' hlo' => ih (k + 1) lo' hlo' hlen fun r' h' => hall r' (List.mem_cons_of_mem _ h')
    obtain ⟨c, _ | ⟨x, xs⟩⟩ := r
    · exact ih' lo (by omega)
    · have hk : (k : Int) < n := by rw [List.length_cons] at hn; omega
      exact canonInternalList_cons.2 ⟨hlo, hk, List.cons_ne_nil _ _, (map_normMult_canon _ hr).symm ▸ hr, ih' _ (by omega)⟩

theorem canonInternal_internalOf (sel : List (Char × List Mod)) (hall : ∀ r ∈ sel, r.2.all (canonMod '[' ']') = true) :
    canonInternal (Int.ofNat sel.length) (internalOf sel) = true := by
  have h := canonInternalList_ents sel (Int.ofNat sel.length) 0 0 (Int.le_refl _) (Int.le_of_eq (Int.zero_add _)) hall
  rw [internalOf_eq]
  generalize sel.zipIdx.filterMap entF = d at h
  cases d with
  | nil => rfl
  | cons p ps => exact canonInternal_some_iff.2 ⟨List.cons_ne_nil _ _, h⟩

theorem residues_wrap (a : Annotation) (sel : List (Char × List Mod)) :
    residues (wrap a sel) = sel.map fun r => (r.1, r.2.map normMult) := by
  apply List.ext_getElem
  · simp [residues, wrap]
  · intro i h1 h2
    have hi : i < sel.length := by simpa using h2
    rw [getElem_residues, modsAt_wrap a sel i hi, List.getElem_map]
    simp [wrap]

theorem residues_wrap_canon (a : Annotation) (sel : List (Char × List Mod))
    (hall : ∀ r ∈ sel, r.2.all (canonMod '[' ']') = true) : residues (wrap a sel) = sel := by
  rw [residues_wrap]
  conv => rhs; rw [← List.map_id sel]
  apply List.map_congr_left
  intro r hr
  simp [map_normMult_canon r.2 (hall r hr)]

/-- on a canonical annotation `normList` (what the text round trip does to a global modification list) is the identity
on every global field, so `wrap` replaces the residues only -/
theorem wrap_of_canon (a : Annotation) (hc : canon a = true) (sel : List (Char × List Mod)) :
    wrap a sel = { a with seq := sel.map (·.1), internal := internalOf sel, intervals := none } := by
  obtain ⟨h1, h2, h3, h4, h5, h6, h7⟩ := okList_of_canon a hc
  simp only [wrap, normList_id _ h1, normList_id _ h2, normList_id _ h3, normList_id _ h4, normList_id _ h5,
    normList_id _ h6, normList_id _ h7]

theorem canon_wrap (a : Annotation) (hc : canon a = true) (sel : List (Char × List Mod)) (hne : sel ≠ [])
    (hsel : ∀ r ∈ sel, r ∈ residues a) : canon (wrap a sel) = true := by
  have h := canon_fields a hc
  have hres := fun r hr => mem_residues_canon a hc r (hsel r hr)
  have hint := canonInternal_internalOf sel (fun r hr => (hres r hr).2)
  rw [wrap_of_canon a hc, canon_iff]
  refine ⟨?_, ?_, h.labile, h.static, h.isotope, h.unknown, h.nterm, ?_, rfl, h.cterm, h.adducts⟩
  · cases sel with
    | nil => exact absurd rfl hne
    | cons x xs => rfl
  · apply List.all_eq_true.2
    intro c hcm
    obtain ⟨r, hr, rfl⟩ := List.mem_map.1 hcm
    exact (hres r hr).1
  · rwa [List.length_map]

/-- the text the Python puts together is the serialization of the wrapped selection -/
theorem serialize_wrap (plus : Plus) (a : Annotation) (hc : canon a = true) (sel : List (Char × List Mod))
    (hsel : ∀ r ∈ sel, r ∈ residues a) :
    serialize plus (wrap a sel) = serializeStart plus a ++ resText plus sel ++ serializeEnd plus a := by
  have hres := fun r hr => (mem_residues_canon a hc r (hsel r hr)).2
  rw [serialize, serializeMiddle_noiv plus (wrap a sel) rfl, residues_wrap_canon a sel hres, wrap_of_canon a hc]
  rfl

end Pept
