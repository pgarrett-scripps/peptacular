import PeptVerif.Lemmas.Mass
import PeptVerif.Lemmas.AbsMass
import PeptVerif.Model.ConcreteEnv
/-! Unpacking a packed key and packing it again gives the key back (keys of at most 8 bytes), hence a composition of the
concrete model (`Nat` keys) and its decoded form (text keys) have the same mass. -/
namespace Pept
namespace Concrete
open Chem AbsMass

theorem toNat_ofNat_byte (n : ℕ) (h : n < 256) : (Char.ofNat n).toNat = n := by
  have : n.isValidChar := by left; omega
  simp [Char.ofNat, this, Char.ofNatAux, Char.toNat]

theorem keyOfChars_foldl (l : List Char) (a : ℕ) :
    l.foldl (fun a c => a * 256 + c.toNat) a = a * 256 ^ l.length + keyOfChars l := by
  unfold keyOfChars
  induction l generalizing a with
  | nil => simp
  | cons c l ih =>
    simp only [List.foldl_cons, List.length_cons]
    rw [ih (a * 256 + c.toNat), ih (0 * 256 + c.toNat)]
    ring

theorem keyOfChars_cons (c : Char) (l : List Char) : keyOfChars (c :: l) = c.toNat * 256 ^ l.length + keyOfChars l := by
  have := keyOfChars_foldl l (0 * 256 + c.toNat)
  unfold keyOfChars at this ⊢
  simp only [List.foldl_cons]
  rw [this]; ring

theorem keyOfChars_decodeAux (f k : ℕ) (acc : List Char) (h : k < 256 ^ f) :
    keyOfChars (decodeAux f k acc) = k * 256 ^ acc.length + keyOfChars acc := by
  induction f generalizing k acc with
  | zero =>
    have : k = 0 := by simpa using h
    subst this; simp [decodeAux]
  | succ f ih =>
    simp only [decodeAux]
    by_cases hk : k = 0
    · subst hk; simp
    · simp only [hk, if_false]
      have hlt : k / 256 < 256 ^ f := by
        rw [Nat.div_lt_iff_lt_mul (by norm_num)]
        rw [pow_succ] at h; exact h
      rw [ih (k / 256) _ hlt, keyOfChars_cons, toNat_ofNat_byte _ (Nat.mod_lt _ (by norm_num))]
      simp only [List.length_cons, pow_succ]
      -- k = 256·q + r, so both sides are polynomials in q, r and P = 256 ^ acc.length
      have hdm := Nat.div_add_mod k 256
      generalize 256 ^ acc.length = P at *
      generalize k / 256 = q at *
      generalize k % 256 = r at *
      subst hdm
      ring

theorem keyOfChars_decodeKey (k : ℕ) (h : k < 256 ^ 8) : keyOfChars (decodeKey k) = k := by
  unfold decodeKey
  rw [keyOfChars_decodeAux 8 k [] h]
  simp [keyOfChars]

/-- all keys fit in 8 bytes (every element symbol / isotope key does) -/
def SmallKeys (c : Chem.Comp) : Prop := ∀ p ∈ c, p.1 < 256 ^ 8

theorem smallKeys_of_all (c : Chem.Comp) (h : c.all (fun p => decide (p.1 < 256 ^ 8)) = true) : SmallKeys c :=
  fun p hp => of_decide_eq_true (List.all_eq_true.mp h p hp)

theorem chemMass_decodeComp_of (em : List Char → ℚ) (μ : Elem → ℚ) (c : Chem.Comp)
    (h : ∀ p ∈ c, em (decodeKey p.1) = μ p.1) : AbsMass.chemMass em (decodeComp c) = chemMassL μ c := by
  induction c with
  | nil => rfl
  | cons p c ih =>
    have ih' := ih fun q hq => h q (List.mem_cons_of_mem _ hq)
    unfold decodeComp at ih' ⊢
    rw [List.map_cons, AbsMass.chemMass, ih', chemMassL_cons, h p List.mem_cons_self]
    ring

theorem chemMass_decodeComp (mono : Bool) (c : Chem.Comp) (h : SmallKeys c) :
    AbsMass.chemMass (emOf mono) (decodeComp c) = chemMassL (fun e => (elemMass mono e).getD 0) c :=
  chemMass_decodeComp_of _ _ c fun p hp => congrArg (fun k => (elemMass mono k).getD 0) (keyOfChars_decodeKey p.1 (h p hp))

end Concrete
end Pept
