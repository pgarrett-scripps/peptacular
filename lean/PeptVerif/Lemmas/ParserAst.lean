import PeptVerif.Lemmas.ParserMiddle
import PeptVerif.Lemmas.ParserSurface
import PeptVerif.Lemmas.AnnotationExt
/-!
Helper lemmas for C01: the parser reads the residue sequence of a surface-syntax tree (`Spec/ProForma.lean`) and then a
whole chain of it into what the tree denotes (modifications and the charge block: ParserRoundTrip; leading sections:
ParserSurface; steps of the middle phase: ParserMiddle). No Mathlib.
-/
namespace Pept

/-- every key of the residue-modification dict is below the number of residues read so far -/
def KeysBelow (a : Annotation) : Prop := ∀ p ∈ a.internal.getD [], p.1 < Int.ofNat a.seq.length

theorem KeysBelow.of_none {a : Annotation} (h : a.internal = none) : KeysBelow a := by
  intro p hp; simp [h] at hp

theorem StartStop.midStop {r : List Char} (h : StartStop r) : MidStop r :=
  ⟨h.modStop, h.head_ne '[' (by decide) (by decide)⟩

theorem startStop_segs (l : List SSeg) (hne : l ≠ []) (hl : l.all SSeg.wf = true) (rest : List Char) :
    StartStop (l.flatMap SSeg.render ++ rest) := by
  cases l with
  | nil => exact absurd rfl hne
  | cons sg t =>
    simp only [List.all_cons, Bool.and_eq_true] at hl
    right
    cases sg with
    | res r =>
      simp only [SSeg.wf, SRes.wf, Bool.and_eq_true] at hl
      obtain ⟨tl, htl⟩ := List.head?_eq_some_iff.mp
        (show ((SSeg.res r :: t).flatMap SSeg.render ++ rest).head? = some r.c by simp [SSeg.render, SRes.render])
      exact ⟨r.c, tl, htl, Or.inl hl.1.1⟩
    | group amb inner mods =>
      obtain ⟨tl, htl⟩ := List.head?_eq_some_iff.mp
        (show ((SSeg.group amb inner mods :: t).flatMap SSeg.render ++ rest).head? = some '(' by simp [SSeg.render])
      exact ⟨'(', tl, htl, Or.inr rfl⟩

theorem midStop_segs (l : List SSeg) (hl : l.all SSeg.wf = true) (rest : List Char) (hrest : MidStop rest) :
    MidStop (l.flatMap SSeg.render ++ rest) := by
  cases l with
  | nil => simpa using hrest
  | cons sg t => exact (startStop_segs (sg :: t) (List.cons_ne_nil _ _) hl rest).midStop

theorem midStop_inner (l : List SRes) (hl : l.all SRes.wf = true) (rest : List Char) (hrest : MidStop rest) :
    MidStop (l.flatMap SRes.render ++ rest) := by
  have := midStop_segs (l.map .res) (by simpa [List.all_map, Function.comp_def, SSeg.wf] using hl) rest hrest
  simpa [List.flatMap_map, SSeg.render] using this

theorem optList_map_isEmpty {α β} (f : α → β) (l : List α) : (l.map f).isEmpty = l.isEmpty := by
  cases l <;> rfl

theorem res_step (acc : Annotation) (hk : KeysBelow acc) (dm : Option (Int × Bool)) (r : SRes) (hr : r.wf = true)
    (rest : List Char) (hrest : MidStop rest) :
    parseMiddle acc dm (r.render ++ rest) = parseMiddle (r.denote acc) dm rest ∧ KeysBelow (r.denote acc) := by
  obtain ⟨c, mods⟩ := r
  simp only [SRes.wf, Bool.and_eq_true] at hr
  simp only [SRes.render, List.cons_append]
  rw [parseMiddle_res _ _ _ _ hr.1]
  cases hm : mods with
  | nil =>
    refine ⟨?_, ?_⟩
    · simp [renderMods, SRes.denote]
    · intro p hp
      have := hk p (by simpa [SRes.denote] using hp)
      simp only [SRes.denote, List.length_append, List.length_cons, List.length_nil, Int.ofNat_eq_natCast] at this ⊢
      omega
  | cons s t =>
    have hrun := bracketRun_renderMods (s :: t) (by simp) (by rw [← hm]; exact hr.2)
    rw [parseMiddle_mods _ (by simp) dm _ _ hrun rest hrest]
    have hext : dictExtend (Int.ofNat (acc.seq ++ [c]).length - 1) ((s :: t).map SMod.denote) (acc.internal.getD []) =
        acc.internal.getD [] ++ [(Int.ofNat acc.seq.length, (s :: t).map SMod.denote)] := by
      have : Int.ofNat (acc.seq ++ [c]).length - 1 = Int.ofNat acc.seq.length := by
        simp only [List.length_append, List.length_cons, List.length_nil, Int.ofNat_eq_natCast]; omega
      rw [this]
      exact dictExtend_new _ _ _ hk
    refine ⟨?_, ?_⟩
    · congr 1
      simp only [addInternal, SRes.denote, List.isEmpty_cons, Bool.false_eq_true, ↓reduceIte]
      rw [hext]
    · intro p hp
      simp only [SRes.denote, List.isEmpty_cons, Bool.false_eq_true, ↓reduceIte, Option.getD_some, List.mem_append,
        List.mem_singleton] at hp
      simp only [SRes.denote, List.length_append, List.length_cons, List.length_nil, Int.ofNat_eq_natCast]
      rcases hp with hp | hp
      · have := hk p hp; simp only [Int.ofNat_eq_natCast] at this; omega
      · subst hp; simp only [Int.ofNat_eq_natCast]; omega

theorem SRes.denote_seq (a : Annotation) (r : SRes) : (r.denote a).seq = a.seq ++ [r.c] := rfl
theorem SRes.denote_intervals (a : Annotation) (r : SRes) : (r.denote a).intervals = a.intervals := rfl

theorem foldl_res_length (l : List SRes) (a : Annotation) :
    (l.foldl SRes.denote a).seq.length = a.seq.length + l.length := by
  induction l generalizing a with
  | nil => simp
  | cons r t ih => rw [List.foldl_cons, ih, SRes.denote_seq]; simp; omega

theorem foldl_res_intervals (l : List SRes) (a : Annotation) : (l.foldl SRes.denote a).intervals = a.intervals := by
  induction l generalizing a with
  | nil => rfl
  | cons r t ih => rw [List.foldl_cons, ih, SRes.denote_intervals]

theorem inner_steps (l : List SRes) (hl : l.all SRes.wf = true) (acc : Annotation) (hk : KeysBelow acc)
    (dm : Option (Int × Bool)) (rest : List Char) (hrest : MidStop rest) :
    parseMiddle acc dm (l.flatMap SRes.render ++ rest) = parseMiddle (l.foldl SRes.denote acc) dm rest ∧
      KeysBelow (l.foldl SRes.denote acc) := by
  induction l generalizing acc with
  | nil => exact ⟨rfl, hk⟩
  | cons r t ih =>
    simp only [List.all_cons, Bool.and_eq_true] at hl
    obtain ⟨h1, hk1⟩ := res_step acc hk dm r hl.1 (t.flatMap SRes.render ++ rest) (midStop_inner t hl.2 rest hrest)
    obtain ⟨h2, hk2⟩ := ih hl.2 (r.denote acc) hk1
    simp only [List.flatMap_cons, List.append_assoc, List.foldl_cons]
    rw [h1, h2]
    exact ⟨rfl, hk2⟩

theorem KeysBelow_intervals (a : Annotation) (x : Option (List Interval)) (h : KeysBelow a) :
    KeysBelow { a with intervals := x } := h

theorem seg_step (acc : Annotation) (hk : KeysBelow acc) (sg : SSeg) (hw : sg.wf = true) (rest : List Char)
    (hrest : MidStop rest) :
    parseMiddle acc none (sg.render ++ rest) = parseMiddle (sg.denote acc) none rest ∧ KeysBelow (sg.denote acc) := by
  cases sg with
  | res r => exact res_step acc hk none r hw rest hrest
  | group amb inner mods =>
    simp only [SSeg.wf, Bool.and_eq_true, Bool.not_eq_eq_eq_not, Bool.not_true] at hw
    obtain ⟨⟨hne, hin⟩, hmods⟩ := hw
    have hne' : inner ≠ [] := by intro h; subst h; simp at hne
    simp only [SSeg.render, List.cons_append, List.append_assoc]
    rw [parseMiddle_open]
    have hamb : parseMiddle acc (some (Int.ofNat acc.seq.length, false))
        ((if amb = true then ['?'] else []) ++ (inner.flatMap SRes.render ++ (')' :: (renderMods '[' ']' mods ++ rest)))) =
        parseMiddle acc (some (Int.ofNat acc.seq.length, amb))
          (inner.flatMap SRes.render ++ (')' :: (renderMods '[' ']' mods ++ rest))) := by
      cases amb with
      | false => rfl
      | true => simp [parseMiddle_amb]
    rw [hamb]
    have hclose : MidStop (')' :: (renderMods '[' ']' mods ++ rest)) :=
      MidStop.cons (by decide) (by decide) (by decide)
    obtain ⟨h1, hk1⟩ := inner_steps inner hin acc hk (some (Int.ofNat acc.seq.length, amb)) _ hclose
    rw [h1]
    have hlen := foldl_res_length inner acc
    have hst : Int.ofNat acc.seq.length ≠ Int.ofNat (inner.foldl SRes.denote acc).seq.length := by
      rw [hlen]
      have : 0 < inner.length := List.length_pos_iff.mpr hne'
      simp only [Int.ofNat_eq_natCast]; omega
    cases hm : mods with
    | nil =>
      simp only [renderMods, List.flatMap_nil, List.nil_append]
      rw [parseMiddle_close_none _ _ hst _ _ hrest.2]
      exact ⟨rfl, hk1⟩
    | cons s t =>
      have hrun := bracketRun_renderMods (s :: t) (by simp) (by rw [← hm]; exact hmods)
      rw [parseMiddle_close_mods _ _ hst _ _ _ hrun rest hrest]
      exact ⟨rfl, hk1⟩

/-- **the residue sequence with its modifications and intervals**, any spellings -/
theorem segs_steps (l : List SSeg) (hl : l.all SSeg.wf = true) (acc : Annotation) (hk : KeysBelow acc)
    (rest : List Char) (hrest : MidStop rest) :
    parseMiddle acc none (l.flatMap SSeg.render ++ rest) = parseMiddle (l.foldl SSeg.denote acc) none rest := by
  induction l generalizing acc with
  | nil => rfl
  | cons sg t ih =>
    simp only [List.all_cons, Bool.and_eq_true] at hl
    obtain ⟨h1, hk1⟩ := seg_step acc hk sg hl.1 (t.flatMap SSeg.render ++ rest) (midStop_segs t hl.2 rest hrest)
    simp only [List.flatMap_cons, List.append_assoc, List.foldl_cons]
    rw [h1, ih hl.2 _ hk1]

/-- the accumulator fields the start and middle sections never touch -/
structure EndEmpty (a : Annotation) : Prop where
  cterm : a.cterm = none
  charge : a.charge = none
  adducts : a.adducts = none

theorem sstart_frame (acc : Annotation) (it : SStart) :
    (it.denote acc).seq = acc.seq ∧ (it.denote acc).internal = acc.internal ∧
      (it.denote acc).intervals = acc.intervals ∧ (EndEmpty acc → EndEmpty (it.denote acc)) := by
  cases it <;> exact ⟨rfl, rfl, rfl, fun h => ⟨h.cterm, h.charge, h.adducts⟩⟩

theorem sstarts_frame (items : List SStart) (acc : Annotation) :
    (items.foldl SStart.denote acc).seq = acc.seq ∧ (items.foldl SStart.denote acc).internal = acc.internal ∧
      (items.foldl SStart.denote acc).intervals = acc.intervals ∧
      (EndEmpty acc → EndEmpty (items.foldl SStart.denote acc)) := by
  induction items generalizing acc with
  | nil => exact ⟨rfl, rfl, rfl, fun h => h⟩
  | cons it t ih =>
    obtain ⟨h1, h2, h3, h4⟩ := sstart_frame acc it
    obtain ⟨g1, g2, g3, g4⟩ := ih (it.denote acc)
    rw [List.foldl_cons]
    exact ⟨g1.trans h1, g2.trans h2, g3.trans h3, fun h => g4 (h4 h)⟩

theorem sres_endEmpty (l : List SRes) (a : Annotation) (h : EndEmpty a) : EndEmpty (l.foldl SRes.denote a) := by
  induction l generalizing a with
  | nil => exact h
  | cons r t ih => exact ih _ ⟨h.cterm, h.charge, h.adducts⟩

theorem ssegs_endEmpty (l : List SSeg) (a : Annotation) (h : EndEmpty a) : EndEmpty (l.foldl SSeg.denote a) := by
  induction l generalizing a with
  | nil => exact h
  | cons sg t ih =>
    rw [List.foldl_cons]
    apply ih
    cases sg with
    | res r => exact ⟨h.cterm, h.charge, h.adducts⟩
    | group amb inner mods =>
      have := sres_endEmpty inner a h
      exact ⟨this.cterm, this.charge, this.adducts⟩

theorem segs_render_ne_nil (l : List SSeg) (hne : l ≠ []) : l.flatMap SSeg.render ≠ [] := by
  cases l with
  | nil => exact absurd rfl hne
  | cons sg t => cases sg <;> simp [SSeg.render, SRes.render]

/-- the text is cut as `start ++ (segs ++ T2)`, `T2 = cterm ++ Q`, `Q = charge ++ rest`; what begins at each cut satisfies
the stop predicate of the phase that ends there -/
theorem schain_phases (t : SChain) (hw : t.wf = true) (conn : Option Bool) (rest : List Char) (hrest : ChainStop rest) :
    ∃ a1 r1 a2 r2,
      parseStart true { seq := [] } (t.render ++ rest) = .ok (a1, r1) ∧
      parseMiddle a1 none r1 = .ok (a2, r2) ∧
      parseEnd a2 conn r2 = .ok (t.denote, stopConn conn rest, stopRest rest) := by
  simp only [SChain.wf, Bool.and_eq_true, Bool.not_eq_eq_eq_not, Bool.not_true] at hw
  obtain ⟨⟨⟨⟨⟨hst, hadj⟩, hne⟩, hsegs⟩, hct⟩, hq⟩ := hw
  have hne' : t.segs ≠ [] := by intro h; rw [h] at hne; simp at hne
  let Q : List Char := (match t.charge with | none => [] | some q => q.render) ++ rest
  let T2 : List Char := (if t.cterm.isEmpty then [] else '-' :: renderMods '[' ']' t.cterm) ++ Q
  have htext : t.render ++ rest = t.start.flatMap SStart.render ++ (t.segs.flatMap SSeg.render ++ T2) := by
    simp only [SChain.render, T2, Q, List.append_assoc]
    cases t.charge <;> rfl
  have hQ : MiddleEnd Q := by
    cases hch : t.charge with
    | none => simpa [Q, hch] using hrest.middleEnd
    | some q => simp only [Q, hch]; exact middleEnd_slash _
  have hQstop : MidStop Q := hQ.midStop
  have hT2 : MidStop T2 := by
    by_cases hc : t.cterm.isEmpty = true
    · simpa [T2, hc] using hQstop
    · simp only [T2, hc, Bool.false_eq_true, ↓reduceIte, List.cons_append]
      exact MidStop.cons (by decide) (by decide) (by decide)
  let A := t.start.foldl SStart.denote { seq := [] }
  obtain ⟨hAseq, hAint, _, hAend⟩ := sstarts_frame t.start { seq := [] }
  have hAk : KeysBelow A := .of_none hAint
  let B := t.segs.foldl SSeg.denote A
  have hBend : EndEmpty B := ssegs_endEmpty t.segs A (hAend ⟨rfl, rfl, rfl⟩)
  have hS := sstarts_steps t.start hst hadj { seq := [] } _ (startStop_segs t.segs hne' hsegs T2)
  have hM := segs_steps t.segs hsegs A hAk T2 hT2
  have hC : parseMiddle B none T2 = .ok ({ B with cterm := optList (t.cterm.map SMod.denote) }, Q) := by
    by_cases hc : t.cterm.isEmpty = true
    · have : t.cterm = [] := by simpa using hc
      simp only [T2, hc, ↓reduceIte, List.nil_append]
      rw [parseMiddle_stop _ _ hQ, this]
      simp only [List.map_nil, optList, List.isEmpty_nil, ↓reduceIte]
      rw [← hBend.cterm]
    · have hcne : t.cterm ≠ [] := by intro h; rw [h] at hc; simp at hc
      simp only [T2, hc, Bool.false_eq_true, ↓reduceIte, List.cons_append]
      rw [parseMiddle_cterm _ _ _ (bracketRun_renderMods t.cterm hcne hct) Q hQstop]
      simp [addMods, hBend.cterm, optList, hcne]
  refine ⟨A, _, { B with cterm := optList (t.cterm.map SMod.denote) }, Q, by rw [htext]; exact hS, by rw [hM, hC], ?_⟩
  cases hch : t.charge with
  | none =>
    simp only [Q, hch, List.nil_append]
    rw [parseEnd_stop _ _ _ hrest]
    simp only [SChain.denote, hch, Option.map_none]
    congr 2
    exact Annotation.ext_fields rfl rfl rfl rfl rfl rfl rfl rfl rfl hBend.charge hBend.adducts
  | some q =>
    rw [hch] at hq
    simp only [Q, hch]
    rw [parseEnd_scharge { B with cterm := optList (t.cterm.map SMod.denote) } hBend.adducts conn q hq rest hrest]
    simp only [SChain.denote, hch, Option.map_some]
    rfl

theorem schain_render_ne_nil (t : SChain) (hw : t.wf = true) : t.render ≠ [] := by
  simp only [SChain.wf, Bool.and_eq_true, Bool.not_eq_eq_eq_not, Bool.not_true] at hw
  have hne' : t.segs ≠ [] := by intro h; rw [h] at hw; simp at hw
  have := segs_render_ne_nil t.segs hne'
  intro h
  simp only [SChain.render, List.append_eq_nil_iff] at h
  exact this h.2.1

end Pept
