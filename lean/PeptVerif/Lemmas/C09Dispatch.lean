import PeptVerif.Lemmas.MassBlocks
import PeptVerif.Model.C09Dispatch
/-! Each block of the fast path of `mass` is decided by the resolver on the modifications it reaches (`DecidedBy`); the relation
is closed under sequencing and `sumM`, so the blocks compose.  The placed modifications are one `sumMods` over one list
(`placedModsMass_eq`), the list the specification of C02 sums over (`reachedPlaced_eq`). -/
namespace Pept
namespace Dispatch
open Chem Mass

/-- `mod_mass(val, monoisotopic)` as given by the resolver parameter -/
def resolve (env : Env) (mono : Bool) (v : ModVal) : Except Err Rat :=
  if mono then (env.res v).mono else (env.res v).avg

/-- "every modification of the list resolves" -/
def AllResolve (env : Env) (mono : Bool) (l : List Mod) : Prop := ∀ m ∈ l, ∃ v, resolve env mono m.val = .ok v

theorem AllResolve.not_of_error {env : Env} {mono : Bool} {l : List Mod} {m : Mod} {e : Err} (hm : m ∈ l)
    (hr : resolve env mono m.val = .error e) : ¬ AllResolve env mono l := fun h => by
  obtain ⟨_, hv⟩ := h m hm
  rw [hr] at hv; cases hv

theorem allResolve_append (env : Env) (mono : Bool) (l₁ l₂ : List Mod) :
    AllResolve env mono (l₁ ++ l₂) ↔ AllResolve env mono l₁ ∧ AllResolve env mono l₂ := by
  simp only [AllResolve, List.mem_append]
  constructor
  · intro h; exact ⟨fun m hm => h m (Or.inl hm), fun m hm => h m (Or.inr hm)⟩
  · rintro ⟨h1, h2⟩ m (hm | hm)
    · exact h1 m hm
    · exact h2 m hm

/-- the outcome `x` of a block of `mass` is decided by the resolver on the modifications `l`: a number iff every one of
them resolves, and an error of `x` is the resolver's own error on one of them -/
structure DecidedBy (env : Env) (mono : Bool) (x : Except Err Rat) (l : List Mod) : Prop where
  ok_iff : (∃ v, x = .ok v) ↔ AllResolve env mono l
  error_reached : ∀ e, x = .error e → ∃ m ∈ l, resolve env mono m.val = .error e

variable {env : Env} {mono : Bool}

theorem DecidedBy.pure (v : Rat) : DecidedBy env mono (pure v) [] :=
  ⟨⟨fun _ _ hm => (nomatch hm), fun _ => ⟨v, rfl⟩⟩, fun _ h => (nomatch h)⟩

/-- blocks run one after the other: the fields reached are those of the first, then those of the second -/
theorem DecidedBy.bind {x : Except Err Rat} {f : Rat → Except Err Rat} {l₁ l₂ : List Mod}
    (hx : DecidedBy env mono x l₁) (hf : ∀ v, DecidedBy env mono (f v) l₂) :
    DecidedBy env mono (x >>= f) (l₁ ++ l₂) := by
  cases x with
  | error e =>
    obtain ⟨m, hm, hr⟩ := hx.error_reached e rfl
    refine ⟨⟨fun ⟨_, hv⟩ => (nomatch hv), fun h => ?_⟩, fun e' he' => ?_⟩
    · obtain ⟨_, hv⟩ := hx.ok_iff.2 ((allResolve_append env mono l₁ l₂).1 h).1
      nomatch hv
    · cases he'; exact ⟨m, List.mem_append_left _ hm, hr⟩
  | ok v =>
    refine ⟨⟨fun h => (allResolve_append env mono l₁ l₂).2 ⟨hx.ok_iff.1 ⟨v, rfl⟩, (hf v).ok_iff.1 h⟩,
      fun h => (hf v).ok_iff.2 ((allResolve_append env mono l₁ l₂).1 h).2⟩, fun e he => ?_⟩
    obtain ⟨m, hm, hr⟩ := (hf v).error_reached e he
    exact ⟨m, List.mem_append_right _ hm, hr⟩

theorem DecidedBy.map {x : Except Err Rat} {l : List Mod} (hx : DecidedBy env mono x l) (g : Rat → Rat) :
    DecidedBy env mono (x >>= fun v => Pure.pure (g v)) l := by
  simpa only [List.append_nil] using hx.bind fun v => DecidedBy.pure (g v)

theorem DecidedBy.sumM {α} (f : α → Except Err Rat) (g : α → List Mod) (l : List α)
    (hl : ∀ x ∈ l, DecidedBy env mono (f x) (g x)) : DecidedBy env mono (sumM f l) (l.flatMap g) := by
  induction l with
  | nil => exact DecidedBy.pure 0
  | cons x xs ih =>
    rw [sumM_cons, List.flatMap_cons]
    exact (hl x List.mem_cons_self).bind fun v => (ih fun y hy => hl y (List.mem_cons_of_mem _ hy)).map _

theorem modMass_decided (m : Mod) : DecidedBy env mono (modMass env mono m) [m] := by
  have h : DecidedBy env mono (resolve env mono m.val) [m] := by
    cases h : resolve env mono m.val with
    | error e =>
      refine ⟨⟨fun ⟨_, hv⟩ => (nomatch hv), fun ha => ?_⟩, fun e' he' => ?_⟩
      · obtain ⟨_, hv⟩ := ha m List.mem_cons_self
        rw [h] at hv; nomatch hv
      · cases he'; exact ⟨m, List.mem_cons_self, h⟩
    | ok v =>
      refine ⟨⟨fun _ m' hm' => ?_, fun _ => ⟨v, rfl⟩⟩, fun _ he => (nomatch he)⟩
      rw [List.mem_singleton.1 hm']; exact ⟨v, h⟩
  have e : modMass env mono m = resolve env mono m.val >>= fun v => Pure.pure (v * (m.mult : Rat)) := by
    unfold modMass resolve; cases mono <;> rfl
  rw [e]
  exact h.map _

theorem sumMods_decided (l : List Mod) : DecidedBy env mono (sumMods env mono l) l := by
  unfold sumMods
  simpa only [List.flatMap_singleton'] using DecidedBy.sumM _ (fun m => [m]) l fun m _ => modMass_decided m

theorem reachedPlaced_eq (a : Annotation) (ion : Key) : reachedPlaced (ion == ionP) a = Spec.placedMods a ion := by
  have ho : ∀ o : Option (List Mod), optMods o = o.getD [] := fun o => by cases o <;> rfl
  unfold reachedPlaced Spec.placedMods intervalMods internalMods
  simp only [ho, beq_iff_eq]
  cases a.intervals <;> cases a.internal <;> rfl

/-- **the placed-modification block of `mass` is decided by the resolver on `reachedPlaced`** -/
theorem placedModsMass_decided (a : Annotation) (ion : Key) :
    DecidedBy env mono (placedModsMass env mono a ion) (reachedPlaced (ion == ionP) a) := by
  rw [reachedPlaced_eq, placedModsMass_eq]
  exact sumMods_decided _

theorem lookupMods_decided (map : List (List Char × List Mod)) (k : List Char) :
    DecidedBy env mono (lookupMods env mono map k) (lookupList map k) := by
  unfold lookupMods lookupList
  cases map.lookup k with
  | none => exact DecidedBy.pure 0
  | some l => exact sumMods_decided l

theorem ruleMass_decided (seq : List Char) (p : List Char × List Mod) :
    DecidedBy env mono (ruleMass env mono seq p) (ruleMods p) := by
  unfold ruleMass ruleMods
  show DecidedBy env mono _ (if p.1 = Mass.nTerm || p.1 = Mass.cTerm then [] else p.2)
  split
  · exact DecidedBy.pure 0
  · exact (sumMods_decided p.2).map _

/-- **the static-rule block is decided by the resolver on `reachedStatic`** -/
theorem staticMapMass_decided (seq : List Char) (map : List (List Char × List Mod)) :
    DecidedBy env mono (staticMapMass env mono seq map) (reachedStatic map) := by
  unfold reachedStatic staticMapMass
  simp only [List.append_assoc]
  exact (lookupMods_decided map Mass.nTerm).bind fun _ => (lookupMods_decided map Mass.cTerm).bind fun _ =>
    (DecidedBy.sumM _ _ map fun p _ => ruleMass_decided seq p).map _

def exNum : Mod := ⟨.int 16, 1⟩
def exFoo : Mod := ⟨.str ['F', 'o', 'o'], 2⟩

/-- a numeric value resolves (to 16), every text value raises ValueError; static rules: `[16]@M` and `[Foo]^2@N-Term` -/
def exEnv : Env where
  res v := match v with
    | .int _ => ⟨.ok 16, .ok 16, .ok none, .ok []⟩
    | _ => ⟨.error .valueError, .error .valueError, .error .valueError, .error .valueError⟩
  parseStatic _ := .ok [(['M'], [exNum]), (Dispatch.nTerm, [exFoo])]

theorem exEnv_foo : resolve exEnv true exFoo.val = .error .valueError := rfl
theorem exEnv_num : resolve exEnv true exNum.val = .ok 16 := rfl

/-- `{Foo}^2[16]-PEM[16]TIDE` with an interval `(TI)[16]` -/
def exLabileBad : Annotation :=
  { seq := "PEMTIDE".toList, labile := some [exFoo], nterm := some [exNum], internal := some [(2, [exNum])],
    intervals := some [⟨3, 5, false, some [exNum]⟩] }

end Dispatch
end Pept
