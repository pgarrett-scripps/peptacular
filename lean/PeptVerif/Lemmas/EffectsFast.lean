import PeptVerif.Lemmas.Effects
import PeptVerif.Lemmas.EffectsApi
/-! C08: the form of `entryOK` that the generated per-module files evaluate.  It differs from `entryOK` where the kernel's time
goes: the table and the two global lists are read in strides (`strideGet`), and a store is tested without building the linked
cells. -/

namespace Effects

def linkClosedF (A : Pts) (tgt a b : List Obj) : Bool :=
  A.all fun c =>
    (!overlaps c.top tgt || (sub a c.kids && sub b c.deep)) &&
    (!overlaps (c.kids ++ c.deep) tgt || sub (a ++ b) c.deep)

/-- an `add` needs one cell, looked up through `get`; a `link` is tested against every cell, so it walks the table itself -/
def Op.closedG (get : Var → Cell) (A : Pts) : Op → Bool
  | .add x c => cellSub c (get x)
  | .link t a b => linkClosedF A t a b

def targetsG (get : Var → Cell) (sum : Nat → Summary) : Stmt → List Obj
  | .store x _ => (get x).top
  | .write x => (get x).top
  | .gwrite g => [.glob g]
  | .call _ f args =>
    (sum f).writes.flatMap (fun w =>
        if w.2 then (argCellG get args w.1).kids ++ (argCellG get args w.1).deep else (argCellG get args w.1).top)
      ++ (sum f).globals.map Obj.glob
  | _ => []

theorem linkClosedF_sound {A : Pts} {t a b : List Obj} (h : linkClosedF A t a b = true) : linkClosed A t a b = true := by
  simp only [linkClosedF, linkClosed, List.all_eq_true, Bool.and_eq_true, Bool.or_eq_true, Bool.not_eq_true', sub_iff] at h ⊢
  intro c hc
  obtain ⟨h1, h2⟩ := h c hc
  simp only [cellSub, linkCell, Bool.and_eq_true, sub_iff]
  refine ⟨⟨fun _ ho => ho, fun o ho => ?_⟩, fun o ho => ?_⟩
  · rcases mem_union.1 ho with ho | ho
    · exact ho
    · obtain ⟨ht, ho⟩ := mem_cond.1 ho
      exact (h1.resolve_left (by simp [ht])).1 ho
  · rcases mem_union.1 ho with ho | ho
    · rcases mem_union.1 ho with ho | ho
      · exact ho
      · obtain ⟨ht, ho⟩ := mem_cond.1 ho
        exact (h1.resolve_left (by simp [ht])).2 ho
    · obtain ⟨ht, ho⟩ := mem_cond.1 ho
      exact h2.resolve_left (by simp [ht]) ho

theorem closedG_sound {A : Pts} {o : Op} (h : o.closedG A.get A = true) : o.closed A = true := by
  cases o with
  | add x c => exact h
  | link t a b => exact linkClosedF_sound h

theorem targetsG_get (S : List Summary) (P : Pts) : targetsG P.get (summaryOf S) = fun s => targets S s P := by
  funext s; cases s <;> rfl

/-- `s`, `v`: the function's own summary and verdict; `get`, `sum`: the lookups in its table and in the callees' summaries -/
def entryOKG (get : Var → Cell) (sum : Nat → Summary) (s : Summary) (v : Verdict) (i : FnInfo) : Bool :=
  let w := i.prog.flatMap (targetsG get sum)
  i.prog.all (fun st => (ops get sum st).all (Op.closedG get i.table)) &&
  summarySub (summarizeFrom i.table w i.nparams i.ret) s &&
  sameSet (dedup (w.filterMap paramOf)) v.writes && sameSet (dedup (w.filterMap globOf)) v.globals &&
  sameSet (mayShareIn i.table i.ret) v.share && sameSet (mayShareGlobalIn i.table i.ret) v.shareGlobals

def entryOKFast (c : Nat) (S : List Summary) (V : List Verdict) (f : Nat) (i : FnInfo) : Bool :=
  entryOKG (fun x => strideGet c i.table x {}) (fun g => strideGet c S g {}) (strideGet c S f {}) (strideGet c V f {}) i

theorem closedB_of_ops {S : List Summary} {p : List Stmt} {A : Pts}
    (h : p.all (fun st => (ops A.get (summaryOf S) st).all (Op.closedG A.get A)) = true) : closedB S p A = true := by
  rw [closedB, List.all_eq_true]
  intro s hs
  rw [closedStmt_eq_ops, List.all_eq_true]
  exact fun o ho => closedG_sound (List.all_eq_true.1 (List.all_eq_true.1 h s hs) o ho)

theorem entryOK_of_fast {c : Nat} {S : List Summary} {V : List Verdict} {f : Nat} {i : FnInfo}
    (h : entryOKFast c S V f i = true) : entryOK S V f i = true := by
  simp only [entryOKFast, entryOKG, strideGet_eq, Bool.and_eq_true] at h
  obtain ⟨⟨⟨⟨⟨hc, hs⟩, h1⟩, h2⟩, h3⟩, h4⟩ := h
  -- after `strideGet_eq` the lookups are `getD`, that is `summaryOf S`, `Pts.get i.table`, `verdictOf V`; with `targetsG_get`
  -- the list `w` of `entryOKG` is `writeSet S i.prog i.table`
  rw [show (fun g => S.getD g {}) = summaryOf S from rfl, show (fun x => i.table.getD x {}) = i.table.get from rfl,
    targetsG_get] at hs h1 h2
  -- so `hs`, `h1`, `h2` are the conjuncts of `entryOK` with `summarize` (`summarize_eq`), `mayWriteIn` and `mayWriteGlobalIn`
  -- unfolded, and `h3`, `h4` are its last two as they stand
  exact entryOK_iff.2 ⟨closedB_of_ops hc, hs, h1, h2, h3, h4⟩

/-- What a generated module file evaluates.  `c` is the stride of the lookups: every `c` gives the same value (`strideGet_eq`),
the generated files pass 8, which suits name tables of some tens of cells and the global lists of a few hundred functions. -/
theorem all_entryOK_of_fast (c : Nat) {S : List Summary} {V : List Verdict} {fns : List (Nat × FnInfo)}
    (h : fns.all (fun p => entryOKFast c S V p.1 p.2) = true) : fns.all (fun p => entryOK S V p.1 p.2) = true :=
  List.all_eq_true.2 fun p hp => entryOK_of_fast (List.all_eq_true.1 h p hp)

end Effects
