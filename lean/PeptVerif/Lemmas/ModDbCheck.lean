import PeptVerif.Lemmas.ModDbLemmas
/-!
Equivalents of the table checkers `entryClean` and `nameNotNumeric` (`Model/ModDbFacts.lean`) that the kernel evaluates
in about one pass over each key, with the proofs that they agree with the checkers for every table.  The scans compare
characters by `Nat.beq` and branch by `match` on the `Bool`: `Nat.beq` on numerals is a kernel primitive, and a `match` leaves
no `Decidable` instance to unfold as `if c = 35` or `c == 35 || …` would.  Mathlib-free.
-/
namespace ModDb
open Formula KSort

/-- every reserved prefix ends with a colon, and lower-casing neither makes nor removes one -/
theorem hasPrefix_reserved_noColon {k : Str} (h : 58 ∉ k) : hasPrefix reserved k = false := by
  apply List.any_eq_false.mpr
  intro p hp hpre
  obtain ⟨q, hq, -⟩ := goodPrefix_decomp (reserved_good p hp)
  have h58 : 58 ∈ p := by simp [hq]
  exact h ((mem_lower_iff (by decide) (by decide)).mp ((List.isPrefixOf_iff_prefix.mp hpre).subset h58))

/-- the rest `r` of key `k` has no `#` and no `|`, and if it has a `:` then `k` has no reserved prefix
(so the prefixes are only tried on the few keys with a colon) -/
def scanClean (k : Str) : Str → Bool
  | [] => true
  | c :: r =>
    match Nat.beq c 35 with
    | true => false
    | false =>
      match Nat.beq c 124 with
      | true => false
      | false =>
        match Nat.beq c 58 with
        | true => !r.contains 35 && !r.contains 124 && !hasPrefix reserved k
        | false => scanClean k r

theorem scanClean_eq (k : Str) : ∀ r : Str, scanClean k r =
    (!r.contains 35 && !r.contains 124 && (!r.contains 58 || !hasPrefix reserved k))
  | [] => rfl
  | c :: r => by
    have ih := scanClean_eq k r
    by_cases h35 : c = 35
    · subst h35; simp [scanClean]
    by_cases h124 : c = 124
    · subst h124; simp [scanClean]
    by_cases h58 : c = 58
    · subst h58; simp [scanClean]
    simp [scanClean, beq_ne h35, beq_ne h124, beq_ne h58, ih, Ne.symm h35, Ne.symm h124, Ne.symm h58, Bool.and_assoc]

def keyCleanScan (k : Str) : Bool :=
  match k with
  | [] => false
  | c :: _ =>
    match Nat.beq c 43 with
    | true => false
    | false =>
      match Nat.beq c 45 with
      | true => false
      | false => scanClean k k

theorem keyClean_eq_scan (k : Str) : keyClean k = keyCleanScan k := by
  have hpre : (!k.contains 58 || !hasPrefix reserved k) = !hasPrefix reserved k := by
    by_cases h : 58 ∈ k
    · simp [h]
    · simp [hasPrefix_reserved_noColon h]
  cases k with
  | nil => rfl
  | cons c r =>
    by_cases h43 : c = 43
    · subst h43; simp [keyClean, keyCleanScan]
    by_cases h45 : c = 45
    · subst h45; simp [keyClean, keyCleanScan]
    simp only [keyClean, keyCleanScan, beq_ne h43, beq_ne h45, scanClean_eq, hpre]
    simp [h43, h45]

def entryCleanScan (e : Entry) : Bool := keyCleanScan e.id && keyCleanScan e.name

theorem entryClean_eq_scan : entryClean = entryCleanScan := by
  funext e
  simp only [entryClean, entryCleanScan, keyClean_eq_scan]

/-- `nameNotNumeric`, decided without reading a number where the name has a character that no number has -/
def notNumericQuick (e : Entry) : Bool := e.name.any junk || nameNotNumeric e

theorem nameNotNumeric_of_quick {e : Entry} (h : notNumericQuick e = true) : nameNotNumeric e = true := by
  rcases Bool.or_eq_true _ _ ▸ h with h | h
  · obtain ⟨x, hx, hj⟩ := List.any_eq_true.1 h
    simp [nameNotNumeric, convertType_junk hj hx]
  · exact h

theorem all_notNumeric_of_quick {db : List Entry} (h : db.all notNumericQuick = true) : db.all nameNotNumeric = true :=
  List.all_eq_true.mpr fun e he => nameNotNumeric_of_quick (List.all_eq_true.mp h e he)

end ModDb
