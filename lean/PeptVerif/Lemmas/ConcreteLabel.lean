import PeptVerif.Lemmas.FragmentLabel
import PeptVerif.Lemmas.ConcreteEnv
import PeptVerif.Lemmas.ConcreteBridge
import PeptVerif.Lemmas.ElemTables
import PeptVerif.Lemmas.CompCalc
/-! Bridge on the LABEL path: for a plain labelled annotation (static rules written out, nothing labile / unknown / interval /
adduct) the composition path of the concrete model (`Mass.mass` → `CompCalc.compMass`, closed form `Fragment.massOf_labelled`
of C04) and `AbsMass.massLabel` at the concrete environment return the same number.

Idea (as in `Lemmas/FragmentLabel.lean`): isotope substitution on a dict with distinct keys is a change of the mass
function; the relabelled mass functions of the two models correspond through the key packing. -/
namespace Pept
namespace Concrete
open Chem AbsMass Static

def encPair (p : List Char × List Char) : Chem.Key × Chem.Key := (keyOfChars p.1, keyOfChars p.2)

/-- the keys of a label map survive packing and unpacking -/
def MapKeysOk (lm : LabelMap) : Prop :=
  ∀ p ∈ lm, decodeKey (keyOfChars p.1) = p.1 ∧ decodeKey (keyOfChars p.2) = p.2 ∧ keyOfChars p.2 < 256 ^ 8

/-- the two relabelled mass functions correspond through the key packing, whatever the element masses `μ` are -/
theorem labelMu_enc (μ : Elem → ℚ) (lm : LabelMap) (h : MapKeysOk lm) (k : ℕ) (hk : k < 256 ^ 8) :
    Dict.labelMu lm (fun s => μ (keyOfChars s)) (decodeKey k) = Fragment.labelMu (lm.map encPair) μ k := by
  induction lm generalizing k with
  | nil => exact congrArg μ (keyOfChars_decodeKey k hk)
  | cons p ps ih =>
    obtain ⟨el, lab⟩ := p
    obtain ⟨hel, hlab, hlab8⟩ := h (el, lab) List.mem_cons_self
    have ih' := ih fun q hq => h q (List.mem_cons_of_mem _ hq)
    show (if decodeKey k = el then Dict.labelMu ps _ lab else Dict.labelMu ps _ (decodeKey k)) =
      if k = keyOfChars el then Fragment.labelMu (ps.map encPair) μ (keyOfChars lab)
      else Fragment.labelMu (ps.map encPair) μ k
    rw [← ih' (keyOfChars lab) hlab8, hlab, ← ih' k hk]
    by_cases hx : decodeKey k = el
    · rw [if_pos hx, if_pos (by rw [← hx, keyOfChars_decodeKey k hk])]
    · rw [if_neg hx, if_neg fun e => hx (by rw [e, hel])]

theorem chemMass_labelMu_decode (mono : Bool) (lm : LabelMap) (h : MapKeysOk lm) (c : Chem.Comp) (hc : SmallKeys c) :
    AbsMass.chemMass (Dict.labelMu lm (emOf mono)) (decodeComp c) =
      chemMassL (Fragment.labelMu (lm.map encPair) (fun e => (elemMass mono e).getD 0)) c :=
  chemMass_decodeComp_of _ _ c fun p hp => labelMu_enc (fun e => (elemMass mono e).getD 0) lm h p.1 (hc p hp)

theorem sumMods_getD_eq_optSum (E : AbsMass.Env) (mw : Mod → ℚ) (h : ∀ m, AbsMass.modMass E m = mw m)
    (o : Option (List Mod)) : AbsMass.sumMods E (o.getD []) = Fragment.optSum mw o := by
  cases o with
  | none => rfl
  | some l => exact sumMods_eq_sum_of E mw h l

theorem sumMods_flatMap_eq_intSum (E : AbsMass.Env) (mw : Mod → ℚ) (h : ∀ m, AbsMass.modMass E m = mw m)
    (o : Option (List (Int × List Mod))) :
    AbsMass.sumMods E ((o.getD []).flatMap fun q => q.2) = Fragment.intSum mw o := by
  cases o with
  | none => rfl
  | some d => exact (sumMods_eq_sum_of E mw h _).trans (RatSum.sum_flatMap _ _ d)

theorem modResOf_of_resolve (env : Pept.Env) (dl : Mod → Option ℚ) (cp : Mod → Chem.Comp) (K : Elem → Prop)
    (hmods : Fragment.ModsResolve env K dl cp) (m : Mod) :
    modResOf env m.val = match dl m with | some d => .delta d | none => .comp (decodeComp (cp m)) := by
  unfold modResOf
  rw [hmods.delta m]
  cases hd : dl m with
  | some v => rfl
  | none => simp only; rw [(hmods.comp m hd).1]

theorem modMass_envC_eq_modWeight (env : Pept.Env) (mono : Bool) (t : Key) (ch : Int) (dl : Mod → Option ℚ) (cp : Mod → Chem.Comp)
    (K : Elem → Prop) (hmods : Fragment.ModsResolve env K dl cp) (hsm : ∀ m, dl m = none → SmallKeys (cp m)) (m : Mod) :
    AbsMass.modMass (CondenseMass.envC (envFor env t mono ch 0 0)) m =
      Fragment.modWeight (fun e => (elemMass mono e).getD 0) dl cp m := by
  unfold AbsMass.modMass CondenseMass.envC Fragment.modWeight
  simp only [envFor_modRes, envFor_em, modResOf_of_resolve env dl cp K hmods m]
  cases hd : dl m with
  | some v => rfl
  | none => simp only [chemMass_decodeComp mono (cp m) (hsm m hd)]; ring

theorem isBad_of_resolve (env : Pept.Env) (mono : Bool) (t : Key) (ch : Int) (dl : Mod → Option ℚ) (cp : Mod → Chem.Comp)
    (K : Elem → Prop) (hmods : Fragment.ModsResolve env K dl cp) (m : Mod) :
    isBad (envFor env t mono ch 0 0) m = false := by
  rw [isBad, envFor_modRes, modResOf_of_resolve env dl cp K hmods m]
  cases dl m <;> rfl

/-- the label path on a plain labelled annotation in closed form: residues, ion-type adjustment and charge carrier under the
relabelled mass function, the written modifications at their composition weights -/
theorem massLabel_plain (E : AbsMass.Env) (b : Annotation) (L : List Mod) (lm : LabelMap) (hpl : Fragment.PlainL b L)
    (hl : AbsMass.parseIsotopeMods E.knownLabel L = .ok lm) (hbad : ∀ m, isBad E m = false)
    (hq : E.q.deltaIgnoresMult = false) (huse : E.useIsotopeOnMods = false) (hiso : E.isotope = 0) :
    AbsMass.massLabel E b = .ok
      ((b.seq.map fun x => AbsMass.chemMass (Dict.labelMu lm E.em) (E.aaComp x)).sum +
        AbsMass.chemMass (Dict.labelMu lm E.em) E.ionAdj + AbsMass.chemMass (Dict.labelMu lm E.em) E.chargeComp +
        (AbsMass.sumMods (CondenseMass.envC E) (b.nterm.getD []) +
          AbsMass.sumMods (CondenseMass.envC E) ((b.internal.getD []).flatMap fun q => q.2) +
          AbsMass.sumMods (CondenseMass.envC E) (b.cterm.getD []))) := by
  rw [massLabel_ok E b b lm (by simp [condenseStatic, hpl.static]) (List.any_eq_false.mpr fun m _ => by simp [hbad m])
    (absentRuleBad_static_none E b hpl.static) (by rw [hpl.isotope]; exact hl), huse, if_neg Bool.false_ne_true, add_assoc,
    CondenseMass.modComposition_mass E hq b (.inr hpl.labile),
    chemMass_relabel_mass E.em lm _ (nodupKeys_sequenceComposition E b)]
  simp only [sequenceComposition, chemMass_compAdd, chemMass_seqCompOf_sum, CondenseMass.modsTotal, hpl.labile, hpl.unknown,
    hpl.intervals, optSum_eq, optIntervals_eq, optInt_eq, Option.getD_none, List.flatMap_nil, AbsMass.sumMods, hiso,
    AbsMass.chemMass]
  congr 1
  push_cast
  ring

/-- **bridge (label path)**: a plain labelled annotation, residues and modifications resolving, keys of at most 8 bytes, the
two label parsers agreeing through the key packing (`hmap`, `hkeys`) -/
theorem mass_bridge_label (env : Pept.Env) (mono : Bool) (dl : Mod → Option ℚ) (cp : Mod → Chem.Comp) (aa : Char → Chem.Comp)
    (b : Annotation) (i0 : Mod) (is : List Mod) (lm : LabelMap)
    (hpl : Fragment.PlainL b (i0 :: is))
    (hparseC : AbsMass.parseIsotopeMods (fun k => (lookup (keyOfChars k) isotopicMasses).isSome) (i0 :: is) = .ok lm)
    (hparseN : CompCalc.parseIsotopeMods (i0 :: is) = .ok (lm.map encPair))
    (hkeys : MapKeysOk lm) (hmapK : ∀ p ∈ lm.map encPair, Fragment.knownOf mono p.2)
    (hres : Fragment.ResiduesResolve (Fragment.knownOf mono) aa b.seq) (hsa : ∀ x ∈ b.seq, SmallKeys (aa x))
    (hmods : Fragment.ModsResolve env (Fragment.knownOf mono) dl cp) (hsm : ∀ m, dl m = none → SmallKeys (cp m))
    (t : Key) (ch : Int) (adj car : Chem.Comp)
    (hadj : lookup t neutralAdj = some adj) (hadjK : Fragment.AK (Fragment.knownOf mono) adj) (hsadj : SmallKeys adj)
    (hcar : CompCalc.defaultCarrier ch t = .ok car) (hcarK : Fragment.AK (Fragment.knownOf mono) car) (hscar : SmallKeys car)
    (hcc : (t = Mass.ionP || t = Mass.ionN || (lookup t Gen.baseAdducts).isSome) = true)
    (hn : Fragment.knownOf mono kNn) :
    ∃ X, Fragment.massOf CompCalc.compMass env mono b t ch 0 0 = .ok X ∧
      AbsMass.massLabel (envFor env t mono ch 0 0) b = .ok X := by
  have hK := Fragment.massOf_labelled env mono dl cp aa b i0 is (lm.map encPair) hpl hparseN hmapK hres hmods t ch 0 0 adj car
    hadj hadjK hcar hcarK (by simpa [Bool.or_eq_true, decide_eq_true_eq, or_assoc] using hcc) hn
  refine ⟨_, hK, ?_⟩
  have hmw := modMass_envC_eq_modWeight env mono t ch dl cp _ hmods hsm
  have hI : (envFor env t mono ch 0 0).ionAdj = decodeComp adj := by rw [envFor_ionAdj, hadj]; rfl
  have hC : (envFor env t mono ch 0 0).chargeComp = decodeComp car := by rw [envFor_chargeComp, hcar]; rfl
  have hR : (b.seq.map fun x => AbsMass.chemMass (Dict.labelMu lm (emOf mono)) ((envFor env t mono ch 0 0).aaComp x)) =
      b.seq.map fun x => chemMassL (Fragment.labelMu (lm.map encPair) (Fragment.muOf mono)) (aa x) := by
    refine List.map_congr_left fun x hx => ?_
    have hA : (envFor env t mono ch 0 0).aaComp x = decodeComp (aa x) := by
      rw [envFor_aaComp, aaOf, (hres.residues x hx).1]; rfl
    rw [hA, chemMass_labelMu_decode mono lm hkeys (aa x) (hsa x hx)]
    rfl
  rw [massLabel_plain _ b _ lm hpl hparseC (isBad_of_resolve env mono t ch dl cp _ hmods) rfl rfl rfl, hI, hC,
    envFor_em, hR, chemMass_labelMu_decode mono lm hkeys adj hsadj,
    chemMass_labelMu_decode mono lm hkeys car hscar, sumMods_getD_eq_optSum _ _ hmw, sumMods_getD_eq_optSum _ _ hmw,
    sumMods_flatMap_eq_intSum _ _ hmw]
  congr 1
  unfold Fragment.plainWeight Fragment.muOf
  simp only [Int.cast_zero, zero_mul, add_zero]
  ring

/-- the labels of the property (the first components of `C12Concrete.labels8`) -/
def propLabels : List (List Char) :=
  [['1', '3', 'C'], ['1', '5', 'N'], ['1', '8', 'O'], ['1', '7', 'O'], ['3', '4', 'S'], ['D'], ['T'], ['2', 'H']]

/-- single labels and ordered pairs of labels -/
def labelLists : List (List Mod) :=
  propLabels.map (fun a => [⟨.str a, 1⟩]) ++ propLabels.flatMap fun a => propLabels.map fun b => [⟨.str a, 1⟩, ⟨.str b, 1⟩]

def mapKeysOkB (lm : LabelMap) : Bool :=
  lm.all fun p => decide (decodeKey (keyOfChars p.1) = p.1) && decide (decodeKey (keyOfChars p.2) = p.2) &&
    decide (keyOfChars p.2 < 256 ^ 8)

/-- for one label list: the two parsers agree through the packing, the keys survive packing, the labels are the property's
(that those have masses is `labels_known`) -/
def labelListOk (L : List Mod) : Bool :=
  match AbsMass.parseIsotopeMods (fun k => (lookup (keyOfChars k) isotopicMasses).isSome) L with
  | .error _ => false
  | .ok lm =>
    decide (CompCalc.parseIsotopeMods L = .ok (lm.map encPair)) && mapKeysOkB lm && lm.all fun p => propLabels.contains p.2

theorem labelLists_ok : labelLists.all labelListOk = true := by
  -- the kernel would derive `isotopicMasses` from the nuclides again at every look-up: evaluate over the literal table
  delta labelListOk CompCalc.parseIsotopeMods
  rw [isotopic_lit_ok]
  decide +kernel

theorem labelList_parses (L : List Mod) (hL : L ∈ labelLists) :
    ∃ lm, AbsMass.parseIsotopeMods (fun k => (lookup (keyOfChars k) isotopicMasses).isSome) L = .ok lm ∧
      CompCalc.parseIsotopeMods L = .ok (lm.map encPair) ∧ MapKeysOk lm ∧ ∀ p ∈ lm, p.2 ∈ propLabels := by
  have h := List.all_eq_true.mp labelLists_ok L hL
  unfold labelListOk at h
  split at h
  · exact absurd h Bool.false_ne_true
  · next lm hp =>
    simp only [Bool.and_eq_true, decide_eq_true_eq, mapKeysOkB, List.all_eq_true, List.contains_iff_mem] at h
    exact ⟨lm, hp, h.1.1, fun p hpm => ⟨(h.1.2 p hpm).1.1, (h.1.2 p hpm).1.2, (h.1.2 p hpm).2⟩, h.2⟩

/-- an isotope key of the isotope table has a mass in both modes -/
theorem elemMass_isSome_of_isotopeKey (mono : Bool) (e : Elem) (h : (lookup e isotopicMasses).isSome = true)
    (hi : isIsotopeKey e = true) : (elemMass mono e).isSome = true := by
  rw [isotopic_lit_ok] at h
  rw [elemMass_eq_lit]
  unfold elemMassLit
  cases hl : lookup e Gen.isotopicLit with
  | none => rw [hl] at h; cases h
  | some m => cases mono <;> simp [hi]

theorem known_of_parse_single (known : List Char → Bool) (s : List Char) (lm : LabelMap)
    (h : AbsMass.parseIsotopeMods known [⟨.str s, 1⟩] = .ok lm) : known s = true := by
  cases hk : known s with
  | true => rfl
  | false => simp [AbsMass.parseIsotopeMods, labelFold, hk] at h

/-- the labels have masses in both modes: the parser accepts each, so it is a key of the isotope table, and it is an
isotope key -/
theorem labels_known (mono : Bool) : ∀ lab ∈ propLabels, (elemMass mono (keyOfChars lab)).isSome = true := by
  have hi : ∀ lab ∈ propLabels, isIsotopeKey (keyOfChars lab) = true := by decide +kernel
  intro lab h
  obtain ⟨lm, hp, -⟩ := labelList_parses [⟨.str lab, 1⟩] (List.mem_append_left _ (List.mem_map_of_mem h))
  exact elemMass_isSome_of_isotopeKey mono _ (known_of_parse_single _ lab lm hp) (hi lab h)

/-- the elements of the residue compositions and of the precursor adjustment, and the three particles, have masses -/
def tablesKnown (mono : Bool) : Bool :=
  (Gen.aaComp.all fun e => e.2.all fun p => (elemMass mono p.1).isSome) &&
  (ionAdjP.all fun p => (elemMass mono p.1).isSome) &&
  (elemMass mono kH).isSome && (elemMass mono kE).isSome && (elemMass mono kNn).isSome

theorem tables_known : ∀ mono, tablesKnown mono = true := by
  delta tablesKnown
  rw [elemMass_fast]
  decide +kernel

/-- the charge carrier of the precursor: protons, written as hydrogen atoms less electrons -/
theorem carrierP_keys (ch : Int) : ∀ p ∈ addAll [] (CompCalc.protonsComp ch), p.1 = kH ∨ p.1 = kE := by
  intro p hpm
  have hne : ¬ kH = kE := by decide
  simp only [CompCalc.protonsComp, addAll, List.foldl_cons, List.foldl_nil, addKey, hne, if_false, List.mem_cons,
    List.mem_nil_iff, or_false] at hpm
  rcases hpm with h | h <;> simp [h]

/-- **bridge (label path), precursor ion, the property's labels**: for a plain annotation carrying one label or a pair of labels
of the property, with known residues and modifications that resolve (compositions keyed by at most 8 bytes), at any charge
and in both mass modes, the concrete model's `mass` (composition path of C03) and `AbsMass.massLabel` at the concrete
environment return the same number. -/
theorem mass_bridge_label_precursor (env : Pept.Env) (mono : Bool) (dl : Mod → Option ℚ) (cp : Mod → Chem.Comp)
    (b : Annotation) (L : List Mod) (ch : Int) (hL : L ∈ labelLists) (hpl : Fragment.PlainL b L)
    (hseq : CompCalc.KnownResidues b.seq)
    (hmods : Fragment.ModsResolve env (Fragment.knownOf mono) dl cp) (hsm : ∀ m, dl m = none → SmallKeys (cp m)) :
    ∃ X, Mass.mass env b { charge := some ch, mono := mono } = .ok X ∧
      AbsMass.massLabel (envFor env Mass.ionP mono ch 0 0) b = .ok X := by
  obtain ⟨lm, hp, hN, hkeys, hlab⟩ := labelList_parses L hL
  have hmapK : ∀ p ∈ lm.map encPair, Fragment.knownOf mono p.2 := by
    intro p hpm
    obtain ⟨q, hq, rfl⟩ := List.mem_map.mp hpm
    exact labels_known mono q.2 (hlab q hq)
  have hT := tables_known mono
  simp only [tablesKnown, Bool.and_eq_true, List.all_eq_true] at hT
  obtain ⟨⟨⟨⟨hAA, hADJ⟩, hH⟩, hE⟩, hNn⟩ := hT
  have hres : Fragment.ResiduesResolve (Fragment.knownOf mono) (fun x => aaOf x.toNat) b.seq := by
    refine ⟨fun x hx => ?_, (CompCalc.noBZ b.seq hseq).1, (CompCalc.noBZ b.seq hseq).2⟩
    obtain ⟨f, hf⟩ := hseq x hx
    have hax : aaOf x.toNat = f := congrArg (Option.getD · []) hf
    exact ⟨hf.trans (congrArg some hax.symm), hax ▸ hAA (x.toNat, f) (Chem.mem_of_lookup _ _ _ hf)⟩
  have hcar : CompCalc.defaultCarrier ch Mass.ionP = .ok (addAll [] (CompCalc.protonsComp ch)) := rfl
  have hscar : SmallKeys (addAll [] (CompCalc.protonsComp ch)) := by
    intro p hpm
    rcases carrierP_keys ch p hpm with h | h <;> rw [h] <;> decide
  have hcarK : Fragment.AK (Fragment.knownOf mono) (addAll [] (CompCalc.protonsComp ch)) := by
    intro p hpm
    rcases carrierP_keys ch p hpm with h | h <;> (show (elemMass mono p.1).isSome = true) <;> rw [h]
    exacts [hH, hE]
  cases L with
  | nil => exact absurd hL (by decide)
  | cons i0 is =>
    exact mass_bridge_label env mono dl cp _ b i0 is lm hpl hp hN hkeys hmapK hres (fun x _ => (aaOf_ok x.toNat).1)
      hmods hsm Mass.ionP ch ionAdjP _ ionAdjP_eq hADJ ionAdjP_small hcar hcarK hscar (by decide) hNn

end Concrete
end Pept
