import PeptVerif.Model.EffectsApi
/-! C08: forms of the checks over the generated API tables that the kernel evaluates quickly, each proved to give the form
the obligations are stated in. -/

namespace Effects

theorem char_toNat_ofNat {n : Nat} (h : n.isValidChar) : (Char.ofNat n).toNat = n := by
  simp [Char.ofNat, h, Char.ofNatAux, Char.toNat]

theorem codes_ofList {c : List Nat} (hv : ∀ n ∈ c, n.isValidChar) :
    (String.ofList (c.map Char.ofNat)).toList.map Char.toNat = c := by
  rw [String.toList_ofList, List.map_map]
  exact (List.map_congr_left fun n hn => char_toNat_ofNat (hv n hn)).trans (List.map_id c)

/-- Stated in this direction because a string literal is `String.ofList` of its characters, so `h` holds by `rfl`; decoding
the strings with `String.toList` is very slow in the kernel. -/
theorem spelled_of {names : List String} {codes : List (List Nat)}
    (h : names = codes.map fun c => String.ofList (c.map Char.ofNat)) (hv : ∀ c ∈ codes, ∀ n ∈ c, n.isValidChar) :
    codes = names.map fun s => s.toList.map Char.toNat := by
  subst h
  rw [List.map_map]
  exact ((List.map_congr_left fun c hc => codes_ofList (hv c hc)).trans (List.map_id _)).symm

theorem declaredOutsideCodes_spelled :
    declaredOutsideCodes = declaredOutside.map (fun s => s.toList.map Char.toNat) :=
  spelled_of (by rfl) (by decide +kernel)

theorem declaredSharingCodes_spelled :
    declaredSharingCodes = declaredSharing.map (fun s => s.toList.map Char.toNat) :=
  spelled_of (by rfl) (by decide +kernel)

theorem declaredDbEditorCodes_spelled :
    declaredDbEditorCodes = declaredDbEditors.map (fun s => s.toList.map Char.toNat) :=
  spelled_of (by rfl) (by decide +kernel)

/-- `l` is covered by `a` and `b`, decided in one walk when `a` lists its part of `l` in the order of `l`: an element of `l`
is the next element of `a`, or else it is in `b`. -/
def coveredInOrder {α : Type} [BEq α] (b : List α) : List α → List α → Bool
  | [], _ => true
  | s :: l, [] => b.contains s && coveredInOrder b l []
  | s :: l, x :: a => if s == x then coveredInOrder b l a else b.contains s && coveredInOrder b l (x :: a)

theorem mem_of_coveredInOrder {α : Type} [BEq α] [LawfulBEq α] {b l a : List α} (h : coveredInOrder b l a = true) :
    ∀ s ∈ l, s ∈ a ∨ s ∈ b := by
  fun_induction coveredInOrder b l a <;> grind

theorem all_contains_of_coveredInOrder {α β : Type} [BEq α] [LawfulBEq α] {l : List β} {key : β → α} {a b : List α}
    (h : coveredInOrder b (l.map key) a = true) : l.all (fun s => a.contains (key s) || b.contains (key s)) = true := by
  simpa [List.all_eq_true] using fun s hs => mem_of_coveredInOrder h (key s) (List.mem_map_of_mem hs)

/-- `l.getD (c * q + r) d`, reached by `q` drops of `c` cells.  `getD` walks `n` cells at every call; the dropped lists are shared
by the kernel between calls on the same table, so a lookup walks `n / c + n % c` cells. -/
def dropGet {α : Type} (c : Nat) : Nat → List α → Nat → α → α
  | 0, l, r, d => l.getD r d
  | q + 1, l, r, d => dropGet c q (l.drop c) r d

def strideGet {α : Type} (c : Nat) (l : List α) (n : Nat) (d : α) : α := dropGet c (n / c) l (n % c) d

theorem dropGet_eq {α : Type} (c q : Nat) (l : List α) (r : Nat) (d : α) : dropGet c q l r d = l.getD (c * q + r) d := by
  induction q generalizing l with
  | zero => rw [dropGet, Nat.mul_zero, Nat.zero_add]
  | succ q ih =>
    rw [dropGet, ih, List.getD_eq_getElem?_getD, List.getElem?_drop, ← List.getD_eq_getElem?_getD, Nat.mul_succ]
    congr 1
    omega

theorem strideGet_eq {α : Type} (c : Nat) (l : List α) (n : Nat) (d : α) : strideGet c l n d = l.getD n d := by
  rw [strideGet, dropGet_eq, Nat.div_add_mod]

end Effects
