import PeptVerif.Lemmas.RatSum
/-!
Compositions as Python dicts with rational counts, for any key type: merging two of them (`addAll`) and isotope
substitution (`relabel1`, `relabel`: `apply_isotope_mods_to_composition`).  The count of a key is `(c.lookup k).getD 0`.

The idea of the second half: on a dict with distinct keys, moving the count of `el` to `lab` is the same, for the weighted
sum, as letting `el` weigh what `lab` weighs — relabelling is a change of the weight function, hence linear in the dict.
Core Lean only.
-/
namespace Dict
open AssocList RatSum
variable {κ : Type} [BEq κ] [LawfulBEq κ] [DecidableEq κ]

/-- `for k, v in d.items(): c[k] = c.get(k, 0) + v` -/
def addAll (c d : List (κ × Rat)) : List (κ × Rat) := d.foldl (fun acc p => alter (fun o => o.getD 0 + p.2) p.1 acc) c

omit [DecidableEq κ] in
theorem wsum_addAll (w : κ → Rat) (c d : List (κ × Rat)) : wsum w (addAll c d) = wsum w c + wsum w d := by
  unfold addAll
  induction d generalizing c with
  | nil => exact (Rat.add_zero _).symm
  | cons p d ih => rw [List.foldl_cons, ih, wsum_alter_add, wsum_cons]; grind

theorem nodup_addAll (c d : List (κ × Rat)) (h : (keys c).Nodup) : (keys (addAll c d)).Nodup := by
  unfold addAll
  induction d generalizing c with
  | nil => exact h
  | cons p d ih => exact ih _ (nodup_keys_alter _ p.1 h)

theorem forall_keys_addAll {P : κ → Prop} {c d : List (κ × Rat)} (hc : ∀ a ∈ keys c, P a) (hd : ∀ a ∈ keys d, P a) :
    ∀ a ∈ keys (addAll c d), P a := by
  unfold addAll
  induction d generalizing c with
  | nil => exact hc
  | cons p d ih =>
    exact ih (forall_keys_alter _ (hd p.1 List.mem_cons_self) hc) fun a ha => hd a (List.mem_cons_of_mem _ ha)

theorem lookup_addAll (c d : List (κ × Rat)) (k : κ) (hd : (keys d).Nodup) :
    ((addAll c d).lookup k).getD 0 = (c.lookup k).getD 0 + (d.lookup k).getD 0 := by
  unfold addAll
  induction d generalizing c with
  | nil => exact (Rat.add_zero _).symm
  | cons p d ih =>
    obtain ⟨a, v⟩ := p
    obtain ⟨ha, hd'⟩ := List.nodup_cons.1 hd
    rw [List.foldl_cons, ih _ hd', lookup_alter, lookup_cons]
    by_cases e : a = k
    · subst e
      rw [if_pos rfl, if_pos rfl, lookup_eq_none_iff.2 ha]
      simp only [Option.getD_some, Option.getD_none]; grind
    · rw [if_neg (Ne.symm e), if_neg e]

/-- one entry `el ↦ lab` of a label map: `c[lab] = c.get(lab, 0) + c[el]; del c[el]`, when `el` is a key and not `lab` -/
def relabel1 (c : List (κ × Rat)) (el lab : κ) : List (κ × Rat) :=
  if el ∈ keys c ∧ el ≠ lab then (alter (fun o => o.getD 0 + (c.lookup el).getD 0) lab c).filter (·.1 != el) else c

def relabel (c : List (κ × Rat)) (m : List (κ × κ)) : List (κ × Rat) := m.foldl (fun c p => relabel1 c p.1 p.2) c

/-- the weight function after all substitutions (the last entry is applied innermost) -/
def labelMu (m : List (κ × κ)) (w : κ → Rat) : κ → Rat :=
  m.foldr (fun p ν e => if e = p.1 then ν p.2 else ν e) w

theorem nodup_relabel1 (c : List (κ × Rat)) (el lab : κ) (h : (keys c).Nodup) : (keys (relabel1 c el lab)).Nodup := by
  unfold relabel1
  split
  · exact nodup_keys_filter _ (nodup_keys_alter _ lab h)
  · exact h

theorem forall_keys_relabel1 {P : κ → Prop} {c : List (κ × Rat)} (el : κ) {lab : κ} (hc : ∀ a ∈ keys c, P a) (hl : P lab) :
    ∀ a ∈ keys (relabel1 c el lab), P a := by
  unfold relabel1
  split
  · intro a ha
    rw [keys_filter_ne] at ha
    exact forall_keys_alter _ hl hc a (List.mem_filter.1 ha).1
  · exact hc

theorem lookup_relabel1 (c : List (κ × Rat)) (el lab x : κ) :
    ((relabel1 c el lab).lookup x).getD 0 =
      if el = lab then (c.lookup x).getD 0
      else if x = el then 0 else (c.lookup x).getD 0 + (if x = lab then (c.lookup el).getD 0 else 0) := by
  unfold relabel1
  by_cases he : el = lab
  · rw [if_neg fun h => h.2 he, if_pos he]
  · rw [if_neg he]
    by_cases hm : el ∈ keys c
    · rw [if_pos ⟨hm, he⟩, lookup_filter_ne, lookup_alter]
      by_cases hx : x = el
      · rw [if_pos hx, if_pos hx]; rfl
      · rw [if_neg hx, if_neg hx]
        by_cases hl : x = lab
        · rw [if_pos hl, if_pos hl, hl]; rfl
        · rw [if_neg hl, if_neg hl, Rat.add_zero]
    · rw [if_neg fun h => hm h.1, lookup_eq_none_iff.2 hm]
      by_cases hx : x = el
      · rw [if_pos hx, hx, lookup_eq_none_iff.2 hm]; rfl
      · rw [if_neg hx]; simp only [Option.getD_none, ite_self, Rat.add_zero]

theorem relabel1_shift (w : κ → Rat) (c : List (κ × Rat)) (el lab : κ) (h : (keys c).Nodup) :
    wsum w (relabel1 c el lab) = wsum w c + (c.lookup el).getD 0 * (w lab - w el) := by
  unfold relabel1
  by_cases hm : el ∈ keys c ∧ el ≠ lab
  · rw [if_pos hm, wsum_filter_ne w el (nodup_keys_alter _ lab h), wsum_alter_add, lookup_alter_ne _ _ hm.2]; grind
  · rw [if_neg hm]
    by_cases he : el = lab
    · rw [he]; grind
    · rw [lookup_eq_none_iff.2 fun hk => hm ⟨hk, he⟩]; simp only [Option.getD_none]; grind

theorem relabel1_mass (w : κ → Rat) (c : List (κ × Rat)) (el lab : κ) (h : (keys c).Nodup) :
    wsum w (relabel1 c el lab) = wsum (fun e => if e = el then w lab else w e) c := by
  rw [relabel1_shift w c el lab h, wsum_update w el (w lab) h]; grind

theorem relabel_mass (w : κ → Rat) (m : List (κ × κ)) (c : List (κ × Rat)) (h : (keys c).Nodup) :
    wsum w (relabel c m) = wsum (labelMu m w) c := by
  induction m generalizing c with
  | nil => rfl
  | cons p ps ih =>
    exact (ih (relabel1 c p.1 p.2) (nodup_relabel1 c p.1 p.2 h)).trans (relabel1_mass (labelMu ps w) c p.1 p.2 h)

end Dict
