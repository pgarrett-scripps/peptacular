import PeptVerif.Lemmas.ConcreteKeys
import PeptVerif.Lemmas.CondenseLabel
/-! The concrete environment (`Model/ConcreteEnv.lean`, generated tables of /repo) is `Coherent`. A tabulated mass is the mass
of the tabulated composition whatever the element masses are (`chemMass_decodeComp`), so the kernel-evaluated table facts
concern the shape of the compositions of constants.py only: keys of at most 8 bytes, distinct keys, the atoms of the
precursor adjustment against those of the two termini. -/
namespace Pept
namespace Concrete
open Chem AbsMass CondenseMass

/-- `AA_COMPOSITIONS[x]`, empty for an unknown letter -/
def aaOf (x : Nat) : Chem.Comp := (lookup x Gen.aaComp).getD []

section envFor
variable (env : Pept.Env) (ion : Key) (mono : Bool) (ch iso : Int) (loss : ℚ)

theorem envFor_mu : (envFor env ion mono ch iso loss).mu = muOf env mono := rfl
theorem envFor_em : (envFor env ion mono ch iso loss).em = emOf mono := rfl
theorem envFor_modRes : (envFor env ion mono ch iso loss).modRes = modResOf env := rfl
theorem envFor_adj :
    (envFor env ion mono ch iso loss).adj = okOr0 (Mass.adjustMass 0 (some ch) ion mono iso loss none none) := rfl
theorem envFor_aaComp (x : Char) : (envFor env ion mono ch iso loss).aaComp x = decodeComp (aaOf x.toNat) := rfl
theorem envFor_ionAdj : (envFor env ion mono ch iso loss).ionAdj = decodeComp ((lookup ion neutralAdj).getD []) := rfl
theorem envFor_chargeComp :
    (envFor env ion mono ch iso loss).chargeComp = decodeComp (compOrNil (CompCalc.defaultCarrier ch ion)) := rfl

end envFor

/-- every residue composition has keys of at most 8 bytes, distinct after unpacking -/
def aaTableOk : Bool :=
  Gen.aaComp.all fun e => e.2.all (fun p => decide (p.1 < 256 ^ 8)) && decide (((decodeComp e.2).map (·.1)).Nodup)

theorem aaTable_ok : aaTableOk = true := by decide +kernel

theorem aaOf_ok (x : Nat) : SmallKeys (aaOf x) ∧ NodupKeys (decodeComp (aaOf x)) := by
  unfold aaOf
  cases hl : lookup x Gen.aaComp with
  | none => exact ⟨fun _ hp => (nomatch hp), List.nodup_nil⟩
  | some c =>
    have := List.all_eq_true.mp aaTable_ok (x, c) (Chem.mem_of_lookup x Gen.aaComp c hl)
    simp only [Bool.and_eq_true, decide_eq_true_eq] at this
    exact ⟨smallKeys_of_all c this.1, this.2⟩

/-- `MONOISOTOPIC_AA_MASSES` / `AVERAGE_AA_MASSES` are the masses of `AA_COMPOSITIONS` -/
theorem aaMass_getD (mono : Bool) (x : Nat) : (aaMass mono x).getD 0 = constMass mono (aaOf x) := by
  unfold aaMass aaOf
  cases lookup x Gen.aaComp <;> rfl

theorem modResOf_cases (env : Pept.Env) (v : ModVal) :
    (∃ d, (env.res v).delta = .ok (some d) ∧ modResOf env v = .delta d) ∨
    (∃ c, (env.res v).delta = .ok none ∧ (env.res v).comp = .ok c ∧ modResOf env v = .comp (decodeComp c)) ∨
    modResOf env v = .bad := by
  unfold modResOf
  split
  · next d h => exact Or.inl ⟨d, h, rfl⟩
  · next h =>
    split
    · next c hc => exact Or.inr (Or.inl ⟨c, h, hc, rfl⟩)
    · exact Or.inr (Or.inr rfl)
  · exact Or.inr (Or.inr rfl)

/-- the fields `ionAdj`, `chargeComp`, `ntermComp`, `ctermComp` of `envOf env mono` (the plain precursor query `mass(x)`: neutral,
charge 0), before `decodeComp` -/
def ionAdjP : Chem.Comp := (lookup Mass.ionP neutralAdj).getD []
def chargeP : Chem.Comp := addAll [] (CompCalc.protonsComp 0)
def ntermP : Chem.Comp := (lookup Mass.ionP Gen.neutralStart).getD []
def ctermP : Chem.Comp := (lookup Mass.ionP Gen.neutralEnd).getD []

theorem ionAdjP_eq : lookup Mass.ionP neutralAdj = some ionAdjP := by decide +kernel

def termKeys : List (List Char) :=
  (decodeComp ionAdjP ++ decodeComp chargeP ++ decodeComp ntermP ++ decodeComp ctermP).map (·.1)

/-- the ion-type adjustment plus the charge carrier has exactly the atoms of `NTERM_COMPOSITION` + `CTERM_COMPOSITION`; the four
compositions have distinct keys after unpacking, and the two whose masses enter have keys of at most 8 bytes -/
def termTableOk : Bool :=
  termKeys.all (fun x => decide (compGet (decodeComp ionAdjP) x + compGet (decodeComp chargeP) x =
    compGet (decodeComp ntermP) x + compGet (decodeComp ctermP) x)) &&
  ([ionAdjP, chargeP, ntermP, ctermP].all fun c => decide (((decodeComp c).map (·.1)).Nodup)) &&
  [ionAdjP, chargeP].all fun c => c.all fun p => decide (p.1 < 256 ^ 8)

theorem termTable_ok : termTableOk = true := by decide +kernel

theorem ionAdjP_small : SmallKeys ionAdjP := by
  have h := termTable_ok
  simp only [termTableOk, List.all_cons, Bool.and_eq_true] at h
  exact smallKeys_of_all _ h.2.1

/-- what `adjust_mass` adds for the neutral precursor is the mass of the ion-type adjustment; no protons -/
theorem adj_neutral_precursor (mono : Bool) :
    okOr0 (Mass.adjustMass 0 (some 0) Mass.ionP mono 0 0 none none) = constMass mono ionAdjP + constMass mono chargeP := by
  have hc : constMass mono chargeP = 0 := by
    simp [constMass, chargeP, chemMassL_addAll, CompCalc.protonsComp, chemMassL_cons, chemMassL_nil]
  have hfa : fragmentAdjMass mono Mass.ionP = some (constMass mono ionAdjP) := by
    unfold fragmentAdjMass; rw [ionAdjP_eq]; rfl
  rw [Mass.adjustMass_parts 0 (some 0) Mass.ionP mono 0 0 none none _ hfa _ rfl, hc]
  simp [okOr0, roundOpt]

/-- **the concrete environment of `mass(x)` is coherent**, in both mass modes, for any resolver -/
theorem coherent_envOf (env : Pept.Env) (mono : Bool) : Coherent (envOf env mono) := by
  have hT := termTable_ok
  simp only [termTableOk, List.all_cons, List.all_nil, Bool.and_eq_true, decide_eq_true_eq, and_true] at hT
  obtain ⟨⟨hterm, hn1, hn2, hn3, hn4⟩, hs1, hs2⟩ := hT
  have hcm := fun c h => (chemMass_decodeComp mono c (smallKeys_of_all c h)).symm
  refine ⟨fun x => ?_, ?_, fun x => ?_, fun x => (aaOf_ok x.toNat).2, hn1, hn2, hn3, hn4, rfl, rfl, rfl, rfl⟩
  · exact (aaMass_getD mono x.toNat).trans (chemMass_decodeComp mono _ (aaOf_ok x.toNat).1).symm
  · exact (adj_neutral_precursor mono).trans (congrArg₂ _ (hcm _ hs1) (hcm _ hs2))
  · show compGet (decodeComp ionAdjP) x + compGet (decodeComp chargeP) x =
      compGet (decodeComp ntermP) x + compGet (decodeComp ctermP) x
    by_cases hx : x ∈ termKeys
    · exact of_decide_eq_true (List.all_eq_true.mp hterm x hx)
    · simp only [termKeys, List.map_append, List.mem_append, not_or] at hx
      rw [compGet_of_not_mem _ _ hx.1.1.1, compGet_of_not_mem _ _ hx.1.1.2, compGet_of_not_mem _ _ hx.1.2,
        compGet_of_not_mem _ _ hx.2]

end Concrete
end Pept
