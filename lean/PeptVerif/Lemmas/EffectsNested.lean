import PeptVerif.Lemmas.Effects
/-! C08: nested execution is bounded by the summary-based analysis -/

namespace Effects

theorem summarizeFrom_mono {P A : Pts} {w w' : List Obj} (hP : Le P A) (hw : w ⊆ w') (n r : Nat) :
    SumLe (summarizeFrom P w n r) (summarizeFrom A w' n r) := by
  refine ⟨dedup_mono (flatMap_subset _ hw), dedup_mono (List.filterMap_subset _ hw), dedup_mono (List.map_subset _ (hP r).top),
    dedup_mono (List.map_subset _ (hP r).kids), dedup_mono (List.map_subset _ (hP r).deep), dedup_mono (flatMap_mono (fun j => ?_))⟩
  exact append_mono (List.map_subset _ (List.filter_subset _ (hP j).kids)) (List.map_subset _ (List.filter_subset _ (hP j).deep))

/-- for statements other than calls the summary table is irrelevant -/
theorem step_noncall (S S' : List Summary) (st : Stmt) (h : ∀ ret f args, st ≠ .call ret f args) (P : Pts) :
    step S st P = step S' st P ∧ targets S st P = targets S' st P := by
  cases st with
  | call ret f args => exact absurd rfl (h ret f args)
  | _ => exact ⟨rfl, rfl⟩

/-- **Nested execution is bounded by the summary-based analysis.**  If the table `S` is closed under every body of `fns`,
then running any body with real nested calls, along any nested trace, from any state below its table `A`, stays below `A`
and writes only objects of `writeSet S p A`. -/
theorem nested_bounded (S : List Summary) (fns : List FnInfo)
    (hclosed : ∀ f i, fns[f]? = some i → closedAt S fns f = true) :
    ∀ (tr : NTrace) (p : List Stmt) (A : Pts), closedB S p A = true → ∀ (σ : NState), Le σ.pts A →
      Le (execN fns p tr σ).pts A ∧ ∀ o, o ∈ (execN fns p tr σ).log → o ∈ σ.log ∨ o ∈ writeSet S p A := by
  intro tr
  induction tr with
  | done => intro p A _ σ h; exact ⟨h, fun o ho => Or.inl ho⟩
  | step k sub rest ihsub ihrest =>
    intro p A hA σ hσ
    -- whatever statement `st` of `p` the step runs: the names stay below `A` and the new log entries are targets of `st`
    have tail : ∀ st ∈ p, ∀ (P' : Pts) (l' : List Obj), Le P' A → l' ⊆ targets S st A →
        Le (execN fns p rest ⟨P', σ.log ++ l'⟩).pts A ∧
          ∀ o, o ∈ (execN fns p rest ⟨P', σ.log ++ l'⟩).log → o ∈ σ.log ∨ o ∈ writeSet S p A := by
      intro st hst P' l' hP' hl'
      obtain ⟨h1, h2⟩ := ihrest p A hA ⟨P', σ.log ++ l'⟩ hP'
      refine ⟨h1, fun o ho => (h2 o ho).elim (fun h => ?_) Or.inr⟩
      exact (List.mem_append.1 h).imp_right fun h => List.mem_flatMap.2 ⟨st, hst, hl' h⟩
    rw [execN]
    split
    · exact ihrest p A hA σ hσ
    · next ret f args hk =>
      have hst := List.mem_of_getElem? hk
      split
      · exact ihrest p A hA σ hσ
      · next i hf =>
        -- the callee's run is bounded by its own table, so the summary of the run is within the callee's entry of `S`
        have hcl := hclosed f i hf
        rw [closedAt, hf, Bool.and_eq_true] at hcl
        obtain ⟨hb, hsub⟩ := ihsub i.prog i.table hcl.1 ⟨[], []⟩ (nil_le _)
        have hs : SumLe (summarizeFrom (execN fns i.prog sub ⟨[], []⟩).pts (execN fns i.prog sub ⟨[], []⟩).log
            i.nparams i.ret) (summaryOf S f) :=
          (summarizeFrom_mono hb (fun o ho => (hsub o ho).resolve_left List.not_mem_nil) i.nparams i.ret).trans
            (summarize_eq S i.prog i.table i.nparams i.ret ▸ summarySub_sound hcl.2)
        exact tail _ hst _ _ (callStep_le hs (List.all_eq_true.1 hA _ hst) hσ) (callTargets_le hs hσ)
    · next st hncall hk =>
      have hst := List.mem_of_getElem? hk
      obtain ⟨e1, e2⟩ := step_noncall [] S st hncall σ.pts
      rw [e1, e2]
      exact tail st hst _ _ (closedStmt_bounds S st (List.all_eq_true.1 hA st hst) hσ) (targets_mono S st hσ)

end Effects
