import PeptVerif.Model.Formula
/-!
The hypothesis of the formula / glycan round-trip lemmas about a count: `NumWF` (which numbers) and `NumOK` (the five facts
about the printed text `v.show` that the scanners need).  `Lemmas/NumText.lean` proves `NumWF v → NumOK v`; only that proof
looks at digits, so `Lemmas/FormulaRT.lean` and `Lemmas/GlycanRT.lean` reason from `NumOK` alone.  Mathlib-free.
-/
namespace Formula
open ModDb

/-- a count the writers can print in positional notation: a Python int, or a float that is a finite decimal
with at most 399 fractional digits (every sum/product of decimals is one) -/
def NumWF (v : Num) : Prop :=
  (v.isFloat = false → v.val.den = 1) ∧ (v.isFloat = true → ∃ s, s ≤ 399 ∧ v.val.den ∣ 10 ^ s)

/-- what the round-trip proofs need to know about the printed text `v.show` of a count -/
structure NumOK (v : Num) : Prop where
  /-- reading the printed text gives the number back (value and int/float kind) -/
  conv : convertType v.show = .num v
  /-- the text is not empty -/
  ne : v.show ≠ []
  /-- it consists of `-`, digits and `.` only -/
  chars : ∀ c ∈ v.show, (isDigit c || c == 45 || c == 46) = true
  /-- the tokenizer's count pattern `-?\d*\.?\d*` matches exactly the printed text when what follows does not start
  with a digit or a dot -/
  count : ∀ rest : Str, (∀ c r, rest = c :: r → (isDigit c || c == 46) = false) → countStr (v.show ++ rest) = v.show
  /-- `float(text)` succeeds (`is_number` of `_parse_split_chem_formula`) -/
  isNum : isNumber v.show = true

end Formula
