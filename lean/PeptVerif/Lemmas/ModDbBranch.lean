import PeptVerif.Model.ModDbBranch
import PeptVerif.Lemmas.ModDbLemmas
/-!
`parseModMass` / `parseModComp` are "cut the tag, test for a number, choose the branch, run it", and which branch is
chosen depends on three things only: the documented prefix the text starts with (`docPrefix`: any letter case, `[]` if
none) and the two vocabulary tests on the whole text (`is_psi_mod_str`, `is_unimod_str`); `spelledBranch` is that
function, one for both chains.  Mathlib-free.
-/
namespace ModDbGeneric
open ModDb Formula

/-- `_parse_mod_mass` after the tag has been cut -/
def massBody (T : Tables) (m : Str) (mono : Bool) : Except Err (Option Mass) :=
  match convertType m with
  | .num n => .ok (some (some n.val))
  | .special => .ok (some none)
  | .str => runMassBranch T m mono (massBranch T m)

theorem parseModMass_eq (T : Tables) (m : Str) (mono : Bool) : parseModMass T m mono =
    if m.contains 35 && startsWith m [35] then .ok (some (some 0))
    else massBody T (if m.contains 35 then beforeHash m else m) mono := by
  -- the model's chain returns results where `massBranch` returns tags: push `runMassBranch` through the `if`s
  unfold massBody massBranch
  simp only [apply_ite (runMassBranch T _ mono)]
  rfl

theorem parseModMass_noTag (T : Tables) {m : Str} (mono : Bool) (h : 35 ∉ m) :
    parseModMass T m mono = massBody T m mono := by
  rw [parseModMass_eq]; simp [h]

section
variable {T : Tables} {m : Str} {mono : Bool}

theorem massBody_num {n : Num} (h : convertType m = .num n) : massBody T m mono = .ok (some (some n.val)) := by
  rw [massBody, h]

theorem massBody_special (h : convertType m = .special) : massBody T m mono = .ok (some none) := by
  rw [massBody, h]

theorem massBody_str (h : convertType m = .str) : massBody T m mono = runMassBranch T m mono (massBranch T m) := by
  rw [massBody, h]

end

/-- the branch chain of `_parse_mod_comp` after the tag has been cut, written out as in the model -/
def compStrBody (T : Tables) (m : Str) : Except Err (Option Comp) :=
  let lw := lower m
  if startsWith lw (str% "glycan:") then (glycanCompProforma T m).map some
  else if hasPrefix pGno m then dbComp T.gno pGno m
  else if hasPrefix pXlmod m then dbComp T.xlmod pXlmod m
  else if hasPrefix pResid m then dbComp T.resid pResid m
  else if startsWith lw (str% "info:") then .ok none
  else if startsWith lw (str% "obs:") then .ok none
  else if isDbStr pPsi T.psimod m then dbComp T.psimod pPsi m
  else if isDbStr pUnimod T.unimod m then dbComp T.unimod pUnimod m
  else if startsWith lw (str% "formula:") then (parseChem ((splitColon1 m).getD []) []).map some
  else .ok none

theorem compStrBody_eq (T : Tables) (m : Str) : compStrBody T m = runCompBranch T m (compBranch T m) := by
  unfold compBranch
  simp only [apply_ite (runCompBranch T m)]
  rfl

theorem parseModComp_eq (T : Tables) (m : Str) : parseModComp T m =
    match convertType m with
    | .num _ => .ok none
    | .special => .ok none
    | .str =>
      if m.contains 35 && startsWith m [35] then .ok (some [])
      else compStrBody T (if m.contains 35 then beforeHash m else m) := rfl

end ModDbGeneric

namespace ModDb
open Formula ModDbGeneric

theorem parseModMass_eq_branch (T : Tables) (m : Str) (mono : Bool) (h35 : 35 ∉ m) (hc : convertType m = .str) :
    parseModMass T m mono = runMassBranch T m mono (massBranch T m) := by
  rw [parseModMass_noTag T mono h35, massBody_str hc]

theorem parseModComp_eq_branch (T : Tables) (m : Str) (h35 : 35 ∉ m) (hc : convertType m = .str) :
    parseModComp T m = runCompBranch T m (compBranch T m) := by
  rw [parseModComp_eq, hc, ← compStrBody_eq]
  simp only [ModDb.contains_false h35, Bool.false_and, Bool.false_eq_true, if_false]

/-! ## the branch as a function of the documented prefix

The recognisers of the two dispatch chains test whether the lower-cased text starts with one of 15 prefixes, each of
which ends with its only colon (`goodPrefix`). Such a prefix matches a text that begins with another such prefix only if
the two are the same (`startsWith_good`): so every recogniser is a comparison with the one documented prefix the text
starts with, if any. -/

theorem startsWith_good {p q : Str} (r : Str) (hp : goodPrefix p = true) (hq : goodPrefix q = true) :
    startsWith (p ++ r) q = (p == q) := by
  obtain ⟨a, rfl, ha, -, -⟩ := goodPrefix_decomp hp
  obtain ⟨b, rfl, hb, -, -⟩ := goodPrefix_decomp hq
  apply Bool.eq_iff_iff.2
  rw [startsWith_iff, beq_iff_eq]
  constructor
  · rintro ⟨s, hs⟩
    -- both sides are cut at their first colon
    have := congrArg (spanP (· != 58)) hs
    simp only [List.append_assoc, List.singleton_append, spanP_ne 58 _ _ ha, spanP_ne 58 _ _ hb] at this
    rw [(Prod.mk.inj this).1]
  · intro e; exact ⟨r, by rw [e]⟩

theorem hasPrefix_good {ps : List Str} {p' : Str} (t : Str) (hp : goodPrefix (lower p') = true)
    (hps : ∀ q ∈ ps, goodPrefix q = true) : hasPrefix ps (p' ++ t) = ps.contains (lower p') := by
  rw [Bool.eq_iff_iff, hasPrefix, List.any_eq_true, List.contains_iff_mem, lower_append]
  constructor
  · rintro ⟨q, hq, h⟩
    rw [startsWith_good _ hp (hps q hq), beq_iff_eq] at h
    exact h ▸ hq
  · intro h; exact ⟨_, h, startsWith_append _ _⟩

def docPrefix (m : Str) : Str := (reserved.find? fun p => startsWith (lower m) p).getD []

theorem recognisers (m : Str) :
    (∀ q ∈ reserved, startsWith (lower m) q = (docPrefix m == q)) ∧
    (∀ ps : List Str, (∀ q ∈ ps, q ∈ reserved) → hasPrefix ps m = ps.contains (docPrefix m)) := by
  unfold docPrefix
  cases h : reserved.find? fun p => startsWith (lower m) p with
  | some p =>
    obtain ⟨p', t, rfl, hl⟩ := split_of_startsWith_lower (List.find?_some h)
    have hg : goodPrefix (lower p') = true := hl ▸ reserved_good p (List.mem_of_find?_eq_some h)
    subst hl
    exact ⟨fun q hq => by rw [lower_append, startsWith_good _ hg (reserved_good q hq)]; rfl,
      fun ps hps => hasPrefix_good t hg fun q hq => reserved_good q (hps q hq)⟩
  | none =>
    have hn : ∀ q ∈ reserved, startsWith (lower m) q = false := fun q hq => by
      simpa using List.find?_eq_none.1 h q hq
    have hne : ∀ q ∈ reserved, (([] : Str) == q) = false := by decide
    refine ⟨fun q hq => by rw [hn q hq, Option.getD_none, hne q hq], fun ps hps => ?_⟩
    rw [Option.getD_none, hasPrefix, List.any_eq_false.2 fun q hq => by simp [hn q (hps q hq)]]
    cases hc : ps.contains [] with
    | false => rfl
    | true => have := hne _ (hps _ (List.contains_iff_mem.1 hc)); simp at this

theorem docPrefix_spelled {p' : Str} (t : Str) (hp : lower p' ∈ reserved) : docPrefix (p' ++ t) = lower p' := by
  have := (recognisers (p' ++ t)).1 _ hp
  rw [startsWith_spelled] at this
  exact eq_of_beq this.symm

theorem docPrefix_bare {n : Str} (h : hasPrefix reserved n = false) : docPrefix n = [] := by
  unfold docPrefix
  cases hf : reserved.find? fun p => startsWith (lower n) p with
  | none => rfl
  | some p =>
    have := startsWith_of_reserved (List.mem_of_find?_eq_some hf) h
    rw [List.find?_some hf] at this; cases this

/-- the dispatch chain of `_parse_mod_mass` (`comp = false`) / `_parse_mod_comp` (`comp = true`: `obs:` is tested before
the vocabularies, and skips) on a text whose lower-cased prefix is `p`; `P`, `U`: the outcome of `is_psi_mod_str` /
`is_unimod_str` on the whole text -/
def spelledBranch (comp P U : Bool) (p : Str) : Branch :=
  if p == str% "glycan:" then .glycan
  else if pGno.contains p then .gno
  else if pXlmod.contains p then .xlmod
  else if pResid.contains p then .resid
  else if p == str% "info:" then .skip
  else if comp && p == str% "obs:" then .skip
  else if P then .psi
  else if U then .unimod
  else if p == str% "formula:" then .formula
  else if !comp && p == str% "obs:" then .obs
  else .none

theorem massBranch_normal (T : Tables) (m : Str) :
    massBranch T m = spelledBranch false (isDbStr pPsi T.psimod m) (isDbStr pUnimod T.unimod m) (docPrefix m) := by
  obtain ⟨hs, hf⟩ := recognisers m
  simp only [massBranch, spelledBranch, hs _ (by decide : str% "glycan:" ∈ reserved),
    hs _ (by decide : str% "info:" ∈ reserved), hs _ (by decide : str% "formula:" ∈ reserved),
    hs _ (by decide : str% "obs:" ∈ reserved), hf pGno (by decide), hf pXlmod (by decide), hf pResid (by decide),
    Bool.false_and, Bool.not_false, Bool.true_and, Bool.false_eq_true, if_false]

theorem compBranch_normal (T : Tables) (m : Str) :
    compBranch T m = spelledBranch true (isDbStr pPsi T.psimod m) (isDbStr pUnimod T.unimod m) (docPrefix m) := by
  obtain ⟨hs, hf⟩ := recognisers m
  simp only [compBranch, spelledBranch, hs _ (by decide : str% "glycan:" ∈ reserved),
    hs _ (by decide : str% "info:" ∈ reserved), hs _ (by decide : str% "formula:" ∈ reserved),
    hs _ (by decide : str% "obs:" ∈ reserved), hf pGno (by decide), hf pXlmod (by decide), hf pResid (by decide),
    Bool.true_and, Bool.not_true, Bool.false_and, Bool.false_eq_true, if_false]

theorem spelledBranch_gno : ∀ c P U, ∀ p ∈ pGno, spelledBranch c P U p = .gno := by decide
theorem spelledBranch_xlmod : ∀ c P U, ∀ p ∈ pXlmod, spelledBranch c P U p = .xlmod := by decide
theorem spelledBranch_resid : ∀ c P U, ∀ p ∈ pResid, spelledBranch c P U p = .resid := by decide
theorem spelledBranch_psi : ∀ c U, ∀ p ∈ pPsi, spelledBranch c true U p = .psi := by decide
theorem spelledBranch_unimod : ∀ c, ∀ p ∈ pUnimod, spelledBranch c false true p = .unimod := by decide

theorem spelledBranch_glycan : ∀ c P U, spelledBranch c P U (str% "glycan:") = .glycan := by decide
theorem spelledBranch_info : ∀ c P U, spelledBranch c P U (str% "info:") = .skip := by decide
theorem spelledBranch_formula : ∀ c, spelledBranch c false false (str% "formula:") = .formula := by decide
theorem spelledBranch_obs_mass : spelledBranch false false false (str% "obs:") = .obs := by decide
theorem spelledBranch_obs_comp : ∀ P U, spelledBranch true P U (str% "obs:") = .skip := by decide

theorem isDbStr_spelled {ps : List Str} (db : List Entry) {p' : Str} (t : Str) (hp : lower p' ∈ ps) :
    isDbStr ps db (p' ++ t) = true := by
  simp [isDbStr, hasPrefix_spelled hp t]

theorem parseModMass_normal (T : Tables) {m : Str} (mono : Bool) (h35 : 35 ∉ m) (hc : convertType m = .str) :
    parseModMass T m mono = runMassBranch T m mono
      (spelledBranch false (isDbStr pPsi T.psimod m) (isDbStr pUnimod T.unimod m) (docPrefix m)) := by
  rw [parseModMass_eq_branch T m mono h35 hc, massBranch_normal]

theorem parseModComp_normal (T : Tables) {m : Str} (h35 : 35 ∉ m) (hc : convertType m = .str) :
    parseModComp T m = runCompBranch T m
      (spelledBranch true (isDbStr pPsi T.psimod m) (isDbStr pUnimod T.unimod m) (docPrefix m)) := by
  rw [parseModComp_eq_branch T m h35 hc, compBranch_normal]

theorem spelled_str {p' : Str} (t : Str) (hp : lower p' ∈ reserved) (h35 : 35 ∉ t) :
    35 ∉ p' ++ t ∧ convertType (p' ++ t) = .str := by
  obtain ⟨q', hq', -, h35', -⟩ := spelled_decomp (reserved_good _ hp) rfl
  exact ⟨by simp [h35', h35], convertType_colon (by simp [hq'])⟩

theorem parseModMass_spelled (T : Tables) {p' : Str} (t : Str) (mono : Bool) (hp : lower p' ∈ reserved) (h35 : 35 ∉ t) :
    parseModMass T (p' ++ t) mono = runMassBranch T (p' ++ t) mono
      (spelledBranch false (isDbStr pPsi T.psimod (p' ++ t)) (isDbStr pUnimod T.unimod (p' ++ t)) (lower p')) := by
  obtain ⟨h1, h2⟩ := spelled_str t hp h35
  rw [parseModMass_normal T mono h1 h2, docPrefix_spelled t hp]

theorem parseModComp_spelled (T : Tables) {p' : Str} (t : Str) (hp : lower p' ∈ reserved) (h35 : 35 ∉ t) :
    parseModComp T (p' ++ t) = runCompBranch T (p' ++ t)
      (spelledBranch true (isDbStr pPsi T.psimod (p' ++ t)) (isDbStr pUnimod T.unimod (p' ++ t)) (lower p')) := by
  obtain ⟨h1, h2⟩ := spelled_str t hp h35
  rw [parseModComp_normal T h1 h2, docPrefix_spelled t hp]

theorem parseMod_of_startsWith (T : Tables) {s q : Str} (hq : q ∈ reserved) (hp : startsWith (lower s) q = true)
    (h35 : 35 ∉ s) :
    (∀ mono, parseModMass T s mono = runMassBranch T s mono
      (spelledBranch false (isDbStr pPsi T.psimod s) (isDbStr pUnimod T.unimod s) q)) ∧
    parseModComp T s = runCompBranch T s (spelledBranch true (isDbStr pPsi T.psimod s) (isDbStr pUnimod T.unimod s) q) := by
  obtain ⟨p', t, rfl, rfl⟩ := split_of_startsWith_lower hp
  have ht : 35 ∉ t := fun h => h35 (List.mem_append_right _ h)
  exact ⟨fun mono => parseModMass_spelled T t mono hq ht, parseModComp_spelled T t hq ht⟩

/-- the branch tag `b` is served by the prefixes `ps` and the table `db`: the five vocabulary families of the chains -/
inductive Family (T : Tables) : Branch → List Str → List Entry → Prop
  | gno : Family T .gno pGno T.gno
  | xlmod : Family T .xlmod pXlmod T.xlmod
  | resid : Family T .resid pResid T.resid
  | psi : Family T .psi pPsi T.psimod
  | unimod : Family T .unimod pUnimod T.unimod

section
variable {T : Tables} {b : Branch} {ps : List Str} {db : List Entry}

theorem Family.reserved (h : Family T b ps db) : ∀ p ∈ ps, p ∈ reserved := by cases h <;> decide

theorem pUnimod_not_pPsi : ∀ p ∈ pUnimod, pPsi.contains p = false := by decide

theorem Family.good (h : Family T b ps db) : ∀ p ∈ ps, goodPrefix p = true :=
  fun p hp => reserved_good p (h.reserved p hp)

theorem routed (hf : Family T b ps db) {m : Str} (h35 : 35 ∉ m) (hc : convertType m = .str)
    (hb : ∀ c, spelledBranch c (isDbStr pPsi T.psimod m) (isDbStr pUnimod T.unimod m) (docPrefix m) = b) :
    (∀ mono, parseModMass T m mono = (getMass T db (stripPrefix ps m) mono).map some) ∧
      parseModComp T m = compOfKey db (stripPrefix ps m) := by
  refine ⟨fun mono => ?_, ?_⟩
  · rw [parseModMass_normal T mono h35 hc, hb]; cases hf <;> rfl
  · rw [parseModComp_normal T h35 hc, hb]; cases hf <;> rfl

/-- `hP`: the PSI-MOD test of the whole text comes before the Unimod one -/
theorem Family.branch_prefixed (hf : Family T b ps db) {p' : Str} (hp : lower p' ∈ ps) (t : Str)
    (hP : b = .unimod → isDbStr pPsi T.psimod (p' ++ t) = false) (c : Bool) :
    spelledBranch c (isDbStr pPsi T.psimod (p' ++ t)) (isDbStr pUnimod T.unimod (p' ++ t)) (lower p') = b := by
  cases hf
  · exact spelledBranch_gno c _ _ _ hp
  · exact spelledBranch_xlmod c _ _ _ hp
  · exact spelledBranch_resid c _ _ _ hp
  · rw [isDbStr_spelled _ t hp]; exact spelledBranch_psi c _ _ hp
  · rw [hP rfl, isDbStr_spelled _ t hp]; exact spelledBranch_unimod c _ hp

theorem parseMod_prefixed (hf : Family T b ps db) {p' : Str} (hp : lower p' ∈ ps) {k : Str} (hk : 35 ∉ k)
    (hP : b = .unimod → isDbStr pPsi T.psimod (p' ++ k) = false) :
    (∀ mono, parseModMass T (p' ++ k) mono = (getMass T db k mono).map some) ∧
      parseModComp T (p' ++ k) = compOfKey db k := by
  have hr := hf.reserved _ hp
  obtain ⟨h1, h2⟩ := spelled_str k hr hk
  have := routed hf h1 h2 (by rw [docPrefix_spelled k hr]; exact hf.branch_prefixed hp k hP)
  rwa [stripPrefix_spelled hp (hf.good _ hp) rfl] at this

theorem parseMod_prefixed_number (hf : Family T b ps db) {p' : Str} (hp : lower p' ∈ ps) {c : Nat} {ds : Str}
    (hc : c = 43 ∨ c = 45) (h35 : 35 ∉ c :: ds) (hP : b = .unimod → isDbStr pPsi T.psimod (p' ++ c :: ds) = false) :
    (∀ mono, parseModMass T (p' ++ c :: ds) mono =
      (match parseFloat (c :: ds) with
       | .val r => .ok (some (some r))
       | .special => .ok (some none)
       | .bad => .error .invalidDeltaMass)) ∧
    parseModComp T (p' ++ c :: ds) =
      (match parseFloat (c :: ds) with
       | .bad => .error .invalidDeltaMass
       | _ => .error .deltaMassComp) := by
  obtain ⟨hm, hcomp⟩ := parseMod_prefixed hf hp h35 hP
  refine ⟨fun mono => ?_, ?_⟩
  · rw [hm, getMass_signed T _ _ mono (signed_cons ds hc)]
    cases parseFloat (c :: ds) <;> rfl
  · rw [hcomp, compOfKey, getComp_signed db _ (signed_cons ds hc)]
    cases parseFloat (c :: ds) <;> rfl

theorem parseMod_bare (hf : Family T b ps db) {n : Str} (hc : keyClean n = true) (hnum : convertType n = .str)
    (hb : ∀ c, spelledBranch c (isDbStr pPsi T.psimod n) (isDbStr pUnimod T.unimod n) [] = b) :
    (∀ mono, parseModMass T n mono = (getMass T db n mono).map some) ∧ parseModComp T n = compOfKey db n := by
  obtain ⟨h35, -, hres, -⟩ := keyClean_unpack hc
  have := routed hf h35 hnum (by rwa [docPrefix_bare hres])
  rwa [stripPrefix_noPrefix (hasPrefix_sub hf.reserved hres)] at this

end

theorem isDbStr_other_prefix {qs : List Str} (db : List Entry) {p' : Str} (t : Str) (hp : lower p' ∈ reserved)
    (hq : ∀ q ∈ qs, q ∈ reserved) (hn : qs.contains (lower p') = false)
    (hk : byId db (p' ++ t) = none ∧ byName db (p' ++ t) = none) : isDbStr qs db (p' ++ t) = false := by
  rw [isDbStr, (recognisers _).2 qs hq, docPrefix_spelled t hp, hn, hk.1, hk.2]; rfl

end ModDb
