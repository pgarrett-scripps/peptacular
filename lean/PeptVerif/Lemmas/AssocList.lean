/-!
Python dicts as insertion-ordered association lists.  Reading is core `List.lookup`.  The writing operations of the
models (`d[k] = v`, `d[k] = d.get(k, 0) + v`, `d.setdefault(k, []).extend(ms)`, `Counter[k] += 1`, …) all have the
shape `alter f k`; `del d[k]` is `filter (·.1 != k)` in every model.  A module that wants the lemmas below for its own
reader or writer first states the equation (`Chem.addKey_eq`, `Reorder.dictSet_eq`, `Static.internalAppend_eq`,
`Formula.addTo_eq`, …).  Core Lean only.
-/
namespace AssocList
universe u v w
variable {κ : Type u} {ν : Type v} [BEq κ] [LawfulBEq κ] [DecidableEq κ]

def alter (f : Option ν → ν) (k : κ) : List (κ × ν) → List (κ × ν)
  | [] => [(k, f none)]
  | (k', v) :: r => if k' == k then (k', f (some v)) :: r else (k', v) :: alter f k r

abbrev keys (l : List (κ × ν)) : List κ := l.map (·.1)

/-- `List.lookup_cons` with the test the models use (entry key first, as a proposition) -/
theorem lookup_cons (k k' : κ) (v : ν) (l : List (κ × ν)) :
    ((k', v) :: l).lookup k = if k' = k then some v else l.lookup k := by
  rw [List.lookup_cons]
  by_cases h : k' = k
  · rw [if_pos h, h, beq_self_eq_true]
  · rw [if_neg h, beq_false_of_ne (Ne.symm h)]

theorem lookup_alter (f : Option ν → ν) (k k' : κ) (l : List (κ × ν)) :
    (alter f k l).lookup k' = if k' = k then some (f (l.lookup k)) else l.lookup k' := by
  induction l with
  | nil =>
    by_cases h : k' = k
    · simp [alter, h]
    · simp [alter, lookup_cons, h, Ne.symm h]
  | cons p l ih =>
    obtain ⟨a, v⟩ := p
    by_cases ha : a = k
    · subst ha
      by_cases hk : k' = a
      · simp [alter, hk]
      · simp [alter, lookup_cons, hk, Ne.symm hk]
    · by_cases hk : a = k'
      · subst hk; simp [alter, ha]
      · simp [alter, lookup_cons, ha, hk, ih]

theorem alter_congr {f g : Option ν → ν} {k : κ} {l : List (κ × ν)} (h : f (l.lookup k) = g (l.lookup k)) :
    alter f k l = alter g k l := by
  induction l with
  | nil => exact congrArg (fun x => [(k, x)]) h
  | cons p l ih =>
    obtain ⟨a, v⟩ := p
    rw [lookup_cons] at h
    rw [alter, alter]
    split
    · next e => rw [if_pos (beq_iff_eq.1 e)] at h; rw [h]
    · next e => rw [if_neg (mt beq_iff_eq.2 e)] at h; rw [ih h]

theorem keys_alter (f : Option ν → ν) (k : κ) (l : List (κ × ν)) :
    keys (alter f k l) = if k ∈ keys l then keys l else keys l ++ [k] := by
  induction l with
  | nil => rfl
  | cons p l ih =>
    obtain ⟨a, v⟩ := p
    rw [alter]
    by_cases ha : a = k
    · rw [if_pos (beq_iff_eq.2 ha), if_pos (ha ▸ List.mem_cons_self)]; rfl
    · rw [if_neg (mt beq_iff_eq.1 ha)]
      show a :: keys (alter f k l) = if k ∈ a :: keys l then a :: keys l else a :: keys l ++ [k]
      rw [ih]
      by_cases hk : k ∈ keys l
      · rw [if_pos hk, if_pos (List.mem_cons_of_mem _ hk)]
      · rw [if_neg hk, if_neg fun h => hk ((List.mem_cons.1 h).resolve_left (Ne.symm ha))]; rfl

theorem mem_keys_alter {f : Option ν → ν} {k k' : κ} {l : List (κ × ν)} :
    k' ∈ keys (alter f k l) ↔ k' = k ∨ k' ∈ keys l := by
  rw [keys_alter]
  split
  · next h => exact ⟨Or.inr, fun h' => h'.elim (· ▸ h) id⟩
  · rw [List.mem_append, List.mem_singleton, or_comm]

theorem nodup_keys_alter (f : Option ν → ν) (k : κ) {l : List (κ × ν)} (h : (keys l).Nodup) :
    (keys (alter f k l)).Nodup := by
  rw [keys_alter]
  split
  · exact h
  · next hk =>
    exact List.nodup_append.2 ⟨h, by simp, fun a ha b hb e => hk (List.mem_singleton.1 hb ▸ e ▸ ha)⟩

theorem forall_keys_alter {P : κ → Prop} (f : Option ν → ν) {k : κ} {l : List (κ × ν)} (hk : P k)
    (h : ∀ a ∈ keys l, P a) : ∀ a ∈ keys (alter f k l), P a :=
  fun a ha => (mem_keys_alter.1 ha).elim (· ▸ hk) (h a)

theorem lookup_eq_none_iff {k : κ} {l : List (κ × ν)} : l.lookup k = none ↔ k ∉ keys l := by
  induction l with
  | nil => simp
  | cons p l ih =>
    obtain ⟨a, v⟩ := p
    by_cases ha : k = a
    · simp [ha]
    · simp [lookup_cons, ha, Ne.symm ha, ih]

omit [DecidableEq κ] in
theorem alter_of_not_mem (f : Option ν → ν) {k : κ} {l : List (κ × ν)} (h : k ∉ keys l) :
    alter f k l = l ++ [(k, f none)] := by
  induction l with
  | nil => rfl
  | cons p l ih =>
    obtain ⟨a, v⟩ := p
    have hp : ¬ a = k := fun e => h (e ▸ List.mem_cons_self)
    rw [alter, if_neg (mt beq_iff_eq.1 hp), ih fun hl => h (List.mem_cons_of_mem _ hl)]; rfl

theorem length_alter (f : Option ν → ν) (k : κ) (l : List (κ × ν)) :
    (alter f k l).length = if (l.lookup k).isSome then l.length else l.length + 1 := by
  have h := congrArg List.length (keys_alter f k l)
  rw [keys, List.length_map] at h
  rw [h]
  by_cases hk : k ∈ keys l
  · rw [if_pos hk, if_pos (Option.isSome_iff_ne_none.2 (mt lookup_eq_none_iff.1 (fun h' => h' hk))), keys, List.length_map]
  · rw [if_neg hk, lookup_eq_none_iff.2 hk, keys, List.length_append, List.length_map]; rfl

theorem alter_eq_self {f : Option ν → ν} {k : κ} {v : ν} {l : List (κ × ν)} (h : l.lookup k = some v)
    (hf : f (some v) = v) : alter f k l = l := by
  induction l with
  | nil => cases h
  | cons p l ih =>
    obtain ⟨a, w⟩ := p
    rw [lookup_cons] at h
    rw [alter]
    split
    · next e => rw [if_pos (beq_iff_eq.1 e)] at h; cases h; rw [hf]
    · next e => rw [if_neg (mt beq_iff_eq.2 e)] at h; rw [ih h]

omit [DecidableEq κ] in
theorem foldl_alter_of_fresh {ι : Type w} (key : ι → κ) (F : ι → Option ν → ν) (ps : List ι) (l : List (κ × ν))
    (hn : (ps.map key).Nodup) (hd : ∀ p ∈ ps, key p ∉ keys l) :
    ps.foldl (fun a p => alter (F p) (key p) a) l = l ++ ps.map fun p => (key p, F p none) := by
  induction ps generalizing l with
  | nil => simp
  | cons q ps ih =>
    obtain ⟨hq, hn'⟩ := List.nodup_cons.1 hn
    rw [List.foldl_cons, alter_of_not_mem _ (hd q List.mem_cons_self), ih _ hn', List.map_cons, List.append_assoc]; rfl
    intro p hp hm
    rw [keys, List.map_append, List.mem_append] at hm
    rcases hm with hm | hm
    · exact hd p (List.mem_cons_of_mem _ hp) hm
    · have e : key p = key q := List.mem_singleton.1 hm
      exact hq (e ▸ List.mem_map_of_mem hp)

omit [DecidableEq κ] in
theorem foldl_alter_nil (F : κ × ν → Option ν → ν) (hF : ∀ p, F p none = p.2) (l : List (κ × ν)) (hn : (keys l).Nodup) :
    l.foldl (fun a p => alter (F p) p.1 a) [] = l := by
  rw [foldl_alter_of_fresh (·.1) F l [] hn fun _ _ => List.not_mem_nil]
  simp only [hF, List.nil_append, List.map_id']

/-- a dict comprehension `{g(k): v for k, v in d.items()}` read at `j`: `k` is the one old key that lands on `j` -/
theorem lookup_map_key (g : κ → κ) {l : List (κ × ν)} {j k : κ} (h : ∀ p ∈ l, g p.1 = j ↔ p.1 = k) :
    (l.map fun p => (g p.1, p.2)).lookup j = l.lookup k := by
  induction l with
  | nil => rfl
  | cons p l ih =>
    obtain ⟨a, v⟩ := p
    rw [List.map_cons, lookup_cons, lookup_cons, ih fun q hq => h q (List.mem_cons_of_mem _ hq)]
    by_cases e : a = k
    · rw [if_pos e, if_pos ((h (a, v) List.mem_cons_self).2 e)]
    · rw [if_neg e, if_neg (mt (h (a, v) List.mem_cons_self).1 e)]

/-- … with a filter: `{g(k): v for k, v in d.items() if P(k)}` -/
theorem lookup_filterMap_key (P : κ → Prop) [DecidablePred P] (g : κ → κ) {l : List (κ × ν)} {j k : κ}
    (h : ∀ p ∈ l, (P p.1 ∧ g p.1 = j) ↔ p.1 = k) :
    (l.filterMap fun p => if P p.1 then some (g p.1, p.2) else none).lookup j = l.lookup k := by
  induction l with
  | nil => rfl
  | cons p l ih =>
    obtain ⟨a, v⟩ := p
    have ha : (P a ∧ g a = j) ↔ a = k := h (a, v) List.mem_cons_self
    have ih' := ih fun q hq => h q (List.mem_cons_of_mem _ hq)
    rw [lookup_cons]
    by_cases hP : P a
    · rw [List.filterMap_cons_some (b := (g a, v)) (by exact if_pos hP), lookup_cons, ih']
      by_cases hb : g a = j
      · rw [if_pos hb, if_pos (ha.1 ⟨hP, hb⟩)]
      · rw [if_neg hb, if_neg fun e => hb (ha.2 e).2]
    · rw [List.filterMap_cons_none (by exact if_neg hP), ih', if_neg fun e => hP (ha.2 e).1]

theorem mem_of_lookup {k : κ} {v : ν} {l : List (κ × ν)} (h : l.lookup k = some v) : (k, v) ∈ l := by
  induction l with
  | nil => cases h
  | cons p l ih =>
    rw [lookup_cons] at h
    split at h
    · next hk => cases h; exact hk ▸ List.mem_cons_self
    · exact List.mem_cons_of_mem _ (ih h)

theorem lookup_of_mem {k : κ} {v : ν} {l : List (κ × ν)} (hn : (keys l).Nodup) (h : (k, v) ∈ l) :
    l.lookup k = some v := by
  induction l with
  | nil => cases h
  | cons p l ih =>
    obtain ⟨hp, hl⟩ := List.nodup_cons.1 hn
    obtain ⟨a, w⟩ := p
    rw [lookup_cons]
    rcases List.mem_cons.1 h with h | h
    · cases h; rw [if_pos rfl]
    · rw [if_neg fun e : a = k => hp (e ▸ List.mem_map_of_mem (f := (·.1)) h), ih hl h]

theorem lookup_perm {l₁ l₂ : List (κ × ν)} (hn : (keys l₁).Nodup) (hp : l₁.Perm l₂) (k : κ) :
    l₁.lookup k = l₂.lookup k := by
  have hn₂ : (keys l₂).Nodup := (hp.map _).nodup_iff.1 hn
  cases h : l₂.lookup k with
  | none => exact lookup_eq_none_iff.2 fun hk => lookup_eq_none_iff.1 h ((hp.map _).mem_iff.1 hk)
  | some v => exact lookup_of_mem hn (hp.mem_iff.2 (mem_of_lookup h))

theorem lookup_filter_ne (k k' : κ) (l : List (κ × ν)) :
    (l.filter (·.1 != k)).lookup k' = if k' = k then none else l.lookup k' := by
  induction l with
  | nil => simp
  | cons p l ih =>
    obtain ⟨a, v⟩ := p
    rw [List.filter_cons, lookup_cons]
    by_cases ha : a = k
    · rw [if_neg (by simp [ha]), ih]
      split
      · rfl
      · next h => rw [if_neg (ha ▸ Ne.symm h)]
    · rw [if_pos (by simpa using ha), lookup_cons, ih]
      split
      · next h => rw [if_neg (h ▸ ha)]
      · rfl

theorem lookup_alter_ne (f : Option ν → ν) {k k' : κ} (l : List (κ × ν)) (h : k' ≠ k) :
    (alter f k l).lookup k' = l.lookup k' := by rw [lookup_alter, if_neg h]

omit [LawfulBEq κ] [DecidableEq κ] in
theorem keys_filter_ne (k : κ) (l : List (κ × ν)) : keys (l.filter (·.1 != k)) = (keys l).filter (· != k) := by
  rw [keys, List.filter_map]; rfl

omit [BEq κ] [LawfulBEq κ] [DecidableEq κ] in
theorem nodup_keys_filter (p : κ × ν → Bool) {l : List (κ × ν)} (h : (keys l).Nodup) : (keys (l.filter p)).Nodup :=
  h.sublist (List.filter_sublist.map _)

omit [DecidableEq κ] in
theorem filter_ne_of_not_mem {k : κ} {l : List (κ × ν)} (h : k ∉ keys l) : l.filter (·.1 != k) = l :=
  List.filter_eq_self.2 fun _ hp => bne_iff_ne.2 fun e => h (e ▸ List.mem_map_of_mem (f := (·.1)) hp)

end AssocList
