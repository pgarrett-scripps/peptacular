import PeptVerif.Model.CompCalc
import PeptVerif.Lemmas.Dict
import PeptVerif.Lemmas.ElemTables
import PeptVerif.Lemmas.ExceptList
/-!
The compositions of `Model/Chem.lean` (`Chem.Comp`, packed keys) as dicts in the sense of `AssocList`, `RatSum` and
`Dict`: each model function equals the generic one, and facts about it are meant to be got by rewriting with that
equation; `relabel1_eq` is the one place where the two branches of `apply_isotope_mods_to_composition`
(`c[lab] += c[el]` / `c[lab] = c[el]`) are looked at.
The second half carries the names under which C04's statements speak of this (`Fragment.keys`, `KN`, `upd`, `labelMu`).
-/
namespace Pept.Chem
open AssocList RatSum

theorem addKey_eq (c : Comp) (e : Elem) (k : Rat) : addKey c e k = alter (fun o => o.getD 0 + k) e c := by
  induction c with
  | nil => simp [addKey, alter, Rat.zero_add]
  | cons p c ih => obtain ⟨a, w⟩ := p; simp [addKey, alter, ih]

theorem setKey_eq {β} (c : List (Nat × β)) (e : Nat) (v : β) : setKey c e v = alter (fun _ => v) e c := by
  induction c with
  | nil => rfl
  | cons p c ih => obtain ⟨a, w⟩ := p; simp [setKey, alter, ih]

/-- `d[k] = d.get(k, 0) + v` is `addKey` (used by `Props/C02Gen`) -/
theorem setKey_getD (d : Comp) (k : Elem) (v : Rat) : setKey d k ((lookup k d).getD 0 + v) = addKey d k v := by
  rw [setKey_eq, addKey_eq, lookup_eq]
  exact AssocList.alter_congr rfl

theorem delKey_eq {β} (c : List (Nat × β)) (e : Nat) : delKey c e = c.filter (·.1 != e) := rfl

theorem addAll_eq (a b : Comp) : addAll a b = Dict.addAll a b := by
  unfold addAll Dict.addAll
  simp only [addKey_eq]

theorem chemMassL_eq (μ : Elem → Rat) (c : Comp) : chemMassL μ c = wsum μ c :=
  (foldl_add (fun p : Elem × Rat => μ p.1 * p.2) c 0).trans (Rat.zero_add _)

/-- `apply_isotope_mods_to_composition`, one entry: in either branch `c[lab] = c.get(lab, 0) + c[el]`, then `del c[el]` -/
theorem relabel1_eq (c : Comp) (el lab : Key) : CompCalc.relabel1 c el lab = Dict.relabel1 c el lab := by
  unfold CompCalc.relabel1 Dict.relabel1
  rw [lookup_eq, lookup_eq]
  cases hl : c.lookup el with
  | none => exact (if_neg fun h => lookup_eq_none_iff.1 hl h.1).symm
  | some n =>
    have hm : el ∈ keys c := Classical.not_not.1 fun h => by rw [lookup_eq_none_iff.2 h] at hl; cases hl
    by_cases he : el = lab
    · simp only [he, if_true]; exact (if_neg fun h => h.2 rfl).symm
    · simp only [he, if_false]
      rw [if_pos ⟨hm, he⟩]
      rw [delKey_eq]
      congr 1
      cases ht : c.lookup lab with
      | some k =>
        simp only [setKey_eq]
        exact alter_congr (by rw [ht]; rfl)
      | none =>
        simp only [alter_of_not_mem _ (lookup_eq_none_iff.1 ht), Option.getD_none, Option.getD_some, Rat.zero_add]

theorem relabel_eq (c : Comp) (m : List (Key × Key)) : CompCalc.relabel c m = Dict.relabel c m := by
  unfold CompCalc.relabel Dict.relabel
  simp only [relabel1_eq]

/-! ### `chemMassL` is linear in the dict -/

theorem chemMassL_nil (m : Elem → Rat) : chemMassL m [] = 0 := rfl

theorem chemMassL_cons (m : Elem → Rat) (p : Elem × Rat) (c : Comp) :
    chemMassL m (p :: c) = m p.1 * p.2 + chemMassL m c := by
  simp only [chemMassL_eq, wsum_cons]

theorem chemMassL_append (m : Elem → Rat) (a b : Comp) :
    chemMassL m (a ++ b) = chemMassL m a + chemMassL m b := by
  simp only [chemMassL_eq, wsum_append]

theorem chemMassL_scale (m : Elem → Rat) (k : Rat) (c : Comp) :
    chemMassL m (scale k c) = k * chemMassL m c := by
  simp only [chemMassL_eq, scale, wsum_scale]

theorem chemMassL_addKey (m : Elem → Rat) (c : Comp) (e : Elem) (k : Rat) :
    chemMassL m (addKey c e k) = chemMassL m c + m e * k := by
  simp only [chemMassL_eq, addKey_eq, wsum_alter_add]

theorem chemMassL_addAll (m : Elem → Rat) (a b : Comp) :
    chemMassL m (addAll a b) = chemMassL m a + chemMassL m b := by
  simp only [chemMassL_eq, addAll_eq]; exact Dict.wsum_addAll m a b

theorem chemMassL_dropZeros (m : Elem → Rat) (c : Comp) : chemMassL m (dropZeros c) = chemMassL m c := by
  simp only [chemMassL_eq, dropZeros, wsum_filter_ne_zero]

/-! ### a loop `acc = add(acc, g(x))` in closed form: the dicts added into `acc` one after the other -/

def addAlls (acc : Comp) (l : List Comp) : Comp := l.foldl addAll acc

theorem chemMassL_addAlls (ν : Elem → Rat) (acc : Comp) (l : List Comp) :
    chemMassL ν (addAlls acc l) = chemMassL ν acc + (l.map (chemMassL ν)).sum := by
  unfold addAlls
  induction l generalizing acc with
  | nil => exact (Rat.add_zero _).symm
  | cons c l ih => rw [List.foldl_cons, ih, chemMassL_addAll, List.map_cons, List.sum_cons, Rat.add_assoc]

/-- what every `addAll` of a member preserves holds of the whole -/
theorem addAlls_inv (P : Comp → Prop) (l : List Comp) (h : ∀ acc, ∀ c ∈ l, P acc → P (addAll acc c)) (acc : Comp)
    (hP : P acc) : P (addAlls acc l) := by
  unfold addAlls
  induction l generalizing acc with
  | nil => exact hP
  | cons c l ih =>
    exact ih (fun a d hd => h a d (List.mem_cons_of_mem _ hd)) _ (h acc c List.mem_cons_self hP)

theorem foldlM_addAll {α} (step : Comp → α → Except Err Comp) (k : α → Comp) (l : List α)
    (h : ∀ acc, ∀ x ∈ l, step acc x = .ok (addAll acc (k x))) (acc : Comp) :
    l.foldlM step acc = .ok (addAlls acc (l.map k)) := by
  rw [ExceptList.foldlM_ok (g := fun acc x => addAll acc (k x)) h, addAlls, List.foldl_map]

end Pept.Chem

namespace Fragment
open Pept Pept.CompCalc Chem

def keys (c : Comp) : List Elem := c.map (·.1)

def KN (c : Comp) : Prop := (keys c).Nodup

theorem KN_def (c : Comp) : KN c = (AssocList.keys c).Nodup := rfl

theorem KN_addKey (c : Comp) (e : Elem) (k : Rat) (h : KN c) : KN (addKey c e k) := by
  rw [KN_def, addKey_eq] at *; exact AssocList.nodup_keys_alter _ e h

theorem KN_addAll (a b : Comp) (h : KN a) : KN (addAll a b) := by
  rw [KN_def, addAll_eq] at *; exact Dict.nodup_addAll a b h

theorem KN_addAlls (acc : Comp) (l : List Comp) (h : KN acc) : KN (addAlls acc l) :=
  addAlls_inv KN l (fun a c _ => KN_addAll a c) acc h

def upd (μ : Elem → Rat) (f : Elem) (v : Rat) : Elem → Rat := fun e => if e = f then v else μ e

theorem upd_self (μ : Elem → Rat) (f : Elem) (v : Rat) : upd μ f v f = v := if_pos rfl

theorem upd_of_ne (μ : Elem → Rat) (f : Elem) (v : Rat) (e : Elem) (h : e ≠ f) : upd μ f v e = μ e := if_neg h

theorem relabel1_KN (c : Comp) (el lab : Chem.Key) (h : KN c) : KN (relabel1 c el lab) := by
  rw [KN_def, relabel1_eq] at *; exact Dict.nodup_relabel1 c el lab h

def labelMu (map : List (Chem.Key × Chem.Key)) (μ : Elem → Rat) : Elem → Rat :=
  map.foldr (fun p ν => upd ν p.1 (ν p.2)) μ

theorem labelMu_eq (map : List (Chem.Key × Chem.Key)) (μ : Elem → Rat) : labelMu map μ = Dict.labelMu map μ := rfl

theorem labelMu_nil (μ : Elem → Rat) : labelMu [] μ = μ := rfl

theorem labelMu_cons (p : Chem.Key × Chem.Key) (ps : List (Chem.Key × Chem.Key)) (μ : Elem → Rat) :
    labelMu (p :: ps) μ = upd (labelMu ps μ) p.1 (labelMu ps μ p.2) := rfl

theorem relabel_mass (μ : Elem → Rat) (map : List (Chem.Key × Chem.Key)) (c : Comp) (h : KN c) :
    chemMassL μ (relabel c map) = chemMassL (labelMu map μ) c := by
  rw [relabel_eq, chemMassL_eq, chemMassL_eq, labelMu_eq]; exact Dict.relabel_mass μ map c h

end Fragment
