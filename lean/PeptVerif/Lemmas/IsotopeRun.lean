import PeptVerif.Lemmas.Isotope
/-!
# A run of `isotopic_distribution`, stage by stage

A successful run is the element loop on resolved isotope lists (`convolveList` after `resolve`), then
`finishDistribution`: normalise to the largest peak and filter (`normalized`), move the keys (`shiftFn`), scale
(`scaleAbundances`).  With them: what the generated table gives the isotope lists (positivity, `total_massIsotopes`),
and `merge_isotopic_distributions` at the end.
-/
namespace Isotope

/-- the loop of `isotopic_distribution` once every element has been looked up -/
def convolveList (rnd : Rat → Rat) (thr : Option Rat) (maxIso : Option Nat) (floor : Option Rat) :
    List (Dist Rat × Nat) → Dist Rat → Dist Rat
  | [], d => d
  | (isos, n) :: t, d => convolveList rnd thr maxIso floor t (convolve rnd thr maxIso d (elemental floor isos n))

def isosOf (o : Opts) (e : PeptVerif.Gen.C14.Entry) : Dist Rat :=
  if o.useNeutronCount then offsetIsotopes e else massIsotopes e

def resolve (o : Opts) : List (Key × Int) → Option (List (Dist Rat × Nat))
  | [] => some []
  | (k, c) :: t =>
    match lookupEntry k, resolve o t with
    | some e, some r => some ((isosOf o e, c.toNat) :: r)
    | _, _ => none

theorem resolve_cons {o : Opts} {k : Key} {c : Int} {t : List (Key × Int)} {L : List (Dist Rat × Nat)}
    (h : resolve o ((k, c) :: t) = some L) :
    ∃ e r, lookupEntry k = some e ∧ resolve o t = some r ∧ L = (isosOf o e, c.toNat) :: r := by
  simp only [resolve] at h
  split at h
  · next e r he hr => exact ⟨e, r, he, hr, (Option.some.inj h).symm⟩
  · cases h

theorem convolveAll_ok (o : Opts) (f : List (Key × Int)) (d out : Dist Rat) (h : convolveAll o f d = .ok out) :
    ∃ L, resolve o f = some L ∧
      out = convolveList (roundOpt o.resolution) (some (o.convMinAbundanceThreshold.getD 0)) o.maxIsotopes o.floor L d := by
  induction f generalizing d with
  | nil => exact ⟨[], rfl, (Except.ok.inj h).symm⟩
  | cons p t ih =>
    obtain ⟨k, c⟩ := p
    simp only [convolveAll] at h
    cases hk : lookupEntry k with
    | none => simp [hk] at h
    | some e =>
      simp only [hk] at h
      obtain ⟨r, hr, rfl⟩ := ih _ h
      exact ⟨(isosOf o e, c.toNat) :: r, by simp [resolve, hk, hr], rfl⟩

theorem resolve_mem (o : Opts) (f : List (Key × Int)) (L : List (Dist Rat × Nat)) (h : resolve o f = some L) :
    ∀ x ∈ L, ∃ q ∈ f, ∃ e, lookupEntry q.1 = some e ∧ x.1 = isosOf o e := by
  induction f generalizing L with
  | nil => cases h; exact fun _ hx => nomatch hx
  | cons q t ih =>
    obtain ⟨k, c⟩ := q
    obtain ⟨e, r, hk, hr, rfl⟩ := resolve_cons h
    intro x hx
    rcases List.mem_cons.1 hx with rfl | h1
    · exact ⟨(k, c), List.mem_cons_self .., e, hk, rfl⟩
    · obtain ⟨q, hq, hx'⟩ := ih r hr x h1
      exact ⟨q, List.mem_cons_of_mem _ hq, hx'⟩

theorem isosOf_mass_view {o : Opts} (hneu : o.useNeutronCount = false) (e : PeptVerif.Gen.C14.Entry) :
    isosOf o e = massIsotopes e := by
  rw [isosOf, hneu]; rfl

theorem resolve_mem_mass_view (o : Opts) (hneu : o.useNeutronCount = false) (f : List (Key × Int))
    (L : List (Dist Rat × Nat)) (h : resolve o f = some L) :
    ∀ x ∈ L, ∃ q ∈ f, ∃ e, lookupEntry q.1 = some e ∧ x.1 = massIsotopes e := by
  intro x hx
  obtain ⟨q, hq, e, he, hxe⟩ := resolve_mem o f L h x hx
  exact ⟨q, hq, e, he, hxe.trans (isosOf_mass_view hneu e)⟩

def ListPos (L : List (Dist Rat × Nat)) : Prop := ∀ x ∈ L, AllPos x.1

theorem allPos_convolveList (rnd : Rat → Rat) (thr : Option Rat) (maxIso : Option Nat) (floor : Option Rat)
    (L : List (Dist Rat × Nat)) (d : Dist Rat) (hL : ListPos L) (hd : AllPos d) :
    AllPos (convolveList rnd thr maxIso floor L d) := by
  induction L generalizing d with
  | nil => exact hd
  | cons x t ih =>
    obtain ⟨isos, n⟩ := x
    obtain ⟨hi, hL⟩ := List.forall_mem_cons.1 hL
    exact ih _ hL (allPos_convolve _ _ _ _ _ hd (allPos_elemental floor isos n hi))

theorem nodupKeys_convolveList (rnd : Rat → Rat) (thr : Option Rat) (maxIso : Option Nat) (floor : Option Rat)
    (L : List (Dist Rat × Nat)) (d : Dist Rat) (hd : NodupKeys d) : NodupKeys (convolveList rnd thr maxIso floor L d) := by
  induction L generalizing d with
  | nil => exact hd
  | cons x t ih => obtain ⟨isos, n⟩ := x; exact ih _ (nodupKeys_convolve _ _ _ _ _)

def totalProd : List (Dist Rat × Nat) → Rat
  | [] => 1
  | (isos, n) :: t => total isos ^ n * totalProd t

def momentSum : List (Dist Rat × Nat) → Rat
  | [] => 0
  | (isos, n) :: t => n * moment isos + momentSum t

theorem totalProd_one (L : List (Dist Rat × Nat)) (h1 : ∀ x ∈ L, total x.1 = 1) : totalProd L = 1 := by
  induction L with
  | nil => rfl
  | cons x r ih =>
    obtain ⟨isos, n⟩ := x
    obtain ⟨hT, h1⟩ := List.forall_mem_cons.1 h1
    rw [totalProd, hT, one_pow, one_mul, ih h1]

/-- positivity is used once, to drop the code's test `>= 0.0` from the whole loop -/
theorem convolveList_zero (rnd : Rat → Rat) (maxIso : Option Nat) (floor : Option Rat)
    (L : List (Dist Rat × Nat)) (d : Dist Rat) (hL : ListPos L) (hd : AllPos d) :
    convolveList rnd (some 0) maxIso floor L d = convolveList rnd none maxIso floor L d := by
  induction L generalizing d with
  | nil => rfl
  | cons x t ih =>
    obtain ⟨hi, hL⟩ := List.forall_mem_cons.1 hL
    have he := allPos_elemental floor x.1 x.2 hi
    simp only [convolveList]
    rw [convolve_zero _ _ _ _ hd he]
    exact ih _ hL (allPos_convolve _ _ _ _ _ hd he)

theorem total_convolveList (rnd : Rat → Rat) (L : List (Dist Rat × Nat)) (d : Dist Rat) :
    total (convolveList rnd none none none L d) = total d * totalProd L := by
  induction L generalizing d with
  | nil => simp [convolveList, totalProd]
  | cons x t ih =>
    simp only [convolveList, totalProd]
    rw [ih, total_convolve, total_elemental, mul_assoc]

/-- `ε = 0` is the un-rounded loop -/
theorem moment_convolveList_round (rnd : Rat → Rat) (ε : Rat) (hr : ∀ x, |rnd x - x| ≤ ε)
    (L : List (Dist Rat × Nat)) (d : Dist Rat) (hL : ListPos L) (hd : AllPos d) (h1 : ∀ x ∈ L, total x.1 = 1) :
    |moment (convolveList rnd none none none L d) - (moment d + total d * momentSum L)|
      ≤ (L.length : Rat) * ε * total d := by
  induction L generalizing d with
  | nil => simp [convolveList, momentSum]
  | cons x t ih =>
    obtain ⟨isos, n⟩ := x
    obtain ⟨hi, hL⟩ := List.forall_mem_cons.1 hL
    obtain ⟨hT, h1⟩ := List.forall_mem_cons.1 h1
    have he := allPos_elemental none isos n hi
    obtain ⟨htot, hstep⟩ := convolve_normalised_step rnd ε hr d _ (nonNeg_of_allPos hd) (nonNeg_of_allPos he)
      (by rw [total_elemental, hT, one_pow])
    have hrec := ih _ hL (allPos_convolve rnd none none _ _ hd he) h1
    rw [htot] at hrec
    rw [moment_elemental _ _ hT] at hstep
    simp only [convolveList, momentSum, List.length_cons, Nat.cast_succ]
    rw [abs_le] at hstep hrec ⊢
    constructor <;> linarith

/-- `μ` gives the smallest key of an isotope list; it is a parameter because the fact that supplies it for the table
(`C14.lightest_mass_is_monoisotopic`) holds for some elements only -/
def lightSum : List (Dist Rat × Nat) → (Dist Rat → Rat) → Rat
  | [], _ => 0
  | (isos, n) :: t, μ => n * μ isos + lightSum t μ

theorem isMin_convolveList (μ : Dist Rat → Rat) (L : List (Dist Rat × Nat)) (d : Dist Rat) (m : Rat)
    (hμ : ∀ x ∈ L, IsMin x.1 (μ x.1)) (hm : IsMin d m) :
    IsMin (convolveList id none none none L d) (m + lightSum L μ) := by
  induction L generalizing d m with
  | nil => simpa [convolveList, lightSum] using hm
  | cons x t ih =>
    obtain ⟨hμi, hμ⟩ := List.forall_mem_cons.1 hμ
    have := ih _ _ hμ (isMin_convolve _ _ _ _ hm (isMin_elemental x.1 _ hμi x.2))
    rwa [add_assoc] at this

section
open PeptVerif.Gen.C14

/-- the formula without its e/p/n entries and zero counts -/
def cleanCounts (f : Formula) : Formula :=
  (popCount (popCount (popCount f eKey).2 pKey).2 nKey).2.filter (fun p => p.2.val ≠ 0)

theorem mem_of_mem_cleanCounts {f : Formula} {q : Key × Count} (h : q ∈ cleanCounts f) : q ∈ f :=
  (List.mem_filter.1 (List.mem_filter.1 (List.mem_filter.1 (List.mem_filter.1 h).1).1).1).1

def cleanFormula (f : Formula) : List (Key × Int) :=
  ((popCount (popCount (popCount f eKey).2 pKey).2 nKey).2.filter (fun p => p.2.val ≠ 0)).map (fun p => (p.1, p.2.round))

theorem cleanFormula_eq (f : Formula) : cleanFormula f = (cleanCounts f).map (fun p => (p.1, p.2.round)) := rfl

def particleOf (f : Formula) : Rat :=
  (popCount (popCount f eKey).2 pKey).1 * protonMass + (popCount (popCount (popCount f eKey).2 pKey).2 nKey).1 * neutronMass
    + (popCount f eKey).1 * electronMass

/-- what a successful `rawDistribution` has computed: the element loop on the cleaned formula, the particle offset, and
`delta_mass = 0` when every remaining count is a Python int -/
theorem rawDistribution_inv (f : Formula) (o : Opts) (t : Dist Rat) (p d m : Rat)
    (h : rawDistribution f o = .ok (t, p, d, m)) :
    convolveAll o (cleanFormula f) [((0 : Rat), 1)] = .ok t ∧ p = particleOf f ∧
      ((cleanCounts f).all (fun q => q.2.isInt) = true → d = 0) := by
  unfold rawDistribution at h
  simp only [] at h
  split at h
  · cases h
  · split at h
    · cases h
    · cases h
    · split at h
      · cases h
      · next total hc =>
        simp only [Except.ok.injEq, Prod.mk.injEq] at h
        obtain ⟨rfl, rfl, rfl, _⟩ := h
        exact ⟨hc, rfl, fun hall => if_pos hall⟩

theorem table_pos : ∀ e ∈ table, ∀ i ∈ e.2.2, 0 < i.2.2 := by decide +kernel

theorem lookupEntry_mem (k : Key) (e : Entry) (h : lookupEntry k = some e) : e ∈ table :=
  List.mem_of_find?_eq_some h

theorem abOf_pos (n : Nat) (h : 0 < n) : 0 < abOf n := by
  unfold abOf
  apply div_pos
  · exact_mod_cast h
  · unfold abScale; norm_num

theorem allPos_map_abOf {κ : Type} (key : Nat × Nat × Nat → κ) (l : List (Nat × Nat × Nat)) (h : ∀ i ∈ l, 0 < i.2.2) :
    AllPos (l.map (fun i => (key i, abOf i.2.2))) := by
  intro p hp
  obtain ⟨i, hi, rfl⟩ := List.mem_map.1 hp
  exact abOf_pos _ (h i hi)

theorem allPos_massIsotopes (e : Entry) (he : e ∈ table) : AllPos (massIsotopes e) :=
  allPos_map_abOf _ _ (table_pos e he)

theorem allPos_offsetIsotopes (e : Entry) (he : e ∈ table) : AllPos (offsetIsotopes e) := by
  unfold offsetIsotopes
  split
  · exact fun _ h => nomatch h
  · next heq => exact allPos_map_abOf _ _ (heq ▸ table_pos e he)

theorem allPos_isosOf (o : Opts) (e : Entry) (he : e ∈ table) : AllPos (isosOf o e) := by
  unfold isosOf
  split
  · exact allPos_offsetIsotopes e he
  · exact allPos_massIsotopes e he

theorem listPos_of_resolve (o : Opts) (f : List (Key × Int)) (L : List (Dist Rat × Nat)) (h : resolve o f = some L) :
    ListPos L := by
  intro x hx
  obtain ⟨q, _, e, he, hxe⟩ := resolve_mem o f L h x hx
  exact hxe ▸ allPos_isosOf o e (lookupEntry_mem q.1 e he)

theorem rawDistribution_ok (f : Formula) (o : Opts) (t : Dist Rat) (p d m : Rat)
    (h : rawDistribution f o = .ok (t, p, d, m)) :
    ∃ L, resolve o (cleanFormula f) = some L ∧
      t = convolveList (roundOpt o.resolution) (some (o.convMinAbundanceThreshold.getD 0)) o.maxIsotopes o.floor L [((0 : Rat), 1)] :=
  convolveAll_ok _ _ _ _ (rawDistribution_inv f o t p d m h).1

theorem allPos_raw (f : Formula) (o : Opts) (t : Dist Rat) (p d m : Rat)
    (h : rawDistribution f o = .ok (t, p, d, m)) : AllPos t := by
  obtain ⟨L, hL, rfl⟩ := rawDistribution_ok f o t p d m h
  exact allPos_convolveList _ _ _ _ L _ (listPos_of_resolve o _ L hL) allPos_start

theorem nodupKeys_raw (f : Formula) (o : Opts) (t : Dist Rat) (p d m : Rat)
    (h : rawDistribution f o = .ok (t, p, d, m)) : NodupKeys t := by
  obtain ⟨L, _, rfl⟩ := rawDistribution_ok f o t p d m h
  exact nodupKeys_convolveList _ _ _ _ L _ nodupKeys_start

theorem raw_unpruned (f : Formula) (o : Opts) (t : Dist Rat) (p d m : Rat)
    (hraw : rawDistribution f o = .ok (t, p, d, m))
    (hfl : o.floor = none) (hmi : o.maxIsotopes = none) (hct : o.convMinAbundanceThreshold = none) :
    ∃ L, resolve o (cleanFormula f) = some L ∧ ListPos L ∧
      t = convolveList (roundOpt o.resolution) none none none L [((0 : Rat), 1)] := by
  obtain ⟨L, hL, ht⟩ := rawDistribution_ok f o t p d m hraw
  have hpos := listPos_of_resolve o _ L hL
  exact ⟨L, hL, hpos, by rw [ht, hfl, hmi, hct, Option.getD_none, convolveList_zero _ _ _ L _ hpos allPos_start]⟩

/-- the weighted-mean clause for the element loop, un-pruned, for any rounding with error `≤ ε` (`ε = 0`: none) -/
theorem raw_total_moment (f : Formula) (o : Opts) (t : Dist Rat) (p d m : Rat)
    (hraw : rawDistribution f o = .ok (t, p, d, m))
    (hfl : o.floor = none) (hmi : o.maxIsotopes = none) (hct : o.convMinAbundanceThreshold = none)
    (ε : Rat) (hr : ∀ x, |roundOpt o.resolution x - x| ≤ ε) :
    ∃ L, resolve o (cleanFormula f) = some L ∧
      ((∀ x ∈ L, total x.1 = 1) → total t = 1 ∧ |moment t - momentSum L| ≤ (L.length : Rat) * ε) := by
  obtain ⟨L, hL, hpos, rfl⟩ := raw_unpruned f o t p d m hraw hfl hmi hct
  refine ⟨L, hL, fun h1 => ?_⟩
  have hM := moment_convolveList_round _ ε hr L [((0 : Rat), 1)] hpos allPos_start h1
  rw [moment_start, total_start, zero_add, one_mul, mul_one] at hM
  exact ⟨by rw [total_convolveList, total_start, one_mul, totalProd_one L h1], hM⟩

theorem total_massIsotopes (e : Entry) :
    total (massIsotopes e) = ((e.2.2.map (·.2.2)).sum : Nat) / (abScale : Rat) := by
  unfold massIsotopes
  induction e.2.2 with
  | nil => simp
  | cons i t ih =>
    rw [List.map_cons, total_cons, ih]
    simp only [List.map_cons, List.sum_cons, abOf]
    push_cast; ring

theorem convolveAll_threshold_irrelevant (o : Opts) (f : List (Key × Int)) (d : Dist Rat) :
    convolveAll { o with minAbundanceThreshold := none } f d = convolveAll o f d := by
  induction f generalizing d with
  | nil => rfl
  | cons q t ih =>
    obtain ⟨k, c⟩ := q
    simp only [convolveAll]
    cases lookupEntry k with
    | none => rfl
    | some e => exact ih _

theorem rawDistribution_threshold_irrelevant (f : Formula) (o : Opts) :
    rawDistribution f { o with minAbundanceThreshold := none } = rawDistribution f o := by
  unfold rawDistribution
  simp only [convolveAll_threshold_irrelevant]

end

theorem maxAb_eq_none (d : Dist Rat) (h : maxAb d = none) : d = [] := by
  cases d with
  | nil => rfl
  | cons p t =>
    obtain ⟨k, a⟩ := p
    simp only [maxAb] at h
    cases hm : maxAb t <;> simp [hm] at h

theorem maxAb_spec (d : Dist Rat) (mx : Rat) (h : maxAb d = some mx) : (∃ p ∈ d, p.2 = mx) ∧ ∀ p ∈ d, p.2 ≤ mx := by
  induction d generalizing mx with
  | nil => cases h
  | cons p t ih =>
    obtain ⟨k, a⟩ := p
    simp only [maxAb] at h
    simp only [List.mem_cons, exists_eq_or_imp, forall_eq_or_imp]
    split at h
    · next hm =>
      cases maxAb_eq_none t hm; cases h
      exact ⟨Or.inl rfl, le_refl _, fun _ hr => nomatch hr⟩
    · next m hm =>
      obtain ⟨⟨q, hq, rfl⟩, hall⟩ := ih m hm
      cases h
      split
      · next hlt => exact ⟨Or.inl rfl, le_refl _, fun r hr => le_of_lt (lt_of_le_of_lt (hall r hr) hlt)⟩
      · next hge => exact ⟨Or.inr ⟨q, hq, rfl⟩, not_lt.1 hge, hall⟩

theorem maxAb_pos (d : Dist Rat) (mx : Rat) (h : maxAb d = some mx) (hd : AllPos d) : 0 < mx := by
  obtain ⟨⟨q, hq, rfl⟩, _⟩ := maxAb_spec d mx h
  exact hd q hq

theorem sortByKey_perm (d : Dist Rat) : (sortByKey d).Perm d := List.mergeSort_perm _ _

theorem sortByKey_sorted (d : Dist Rat) : (sortByKey d).Pairwise (fun a b => a.1 ≤ b.1) := by
  have := List.pairwise_mergeSort (le := fun (a b : Rat × Rat) => decide (a.1 ≤ b.1))
    (by intro a b c hab hbc; simp only [decide_eq_true_eq] at *; exact le_trans hab hbc)
    (by intro a b; simp only [Bool.or_eq_true, decide_eq_true_eq]; exact le_total _ _) d
  simpa [sortByKey] using this

theorem sortByKey_strict (d : Dist Rat) (hn : NodupKeys d) : (sortByKey d).Pairwise (fun a b => a.1 < b.1) := by
  have hs := sortByKey_sorted d
  have hnd : ((sortByKey d).map (·.1)).Nodup := ((sortByKey_perm d).map _).nodup_iff.2 hn
  have hne : (sortByKey d).Pairwise (fun a b => a.1 ≠ b.1) := by
    simpa [List.Nodup, List.pairwise_map] using hnd
  exact (hs.and hne).imp (fun h => lt_of_le_of_ne h.1 h.2)

/-- the pattern normalised to its largest peak `mx`, sorted by key, after the reporting threshold -/
def normalized (o : Opts) (total : Dist Rat) (mx : Rat) : Dist Rat :=
  ((sortByKey total).filter (fun p => decide (o.minAbundanceThreshold.getD 0 ≤ p.2 / mx))).map (fun p => (p.1, p.2 / mx))

theorem normalized_sublist (o : Opts) (t : Dist Rat) (mx : Rat) :
    (normalized o t mx).Sublist ((sortByKey t).map (fun q => (q.1, q.2 / mx))) :=
  List.filter_sublist.map _

theorem normalized_keys_strict (o : Opts) (t : Dist Rat) (mx : Rat) (hn : NodupKeys t) :
    (normalized o t mx).Pairwise (fun a b => a.1 < b.1) :=
  List.Pairwise.sublist (normalized_sublist o t mx)
    (List.pairwise_map (f := fun q : Rat × Rat => (q.1, q.2 / mx)) (R := fun a b => a.1 < b.1).2 (sortByKey_strict t hn))

theorem total_normalized (o : Opts) (t : Dist Rat) (mx : Rat) :
    total (normalized o t mx) =
      total ((sortByKey t).filter (fun p => decide (o.minAbundanceThreshold.getD 0 ≤ p.2 / mx))) / mx :=
  total_div _ mx

theorem mem_normalized {o : Opts} {t : Dist Rat} {mx : Rat} {q : Rat × Rat} :
    q ∈ normalized o t mx ↔ ∃ p ∈ t, o.minAbundanceThreshold.getD 0 ≤ p.2 / mx ∧ (p.1, p.2 / mx) = q := by
  simp only [normalized, List.mem_map, List.mem_filter, (sortByKey_perm t).mem_iff, decide_eq_true_eq, and_assoc]

theorem allPos_normalized (o : Opts) (t : Dist Rat) (mx : Rat) (ht : AllPos t) (hmx : 0 < mx) :
    AllPos (normalized o t mx) := by
  intro q hq
  obtain ⟨p, hp, _, rfl⟩ := mem_normalized.1 hq
  exact div_pos (ht p hp) hmx

theorem exists_one_normalized (o : Opts) (t : Dist Rat) (mx : Rat) (hm : maxAb t = some mx) (hmx : mx ≠ 0)
    (hθ : o.minAbundanceThreshold.getD 0 ≤ 1) : ∃ q ∈ normalized o t mx, q.2 = 1 := by
  obtain ⟨⟨q, hq, rfl⟩, _⟩ := maxAb_spec t mx hm
  exact ⟨_, mem_normalized.2 ⟨q, hq, by rwa [div_self hmx], rfl⟩, div_self hmx⟩

theorem normalized_le_one (o : Opts) (t : Dist Rat) (mx : Rat) (hm : maxAb t = some mx) (hmx : 0 < mx) :
    ∀ q ∈ normalized o t mx, q.2 ≤ 1 := by
  intro q hq
  obtain ⟨p, hp, _, rfl⟩ := mem_normalized.1 hq
  exact (div_le_iff₀ hmx).2 (by rw [one_mul]; exact (maxAb_spec t mx hm).2 p hp)

theorem normalized_no_threshold (o : Opts) (t : Dist Rat) (mx : Rat) (hmt : o.minAbundanceThreshold = none)
    (ht : AllPos t) (hmx : 0 < mx) : normalized o t mx = (sortByKey t).map (fun q => (q.1, q.2 / mx)) := by
  unfold normalized
  rw [List.filter_eq_self.2]
  intro a ha
  simp only [hmt, Option.getD_none, decide_eq_true_eq]
  exact le_of_lt (div_pos (ht a ((sortByKey_perm t).mem_iff.1 ha)) hmx)

/-- what the three key-moving steps of `finishDistribution` do to one key -/
def shiftFn (o : Opts) (particle delta fm : Rat) (x : Rat) : Rat :=
  let x1 := if delta ≠ 0 then
      (if !o.useNeutronCount then x + delta else if o.outputMassesForNeutronOffset then x + delta else x) else x
  let x2 := if o.outputMassesForNeutronOffset && o.useNeutronCount then fm + x1 * o.neutronMass else x1
  if particle ≠ 0 && (!o.useNeutronCount || o.outputMassesForNeutronOffset) then x2 + particle else x2

/-- moving the keys of a list in three optional steps is moving each key in three optional steps -/
theorem map_key_steps (l : Dist Rat) (c1 c1a c1b c2 c3 : Prop) [Decidable c1] [Decidable c1a] [Decidable c1b]
    [Decidable c2] [Decidable c3] (f1 f2 f3 : Rat → Rat) :
    (let s := if c1 then (if c1a then l.map (fun p => (f1 p.1, p.2)) else
        if c1b then l.map (fun p => (f1 p.1, p.2)) else l) else l
     let m := if c2 then s.map (fun p => (f2 p.1, p.2)) else s
     if c3 then m.map (fun p => (f3 p.1, p.2)) else m) =
    l.map (fun p => ((let x1 := if c1 then (if c1a then f1 p.1 else if c1b then f1 p.1 else p.1) else p.1
                      let x2 := if c2 then f2 x1 else x1
                      if c3 then f3 x2 else x2), p.2)) := by
  -- the nested test of the first step is one condition
  have nest : ∀ {α : Type} (x y : α),
      (if c1 then (if c1a then x else if c1b then x else y) else y) = if c1 ∧ (c1a ∨ c1b) then x else y := by
    intro α x y; by_cases c1 <;> by_cases c1a <;> by_cases c1b <;> simp [*]
  simp only [nest]
  by_cases h1 : c1 ∧ (c1a ∨ c1b) <;> by_cases h2 : c2 <;> by_cases h3 : c3 <;>
    simp [h1, h2, h3, List.map_map, Function.comp_def]

theorem finishDistribution_eq (o : Opts) (total : Dist Rat) (particle delta fm : Rat) :
    finishDistribution o total particle delta fm =
      match maxAb total with
      | none => .error .valueError
      | some mx => if mx = 0 then .error .zeroDiv else
          scaleAbundances ((normalized o total mx).map (fun p => (shiftFn o particle delta fm p.1, p.2)))
            o.distributionAbundance o.isAbundanceSum o.precision := by
  unfold finishDistribution
  cases maxAb total with
  | none => rfl
  | some mx =>
    exact if_congr Iff.rfl rfl (congrArg (scaleAbundances · o.distributionAbundance o.isAbundanceSum o.precision)
      (map_key_steps (normalized o total mx) _ _ _ _ _ (· + delta) (fm + · * o.neutronMass) (· + particle)))

theorem shiftFn_mass_view (o : Opts) (p d m : Rat) (hneu : o.useNeutronCount = false) (x : Rat) :
    shiftFn o p d m x = x + d + p := by
  unfold shiftFn
  by_cases h1 : d = 0 <;> by_cases h2 : p = 0 <;> simp [hneu, h1, h2]

theorem ite_lt_ite {c : Prop} [Decidable c] {a b a' b' : Rat} (h1 : a < a') (h2 : b < b') :
    (if c then a else b) < (if c then a' else b') := by
  split <;> assumption

/-- each of the three steps of `shiftFn` is strictly increasing -/
theorem shiftFn_strictMono (o : Opts) (particle delta fm : Rat) (hn : 0 < o.neutronMass) (x y : Rat) (h : x < y) :
    shiftFn o particle delta fm x < shiftFn o particle delta fm y := by
  have hd : x + delta < y + delta := add_lt_add_left h delta
  have h1 := ite_lt_ite (c := delta ≠ 0) (ite_lt_ite (c := (!o.useNeutronCount) = true) hd
    (ite_lt_ite (c := o.outputMassesForNeutronOffset = true) hd h)) h
  have h2 := ite_lt_ite (c := (o.outputMassesForNeutronOffset && o.useNeutronCount) = true)
    (add_lt_add_right (mul_lt_mul_of_pos_right h1 hn) fm) h1
  exact ite_lt_ite (add_lt_add_left h2 particle) h2

theorem finishDistribution_ok (o : Opts) (t : Dist Rat) (p d m : Rat) (out : Dist Rat)
    (h : finishDistribution o t p d m = .ok out) :
    ∃ mx, maxAb t = some mx ∧ mx ≠ 0 ∧
      scaleAbundances ((normalized o t mx).map (fun q => (shiftFn o p d m q.1, q.2)))
        o.distributionAbundance o.isAbundanceSum o.precision = .ok out := by
  rw [finishDistribution_eq] at h
  split at h
  · cases h
  · next mx hm =>
    by_cases h0 : mx = 0
    · simp [h0] at h
    · simp only [h0, if_false] at h
      exact ⟨mx, hm, h0, h⟩

theorem isotopicDistribution_ok {f : Formula} {o : Opts} {out : Dist Rat} :
    isotopicDistribution f o = .ok out ↔
      ∃ t p d m, rawDistribution f o = .ok (t, p, d, m) ∧ finishDistribution o t p d m = .ok out := by
  unfold isotopicDistribution
  split
  · next e he => simp [he]
  · next t p d m he => simp [he]

theorem sumAb_pos (d : Dist Rat) (hpos : AllPos d) (hne : d ≠ []) : 0 < sumAb d := by
  induction d with
  | nil => exact absurd rfl hne
  | cons q t ih =>
    obtain ⟨k, a⟩ := q
    obtain ⟨ha, ht⟩ := List.forall_mem_cons.1 hpos
    rw [sumAb_cons]
    cases t with
    | nil => simp [sumAb]; exact ha
    | cons r s => have := ih ht (by simp); linarith

def scaleFactor (d : Dist Rat) (a : Rat) (isSum : Bool) : Rat := if isSum then a / sumAb d else a

theorem scaleAbundances_ok_iff (d out : Dist Rat) (a : Rat) (s : Bool) :
    scaleAbundances d a s none = .ok out ↔
      (s = true → d ≠ [] → sumAb d ≠ 0) ∧ out = d.map (fun p => (p.1, p.2 * scaleFactor d a s)) := by
  unfold scaleAbundances scaleFactor
  cases s with
  | false => simp [Except.map, eq_comm]
  | true =>
    by_cases ht : sumAb d = 0
    · cases d with
      | nil => simp [Except.map, eq_comm]
      | cons p t => simp [ht, Except.map]
    · -- `p / total * a = p * (a / total)`: dividing by the total and scaling are one factor (the last two lemmas)
      simp only [ht, if_true, if_false, Except.map, Except.ok.injEq, List.map_map, Function.comp_def, ne_eq,
        not_false_eq_true, implies_true, true_and, div_mul_eq_mul_div, mul_div_assoc']
      exact eq_comm

theorem integral_scaleAbundances (d out : Dist Rat) (a : Rat) (s : Bool) (h : scaleAbundances d a s none = .ok out) :
    ∃ c : Rat, ∀ g : Rat → Rat, integral out g = c * integral d g :=
  ⟨_, fun g => by rw [((scaleAbundances_ok_iff d out a s).1 h).2, integral_scale]⟩

theorem scaleAbundances_keys (d out : Dist Rat) (a : Rat) (s : Bool)
    (h : scaleAbundances d a s none = .ok out) : out.map (·.1) = d.map (·.1) := by
  rw [((scaleAbundances_ok_iff d out a s).1 h).2, List.map_map]; rfl

theorem scaleAbundances_sum (d out : Dist Rat) (a : Rat)
    (h : scaleAbundances d a true none = .ok out) (hne : out ≠ []) : sumAb out = a := by
  obtain ⟨h0, rfl⟩ := (scaleAbundances_ok_iff d out a true).1 h
  have ht : total d ≠ 0 := total_eq_sumAb d ▸ h0 rfl (fun hd => hne (by rw [hd]; rfl))
  rw [← total_eq_sumAb, total_scale, scaleFactor, if_pos rfl, ← total_eq_sumAb]
  field_simp

theorem scaleAbundances_succeeds (d : Dist Rat) (a : Rat) (s : Bool) (pr : Option Int)
    (h : s = true → d ≠ [] → sumAb d ≠ 0) : ∃ out, scaleAbundances d a s pr = .ok out := by
  unfold scaleAbundances
  cases s with
  | false => exact ⟨_, rfl⟩
  | true =>
    by_cases hd : d = []
    · subst hd; simp [sumAb, Except.map]
    · simp only [if_true, h rfl hd, if_false]; exact ⟨_, rfl⟩

theorem finishDistribution_succeeds (o : Opts) (t : Dist Rat) (p d m : Rat) (ht : AllPos t) (hne : t ≠ []) :
    ∃ out, finishDistribution o t p d m = .ok out := by
  rw [finishDistribution_eq]
  cases hm : maxAb t with
  | none => exact absurd (maxAb_eq_none t hm) hne
  | some mx =>
    have hmx := maxAb_pos t mx hm ht
    simp only [ne_of_gt hmx, if_false]
    refine scaleAbundances_succeeds _ _ _ _ (fun _ hW => ne_of_gt (sumAb_pos _ (fun r hr => ?_) hW))
    obtain ⟨q, hq, rfl⟩ := List.mem_map.1 hr
    exact allPos_normalized o t mx ht hmx q hq

/-- each of the two patterns is multiplied by one factor; `c` is the quotient of the factors -/
theorem scaleAbundances_sublist {W W0 out out0 : Dist Rat} {a : Rat} {s : Bool} {pr : Option Int} (hsub : W.Sublist W0)
    (hpos : AllPos W0) (hp : pr = none) (h : scaleAbundances W a s pr = .ok out) (h0 : scaleAbundances W0 a s pr = .ok out0) :
    ∃ c : Rat, out.Sublist (out0.map (fun q => (q.1, q.2 * c))) := by
  subst hp
  obtain ⟨_, rfl⟩ := (scaleAbundances_ok_iff W out _ _).1 h
  obtain ⟨_, rfl⟩ := (scaleAbundances_ok_iff W0 out0 _ _).1 h0
  simp only [List.map_map, Function.comp_def, scaleFactor]
  cases s with
  | false => exact ⟨1, by simpa using hsub.map _⟩
  | true =>
    by_cases hW0e : W0 = []
    · subst hW0e; rw [List.sublist_nil.1 hsub]; exact ⟨1, List.nil_sublist _⟩
    · have hT0 := sumAb_pos W0 hpos hW0e
      have key : ∀ x : Rat, x * (a / sumAb W0) * (sumAb W0 / sumAb W) = x * (a / sumAb W) := fun x => by
        rw [mul_assoc, div_mul_div_comm, mul_comm a, mul_div_mul_left _ _ (ne_of_gt hT0)]
      exact ⟨sumAb W0 / sumAb W, by simpa only [if_true, key] using hsub.map _⟩

/-- the reporting threshold only removes peaks; the common factor `c` is there because the scaling divides by the sum of what is left -/
theorem finishDistribution_threshold_sublist (o : Opts) (t : Dist Rat) (p d m : Rat) (out out0 : Dist Rat) (ht : AllPos t)
    (hp : o.precision = none) (h : finishDistribution o t p d m = .ok out)
    (h0 : finishDistribution { o with minAbundanceThreshold := none } t p d m = .ok out0) :
    ∃ c : Rat, out.Sublist (out0.map (fun q => (q.1, q.2 * c))) := by
  obtain ⟨mx, hmx, _, hsc⟩ := finishDistribution_ok o t p d m out h
  obtain ⟨mx', hmx', _, hsc0⟩ := finishDistribution_ok _ t p d m out0 h0
  obtain rfl : mx' = mx := Option.some.inj (hmx'.symm.trans hmx)
  have hmxpos := maxAb_pos t mx' hmx ht
  have hpos0 := allPos_normalized { o with minAbundanceThreshold := none } t mx' ht hmxpos
  rw [normalized_no_threshold { o with minAbundanceThreshold := none } t mx' rfl ht hmxpos] at hsc0 hpos0
  -- `shiftFn` and the scaling options do not look at the threshold
  refine scaleAbundances_sublist ((normalized_sublist o t mx').map _) (fun r hr => ?_) hp hsc hsc0
  obtain ⟨q, hq, rfl⟩ := List.mem_map.1 hr
  exact hpos0 q hq

theorem isotopicDistribution_succeeds (f : Formula) (o : Opts) (t : Dist Rat) (p d m : Rat)
    (hraw : rawDistribution f o = .ok (t, p, d, m)) (hne : t ≠ []) : ∃ out, isotopicDistribution f o = .ok out := by
  obtain ⟨out, hout⟩ := finishDistribution_succeeds o t p d m (allPos_raw f o t p d m hraw) hne
  exact ⟨out, isotopicDistribution_ok.2 ⟨t, p, d, m, hraw, hout⟩⟩

theorem finishDistribution_mass_view (o : Opts) (t : Dist Rat) (p d m : Rat) (out : Dist Rat)
    (h : finishDistribution o t p d m = .ok out) (ht : AllPos t)
    (hmt : o.minAbundanceThreshold = none) (hneu : o.useNeutronCount = false) (hp : o.precision = none) :
    (∃ c : Rat, ∀ g : Rat → Rat, integral out g = c * integral t (fun k => g (k + d + p))) ∧
      ∀ x, x ∈ out.map (·.1) ↔ ∃ q ∈ t, x = q.1 + d + p := by
  obtain ⟨mx, hmx, _, hsc⟩ := finishDistribution_ok o t p d m out h
  rw [hp, normalized_no_threshold o t mx hmt ht (maxAb_pos t mx hmx ht)] at hsc
  constructor
  · obtain ⟨c, hc⟩ := integral_scaleAbundances _ out _ _ hsc
    refine ⟨c / mx, fun g => ?_⟩
    rw [hc, integral_map_key, integral_div, integral_perm (sortByKey_perm t)]
    simp only [shiftFn_mass_view o p d m hneu]
    ring
  · intro x
    simp only [scaleAbundances_keys _ out _ _ hsc, List.map_map, List.mem_map, Function.comp,
      shiftFn_mass_view o p d m hneu, (sortByKey_perm t).mem_iff, eq_comm]

theorem integral_mergeInto (d acc : Dist Rat) (g : Rat → Rat) :
    integral (mergeInto none d acc) g = integral acc g + integral d g := by
  induction d generalizing acc with
  | nil => simp [mergeInto]
  | cons p t ih =>
    obtain ⟨k, a⟩ := p
    simp only [mergeInto, roundOpt, ih, integral_addKey, integral_cons]; ring

def sumIntegrals (ds : List (Dist Rat)) (g : Rat → Rat) : Rat := (ds.map (fun d => integral d g)).sum

theorem integral_mergeLoop (ds : List (Dist Rat)) (acc : Dist Rat) (g : Rat → Rat) :
    integral (mergeLoop none ds acc) g = integral acc g + sumIntegrals ds g := by
  induction ds generalizing acc with
  | nil => simp [mergeLoop, sumIntegrals]
  | cons d t ih =>
    simp only [mergeLoop, ih, integral_mergeInto, sumIntegrals, List.map_cons, List.sum_cons]; ring

end Isotope

/-! What the statements and `example`s of `Props/C14.lean` name. -/
namespace C14
open Isotope PeptVerif.Gen.C14

def keyC : Key := [67]
def keyH : Key := [72]
def keyN : Key := [78]
def keyO : Key := [79]
def keyS : Key := [83]
def keyP : Key := [80]
def keySe : Key := [83, 101]
def keyCl : Key := [67, 108]
def keyBr : Key := [66, 114]
def keyFe : Key := [70, 101]

/-- joint (mass, nominal neutron offset) isotope list of a table entry -/
def jointIsotopes (e : Entry) : Dist (Rat × Rat) :=
  match e.2.2 with
  | [] => []
  | i0 :: t => (i0 :: t).map (fun i => ((massOf i.2.1, (((i.1 : Int) - (i0.1 : Int) : Int) : Rat)), abOf i.2.2))

/-- the element loop on joint (mass, nominal offset) keys -/
def jointList : List (Entry × Nat) → Dist (Rat × Rat) → Dist (Rat × Rat)
  | [], d => d
  | (e, n) :: t, d =>
    jointList t (convolve id none none d (elementalFrom none (jointIsotopes e) n [(((0 : Rat), (0 : Rat)), 1)]))

theorem jointIsotopes_marginals (e : Entry) :
    IsImage (·.2) (jointIsotopes e) (offsetIsotopes e) ∧ IsImage (·.1) (jointIsotopes e) (massIsotopes e) := by
  unfold offsetIsotopes massIsotopes jointIsotopes
  cases e.2.2 with
  | nil => exact ⟨fun _ => rfl, fun _ => rfl⟩
  | cons i0 t =>
    exact ⟨isImage_map_pair (·.2) (i0 :: t) (fun i => (massOf i.2.1, (((i.1 : Int) - (i0.1 : Int) : Int) : Rat)))
        (fun i => abOf i.2.2),
      isImage_map_pair (·.1) (i0 :: t) (fun i => (massOf i.2.1, (((i.1 : Int) - (i0.1 : Int) : Int) : Rat)))
        (fun i => abOf i.2.2)⟩

theorem jointElemental_marginals (e : Entry) (n : Nat) :
    IsImage (·.2) (elementalFrom none (jointIsotopes e) n [(((0 : Rat), (0 : Rat)), 1)]) (elemental none (offsetIsotopes e) n) ∧
    IsImage (·.1) (elementalFrom none (jointIsotopes e) n [(((0 : Rat), (0 : Rat)), 1)]) (elemental none (massIsotopes e) n) :=
  ⟨(jointIsotopes_marginals e).1.elementalFrom (fun _ _ => rfl) n (isImage_singleton _ _ _),
    (jointIsotopes_marginals e).2.elementalFrom (fun _ _ => rfl) n (isImage_singleton _ _ _)⟩

/-- the element loop of a view `iso` is the joint loop binned by an additive `φ`, once each element's pattern is -/
theorem jointList_binned (iso : Entry → Dist Rat) {φ : Rat × Rat → Rat} (hφ : ∀ a b, φ (a + b) = φ a + φ b)
    (hbase : ∀ e n, IsImage φ (elementalFrom none (jointIsotopes e) n [(((0 : Rat), (0 : Rat)), 1)]) (elemental none (iso e) n))
    (Es : List (Entry × Nat)) {d : Dist Rat} {dj : Dist (Rat × Rat)} (hd : IsImage φ dj d) :
    IsImage φ (jointList Es dj) (convolveList id none none none (Es.map (fun x => (iso x.1, x.2))) d) := by
  induction Es generalizing d dj with
  | nil => exact hd
  | cons x t ih => exact ih (hd.convolve hφ (hbase x.1 x.2))

/-- C2 H4 e-1 (an electron entry: the particle offset is added exactly once) and C2.5 H4 S1 p1 (a fractional count, a proton entry) -/
def exF1 : Formula := [(keyC, .int 2), (keyH, .int 4), (eKey, .int (-1))]
def exF2 : Formula := [(keyC, .flt (5 / 2)), (keyH, .int 4), (keyS, .int 1), (pKey, .int 1)]
def exO : Opts := { floor := none, resolution := none }

def rawOk (f : Formula) (o : Opts) : Bool :=
  match rawDistribution f o with
  | .ok (t, _, _, _) => !t.isEmpty
  | .error _ => false

theorem rawOk_examples : rawOk exF1 exO = true ∧ rawOk exF2 exO = true ∧ rawOk exF1 {} = true := by decide +kernel

/-- a run whose element loop yields a non-empty pattern succeeds -/
theorem run_of_rawOk (f : Formula) (o : Opts) (h : rawOk f o = true) : ∃ out, isotopicDistribution f o = .ok out := by
  unfold rawOk at h
  split at h
  · next t p d m hraw => exact isotopicDistribution_succeeds f o t p d m hraw (by intro h0; subst h0; simp at h)
  · cases h

theorem rawOk_threshold_irrelevant (f : Formula) (o : Opts) :
    rawOk f { o with minAbundanceThreshold := none } = rawOk f o := by
  unfold rawOk; rw [rawDistribution_threshold_irrelevant]

end C14
