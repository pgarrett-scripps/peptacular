/-!
Insertion sort over a Boolean "goes before" test.  Every insertion sort of the models (`Reorder.insertBy`,
`Spans.insertBy`, `Score.insertBy`, `Formula.insertBy`, `Isotope.insertDesc`) is `insertB b` for its own `b`; their sorts
are `sortB b l` or, where the model folds from the left, `sortB b l.reverse`.  The two sorts that also drop duplicates (`sorted(set(l))`:
`Spans.insertSorted`, `Spans.insertSpan`) are `insertD lt`.  Core Lean only.

The order facts are stated for an arbitrary transitive `R` that `b` decides on the pairs that are actually compared
(`x` against the elements after it), so that "sorted by key" (`R a b := key a ≤ key b`) and "sorted by key, then by
original position" (stability) are the same lemma.
-/
namespace ListSort
universe u v
variable {α : Type u} (b : α → α → Bool)

def insertB (x : α) : List α → List α
  | [] => [x]
  | y :: l => if b x y then x :: y :: l else y :: insertB x l

def sortB (l : List α) : List α := l.foldr (insertB b) []

@[simp] theorem sortB_nil : sortB b [] = [] := rfl
@[simp] theorem sortB_cons (x : α) (l : List α) : sortB b (x :: l) = insertB b x (sortB b l) := rfl

theorem perm_insert (x : α) (l : List α) : (insertB b x l).Perm (x :: l) := by
  induction l with
  | nil => exact .refl _
  | cons y l ih =>
    unfold insertB
    split
    · exact .refl _
    · exact (ih.cons y).trans (.swap x y l)

theorem mem_insert {x y : α} {l : List α} : y ∈ insertB b x l ↔ y = x ∨ y ∈ l :=
  (perm_insert b x l).mem_iff.trans List.mem_cons

theorem perm_sort (l : List α) : (sortB b l).Perm l := by
  induction l with
  | nil => exact .refl _
  | cons x l ih => exact (perm_insert b x _).trans (ih.cons x)

theorem mem_sort {x : α} {l : List α} : x ∈ sortB b l ↔ x ∈ l := (perm_sort b l).mem_iff

abbrev Decides (R : α → α → Prop) (x y : α) : Prop := (b x y = true → R x y) ∧ (b x y = false → R y x)

variable {b} {R : α → α → Prop}

theorem pairwise_insert (htr : ∀ u v w, R u v → R v w → R u w) {x : α} {l : List α}
    (hx : ∀ y ∈ l, Decides b R x y) (hl : l.Pairwise R) : (insertB b x l).Pairwise R := by
  induction l with
  | nil => exact List.pairwise_singleton R x
  | cons y l ih =>
    obtain ⟨hy, hl'⟩ := List.pairwise_cons.1 hl
    unfold insertB
    split
    · next h =>
      have hxy := (hx y List.mem_cons_self).1 h
      exact List.pairwise_cons.2
        ⟨fun z hz => (List.mem_cons.1 hz).elim (· ▸ hxy) (fun hz => htr _ _ _ hxy (hy z hz)), hl⟩
    · next h =>
      refine List.pairwise_cons.2 ⟨fun z hz => ?_, ih (fun z hz => hx z (List.mem_cons_of_mem _ hz)) hl'⟩
      rcases (mem_insert b).1 hz with rfl | hz
      · exact (hx y List.mem_cons_self).2 (Bool.not_eq_true _ ▸ h)
      · exact hy z hz

theorem pairwise_sort_of (htr : ∀ u v w, R u v → R v w → R u w) {l : List α} (hl : l.Pairwise (Decides b R)) :
    (sortB b l).Pairwise R := by
  induction l with
  | nil => exact .nil
  | cons x l ih =>
    obtain ⟨hx, hl'⟩ := List.pairwise_cons.1 hl
    exact pairwise_insert htr (fun y hy => hx y ((mem_sort b).1 hy)) (ih hl')

theorem pairwise_sort (htr : ∀ u v w, R u v → R v w → R u w) (hb : ∀ x y, Decides b R x y) (l : List α) :
    (sortB b l).Pairwise R :=
  pairwise_sort_of htr (List.pairwise_of_forall hb)

variable (b)

theorem insert_of_head {x : α} {l : List α} (h : ∀ y ∈ l.head?, b x y = true) : insertB b x l = x :: l := by
  cases l with
  | nil => rfl
  | cons y l => simp [insertB, h y rfl]

theorem sort_of_pairwise {l : List α} (h : l.Pairwise (b · · = true)) : sortB b l = l := by
  induction l with
  | nil => rfl
  | cons x l ih =>
    obtain ⟨hx, hl⟩ := List.pairwise_cons.1 h
    rw [sortB_cons, ih hl]
    exact insert_of_head b fun y hy => hx y (List.mem_of_mem_head? hy)

theorem map_insert {β : Type v} (f : α → β) (b' : β → β → Bool) (h : ∀ x y, b x y = b' (f x) (f y)) (x : α)
    (l : List α) : (insertB b x l).map f = insertB b' (f x) (l.map f) := by
  induction l with
  | nil => rfl
  | cons y l ih =>
    simp only [insertB, List.map_cons, ← h]
    split <;> simp [ih]

theorem map_sort {β : Type v} (f : α → β) (b' : β → β → Bool) (h : ∀ x y, b x y = b' (f x) (f y)) (l : List α) :
    (sortB b l).map f = sortB b' (l.map f) := by
  induction l with
  | nil => rfl
  | cons x l ih => rw [sortB_cons, map_insert b f b' h, ih]; rfl

section dedup
variable [DecidableEq α] (lt : α → α → Bool)

def insertD (x : α) : List α → List α
  | [] => [x]
  | y :: l => if lt x y then x :: y :: l else if x = y then y :: l else y :: insertD x l

def sortD (l : List α) : List α := l.foldr (insertD lt) []

theorem mem_insertD {x y : α} {l : List α} : y ∈ insertD lt x l ↔ y = x ∨ y ∈ l := by
  induction l with
  | nil => simp [insertD]
  | cons a l ih =>
    unfold insertD
    split
    · simp
    · split
      · next h => subst h; simp
      · rw [List.mem_cons, ih, List.mem_cons]; exact or_left_comm

theorem mem_sortD {x : α} {l : List α} : x ∈ sortD lt l ↔ x ∈ l := by
  induction l with
  | nil => rfl
  | cons a l ih => rw [sortD, List.foldr_cons, mem_insertD, ← sortD, ih, List.mem_cons]

variable {lt} {R : α → α → Prop} (htr : ∀ u v w, R u v → R v w → R u w) (hlt : ∀ x y, lt x y = true → R x y)
  (hge : ∀ x y, lt x y = false → x ≠ y → R y x)
include htr hlt hge

theorem pairwise_insertD (x : α) {l : List α} (hl : l.Pairwise R) : (insertD lt x l).Pairwise R := by
  induction l with
  | nil => exact List.pairwise_singleton R x
  | cons y l ih =>
    obtain ⟨hy, hl'⟩ := List.pairwise_cons.1 hl
    unfold insertD
    split
    · next h =>
      have hxy := hlt x y h
      exact List.pairwise_cons.2
        ⟨fun z hz => (List.mem_cons.1 hz).elim (· ▸ hxy) (fun hz => htr _ _ _ hxy (hy z hz)), hl⟩
    · split
      · exact hl
      · next h hne =>
        refine List.pairwise_cons.2 ⟨fun z hz => ?_, ih hl'⟩
        rcases (mem_insertD lt).1 hz with rfl | hz
        · exact hge z y (Bool.not_eq_true _ ▸ h) hne
        · exact hy z hz

theorem pairwise_sortD (l : List α) : (sortD lt l).Pairwise R := by
  induction l with
  | nil => exact .nil
  | cons x l ih => exact pairwise_insertD htr hlt hge x ih

end dedup

end ListSort
