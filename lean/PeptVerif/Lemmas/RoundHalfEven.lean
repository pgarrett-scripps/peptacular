import Mathlib.Algebra.Order.Field.Rat
import Mathlib.Tactic.Linarith
import PeptVerif.Model.Chem
/-!
Round-half-even on a rational.  `CondenseMass.roundHalfEven` and `Isotope.roundHalfEven` have the body of
`Chem.roundHalfEvenInt`, so a lemma about the latter is accepted as a lemma about each of them: that is how
`CondenseMass.roundHalfEven_err` and `Isotope.roundHalfEven_bound` are proved, and it is the only check of the equality
(this module imports `Model/Chem` alone and cannot state the equations).  `Fragment.roundHalfEven` has the same body too;
no lemma is stated of it.  `ScoreRnd.roundHalfEvenNat`
(`Model/ScoreRnd`, a quotient of naturals) is another function; nothing here is about it.
-/
namespace Pept.Chem

theorem roundHalfEvenInt_cases (x : Rat) :
    (roundHalfEvenInt x = x.floor ∧ x - x.floor ≤ 1 / 2) ∨ (roundHalfEvenInt x = x.floor + 1 ∧ 1 / 2 ≤ x - x.floor) := by
  unfold roundHalfEvenInt
  dsimp only
  split
  · next a => exact .inl ⟨rfl, a.le⟩
  · next a =>
    split
    · next b => exact .inr ⟨rfl, b.le⟩
    · next b => split <;> [exact .inl ⟨rfl, not_lt.1 b⟩; exact .inr ⟨rfl, not_lt.1 a⟩]

theorem roundHalfEvenInt_bound (x : Rat) :
    ((roundHalfEvenInt x : Int) : Rat) - x ≤ 1 / 2 ∧ x - ((roundHalfEvenInt x : Int) : Rat) ≤ 1 / 2 := by
  have h1 := Rat.floor_le x
  have h2 : x < (x.floor : Rat) + 1 := by exact_mod_cast Rat.lt_floor_add_one x
  rcases roundHalfEvenInt_cases x with ⟨e, h⟩ | ⟨e, h⟩ <;> rw [e]
  · exact ⟨by linarith, h⟩
  · push_cast; constructor <;> linarith

theorem roundHalfEvenInt_err (x : Rat) : |((roundHalfEvenInt x : Int) : Rat) - x| ≤ 1 / 2 :=
  abs_sub_le_iff.2 (roundHalfEvenInt_bound x)

/-- Python's `round(q, p)` with `P = 10^p` -/
theorem roundHalfEvenInt_scaled_err (q : Rat) {P : Rat} (hP : 0 < P) :
    |((roundHalfEvenInt (q * P) : Int) : Rat) / P - q| ≤ 1 / 2 / P := by
  have hb := roundHalfEvenInt_bound (q * P)
  have e : ((roundHalfEvenInt (q * P) : Int) : Rat) / P - q = ((roundHalfEvenInt (q * P) : Int) - q * P) / P := by
    rw [sub_div, mul_div_cancel_right₀ _ hP.ne']
  rw [e, abs_le, le_div_iff₀ hP, div_le_iff₀ hP, neg_mul, div_mul_cancel₀ _ hP.ne']
  exact ⟨by linarith [hb.2], hb.1⟩

end Pept.Chem
