import PeptVerif.Lemmas.AnnotEq
import Mathlib.Data.Multiset.Basic
/-! The normal form behind `==` (C20): per position the multiset of `(value, multiplier)` keys. Each `__eq__` holds iff the
keys are equal, hence is an equivalence (`BEquiv.of_key`). This "canon" is not the `canon` of Spec/ProForma.lean, which is
the grammar's well-formedness. -/
namespace Pept

/-- canonical form of a mod list: the multiset of its (value, multiplier) keys -/
def canonMods (o : Option (List Mod)) : Option (Multiset ModKey) := o.map fun l => ((l.map modKey : List ModKey) : Multiset ModKey)

theorem areModsEqual_iff_canon (o o' : Option (List Mod)) : areModsEqual o o' = true ↔ canonMods o = canonMods o' := by
  cases o <;> cases o' <;> simp [areModsEqual, canonMods, counterEq_iff_perm]

abbrev IvKey := Int × Int × Bool × Option (Multiset ModKey)

def ivKey (i : Interval) : IvKey := (i.start, i.stop, i.ambiguous, canonMods i.mods)

theorem ivEq_iff_key (i j : Interval) : ivEq i j = true ↔ ivKey i = ivKey j := by
  rw [ivEq_iff, areModsEqual_iff_canon]
  simp [ivKey, Prod.ext_iff]

theorem ivEq_bequiv : BEquiv ivEq := .of_key ivKey ivEq_iff_key

def canonIvs (o : Option (List Interval)) : Option (Multiset IvKey) := o.map fun l => ((l.map ivKey : List IvKey) : Multiset IvKey)

theorem areIntervalsEqual_iff_canon (o o' : Option (List Interval)) :
    areIntervalsEqual o o' = true ↔ canonIvs o = canonIvs o' := by
  cases o with
  | none => cases o' <;> simp [areIntervalsEqual, canonIvs]
  | some a =>
    cases o' with
    | none => simp [areIntervalsEqual, canonIvs]
    | some b =>
      -- counting keys needs decidable equality of multisets; it is used in this proof only and nothing computes with it
      have : DecidableEq IvKey := Classical.decEq _
      rw [areIntervalsEqual_some, msEq_iff_perm_of_key ivEq ivKey ivEq_iff_key]
      simp only [canonIvs, Option.map_some, Option.some.injEq, Multiset.coe_eq_coe]
      constructor
      · exact fun h => h.2
      · intro h
        exact ⟨by simpa using h.length_eq, h⟩

/-- canonical form of an annotation: residues, charge, and per position the multiset of keys -/
structure EqCanon where
  seq : List Char
  labile : Option (Multiset ModKey)
  unknown : Option (Multiset ModKey)
  nterm : Option (Multiset ModKey)
  cterm : Option (Multiset ModKey)
  adducts : Option (Multiset ModKey)
  isotope : Option (Multiset ModKey)
  static : Option (Multiset ModKey)
  internal : Int → Option (Multiset ModKey)
  intervals : Option (Multiset IvKey)
  charge : Option Int

def eqCanon (a : Annotation) : EqCanon :=
  { seq := a.seq, labile := canonMods a.labile, unknown := canonMods a.unknown, nterm := canonMods a.nterm,
    cterm := canonMods a.cterm, adducts := canonMods a.adducts, isotope := canonMods a.isotope,
    static := canonMods a.static, internal := fun k => canonMods (getInternal a k),
    intervals := canonIvs a.intervals, charge := a.charge }

theorem annEq_iff_canon (a b : Annotation) : annEq a b = true ↔ eqCanon a = eqCanon b := by
  rw [annEq_iff, annEquiv_iff_and]
  simp only [eqCanon, EqCanon.mk.injEq, ← areModsEqual_iff_canon, ← areIntervalsEqual_iff_canon, funext_iff]

theorem annEq_bequiv : BEquiv annEq := .of_key eqCanon annEq_iff_canon

end Pept
