import PeptVerif.Model.Combinatoric
import PeptVerif.Spec.Combinatoric
import PeptVerif.Lemmas.AssocList
import Mathlib.Data.Nat.Choose.Basic
import Mathlib.Data.Nat.Factorial.Basic
/-! The four enumerations count and commute with `map`, and the product selects (`Selects`: `k` entries of the pool); that
the other three select is read off their form as a filtered product, in `CombinatoricSpec`. On the popped object `split`
yields one bare residue per position, so assembling a selection of components is wrapping the selected residues. -/
namespace Pept

theorem length_flatMap_const {α β : Type} (l : List α) (f : α → List β) (c : Nat) (h : ∀ x ∈ l, (f x).length = c) :
    (l.flatMap f).length = l.length * c := by
  rw [List.length_flatMap, List.map_congr_left h, List.map_const', List.sum_replicate_nat]

theorem length_prodK {α : Type} (k : Nat) (l : List α) : (prodK k l).length = l.length ^ k := by
  induction k with
  | zero => simp [prodK]
  | succ k ih =>
    simp only [prodK]
    rw [length_flatMap_const l _ (l.length ^ k) (by intro x _; simp [ih])]
    rw [Nat.pow_succ, Nat.mul_comm]

theorem length_picks {α : Type} (l : List α) : (picks l).length = l.length := by
  induction l with
  | nil => simp [picks]
  | cons x xs ih => simp [picks, ih]

theorem length_of_mem_picks {α : Type} (l : List α) (p : α × List α) (h : p ∈ picks l) : p.2.length + 1 = l.length := by
  induction l generalizing p with
  | nil => simp [picks] at h
  | cons x xs ih =>
    simp only [picks, List.mem_cons, List.mem_map] at h
    rcases h with h | ⟨q, hq, rfl⟩
    · subst h; simp
    · have := ih q hq
      simp [this]

theorem length_permsK {α : Type} (k : Nat) (l : List α) : (permsK k l).length = l.length.descFactorial k := by
  induction k generalizing l with
  | zero => simp [permsK]
  | succ k ih =>
    simp only [permsK]
    cases hl : l.length with
    | zero =>
      have : l = [] := List.eq_nil_of_length_eq_zero hl
      subst this
      simp [picks]
    | succ n =>
      rw [length_flatMap_const (picks l) _ (n.descFactorial k)]
      · rw [length_picks, hl, Nat.succ_descFactorial_succ]
      · intro p hp
        have h1 := length_of_mem_picks l p hp
        have : p.2.length = n := by omega
        simp [ih, this]

theorem length_combsK {α : Type} (k : Nat) (l : List α) : (combsK k l).length = l.length.choose k := by
  induction l generalizing k with
  | nil => cases k <;> simp [combsK]
  | cons x xs ih =>
    cases k with
    | zero => simp [combsK]
    | succ k =>
      simp only [combsK, List.length_append, List.length_map, List.length_cons, ih]
      rw [Nat.choose_succ_succ]

theorem cwrL_cons_succ {α : Type} (x : α) (xs : List α) (k : Nat) :
    cwrL (x :: xs) (k + 1) = (cwrL (x :: xs) k).map (x :: ·) ++ cwrL xs (k + 1) := rfl

theorem length_cwrL {α : Type} (l : List α) (k : Nat) : (cwrL l k).length = (l.length + k - 1).choose k := by
  induction l generalizing k with
  | nil => cases k <;> simp [cwrL]
  | cons x xs ih =>
    rw [List.length_cons, Nat.add_right_comm, Nat.add_sub_cancel]
    induction k with
    | zero => simp [cwrL, cwrAux]
    | succ k ihk =>
      rw [cwrL_cons_succ, List.length_append, List.length_map, ihk, ih]
      exact (Nat.choose_succ_succ (xs.length + k) k).symm

theorem length_cwrK {α : Type} (k : Nat) (l : List α) : (cwrK k l).length = (l.length + k - 1).choose k :=
  length_cwrL l k

theorem mem_prodK {α : Type} (k : Nat) (l t : List α) (h : t ∈ prodK k l) : t.length = k ∧ ∀ x ∈ t, x ∈ l := by
  induction k generalizing t with
  | zero => simp [prodK] at h; subst h; simp
  | succ k ih =>
    simp only [prodK, List.mem_flatMap, List.mem_map] at h
    obtain ⟨x, hx, t', ht', rfl⟩ := h
    obtain ⟨h1, h2⟩ := ih t' ht'
    refine ⟨by simp [h1], ?_⟩
    intro y hy
    rcases List.mem_cons.1 hy with rfl | hy
    · exact hx
    · exact h2 y hy

theorem prodK_map {α β : Type} (f : α → β) (k : Nat) (l : List α) :
    prodK k (l.map f) = (prodK k l).map (List.map f) := by
  induction k with
  | zero => simp [prodK]
  | succ k ih =>
    simp only [prodK, ih, List.flatMap_map, List.map_flatMap, List.map_map]
    congr 1

theorem picks_map {α β : Type} (f : α → β) (l : List α) :
    picks (l.map f) = (picks l).map (fun p => (f p.1, p.2.map f)) := by
  induction l with
  | nil => simp [picks]
  | cons x xs ih => simp [picks, ih, Function.comp_def]

theorem permsK_map {α β : Type} (f : α → β) (k : Nat) (l : List α) :
    permsK k (l.map f) = (permsK k l).map (List.map f) := by
  induction k generalizing l with
  | zero => simp [permsK]
  | succ k ih =>
    simp only [permsK, picks_map, List.flatMap_map, List.map_flatMap, List.map_map, ih]
    congr 1

theorem combsK_map {α β : Type} (f : α → β) (k : Nat) (l : List α) :
    combsK k (l.map f) = (combsK k l).map (List.map f) := by
  induction l generalizing k with
  | nil => cases k <;> simp [combsK]
  | cons x xs ih =>
    cases k with
    | zero => simp [combsK]
    | succ k => simp [combsK, ih, Function.comp_def]

theorem cwrL_map {α β : Type} (f : α → β) (l : List α) (k : Nat) :
    cwrL (l.map f) k = (cwrL l k).map (List.map f) := by
  induction l generalizing k with
  | nil => cases k <;> simp [cwrL]
  | cons x xs ih =>
    induction k with
    | zero => rfl
    | succ k ihk =>
      rw [List.map_cons] at ihk ⊢
      simp [cwrL_cons_succ, ihk, ih, Function.comp_def]

theorem cwrK_map {α β : Type} (f : α → β) (k : Nat) (l : List α) :
    cwrK k (l.map f) = (cwrK k l).map (List.map f) := cwrL_map f l k

/-- what the proofs about the expansions use of an `itertools` enumeration `E`: it selects `k` entries of its pool,
and it commutes with `map` -/
structure Selects (E : ∀ {α : Type}, Nat → List α → List (List α)) : Prop where
  mem : ∀ {α : Type} {k : Nat} {l t : List α}, t ∈ E k l → t.length = k ∧ ∀ x ∈ t, x ∈ l
  map : ∀ {α β : Type} (f : α → β) (k : Nat) (l : List α), E k (l.map f) = (E k l).map (List.map f)

theorem selects_prodK : Selects @prodK := ⟨mem_prodK _ _ _, prodK_map⟩

theorem Selects.ne_nil {E : ∀ {α : Type}, Nat → List α → List (List α)} (hE : Selects E) {α : Type} {k : Nat}
    {l t : List α} (hk : 1 ≤ k) (h : t ∈ E k l) : t ≠ [] := by
  rintro rfl
  have := (hE.mem h).1
  rw [List.length_nil] at this
  omega

theorem lookup_slice_filter (d : List (Int × List Mod)) (i : Nat) :
    (d.filterMap fun p => if (i : Int) ≤ p.1 ∧ p.1 < (i : Int) + 1 then some (p.1 - (i : Int), p.2) else none).lookup 0
      = d.lookup (i : Int) :=
  AssocList.lookup_filterMap_key (fun k => (i : Int) ≤ k ∧ k < (i : Int) + 1) (· - (i : Int)) fun p _ => by omega

theorem take_one_drop {α : Type} (l : List α) (i : Nat) (h : i < l.length) : (l.drop i).take 1 = [l[i]] := by
  rw [List.drop_eq_getElem_cons h]; rfl

/-- the `i`-th piece of the popped object: one residue and what `slice` keeps of the internal mods for it -/
def pieceAt (a : Annotation) (i : Nat) : Annotation :=
  { seq := (a.seq.drop i).take 1
    internal := a.internal.map fun d => d.filterMap fun p =>
      if (i : Int) ≤ p.1 ∧ p.1 < (i : Int) + 1 then some (p.1 - (i : Int), p.2) else none }

theorem split_afterPop (a : Annotation) : split (afterPop a) = (List.range a.seq.length).map (pieceAt a) := by
  apply List.map_congr_left
  intro i _
  -- the popped object has no labile, global, terminal or interval field, so every conditional of `sliceOne` falls away
  cases h : a.internal <;> simp [sliceOne, afterPop, hasMods, pieceAt, h]

theorem length_residues (a : Annotation) : (residues a).length = a.seq.length := by
  simp [residues]

theorem getElem_residues (a : Annotation) (i : Nat) (h : i < (residues a).length) :
    (residues a)[i] = (a.seq[i]'(length_residues a ▸ h), modsAt a i) := by
  simp [residues, modsAt, List.getElem_zipIdx]

theorem residues_pieceAt (a : Annotation) (i : Nat) (h : i < a.seq.length) :
    residues (pieceAt a i) = [(a.seq[i], modsAt a i)] := by
  cases hint : a.internal with
  | none => simp [pieceAt, hint, residues, take_one_drop _ _ h, modsAt, getInternal, List.zipIdx]
  | some d =>
    simp [pieceAt, hint, residues, take_one_drop _ _ h, modsAt, getInternal, List.zipIdx]
    exact congrArg (fun o => o.getD []) (lookup_slice_filter d i)

theorem components_eq (a : Annotation) : components a = (residues a).map fun r => [r] := by
  rw [components, split_afterPop, List.map_map]
  apply List.ext_getElem
  · simp [residues]
  · intro i h1 h2
    have hi : i < a.seq.length := by simpa using h1
    rw [List.getElem_map, List.getElem_map, List.getElem_range, Function.comp_apply, residues_pieceAt a i hi,
      getElem_residues]

theorem flatten_map_singleton {α : Type} (l : List α) : (l.map fun r => [r]).flatten = l := by
  rw [← List.flatMap_def, List.flatMap_singleton']

theorem assemble_eq_wrap (a : Annotation) (comps : List (List (Char × List Mod))) :
    assemble a comps = wrap a comps.flatten := rfl

theorem assemble_singletons (a : Annotation) (sel : List (Char × List Mod)) :
    assemble a (sel.map fun r => [r]) = wrap a sel := by
  rw [assemble_eq_wrap, flatten_map_singleton]

/-- an enumeration that commutes with `map` does not see the detour through `split` and the joined text: selecting
from the components and assembling is selecting residues and wrapping them -/
theorem map_assemble_components {E : ∀ {α : Type}, Nat → List α → List (List α)} (hE : Selects E)
    (a : Annotation) (k : Nat) : (E k (components a)).map (assemble a) = (E k (residues a)).map (wrap a) := by
  rw [components_eq, hE.map, List.map_map]
  exact List.map_congr_left fun sel _ => assemble_singletons a sel

/-- the entry `internalOf` makes of a residue and its position -/
abbrev entF : (Char × List Mod) × Nat → Option (Int × List Mod) :=
  fun p => if p.1.2.isEmpty then none else some ((p.2 : Int), p.1.2.map normMult)

theorem internalOf_eq (rs : List (Char × List Mod)) :
    internalOf rs = if (rs.zipIdx.filterMap entF).isEmpty then none else some (rs.zipIdx.filterMap entF) := rfl

theorem lookup_ents_cons_ne (r : Char × List Mod) (rs : List (Char × List Mod)) (k m : Nat) (h : m ≠ k) :
    (((r :: rs).zipIdx k).filterMap entF).lookup (m : Int) = ((rs.zipIdx (k + 1)).filterMap entF).lookup (m : Int) := by
  obtain ⟨c, _ | ⟨x, xs⟩⟩ := r
  · rfl
  · exact (List.lookup_cons ..).trans (by rw [beq_false_of_ne (by omega)])

theorem lookup_ents_lt (rs : List (Char × List Mod)) (k m : Nat) (h : m < k) :
    ((rs.zipIdx k).filterMap entF).lookup (m : Int) = none := by
  induction rs generalizing k with
  | nil => rfl
  | cons r rs ih => rw [lookup_ents_cons_ne r rs k m (by omega), ih (k + 1) (by omega)]

/-- a residue without mods has no entry and one with mods has the entry under its position: looked up with the
default `[]` both read as the residue's mods -/
theorem lookup_ents (rs : List (Char × List Mod)) (k j : Nat) (h : j < rs.length) :
    (((rs.zipIdx k).filterMap entF).lookup ((k + j : Nat) : Int)).getD [] = rs[j].2.map normMult := by
  induction rs generalizing k j with
  | nil => exact absurd h (Nat.not_lt_zero _)
  | cons r rs ih =>
    cases j with
    | zero =>
      obtain ⟨c, _ | ⟨x, xs⟩⟩ := r
      · exact congrArg (·.getD []) (lookup_ents_lt rs (k + 1) k (by omega))
      · rw [List.zipIdx_cons, List.filterMap_cons]
        show (List.lookup ((k + 0 : Nat) : Int) (((k : Int), _) :: _)).getD [] = _
        rw [List.lookup_cons, Nat.add_zero, beq_self_eq_true]
        rfl
    | succ j =>
      rw [lookup_ents_cons_ne r rs k _ (by omega), ← Nat.add_assoc, Nat.add_right_comm]
      exact ih (k + 1) j (Nat.lt_of_succ_lt_succ h)

theorem modsAt_wrap (a : Annotation) (sel : List (Char × List Mod)) (i : Nat) (h : i < sel.length) :
    modsAt (wrap a sel) i = sel[i].2.map normMult := by
  have key := lookup_ents sel 0 i h
  rw [Nat.zero_add] at key
  rw [← key]
  rw [modsAt, getInternal, show (wrap a sel).internal = _ from internalOf_eq sel]
  -- an empty entry list is stored as `none`; both look up to nothing
  cases (sel.zipIdx.filterMap entF) <;> rfl

theorem normMult_id (m : Mod) (h : m.mult ≥ 1) : normMult m = m := by
  unfold normMult
  split
  · rfl
  · have : m.mult = 1 := by omega
    cases m; simp_all

theorem map_normMult_id (l : List Mod) (h : l.all (fun m => decide (m.mult ≥ 1)) = true) : l.map normMult = l := by
  induction l with
  | nil => rfl
  | cons m ms ih =>
    simp only [List.all_cons, Bool.and_eq_true, decide_eq_true_eq] at h
    simp [normMult_id m h.1, ih h.2]

theorem normList_id (o : Option (List Mod)) (h : okList o = true) : normList o = o := by
  cases o with
  | none => rfl
  | some l =>
    cases l with
    | nil => simp [okList] at h
    | cons m ms =>
      simp only [okList, List.isEmpty_cons, Bool.not_false, Bool.true_and] at h
      simp only [normList]
      rw [map_normMult_id _ h]

end Pept
