import PeptVerif.Model.AnnotEq
import Mathlib.Tactic.Ring
/-! The canonical decimal `normDec` decides numeric equality of `mantissa·10^exp` readings. -/
namespace Pept

/-- `m·10^e = m'·10^e'` without fractions: both sides scaled by `10^(-min e e')` -/
def decEquiv (m e m' e' : Int) : Prop :=
  m * 10 ^ (e - min e e').toNat = m' * 10 ^ (e' - min e e').toNat

/-- with enough fuel (`|m| < 2^f`) every trailing zero of the mantissa goes into the exponent -/
theorem stripZeros_spec (f : Nat) (m e : Int) (hm : m ≠ 0) (hf : m.natAbs < 2 ^ f) :
    ∃ j : Nat, (stripZeros f m e).2 = e + j ∧ m = (stripZeros f m e).1 * 10 ^ j ∧ (stripZeros f m e).1 % 10 ≠ 0 := by
  induction f generalizing m e with
  | zero => omega
  | succ f ih =>
    rw [stripZeros, if_neg hm]
    split
    · obtain ⟨j, h1, h2, h3⟩ := ih (m / 10) (e + 1) (by omega) (by rw [Nat.pow_succ] at hf; omega)
      refine ⟨j + 1, by omega, ?_, h3⟩
      rw [pow_succ, ← mul_assoc, ← h2]
      omega
    · exact ⟨0, (add_zero e).symm, (mul_one m).symm, by assumption⟩

theorem mantissa_exp_unique_of_le (a b : Int) (i d : Nat) (ha : a % 10 ≠ 0) (h : a * 10 ^ i = b * 10 ^ (i + d)) : a = b ∧ d = 0 := by
  have h2 : a = b * 10 ^ d :=
    mul_right_cancel₀ (pow_ne_zero i (by norm_num : (10 : Int) ≠ 0)) (by rw [h, pow_add]; ring)
  cases d with
  | zero => exact ⟨by simpa using h2, rfl⟩
  | succ d => exact absurd (by rw [h2, pow_succ, ← mul_assoc]; exact Int.mul_emod_left _ _) ha

theorem mantissa_exp_unique (a b : Int) (i j : Nat) (ha : a % 10 ≠ 0) (hb : b % 10 ≠ 0) (h : a * 10 ^ i = b * 10 ^ j) :
    a = b ∧ i = j := by
  rcases Nat.le_total i j with hij | hij
  · obtain ⟨d, rfl⟩ := Nat.exists_eq_add_of_le hij
    obtain ⟨h1, h2⟩ := mantissa_exp_unique_of_le a b i d ha h
    exact ⟨h1, by omega⟩
  · obtain ⟨d, rfl⟩ := Nat.exists_eq_add_of_le hij
    obtain ⟨h1, h2⟩ := mantissa_exp_unique_of_le b a j d hb h.symm
    exact ⟨h1.symm, by omega⟩

theorem normDec_spec (m e : Int) (hm : m ≠ 0) :
    ∃ j : Nat, (normDec m e).2 = e + j ∧ m = (normDec m e).1 * 10 ^ j ∧ (normDec m e).1 % 10 ≠ 0 := by
  rw [normDec, if_neg hm]
  exact stripZeros_spec _ m e hm Nat.lt_log2_self

theorem normDec_zero (e : Int) : normDec 0 e = (0, 0) := if_pos rfl

theorem normDec_eq_zero_iff (m e : Int) : normDec m e = (0, 0) ↔ m = 0 := by
  refine ⟨fun h => Classical.byContradiction fun hm => ?_, fun h => h ▸ normDec_zero e⟩
  obtain ⟨_, _, _, h3⟩ := normDec_spec m e hm
  rw [h] at h3
  exact h3 rfl

theorem decEquiv_zero_iff (e m' e' : Int) : decEquiv 0 e m' e' ↔ m' = 0 := by
  have hp : (10 : Int) ^ (e' - min e e').toNat ≠ 0 := pow_ne_zero _ (by norm_num)
  rw [decEquiv, zero_mul, eq_comm, mul_eq_zero, or_iff_left hp]

theorem decEquiv_comm (m e m' e' : Int) : decEquiv m e m' e' ↔ decEquiv m' e' m e := by
  rw [decEquiv, decEquiv, min_comm, eq_comm]

theorem decEquiv_same_exp (m m' e : Int) : decEquiv m e m' e ↔ m = m' := by
  simp [decEquiv]

theorem normDec_eq_iff (m e m' e' : Int) : normDec m e = normDec m' e' ↔ decEquiv m e m' e' := by
  by_cases hm : m = 0
  · rw [hm, normDec_zero, eq_comm, normDec_eq_zero_iff, decEquiv_zero_iff]
  by_cases hm' : m' = 0
  · rw [hm', normDec_zero, normDec_eq_zero_iff, decEquiv_comm, decEquiv_zero_iff]
  -- both non-zero: scale the canonical mantissas to the common exponent `min e e'`
  obtain ⟨j, h1, h2, h3⟩ := normDec_spec m e hm
  obtain ⟨j', h1', h2', h3'⟩ := normDec_spec m' e' hm'
  generalize normDec m e = p at *
  generalize normDec m' e' = p' at *
  have hs : decEquiv m e m' e' ↔
      p.1 * 10 ^ (j + (e - min e e').toNat) = p'.1 * 10 ^ (j' + (e' - min e e').toNat) := by
    rw [decEquiv, h2, h2', pow_add, pow_add, mul_assoc, mul_assoc]
  have ha := Int.toNat_of_nonneg (sub_nonneg.2 (min_le_left e e'))
  have ha' := Int.toNat_of_nonneg (sub_nonneg.2 (min_le_right e e'))
  generalize (e - min e e').toNat = a at *
  generalize (e' - min e e').toNat = a' at *
  have hj : p.2 = p'.2 ↔ j + a = j' + a' := by omega
  rw [hs, Prod.ext_iff, hj]
  exact ⟨fun ⟨u1, u2⟩ => by rw [u1, u2], fun h => mantissa_exp_unique _ _ _ _ h3 h3' h⟩

theorem valKey_num_eq_iff (m e m' e' : Int) :
    (ValKey.num (normDec m e).1 (normDec m e).2 = ValKey.num (normDec m' e').1 (normDec m' e').2) ↔ decEquiv m e m' e' := by
  rw [← normDec_eq_iff, Prod.ext_iff, ValKey.num.injEq]

end Pept
