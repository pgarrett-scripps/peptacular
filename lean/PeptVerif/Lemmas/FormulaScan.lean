import PeptVerif.Model.Formula
import PeptVerif.Lemmas.CharClassAttr
/-!
What the scanners and look-ups of `Model/Formula.lean` do, stated once for the formula / glycan proofs (C15) and the
resolver proofs (C10): the character classes as bounds on the code point (the simp set `charClass`).  The hand-written scanners are core list functions — `spanP p = (takeWhile p, dropWhile p)`,
`stripL = dropWhile isWs`, `splitOn [x] = List.splitOn x`, `intercalate = List.intercalate` — so what is needed about
them are core lemmas; `lookupLast` / `lookupSyn` are `find?` on the reversed table; the errors of the glycan
tokenizer.  Mathlib-free.
-/
namespace Formula
open ModDb

@[charClass] theorem isDigit_iff {c : Nat} : isDigit c = true ↔ 48 ≤ c ∧ c ≤ 57 := by
  simp only [isDigit, Bool.and_eq_true, decide_eq_true_eq]
@[charClass] theorem isUpper_iff {c : Nat} : isUpper c = true ↔ 65 ≤ c ∧ c ≤ 90 := by
  simp only [isUpper, Bool.and_eq_true, decide_eq_true_eq]
@[charClass] theorem isLower_iff {c : Nat} : isLower c = true ↔ 97 ≤ c ∧ c ≤ 122 := by
  simp only [isLower, Bool.and_eq_true, decide_eq_true_eq]
@[charClass] theorem isAlpha_iff {c : Nat} : isAlpha c = true ↔ (65 ≤ c ∧ c ≤ 90) ∨ (97 ≤ c ∧ c ≤ 122) := by
  simp only [isAlpha, Bool.or_eq_true, isUpper_iff, isLower_iff]
@[charClass] theorem isWs_iff {c : Nat} : isWs c = true ↔ c = 32 ∨ (9 ≤ c ∧ c ≤ 13) ∨ (28 ≤ c ∧ c ≤ 31) := by
  simp only [isWs, Bool.or_eq_true, Bool.and_eq_true, decide_eq_true_eq, beq_iff_eq, or_assoc]

attribute [charClass] Bool.eq_false_iff ne_eq Bool.or_eq_true beq_iff_eq

theorem spanP_eq (p : Nat → Bool) (s : Str) : spanP p s = (s.takeWhile p, s.dropWhile p) := by
  induction s with
  | nil => rfl
  | cons c r ih => by_cases h : p c = true <;> simp [spanP, h, ih]

theorem stripL_eq (s : Str) : stripL s = s.dropWhile isWs := by
  induction s with
  | nil => rfl
  | cons c r ih => by_cases h : isWs c = true <;> simp [stripL, h, ih]

theorem splitOnAux_single (x : Nat) (s acc : Str) : splitOnAux [x] 0 acc s = s.splitOnPPrepend (· == x) acc := by
  induction s generalizing acc with
  | nil => rfl
  | cons c r ih =>
    by_cases h : c = x
    · subst h; simp [splitOnAux, List.isPrefixOf, List.splitOnPPrepend_cons_pos, ih]
    · have : (x == c) = false := by simpa using Ne.symm h
      simp [splitOnAux, List.isPrefixOf, this, List.splitOnPPrepend_cons_neg, h, ih]

theorem splitOn_single (x : Nat) (s : Str) : splitOn [x] s = s.splitOn x := splitOnAux_single x s []

theorem splitOn_append_cons {x : Nat} {s : Str} (h : x ∉ s) (r : Str) :
    splitOn [x] (s ++ x :: r) = s :: splitOn [x] r := by
  simp only [splitOn_single]; exact List.splitOn_append_cons_self_of_not_mem h r

theorem splitOn_of_not_mem {x : Nat} {s : Str} (h : x ∉ s) : splitOn [x] s = [s] :=
  (splitOn_single x s).trans (List.splitOn_eq_singleton h)

theorem intercalate_eq (sep : Str) (l : List Str) : intercalate sep l = sep.intercalate l := by
  induction l with
  | nil => rfl
  | cons a l ih =>
    cases l with
    | nil => simp [intercalate]
    | cons b l =>
      rw [show intercalate sep (a :: b :: l) = a ++ sep ++ intercalate sep (b :: l) from rfl, ih]
      simp [List.intercalate_cons_cons]

/-- the shape in which the proofs say "the text after the scanned part does not start with a `p`" -/
theorem dropWhile_of_cons {p : Nat → Bool} {b : Str} (hb : ∀ c r, b = c :: r → p c = false) : b.dropWhile p = b := by
  cases b with
  | nil => rfl
  | cons c r => exact List.dropWhile_cons_of_neg (by simp [hb c r rfl])

theorem takeWhile_of_cons {p : Nat → Bool} {b : Str} (hb : ∀ c r, b = c :: r → p c = false) : b.takeWhile p = [] := by
  cases b with
  | nil => rfl
  | cons c r => exact List.takeWhile_cons_of_neg (by simp [hb c r rfl])

theorem spanP_append (p : Nat → Bool) (a b : Str) (ha : ∀ c ∈ a, p c = true)
    (hb : ∀ c r, b = c :: r → p c = false) : spanP p (a ++ b) = (a, b) := by
  rw [spanP_eq, List.takeWhile_append_of_pos ha, List.dropWhile_append_of_pos ha, takeWhile_of_cons hb,
    dropWhile_of_cons hb, List.append_nil]

theorem spanP_spec (p : Nat → Bool) (s : Str) :
    s = (spanP p s).1 ++ (spanP p s).2 ∧ (∀ c ∈ (spanP p s).1, p c = true) := by
  rw [spanP_eq]
  exact ⟨List.takeWhile_append_dropWhile.symm, List.all_eq_true.1 List.all_takeWhile⟩

theorem spanP_snd_head (p : Nat → Bool) (s : Str) : ∀ c r, (spanP p s).2 = c :: r → p c = false := by
  intro c r h
  have := List.head?_dropWhile_not p s
  rw [spanP_eq] at h
  rwa [show s.dropWhile p = c :: r from h] at this

theorem spanP_append_right (p : Nat → Bool) (x f : Str) (hf : ∀ c r, f = c :: r → p c = false) :
    spanP p (x ++ f) = ((spanP p x).1, (spanP p x).2 ++ f) := by
  have e : x ++ f = (spanP p x).1 ++ ((spanP p x).2 ++ f) := by rw [← List.append_assoc, ← (spanP_spec p x).1]
  refine (congrArg (spanP p) e).trans (spanP_append p _ _ (spanP_spec p x).2 fun c r h => ?_)
  cases h2 : (spanP p x).2 with
  | nil => exact hf c r (by rwa [h2] at h)
  | cons c' r' => rw [h2] at h; cases h; exact spanP_snd_head p x c r' h2

theorem spanP_fst_length_le (p : Nat → Bool) (x : Str) : (spanP p x).1.length ≤ x.length := by
  rw [spanP_eq]; exact (List.takeWhile_sublist p).length_le

/-- a text that starts with a digit is not one of the literals `float()` knows -/
theorem not_special (c : Nat) (t : Str) (hc : isDigit c = true) :
    (lower (c :: t) == str% "inf" || lower (c :: t) == str% "infinity" || lower (c :: t) == str% "nan") = false := by
  have e : toLowerC c = c := by
    rw [toLowerC, if_neg]
    simp only [charClass] at *
    omega
  simp only [charClass] at hc
  simp [lower, e]
  omega

/-- a function with the recursion of `lookupLast` / `lookupSyn` returns the last entry that satisfies `p` -/
theorem eq_find?_reverse {f : List Entry → Option Entry} {p : Entry → Bool} (hnil : f [] = none)
    (hcons : ∀ e es, f (e :: es) = match f es with
      | some r => some r
      | none => if p e then some e else none) (db : List Entry) : f db = db.reverse.find? p := by
  rw [← List.findRev?_eq_find?_reverse]
  induction db with
  | nil => exact hnil
  | cons x r ih =>
    rw [hcons, List.findRev?, ih]
    cases List.findRev? p r <;> rfl

theorem lookupLast_eq (key : Entry → Str) (s : Str) (db : List Entry) :
    lookupLast key s db = db.reverse.find? (key · == s) :=
  eq_find?_reverse rfl (fun _ _ => rfl) db

theorem lookupSyn_eq (s : Str) (db : List Entry) : lookupSyn s db = db.reverse.find? (·.syns.contains s) :=
  eq_find?_reverse rfl (fun _ _ => rfl) db

theorem lookupLast_some (key : Entry → Str) (s : Str) (e : Entry) (db : List Entry)
    (h : lookupLast key s db = some e) : e ∈ db ∧ key e = s := by
  rw [lookupLast_eq] at h
  exact ⟨List.mem_reverse.1 (List.mem_of_find?_eq_some h), by simpa using List.find?_some h⟩

theorem lookupSyn_some (s : Str) (e : Entry) (db : List Entry) (h : lookupSyn s db = some e) :
    e ∈ db ∧ s ∈ e.syns := by
  rw [lookupSyn_eq] at h
  exact ⟨List.mem_reverse.1 (List.mem_of_find?_eq_some h), by simpa using List.find?_some h⟩

theorem find?_eq_some_of_unique {α : Type} {p : α → Bool} {l : List α} {a : α} (ha : a ∈ l) (hp : p a = true)
    (hu : ∀ b ∈ l, p b = true → b = a) : l.find? p = some a := by
  cases h : l.find? p with
  | none => exact absurd hp (List.find?_eq_none.1 h a ha)
  | some b => rw [hu b (List.mem_of_find?_eq_some h) (List.find?_some h)]

theorem lookupLast_none {key : Entry → Str} {s : Str} (db : List Entry) (h : ∀ e ∈ db, key e ≠ s) :
    lookupLast key s db = none := by
  rw [lookupLast_eq, List.find?_eq_none]
  exact fun e he hk => h e (List.mem_reverse.1 he) (beq_iff_eq.1 hk)

theorem lookupLast_unique {key : Entry → Str} (db : List Entry) (e : Entry) (he : e ∈ db)
    (hu : ∀ e' ∈ db, key e' = key e → e' = e) : lookupLast key (key e) db = some e := by
  rw [lookupLast_eq]
  exact find?_eq_some_of_unique (List.mem_reverse.2 he) (beq_self_eq_true _)
    fun b hb hp => hu b (List.mem_reverse.1 hb) (beq_iff_eq.1 hp)

theorem lookupSyn_unique (db : List Entry) (e : Entry) (s : Str) (he : e ∈ db) (hs : s ∈ e.syns)
    (hu : ∀ e' ∈ db, s ∈ e'.syns → e' = e) : lookupSyn s db = some e := by
  rw [lookupSyn_eq]
  exact find?_eq_some_of_unique (List.mem_reverse.2 he) (List.contains_iff_mem.2 hs)
    fun b hb hp => hu b (List.mem_reverse.1 hb) (List.contains_iff_mem.1 hp)

theorem inj_of_nodup_map {α β : Type} (f : α → β) :
    ∀ l : List α, (l.map f).Nodup → ∀ x ∈ l, ∀ y ∈ l, f x = f y → x = y :=
  fun _ h _ hx _ hy => List.Pairwise.forall_of_forall_of_flip (R := fun x y => f x = f y → x = y) (fun _ _ _ => rfl)
    ((List.pairwise_map.1 h).imp fun hne e => absurd e hne) ((List.pairwise_map.1 h).imp fun hne e => absurd e.symm hne) hx hy

theorem monoEntry_some (mono : List Entry) (k : Str) (e : Entry) (h : monoEntry mono k = some e) :
    e ∈ mono ∧ (k = e.name ∨ k ∈ e.syns) := by
  unfold monoEntry byName at h
  split at h
  · rename_i hb
    cases h
    exact ⟨(lookupLast_some _ _ _ _ hb).1, Or.inl (lookupLast_some _ _ _ _ hb).2.symm⟩
  · exact ⟨(lookupSyn_some _ _ _ h).1, Or.inr (lookupSyn_some _ _ _ h).2⟩

/-- the only errors of the glycan tokenizer: no vocabulary name matches, or the empty name does (the Python loop hangs) -/
theorem parseGlycanAux_error {names : List Str} {n : Nat} {s : Str} {d : Comp} {e : Err}
    (h : parseGlycanAux names n s d = .error e) : e = .invalidGlycanFormula ∨ (e = .hang ∧ [] ∈ names) := by
  induction s generalizing n d with
  | nil => cases n <;> cases h
  | cons c r ih =>
    cases n with
    | succ k => exact ih h
    | zero =>
      rw [parseGlycanAux] at h
      split at h
      · cases h; exact .inl rfl
      · rename_i nm hf
        split at h
        · next hemp =>
          cases h
          exact .inr ⟨rfl, List.isEmpty_iff.1 hemp ▸ List.mem_of_find?_eq_some hf⟩
        · dsimp only at h
          split at h
          · cases h; exact .inl rfl
          · exact ih h

theorem parseGlycanAux_total (names : List Str) (hne : ∀ nm ∈ names, nm ≠ []) (s : Str) (n : Nat) (d : Comp) :
    (∃ c, parseGlycanAux names n s d = .ok c) ∨ parseGlycanAux names n s d = .error .invalidGlycanFormula := by
  cases h : parseGlycanAux names n s d with
  | ok c => exact .inl ⟨c, rfl⟩
  | error e =>
    rcases parseGlycanAux_error h with rfl | ⟨-, hm⟩
    · exact .inr rfl
    · exact absurd rfl (hne [] hm)

/-! ### white space, cuts at one character, and the shape of `int()` / `float()` -/

theorem stripL_id (s : Str) (h : ∀ c r, s = c :: r → isWs c = false) : stripL s = s :=
  stripL_eq s ▸ dropWhile_of_cons h

theorem strip_id (s : Str) (h : ∀ c ∈ s, isWs c = false) : strip s = s := by
  unfold strip
  rw [stripL_id s (fun c r e => h c (by simp [e])), stripL_id, List.reverse_reverse]
  intro c r e
  apply h c
  have : c ∈ s.reverse := by simp [e]
  simpa using this

theorem mem_stripL {x : Nat} (hx : isWs x = false) (l : Str) (h : x ∈ l) : x ∈ stripL l := by
  rw [← List.takeWhile_append_dropWhile (p := isWs) (l := l), List.mem_append] at h
  rw [stripL_eq]
  exact h.resolve_left fun h' => by simp [List.all_eq_true.1 List.all_takeWhile x h'] at hx

theorem strip_mem {x : Nat} (hx : isWs x = false) {s : Str} (h : x ∈ s) : x ∈ strip s := by
  unfold strip
  exact List.mem_reverse.2 (mem_stripL hx _ (List.mem_reverse.2 (mem_stripL hx s h)))

theorem spanP_ne (x : Nat) (q r : Str) (h : x ∉ q) : spanP (· != x) (q ++ x :: r) = (q, x :: r) :=
  spanP_append _ q (x :: r) (fun c hc => by simpa using fun e : c = x => h (e ▸ hc)) (fun c r' e => by cases e; simp)

theorem spanP_all (x : Nat) (q : Str) (h : x ∉ q) : spanP (· != x) q = (q, []) := by
  simpa using spanP_append (· != x) q [] (fun c hc => by simpa using fun e : c = x => h (e ▸ hc)) (fun _ _ e => nomatch e)

theorem parseInt_eq (s : Str) : parseInt s =
    (let p := signOf (strip s)
     let d := digitRun p.2 false []
     if d.1.isEmpty || !d.2.isEmpty then none else some (p.1 * (digitsVal d.1 : Int))) := rfl

/-- the `.`-test of `parseFloat` -/
def dotSplit : Str → Bool × Str
  | 46 :: t => (true, t)
  | t => (false, t)

/-- the exponent part of `parseFloat` -/
def expPart (sg : Int) (mant : Rat) : Str → FloatRes
  | [] => .val (sg * mant)
  | c :: t =>
    if c == 101 || c == 69 then
      let e := digitRun (signOf t).2 false []
      if e.1.isEmpty || !e.2.isEmpty then .bad
      else if digitsVal e.1 > 400 then (if mant == 0 || (signOf t).1 < 0 then .val 0 else .special)
      else .val (sg * mant * pow10 ((signOf t).1 * (digitsVal e.1 : Int)))
    else .bad

/-- `parseFloat` (and `parseInt` above) with projections instead of destructuring lets: these unfold under `rw` -/
theorem parseFloat_eq (s : Str) : parseFloat s =
    (let p := signOf (strip s)
     let lw := lower p.2
     if lw == str% "inf" || lw == str% "infinity" || lw == str% "nan" then .special
     else
       let d1 := digitRun p.2 false []
       let ds := dotSplit d1.2
       let f := if ds.1 then digitRun ds.2 false [] else ([], ds.2)
       if d1.1.isEmpty && f.1.isEmpty then .bad
       else expPart p.1 (((digitsVal (d1.1 ++ f.1) : Nat) : Rat) / ((10 ^ f.1.length : Nat) : Rat)) f.2) := by
  rfl

end Formula
