import PeptVerif.Model.Serialize
import PeptVerif.Lemmas.AnnotEq
import PeptVerif.Lemmas.AssocList
/-! The serializer reads the residue-modification dict through `getInternal` only. Mathlib-free. -/
namespace Pept

theorem dictGet_eq_lookup (k : Int) (l : List (Int × List Mod)) : dictGet k l = l.lookup k := by
  induction l with
  | nil => rfl
  | cons p ps ih => rw [dictGet, AssocList.lookup_cons, ih]

theorem internalAt_eq (plus : Plus) (p : Annotation) (i : Int) :
    internalAt plus p.internal i = serializeMods '[' ']' plus ((getInternal p i).getD []) := by
  unfold internalAt getInternal
  cases p.internal with
  | none => simp [serializeMods]
  | some d =>
    simp only [dictGet_eq_lookup]
    cases List.lookup i d <;> simp [optMods, serializeMods]

/-- the residue loop in closed form: per residue the interval marks at its index, the residue, its own mods; then the closing marks -/
theorem serializeResidues_eq (plus : Plus) (a : Annotation) (i : Int) (s : List Char) :
    serializeResidues plus a i s =
      (s.zipIdx.flatMap fun q => ivMarks plus a.intervals (i + q.2) true ++
        q.1 :: serializeMods '[' ']' plus ((getInternal a (i + q.2)).getD [])) ++
      ivMarks plus a.intervals (i + s.length) false := by
  induction s generalizing i with
  | nil => simp [serializeResidues]
  | cons c cs ih =>
    simp only [serializeResidues, ih, internalAt_eq, List.zipIdx_cons, List.zipIdx_succ, List.flatMap_cons, List.flatMap_map,
      List.length_cons, List.append_assoc, List.cons_append, Int.natCast_succ, Int.natCast_zero, Int.add_zero, Nat.zero_add,
      Int.add_assoc, Int.add_comm 1]

theorem serialize_of_getInternal_eq (plus : Plus) (a : Annotation) (d : Option (List (Int × List Mod)))
    (h : ∀ k, getInternal { a with internal := d } k = getInternal a k) :
    serialize plus { a with internal := d } = serialize plus a := by
  simp only [serialize, serializeMiddle, serializeResidues_eq, h]
  rfl

end Pept
