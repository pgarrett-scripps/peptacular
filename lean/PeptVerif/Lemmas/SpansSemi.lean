import PeptVerif.Lemmas.Spans
import PeptVerif.Lemmas.ListSort
/-! The grouped semi-span builders of C06. After the stable sort by (key, −value) every `itertools.groupby` group
lists its parents in strictly decreasing length, and the group loop emits each shorter span from its next longer
parent only. Core Lean only. -/
namespace Spans

section sort
open ListSort
variable {α : Type} (le : α → α → Bool)

theorem insertBy_eq (x : α) (l : List α) : insertBy le x l = insertB le x l := by
  induction l <;> simp [insertBy, insertB, *]

theorem sortBy_eq (l : List α) : sortBy le l = sortB le l := by
  unfold sortBy sortB; congr; funext x l; exact insertBy_eq le x l

theorem perm_sortBy (l : List α) : (sortBy le l).Perm l := sortBy_eq le l ▸ perm_sort le l

theorem mem_sortBy (x : α) (l : List α) : x ∈ sortBy le l ↔ x ∈ l := (perm_sortBy le l).mem_iff

theorem pairwise_sortBy (htot : ∀ a b, le a b = false → le b a = true)
    (htr : ∀ a b c, le a b = true → le b c = true → le a c = true) (l : List α) :
    (sortBy le l).Pairwise (fun a b => le a b = true) :=
  sortBy_eq le l ▸ pairwise_sort htr (fun a b => ⟨id, htot a b⟩) l

end sort

section group
variable {α : Type} (key : α → Int)

theorem groupByKey_cons_cons {x y : α} {ys g : List α} {gs : List (List α)}
    (h : groupByKey key (y :: ys) = (y :: g) :: gs) :
    groupByKey key (x :: y :: ys) = if key x = key y then (x :: y :: g) :: gs else [x] :: (y :: g) :: gs := by
  rw [groupByKey, h]

theorem groupByKey_cons (x : α) (xs : List α) :
    ∃ g gs, groupByKey key (x :: xs) = (x :: g) :: gs := by
  induction xs generalizing x with
  | nil => exact ⟨[], [], rfl⟩
  | cons y ys ih =>
    obtain ⟨g, gs, h⟩ := ih y
    rw [groupByKey_cons_cons key h]
    split
    · exact ⟨_, _, rfl⟩
    · exact ⟨_, _, rfl⟩

theorem groupByKey_flatten (l : List α) : (groupByKey key l).flatten = l := by
  induction l with
  | nil => simp [groupByKey]
  | cons x xs ih =>
    cases xs with
    | nil => simp [groupByKey]
    | cons y ys =>
      obtain ⟨g, gs, h⟩ := groupByKey_cons key y ys
      rw [groupByKey_cons_cons key h]
      rw [h] at ih
      split
      · simpa using ih
      · simpa using ih

theorem groupByKey_const (l : List α) : ∀ G ∈ groupByKey key l, ∀ a ∈ G, ∀ b ∈ G, key a = key b := by
  induction l with
  | nil => simp [groupByKey]
  | cons x xs ih =>
    cases xs with
    | nil => simp [groupByKey]
    | cons y ys =>
      obtain ⟨g, gs, h⟩ := groupByKey_cons key y ys
      rw [groupByKey_cons_cons key h]
      rw [h] at ih
      have hg : ∀ a ∈ y :: g, key a = key y := fun a ha => ih _ (by simp) a ha y (by simp)
      split
      · rename_i hxy
        intro G hG
        rcases List.mem_cons.mp hG with rfl | hG
        · have : ∀ a ∈ x :: y :: g, key a = key y := by
            intro a ha
            rcases List.mem_cons.mp ha with rfl | ha
            · exact hxy
            · exact hg a ha
          intro a ha b hb; rw [this a ha, this b hb]
        · exact ih G (by simp [hG])
      · intro G hG
        rcases List.mem_cons.mp hG with rfl | hG
        · intro a ha b hb; simp at ha hb; rw [ha, hb]
        · exact ih G hG

theorem groupByKey_pairwise (l : List α) (hs : l.Pairwise (fun a b => key a ≤ key b)) :
    (groupByKey key l).Pairwise (fun G H => ∀ a ∈ G, ∀ b ∈ H, key a < key b) := by
  induction l with
  | nil => simp [groupByKey]
  | cons x xs ih =>
    rw [List.pairwise_cons] at hs
    cases xs with
    | nil => simp [groupByKey]
    | cons y ys =>
      obtain ⟨g, gs, h⟩ := groupByKey_cons key y ys
      have hconst := groupByKey_const key (y :: ys)
      have ih := ih hs.2
      rw [groupByKey_cons_cons key h]
      rw [h] at ih hconst
      have hg : ∀ a ∈ y :: g, key a = key y := fun a ha => hconst _ (by simp) a ha y (by simp)
      rw [List.pairwise_cons] at ih
      split
      · rename_i hxy
        rw [List.pairwise_cons]
        refine ⟨?_, ih.2⟩
        intro H hH a ha b hb
        rcases List.mem_cons.mp ha with rfl | ha
        · rw [hxy]; exact ih.1 H hH y (by simp) b hb
        · exact ih.1 H hH a ha b hb
      · rename_i hxy
        rw [List.pairwise_cons]
        refine ⟨?_, List.pairwise_cons.mpr ih⟩
        intro H hH a ha b hb
        simp only [List.mem_singleton] at ha; subst ha
        have hxy' : key a < key y := by
          have := hs.1 y (by simp); omega
        rcases List.mem_cons.mp hH with rfl | hH
        · rw [hg b hb]; exact hxy'
        · have := ih.1 H hH y (by simp) b hb; omega

theorem pairwise_mem_cases {β : Type} {R : β → β → Prop} {l : List β} (h : l.Pairwise R) {a b : β}
    (ha : a ∈ l) (hb : b ∈ l) : a = b ∨ R a b ∨ R b a :=
  List.Pairwise.forall_of_forall_of_flip (R := fun a b => a = b ∨ R a b ∨ R b a) (fun _ _ => Or.inl rfl)
    (h.imp fun r => Or.inr (Or.inl r)) (h.imp fun r => Or.inr (Or.inr r)) ha hb

theorem groupByKey_complete (l : List α) (hs : l.Pairwise (fun a b => key a ≤ key b))
    (G : List α) (hG : G ∈ groupByKey key l) (p : α) (hp : p ∈ G) (q : α) (hq : q ∈ l)
    (hk : key q = key p) : q ∈ G := by
  have hq' : q ∈ (groupByKey key l).flatten := by rw [groupByKey_flatten]; exact hq
  obtain ⟨H, hH, hqH⟩ := List.mem_flatten.mp hq'
  rcases pairwise_mem_cases (groupByKey_pairwise key l hs) hG hH with rfl | h | h
  · exact hqH
  · have := h p hp q hqH; omega
  · have := h q hqH p hp; omega

theorem groupByKey_mem (l : List α) (p : α) : (∃ G ∈ groupByKey key l, p ∈ G) ↔ p ∈ l := by
  conv => rhs; rw [← groupByKey_flatten key l]
  simp [List.mem_flatten]

theorem groupByKey_sublist (l : List α) (G : List α) (hG : G ∈ groupByKey key l) : G.Sublist l := by
  have := List.sublist_flatten_of_mem hG
  rwa [groupByKey_flatten] at this

end group

/-- abstract description of a one-sided semi builder called with explicit bounds: it returns the spans
`x` that share an end and the value with the parent `p` (`Sh p x`), are strictly shorter than `p`,
not of negative length, and whose length lies in `[a, b]` -/
def BuildSpec (build : Span → Option Int → Option Int → List Span) (Sh : Span → Span → Prop) : Prop :=
  ∀ p a b x, x ∈ build p (some a) (some b) ↔
    Sh p x ∧ a ≤ spanLen x ∧ spanLen x ≤ b ∧ 0 ≤ spanLen x ∧ spanLen x < spanLen p

def ShL (p x : Span) : Prop := x.1 = p.1 ∧ x.2.2 = p.2.2
def ShR (p x : Span) : Prop := x.2.1 = p.2.1 ∧ x.2.2 = p.2.2

theorem shL_iff (p x : Span) : ShL p x ↔ x.1 = p.1 ∧ x.2.2 = p.2.2 := Iff.rfl
theorem shR_iff (p x : Span) : ShR p x ↔ x.2.1 = p.2.1 ∧ x.2.2 = p.2.2 := Iff.rfl

theorem buildSpec_left : BuildSpec buildLeftSemi ShL := by
  intro p a b ⟨s, e, v⟩
  rw [mk_mem_buildLeftSemi]
  simp only [shL_iff, spanLen, Option.getD_some]
  constructor
  · rintro ⟨rfl, rfl, h⟩; refine ⟨⟨rfl, rfl⟩, ?_⟩; omega
  · rintro ⟨⟨h1, h2⟩, h⟩; subst h1 h2; refine ⟨rfl, rfl, ?_⟩; omega

theorem buildSpec_right : BuildSpec buildRightSemi ShR := by
  intro p a b ⟨s, e, v⟩
  rw [mk_mem_buildRightSemi]
  simp only [shR_iff, spanLen, Option.getD_some]
  constructor
  · rintro ⟨rfl, rfl, h⟩; refine ⟨⟨rfl, rfl⟩, ?_⟩; omega
  · rintro ⟨⟨h1, h2⟩, h⟩; subst h1 h2; refine ⟨rfl, rfl, ?_⟩; omega

/-- upper length bound used by the loop -/
def optLe (x : Int) : Option Int → Prop
  | none => True
  | some m => x ≤ m

theorem optLe_some (x m : Int) : optLe x (some m) ↔ x ≤ m := Iff.rfl

theorem optLe_iff (x : Int) (hi : Option Int) : optLe x hi ↔ ∀ m, hi = some m → x ≤ m := by
  cases hi <;> simp [optLe]

theorem le_newMax (hi : Option Int) (len y : Int) :
    y ≤ newMaxLen hi len ↔ optLe y hi ∧ y < len := by
  cases hi <;> simp [optLe, newMaxLen] <;> omega

/-- the group loop on a group of strictly decreasing length: `x` is produced from the parent `p`
iff it shares the end/value with `p`, is strictly shorter than `p`, lies within the bounds, and is
strictly longer than every parent of the group that is shorter than `p` -/
theorem mem_groupLoop {build : Span → Option Int → Option Int → List Span} {Sh : Span → Span → Prop}
    (hb : BuildSpec build Sh) (sb : Bool) (lo : Int) (hi : Option Int) (G : List Span)
    (hG : G.Pairwise (fun a b => spanLen b < spanLen a)) (x : Span) :
    x ∈ groupLoop build sb lo hi G ↔
      ∃ p ∈ G, Sh p x ∧ lo ≤ spanLen x ∧ optLe (spanLen x) hi ∧ 0 ≤ spanLen x ∧ spanLen x < spanLen p ∧
        ∀ q ∈ G, spanLen q < spanLen p → spanLen q < spanLen x := by
  induction G with
  | nil => simp [groupLoop]
  | cons p0 rest ih =>
    rw [List.pairwise_cons] at hG
    have ih := ih hG.2
    unfold groupLoop
    simp only
    by_cases hbrk : (if sb = true then spanLen p0 < lo else spanLen p0 ≤ lo)
    · rw [if_pos hbrk]
      have hbrk' : spanLen p0 ≤ lo := by
        cases sb <;> simp at hbrk <;> omega
      simp only [List.not_mem_nil, false_iff]
      rintro ⟨p, hp, _, h1, _, _, h2, _⟩
      rcases List.mem_cons.mp hp with rfl | hp
      · omega
      · have := hG.1 p hp; omega
    · rw [if_neg hbrk]
      cases rest with
      | nil =>
        simp only
        rw [hb, le_newMax]
        constructor
        · rintro ⟨h1, h2, ⟨h3, h4⟩, h5, h6⟩
          exact ⟨p0, by simp, h1, h2, h3, h5, h6, by simp⟩
        · rintro ⟨p, hp, h1, h2, h3, h4, h5, _⟩
          simp only [List.mem_singleton] at hp; subst hp
          exact ⟨h1, h2, ⟨h3, h5⟩, h4, h5⟩
      | cons next r =>
        simp only [List.mem_append]
        rw [hb, le_newMax, ih]
        have hnext : spanLen next < spanLen p0 := hG.1 next (by simp)
        have hr : ∀ q ∈ r, spanLen q < spanLen next := (List.pairwise_cons.mp hG.2).1
        constructor
        · rintro (⟨h1, h2, ⟨h3, h4⟩, h5, h6⟩ | ⟨p, hp, h1, h2, h3, h4, h5, h6⟩)
          · refine ⟨p0, by simp, h1, by omega, h3, h5, h6, ?_⟩
            intro q hq hlt
            rcases List.mem_cons.mp hq with rfl | hq
            · omega
            · rcases List.mem_cons.mp hq with rfl | hq
              · omega
              · have := hr q hq; omega
          · refine ⟨p, List.mem_cons_of_mem _ hp, h1, h2, h3, h4, h5, ?_⟩
            intro q hq hlt
            rcases List.mem_cons.mp hq with rfl | hq
            · have := hG.1 p hp; omega
            · exact h6 q hq hlt
        · rintro ⟨p, hp, h1, h2, h3, h4, h5, h6⟩
          rcases List.mem_cons.mp hp with rfl | hp
          · left
            have := h6 next (by simp) hnext
            exact ⟨h1, by omega, ⟨h3, h5⟩, h4, h5⟩
          · right
            exact ⟨p, hp, h1, h2, h3, h4, h5, fun q hq => h6 q (by simp [hq])⟩

theorem nodup_groupLoop {build : Span → Option Int → Option Int → List Span} {Sh : Span → Span → Prop}
    (hb : BuildSpec build Sh) (hbn : ∀ p a b, (build p a b).Nodup) (sb : Bool) (lo : Int) (hi : Option Int)
    (G : List Span) (hG : G.Pairwise (fun a b => spanLen b < spanLen a)) :
    (groupLoop build sb lo hi G).Nodup := by
  induction G with
  | nil => simp [groupLoop]
  | cons p0 rest ih =>
    have hG' := List.pairwise_cons.mp hG
    have ih := ih hG'.2
    unfold groupLoop
    simp only
    by_cases hbrk : (if sb = true then spanLen p0 < lo else spanLen p0 ≤ lo)
    · rw [if_pos hbrk]; simp
    · rw [if_neg hbrk]
      cases rest with
      | nil => exact hbn _ _ _
      | cons next r =>
        simp only
        rw [List.nodup_append]
        refine ⟨hbn _ _ _, ih, ?_⟩
        intro x hx y hy hxy
        subst hxy
        rw [hb] at hx
        rw [mem_groupLoop hb sb lo hi _ hG'.2] at hy
        obtain ⟨p, hp, _, _, _, _, h5, _⟩ := hy
        have h1 : spanLen p ≤ spanLen next := by
          rcases List.mem_cons.mp hp with rfl | hp
          · omega
          · have := (List.pairwise_cons.mp hG'.2).1 p hp; omega
        omega

/-- the order both grouped builders sort by: Python's `key=lambda x: (key x, -x[2])` -/
def keyLe (key : Span → Int) (a b : Span) : Bool := key a < key b || (key a == key b && -a.2.2 ≤ -b.2.2)

theorem groupedLeft_eq (spans : List Span) (lo hi : Option Int) :
    groupedLeft spans lo hi =
      (groupByKey (fun s : Span => s.1) (sortBy (keyLe (·.1)) spans)).flatMap
        (groupLoop buildLeftSemi false (lo.getD 1) hi) := rfl

theorem groupedRight_eq (spans : List Span) (lo hi : Option Int) :
    groupedRight spans lo hi =
      (groupByKey (fun s : Span => s.2.1) (sortBy (keyLe (·.2.1)) spans)).flatMap
        (groupLoop buildRightSemi true (lo.getD 1) hi) := rfl

section grouped
variable (key : Span → Int)

theorem keyLe_tot (a b : Span) : keyLe key a b = false → keyLe key b a = true := by
  simp only [keyLe, Bool.or_eq_false_iff, Bool.and_eq_false_iff, Bool.or_eq_true, Bool.and_eq_true,
    decide_eq_true_eq, decide_eq_false_iff_not, beq_iff_eq, beq_eq_false_iff_ne]
  omega

theorem keyLe_tr (a b c : Span) : keyLe key a b = true → keyLe key b c = true → keyLe key a c = true := by
  simp only [keyLe, Bool.or_eq_true, Bool.and_eq_true, decide_eq_true_eq, beq_iff_eq]
  omega

theorem keyLe_key (a b : Span) : keyLe key a b = true → key a ≤ key b := by
  simp only [keyLe, Bool.or_eq_true, Bool.and_eq_true, decide_eq_true_eq, beq_iff_eq]
  omega

theorem pairwise_key_sortBy (E : List Span) : (sortBy (keyLe key) E).Pairwise (fun a b => key a ≤ key b) :=
  (pairwise_sortBy _ (keyLe_tot key) (keyLe_tr key) E).imp (fun h => keyLe_key key _ _ h)

variable {key} {E : List Span} (hnd : E.Nodup)
  (hdesc : ∀ a ∈ E, ∀ b ∈ E, a ≠ b → key a = key b → keyLe key a b = true → spanLen b < spanLen a)
include hnd hdesc

/-- if, among spans with the same key, the sort order puts longer ones first, every group is strictly decreasing
in length -/
theorem pairwise_len_of_mem_groups (G : List Span) (hG : G ∈ groupByKey key (sortBy (keyLe key) E)) :
    G.Pairwise (fun a b => spanLen b < spanLen a) := by
  have hsub := groupByKey_sublist key _ G hG
  have h1 : G.Pairwise (fun a b => keyLe key a b = true) :=
    (pairwise_sortBy _ (keyLe_tot key) (keyLe_tr key) E).sublist hsub
  have h2 : G.Pairwise (fun a b => a ≠ b) :=
    List.Nodup.sublist hsub ((perm_sortBy _ E).nodup_iff.mpr hnd)
  refine (h1.and h2).imp_of_mem ?_
  intro a b ha hb hab
  exact hdesc a ((mem_sortBy _ a E).mp (hsub.subset ha)) b ((mem_sortBy _ b E).mp (hsub.subset hb)) hab.2
    (groupByKey_const key _ G hG a ha b hb) hab.1

variable {build : Span → Option Int → Option Int → List Span} {Sh : Span → Span → Prop} (hb : BuildSpec build Sh)
include hb

theorem mem_grouped (sb : Bool) (lo : Int) (hi : Option Int) (x : Span) :
    x ∈ (groupByKey key (sortBy (keyLe key) E)).flatMap (groupLoop build sb lo hi) ↔
      ∃ p ∈ E, Sh p x ∧ lo ≤ spanLen x ∧ optLe (spanLen x) hi ∧ 0 ≤ spanLen x ∧ spanLen x < spanLen p ∧
        ∀ q ∈ E, key q = key p → spanLen q < spanLen p → spanLen q < spanLen x := by
  have hks := pairwise_key_sortBy key E
  have hGdesc := pairwise_len_of_mem_groups hnd hdesc
  rw [List.mem_flatMap]
  constructor
  · rintro ⟨G, hG, hx⟩
    rw [mem_groupLoop hb sb lo hi G (hGdesc G hG)] at hx
    obtain ⟨p, hp, h1, h2, h3, h4, h5, h6⟩ := hx
    have hsub := groupByKey_sublist key _ G hG
    refine ⟨p, (mem_sortBy _ p E).mp (hsub.subset hp), h1, h2, h3, h4, h5, ?_⟩
    intro q hq hk
    exact h6 q (groupByKey_complete key _ hks G hG p hp q ((mem_sortBy _ q E).mpr hq) hk)
  · rintro ⟨p, hp, h1, h2, h3, h4, h5, h6⟩
    obtain ⟨G, hG, hpG⟩ := (groupByKey_mem key (sortBy _ E) p).mpr ((mem_sortBy _ p E).mpr hp)
    refine ⟨G, hG, ?_⟩
    rw [mem_groupLoop hb sb lo hi G (hGdesc G hG)]
    have hsub := groupByKey_sublist key _ G hG
    refine ⟨p, hpG, h1, h2, h3, h4, h5, ?_⟩
    intro q hq
    exact h6 q ((mem_sortBy _ q E).mp (hsub.subset hq)) (groupByKey_const key _ G hG q hq p hpG)

theorem nodup_grouped (hbn : ∀ p a b, (build p a b).Nodup) (hsh : ∀ p x, Sh p x → key x = key p)
    (sb : Bool) (lo : Int) (hi : Option Int) :
    ((groupByKey key (sortBy (keyLe key) E)).flatMap (groupLoop build sb lo hi)).Nodup := by
  have hGdesc := pairwise_len_of_mem_groups hnd hdesc
  simp only [List.Nodup]
  rw [List.pairwise_flatMap]
  refine ⟨fun G hG => nodup_groupLoop hb hbn sb lo hi G (hGdesc G hG), ?_⟩
  refine (groupByKey_pairwise key _ (pairwise_key_sortBy key E)).imp_of_mem ?_
  intro G H hG hH hGH x hx y hy hxy
  subst hxy
  rw [mem_groupLoop hb sb lo hi G (hGdesc G hG)] at hx
  rw [mem_groupLoop hb sb lo hi H (hGdesc H hH)] at hy
  obtain ⟨p, hp, hs, _⟩ := hx
  obtain ⟨q, hq, hs', _⟩ := hy
  have := hGH p hp q hq
  have := hsh p x hs
  have := hsh q x hs'
  omega

end grouped

/-- among enzymatic spans with the same start the value (the number of sites inside) grows strictly with the end,
so the sort by (start, −value) lists every group in strictly decreasing length -/
theorem enz_desc_left (mc : Nat) (lo hiE : Int) (L : List Int) (hL : SSorted L) :
    ∀ a ∈ enzGo mc lo hiE L, ∀ b ∈ enzGo mc lo hiE L, a ≠ b → a.1 = b.1 → keyLe (·.1) a b = true →
      spanLen b < spanLen a := by
  rintro ⟨s, e, v⟩ ha ⟨s', e', v'⟩ hb hne hk hle
  rw [mem_enzGo _ _ _ _ hL] at ha hb
  simp only at hk; subst hk
  simp only [keyLe, Bool.or_eq_true, Bool.and_eq_true, decide_eq_true_eq, beq_iff_eq] at hle
  simp only [spanLen]
  obtain ⟨_, he, hse, hv, _⟩ := ha
  obtain ⟨_, he', hse', hv', _⟩ := hb
  rcases Int.lt_trichotomy e' e with h | h | h
  · omega
  · subst h; exfalso; apply hne; simp [hv, hv']
  · have := inside_lt L s s e e' e he (by omega) (by omega) ⟨hse, h⟩ (by omega); omega

/-- mirror image of `enz_desc_left`: same end, the value grows as the start moves left -/
theorem enz_desc_right (mc : Nat) (lo hiE : Int) (L : List Int) (hL : SSorted L) :
    ∀ a ∈ enzGo mc lo hiE L, ∀ b ∈ enzGo mc lo hiE L, a ≠ b → a.2.1 = b.2.1 → keyLe (·.2.1) a b = true →
      spanLen b < spanLen a := by
  rintro ⟨s, e, v⟩ ha ⟨s', e', v'⟩ hb hne hk hle
  rw [mem_enzGo _ _ _ _ hL] at ha hb
  simp only at hk; subst hk
  simp only [keyLe, Bool.or_eq_true, Bool.and_eq_true, decide_eq_true_eq, beq_iff_eq] at hle
  simp only [spanLen]
  obtain ⟨hs, _, hse, hv, _⟩ := ha
  obtain ⟨hs', _, hse', hv', _⟩ := hb
  rcases Int.lt_trichotomy s s' with h | h | h
  · omega
  · subst h; exfalso; apply hne; simp [hv, hv']
  · have := inside_lt L s s' e e s hs (by omega) (by omega) ⟨h, hse⟩ (by omega); omega

/-- left semi spans produced from the enzymatic list: start is a cleavage point, end is not, some
cleavage point at or after the end is reachable with at most `mc` missed cleavages -/
theorem groupedLeft_enz_sound (mc : Nat) (lo hiE hi : Int) (L : List Int) (hL : SSorted L) (hlo : 1 ≤ lo)
    (s e v : Int) (h : (s, e, v) ∈ groupedLeft (enzGo mc lo hiE L) (some lo) (some hi)) :
      lo ≤ e - s ∧ e - s ≤ hi ∧ s ∈ L ∧ e ∉ L ∧ v = (inside L s e : Int) ∧
        ∃ e' ∈ L, e ≤ e' ∧ inside L s e' ≤ mc := by
  revert h
  rw [groupedLeft_eq, mem_grouped (nodup_enzGo mc lo hiE L hL) (enz_desc_left mc lo hiE L hL) buildSpec_left]
  simp only [Option.getD_some, optLe_some, shL_iff, spanLen]
  rintro ⟨⟨ps, pe, pv⟩, hp, ⟨h1, h1'⟩, h2, h3, h4, h5, h6⟩
  simp only at h1 h1' h5 h6; subst h1 h1'
  rw [mem_enzGo _ _ _ _ hL] at hp
  obtain ⟨hs, hpe, hspe, hpv, hmc, hplo, hphi⟩ := hp
  have key : ∀ y ∈ L, ¬ (e ≤ y ∧ y < pe) := by
    rintro y hy ⟨hy1, hy2⟩
    have hq : (s, y, (inside L s y : Int)) ∈ enzGo mc lo hiE L := by
      rw [mem_enzGo _ _ _ _ hL]
      have := inside_mono L s s y pe (by omega) (by omega)
      exact ⟨hs, hy, by omega, rfl, by omega, by omega, by omega⟩
    have := h6 _ hq rfl (by simp only; omega)
    simp only at this; omega
  refine ⟨h2, h3, hs, ?_, ?_, pe, hpe, by omega, hmc⟩
  · intro he; exact key e he ⟨by omega, by omega⟩
  · rw [hpv]; congr 1
    apply inside_congr
    intro y hy
    have := key y hy
    constructor <;> intro h <;> omega

theorem mem_groupedLeft_enz (mc : Nat) (lo hiE hi : Int) (L : List Int) (hL : SSorted L) (hlo : 1 ≤ lo)
    (hhi : ∀ a ∈ L, ∀ b ∈ L, b - a ≤ hiE) (s e v : Int) :
    (s, e, v) ∈ groupedLeft (enzGo mc lo hiE L) (some lo) (some hi) ↔
      lo ≤ e - s ∧ e - s ≤ hi ∧ s ∈ L ∧ e ∉ L ∧ v = (inside L s e : Int) ∧
        ∃ e' ∈ L, e ≤ e' ∧ inside L s e' ≤ mc := by
  refine ⟨groupedLeft_enz_sound mc lo hiE hi L hL hlo s e v, ?_⟩
  rw [groupedLeft_eq, mem_grouped (nodup_enzGo mc lo hiE L hL) (enz_desc_left mc lo hiE L hL) buildSpec_left]
  simp only [Option.getD_some, optLe_some, shL_iff, spanLen]
  rintro ⟨h2, h3, hs, he, hv, e', he', hee', hmc⟩
  -- the parent is the enzymatic span to the LEAST cleavage point `m ≥ e`: no parent of the group ends in `[e, m)`
  obtain ⟨m, hm, hem, hmin⟩ := exists_least_ge L e ⟨e', he', hee'⟩
  have hne : m ≠ e := by rintro rfl; exact he hm
  have hmc' : inside L s m ≤ mc := by
    have := inside_mono L s s m e' (by omega) (hmin e' he' hee'); omega
  refine ⟨(s, m, (inside L s m : Int)), ?_, ⟨rfl, ?_⟩, h2, h3, by omega, by simp only; omega, ?_⟩
  · rw [mem_enzGo _ _ _ _ hL]
    exact ⟨hs, hm, by omega, rfl, hmc', by omega, hhi s hs m hm⟩
  · simp only; rw [hv]; congr 1
    apply inside_congr
    intro y hy
    constructor
    · intro h; omega
    · intro h
      refine ⟨h.1, ?_⟩
      by_cases hye : e ≤ y
      · have := hmin y hy hye; omega
      · omega
  · rintro ⟨qs, qe, qv⟩ hq hk hlt
    simp only at hk hlt ⊢; subst hk
    rw [mem_enzGo _ _ _ _ hL] at hq
    by_cases hye : e ≤ qe
    · have := hmin qe hq.2.1 hye; omega
    · omega

/-- mirror image of `groupedLeft_enz_sound` -/
theorem groupedRight_enz_sound (mc : Nat) (lo hiE hi : Int) (L : List Int) (hL : SSorted L) (hlo : 1 ≤ lo)
    (s e v : Int) (h : (s, e, v) ∈ groupedRight (enzGo mc lo hiE L) (some lo) (some hi)) :
      lo ≤ e - s ∧ e - s ≤ hi ∧ e ∈ L ∧ s ∉ L ∧ v = (inside L s e : Int) ∧
        ∃ s' ∈ L, s' ≤ s ∧ inside L s' e ≤ mc := by
  revert h
  rw [groupedRight_eq, mem_grouped (nodup_enzGo mc lo hiE L hL) (enz_desc_right mc lo hiE L hL) buildSpec_right]
  simp only [Option.getD_some, optLe_some, shR_iff, spanLen]
  rintro ⟨⟨ps, pe, pv⟩, hp, ⟨h1, h1'⟩, h2, h3, h4, h5, h6⟩
  simp only at h1 h1' h5 h6; subst h1 h1'
  rw [mem_enzGo _ _ _ _ hL] at hp
  obtain ⟨hps, he, hspe, hpv, hmc, hplo, hphi⟩ := hp
  have key : ∀ y ∈ L, ¬ (ps < y ∧ y ≤ s) := by
    rintro y hy ⟨hy1, hy2⟩
    have hq : (y, e, (inside L y e : Int)) ∈ enzGo mc lo hiE L := by
      rw [mem_enzGo _ _ _ _ hL]
      have := inside_mono L y ps e e (by omega) (by omega)
      exact ⟨hy, he, by omega, rfl, by omega, by omega, by omega⟩
    have := h6 _ hq rfl (by simp only; omega)
    simp only at this; omega
  refine ⟨h2, h3, he, ?_, ?_, ps, hps, by omega, hmc⟩
  · intro hs; exact key s hs ⟨by omega, by omega⟩
  · rw [hpv]; congr 1
    apply inside_congr
    intro y hy
    have := key y hy
    constructor <;> intro h <;> omega

/-- mirror image of `mem_groupedLeft_enz` -/
theorem mem_groupedRight_enz (mc : Nat) (lo hiE hi : Int) (L : List Int) (hL : SSorted L) (hlo : 1 ≤ lo)
    (hhi : ∀ a ∈ L, ∀ b ∈ L, b - a ≤ hiE) (s e v : Int) :
    (s, e, v) ∈ groupedRight (enzGo mc lo hiE L) (some lo) (some hi) ↔
      lo ≤ e - s ∧ e - s ≤ hi ∧ e ∈ L ∧ s ∉ L ∧ v = (inside L s e : Int) ∧
        ∃ s' ∈ L, s' ≤ s ∧ inside L s' e ≤ mc := by
  refine ⟨groupedRight_enz_sound mc lo hiE hi L hL hlo s e v, ?_⟩
  rw [groupedRight_eq, mem_grouped (nodup_enzGo mc lo hiE L hL) (enz_desc_right mc lo hiE L hL) buildSpec_right]
  simp only [Option.getD_some, optLe_some, shR_iff, spanLen]
  rintro ⟨h2, h3, he, hs, hv, s', hs', hss', hmc⟩
  obtain ⟨m, hm, hem, hmax⟩ := exists_greatest_le L s ⟨s', hs', hss'⟩
  have hne : m ≠ s := by rintro rfl; exact hs hm
  have hmc' : inside L m e ≤ mc := by
    have := inside_mono L m s' e e (hmax s' hs' hss') (by omega); omega
  refine ⟨(m, e, (inside L m e : Int)), ?_, ⟨rfl, ?_⟩, h2, h3, by omega, by simp only; omega, ?_⟩
  · rw [mem_enzGo _ _ _ _ hL]
    exact ⟨hm, he, by omega, rfl, hmc', by omega, hhi m hm e he⟩
  · simp only; rw [hv]; congr 1
    apply inside_congr
    intro y hy
    constructor
    · intro h; omega
    · intro h
      refine ⟨?_, h.2⟩
      by_cases hye : y ≤ s
      · have := hmax y hy hye; omega
      · omega
  · rintro ⟨qs, qe, qv⟩ hq hk hlt
    simp only at hk hlt ⊢; subst hk
    rw [mem_enzGo _ _ _ _ hL] at hq
    by_cases hye : qs ≤ s
    · have := hmax qs hq.1 hye; omega
    · omega

theorem nodup_groupedLeft_enz (mc : Nat) (lo hiE : Int) (hi : Option Int) (L : List Int) (hL : SSorted L) (lo' : Option Int) :
    (groupedLeft (enzGo mc lo hiE L) lo' hi).Nodup := by
  rw [groupedLeft_eq]
  exact nodup_grouped (nodup_enzGo mc lo hiE L hL) (enz_desc_left mc lo hiE L hL) buildSpec_left
    buildLeftSemi_nodup (fun p x h => h.1) _ _ _

theorem nodup_groupedRight_enz (mc : Nat) (lo hiE : Int) (hi : Option Int) (L : List Int) (hL : SSorted L) (lo' : Option Int) :
    (groupedRight (enzGo mc lo hiE L) lo' hi).Nodup := by
  rw [groupedRight_eq]
  exact nodup_grouped (nodup_enzGo mc lo hiE L hL) (enz_desc_right mc lo hiE L hL) buildSpec_right
    buildRightSemi_nodup (fun p x h => h.1) _ _ _

/-- `build_spans` in the semi-specific case; `hlen`: its shortcut is not taken -/
theorem buildSpans_semi_eq (n : Int) (sites : List Int) (mc : Nat) (lo hi : Option Int)
    (hlen : ((sortDedup sites).length : Int) ≠ n + 1) :
    buildSpans n sites mc lo hi true =
      (enzGo mc (lo.getD 1) n (plus n sites)).filter (fun s => hi.getD n ≥ spanLen s && spanLen s ≥ lo.getD 1) ++
        buildSemi (enzGo mc (lo.getD 1) n (plus n sites)) (some (lo.getD 1)) (some (hi.getD n)) := by
  unfold buildSpans
  simp only [hlen, if_false, if_true]
  rw [buildEnzymatic_sortDedup]
  rfl

section semiEnz
variable (mc : Nat) (lo hiE hi : Int) (L : List Int) (hL : SSorted L) (hlo : 1 ≤ lo)
include hL hlo

/-- semi-specific digestion over ANY strictly increasing list of cleavage points (parents built with an upper bound that
drops none of them): exactly the spans that share their start, or their end, with an enzymatic span containing them -/
theorem mem_buildSemi_enz (hhi : ∀ a ∈ L, ∀ b ∈ L, b - a ≤ hiE) (s e v : Int) :
    (s, e, v) ∈ (enzGo mc lo hiE L).filter (fun x => hi ≥ spanLen x && spanLen x ≥ lo) ++
        buildSemi (enzGo mc lo hiE L) (some lo) (some hi) ↔
      (s < e ∧ v = (inside L s e : Int) ∧
        ((s ∈ L ∧ ∃ e' ∈ L, e ≤ e' ∧ inside L s e' ≤ mc) ∨ (e ∈ L ∧ ∃ s' ∈ L, s' ≤ s ∧ inside L s' e ≤ mc))) ∧
        lo ≤ e - s ∧ e - s ≤ hi := by
  unfold buildSemi
  simp only [List.mem_append, List.mem_filter]
  rw [mem_groupedLeft_enz mc _ _ _ _ hL hlo hhi, mem_groupedRight_enz mc _ _ _ _ hL hlo hhi, mem_enzGo _ _ _ _ hL]
  simp only [spanLen, Bool.and_eq_true, decide_eq_true_eq, ge_iff_le]
  constructor
  · rintro (⟨⟨hs, he, hse, hv, hmc, h1, h2⟩, h3, h4⟩ | ⟨h1, h2, hs, he, hv, e', he', hee', hmc⟩ |
      ⟨h1, h2, he, hs, hv, s', hs', hss', hmc⟩)
    · exact ⟨⟨hse, hv, Or.inl ⟨hs, e, he, by omega, hmc⟩⟩, h4, h3⟩
    · exact ⟨⟨by omega, hv, Or.inl ⟨hs, e', he', hee', hmc⟩⟩, h1, h2⟩
    · exact ⟨⟨by omega, hv, Or.inr ⟨he, s', hs', hss', hmc⟩⟩, h1, h2⟩
  · rintro ⟨⟨hse, hv, h⟩, h1, h2⟩
    by_cases hs : s ∈ L <;> by_cases he : e ∈ L
    · left
      have hmc : inside L s e ≤ mc := by
        rcases h with ⟨_, e', he', hee', hmc⟩ | ⟨_, s', hs', hss', hmc⟩
        · have := inside_mono L s s e e' (by omega) hee'; omega
        · have := inside_mono L s s' e e hss' (by omega); omega
      exact ⟨⟨hs, he, hse, hv, hmc, h1, hhi s hs e he⟩, h2, h1⟩
    · right; left
      rcases h with ⟨_, e', he', hee', hmc⟩ | ⟨he', _⟩
      · exact ⟨h1, h2, hs, he, hv, e', he', hee', hmc⟩
      · exact absurd he' he
    · right; right
      rcases h with ⟨hs', _⟩ | ⟨_, s', hs', hss', hmc⟩
      · exact absurd hs' hs
      · exact ⟨h1, h2, he, hs, hv, s', hs', hss', hmc⟩
    · rcases h with ⟨hs', _⟩ | ⟨he', _⟩
      · exact absurd hs' hs
      · exact absurd he' he

/-- the three parts are disjoint: an enzymatic span has both ends in `L`, a left semi span not its end, a right semi span
not its start -/
theorem nodup_buildSemi_enz :
    ((enzGo mc lo hiE L).filter (fun x => hi ≥ spanLen x && spanLen x ≥ lo) ++
      buildSemi (enzGo mc lo hiE L) (some lo) (some hi)).Nodup := by
  unfold buildSemi
  rw [List.nodup_append]
  refine ⟨List.Nodup.sublist List.filter_sublist (nodup_enzGo _ _ _ _ hL), ?_, ?_⟩
  · rw [List.nodup_append]
    refine ⟨nodup_groupedLeft_enz _ _ _ _ _ hL _, nodup_groupedRight_enz _ _ _ _ _ hL _, ?_⟩
    rintro ⟨s, e, v⟩ hx y hy rfl
    exact (groupedLeft_enz_sound mc _ _ _ _ hL hlo s e v hx).2.2.2.1 (groupedRight_enz_sound mc _ _ _ _ hL hlo s e v hy).2.2.1
  · rintro ⟨s, e, v⟩ hx y hy rfl
    have hx := (mem_enzGo _ _ _ _ hL s e v).1 (List.mem_filter.mp hx).1
    rcases List.mem_append.mp hy with hy | hy
    · exact (groupedLeft_enz_sound mc _ _ _ _ hL hlo s e v hy).2.2.2.1 hx.2.1
    · exact (groupedRight_enz_sound mc _ _ _ _ hL hlo s e v hy).2.2.2.1 hx.1

end semiEnz

end Spans
