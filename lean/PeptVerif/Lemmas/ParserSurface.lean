import PeptVerif.Lemmas.ParserRoundTrip
/-!
Helper lemmas for C01: the leading sections of a chain. `_parse_sequence_start` reads the text of any list of sections
(surface syntax: any order, any number, any spelling) into what the list denotes; the sections the serializer writes, in its
one fixed order and spelling, are one such list. No Mathlib.
-/
namespace Pept

/-- `None` stays `None` when nothing is added; otherwise the list is created / extended: `optAppend` at `Mod`, under the
name with which `parse_any_section_order` is stated -/
def appendOpt (cur : Option (List Mod)) (l : List Mod) : Option (List Mod) :=
  if l = [] then cur else some (cur.getD [] ++ l)

theorem appendOpt_eq (cur : Option (List Mod)) (l : List Mod) : appendOpt cur l = optAppend cur l := rfl

theorem addMods_cons (cur : Option (List Mod)) (m : Mod) (t : List Mod) : addMods cur (m :: t) = optAppend cur (m :: t) := rfl

theorem appendOpt_addMods (cur : Option (List Mod)) (m : Mod) (t : List Mod) :
    appendOpt (addMods cur [m]) t = appendOpt cur (m :: t) := by
  rw [appendOpt_eq, appendOpt_eq, addMods_cons]
  exact optAppend_append cur [m] t

theorem parseStart_brace (fixed : Bool) (acc : Annotation) (T rest : List Char) (m : Mod)
    (h : parseModBody '{' '}' T = .ok (m, rest)) :
    parseStart fixed acc ('{' :: T) = parseStart fixed { acc with labile := addMods acc.labile [m] } rest := by
  rw [parseStart.eq_def]
  simp
  split
  · rename_i e he; rw [h] at he; cases he
  · rename_i m' rest' hb; rw [h] at hb; cases hb; rfl

theorem parseStart_angle (fixed : Bool) (acc : Annotation) (text rest : List Char) (ms : List Mod)
    (hh : text.head? = some '<') (h : parseMods '<' '>' text = .ok (ms, rest)) :
    parseStart fixed acc text =
      match addGlobals fixed acc ms with
      | .error e => .error e
      | .ok a' => parseStart fixed a' rest := by
  obtain ⟨T, rfl⟩ := List.head?_eq_some_iff.mp hh
  rw [parseStart.eq_def]
  simp
  split
  · rename_i e he; rw [h] at he; cases he
  · rename_i ms' rest' hb; rw [h] at hb; cases hb; rfl

theorem parseStart_square (fixed : Bool) (acc : Annotation) (text rest : List Char) (sep : Char) (ms : List Mod)
    (hh : text.head? = some '[') (h : parseMods '[' ']' text = .ok (ms, sep :: rest)) :
    parseStart fixed acc text =
      if sep = '-' then parseStart fixed { acc with nterm := addMods acc.nterm ms } rest
      else if sep = '?' then parseStart fixed { acc with unknown := addMods acc.unknown ms } rest
      else .error .format := by
  obtain ⟨T, rfl⟩ := List.head?_eq_some_iff.mp hh
  rw [parseStart.eq_def]
  simp
  split
  · rename_i e he; rw [h] at he; cases he
  · rename_i ms' rest' hb; rw [h] at hb; cases hb; rfl

theorem appendRun_eq (cur : Option (List Mod)) (l : List Mod) : appendRun cur l = optAppend cur l := by
  cases l <;> simp [appendRun, optAppend]

/-- static rules and isotope labels are told apart by `@`; under the hypothesis no value is a number and no multiplier
exceeds 1, which `addGlobals` would reject -/
theorem addGlobals_str (ms : List Mod) (h : ∀ m ∈ ms, isStr m.val = true ∧ m.mult = 1) (acc : Annotation) :
    addGlobals true acc ms =
      .ok { acc with static := appendOpt acc.static (ms.filter fun m => strHasAt m.val),
                     isotope := appendOpt acc.isotope (ms.filter fun m => !strHasAt m.val) } := by
  induction ms generalizing acc with
  | nil => simp [addGlobals, appendOpt_eq, optAppend_nil]
  | cons m t ih =>
    obtain ⟨v, mult⟩ := m
    obtain ⟨hs, hm⟩ := h ⟨v, mult⟩ (by simp)
    simp only at hm
    subst hm
    cases v with
    | int i => simp [isStr] at hs
    | flt r => simp [isStr] at hs
    | str tx =>
      have ht := ih (fun m hm => h m (by simp [hm]))
      cases hat : tx.contains '@' <;>
        simp only [addGlobals, hat, ↓reduceIte, Bool.false_eq_true, show ¬ ((1 : Int) > 1) by decide, ht,
          List.filter_cons, strHasAt, Bool.not_true, Bool.not_false, appendOpt_addMods]

/-- a run of `[…]` groups closed by `?` or `-` -/
theorem parseStart_bracketRun (acc : Annotation) (l : List SMod) (hne : l ≠ []) (hall : l.all (SMod.wf '[' ']') = true)
    (sep : Char) (hsep : sep = '?' ∨ sep = '-') (rest : List Char) :
    parseStart true acc (renderMods '[' ']' l ++ sep :: rest) =
      if sep = '-' then parseStart true { acc with nterm := addMods acc.nterm (l.map SMod.denote) } rest
      else if sep = '?' then parseStart true { acc with unknown := addMods acc.unknown (l.map SMod.denote) } rest
      else .error .format := by
  cases l with
  | nil => exact absurd rfl hne
  | cons s t =>
    have hsep' : sep ≠ '^' ∧ sep.isDigit = false ∧ sep ≠ '[' := by rcases hsep with rfl | rfl <;> decide
    exact parseStart_square true acc _ rest sep _ (renderMods_head _ _ s t _)
      (parseMods_text '[' ']' (by decide) (by decide) (by decide) (s :: t) hall (sep :: rest)
        (ModStop.cons hsep'.1 hsep'.2.1) (by simpa using hsep'.2.2))

theorem sstart_step (acc : Annotation) (it : SStart) (hw : it.wf = true) (rest : List Char) (hrest : ModStop rest)
    (hlt : it.isGlobals = true → rest.head? ≠ some '<') :
    parseStart true acc (it.render ++ rest) = parseStart true (it.denote acc) rest := by
  cases it with
  | labile m =>
    exact parseStart_brace true acc _ rest _ (parseModBody_text '{' '}' (by decide) m hw rest hrest)
  | globals g =>
    simp only [SStart.wf, Bool.and_eq_true, Bool.not_eq_eq_eq_not, Bool.not_true, List.all_eq_true, SMod.wfGlobal] at hw
    obtain ⟨hne, hall⟩ := hw
    cases g with
    | nil => simp at hne
    | cons s t =>
      have h2 := parseMods_text '<' '>' (by decide) (by decide) (by decide) (s :: t)
        (List.all_eq_true.mpr fun m hm => (hall m hm).1.1) rest hrest (hlt rfl)
      have hstr : ∀ m ∈ (s :: t).map SMod.denote, isStr m.val = true ∧ m.mult = 1 := by
        intro m hm
        obtain ⟨x, hx, rfl⟩ := List.mem_map.mp hm
        exact ⟨(hall x hx).1.2, x.denote_mult_one (hall x hx).2⟩
      rw [SStart.render, parseStart_angle true acc _ rest _ (renderMods_head _ _ s t rest) h2, addGlobals_str _ hstr]
      simp only [SStart.denote, appendRun_eq, appendOpt_eq]
  | unknown l =>
    simp only [SStart.wf, Bool.and_eq_true] at hw
    simp only [SStart.render, List.append_assoc, List.cons_append, List.nil_append]
    rw [parseStart_bracketRun acc l (by rintro rfl; simp at hw) hw.2 '?' (Or.inl rfl)]
    rfl
  | nterm l =>
    simp only [SStart.wf, Bool.and_eq_true] at hw
    simp only [SStart.render, List.append_assoc, List.cons_append, List.nil_append]
    rw [parseStart_bracketRun acc l (by rintro rfl; simp at hw) hw.2 '-' (Or.inr rfl)]
    rfl

theorem sstart_head (it : SStart) (hw : it.wf = true) (r : List Char) :
    ∃ x t, it.render ++ r = x :: t ∧ (x = '{' ∨ x = '<' ∨ x = '[') ∧ (x = '<' → it.isGlobals = true) := by
  cases it with
  | labile m => exact ⟨'{', _, rfl, Or.inl rfl, fun h => absurd h (by decide)⟩
  | globals g =>
    cases g with
    | nil => simp [SStart.wf] at hw
    | cons s t => exact ⟨'<', _, by rw [SStart.render, renderMods_cons, SMod.render_eq_cons]; rfl, Or.inr (Or.inl rfl), fun _ => rfl⟩
  | unknown l =>
    cases l with
    | nil => simp [SStart.wf] at hw
    | cons s t => exact ⟨'[', _, by rw [SStart.render, renderMods_cons, SMod.render_eq_cons]; rfl, Or.inr (Or.inr rfl),
        fun h => absurd h (by decide)⟩
  | nterm l =>
    cases l with
    | nil => simp [SStart.wf] at hw
    | cons s t => exact ⟨'[', _, by rw [SStart.render, renderMods_cons, SMod.render_eq_cons]; rfl, Or.inr (Or.inr rfl),
        fun h => absurd h (by decide)⟩

theorem sstarts_stop (items : List SStart) (hok : items.all SStart.wf = true) (rest : List Char) (hrest : StartStop rest) :
    ModStop (items.flatMap SStart.render ++ rest) ∧
      ((items.flatMap SStart.render ++ rest).head? = some '<' → ∃ it t, items = it :: t ∧ it.isGlobals = true) := by
  cases items with
  | nil =>
    simp only [List.flatMap_nil, List.nil_append]
    exact ⟨hrest.modStop, fun h => absurd h (hrest.head_ne '<' (by decide) (by decide))⟩
  | cons it t =>
    simp only [List.all_cons, Bool.and_eq_true] at hok
    obtain ⟨x, tl, hx, hx1, hx2⟩ := sstart_head it hok.1 (t.flatMap SStart.render ++ rest)
    have : (it :: t).flatMap SStart.render ++ rest = x :: tl := by rw [← hx]; simp
    rw [this]
    refine ⟨?_, fun h => ⟨it, t, rfl, hx2 (by simpa using h)⟩⟩
    rcases hx1 with h | h | h <;> subst h <;> exact ModStop.cons (by decide) (by decide)

/-- **the leading sections of a tree**, in any order, any spellings -/
theorem sstarts_steps (items : List SStart) (hok : items.all SStart.wf = true) (hadj : sNoAdjacentGlobals items = true)
    (acc : Annotation) (rest : List Char) (hrest : StartStop rest) :
    parseStart true acc (items.flatMap SStart.render ++ rest) = .ok (items.foldl SStart.denote acc, rest) := by
  induction items generalizing acc with
  | nil => simpa using parseStart_stop acc rest hrest
  | cons it t ih =>
    simp only [List.all_cons, Bool.and_eq_true] at hok
    have hadjt : sNoAdjacentGlobals t = true := by
      cases t with
      | nil => rfl
      | cons b t' => simp only [sNoAdjacentGlobals, Bool.and_eq_true] at hadj; exact hadj.2
    obtain ⟨hstop, hlt⟩ := sstarts_stop t hok.2 rest hrest
    have hnl : it.isGlobals = true → (t.flatMap SStart.render ++ rest).head? ≠ some '<' := by
      intro hg h
      obtain ⟨b, t', rfl, hb⟩ := hlt h
      simp [sNoAdjacentGlobals, hg, hb] at hadj
    simp only [List.flatMap_cons, List.append_assoc, List.foldl_cons]
    rw [sstart_step acc it hok.1 _ hstop hnl, ih hok.2 hadjt]

/-- one leading section by the modifications it carries; `SStart` of the Spec is such a section as text. Both exist because
`parse_any_section_order` quantifies over objects; `StartItem.spelled` maps them into the Spec tree -/
inductive StartItem where
  | labile (m : Mod)          -- `{m}`
  | globals (g : List Mod)    -- one run `<…><…>` of static rules and isotope labels, in any order
  | unknown (l : List Mod)    -- `[…]…?`
  | nterm (l : List Mod)      -- `[…]…-`

def StartItem.render (plus : Plus) : StartItem → List Char
  | .labile m => Mod.serialize '{' '}' (plus m) m
  | .globals g => serializeMods '<' '>' plus g
  | .unknown l => serializeMods '[' ']' plus l ++ ['?']
  | .nterm l => serializeMods '[' ']' plus l ++ ['-']

def StartItem.ok : StartItem → Bool
  | .labile m => canonMod '{' '}' m
  | .globals g => !g.isEmpty && g.all (fun m => canonStatic m || canonIsotope m)
  | .unknown l => !l.isEmpty && l.all (canonMod '[' ']')
  | .nterm l => !l.isEmpty && l.all (canonMod '[' ']')

def StartItem.isGlobals : StartItem → Bool
  | .globals _ => true
  | _ => false

/-- two `<…>` runs are never adjacent (they would be one run) -/
def noAdjacentGlobals : List StartItem → Bool
  | a :: b :: t => !(a.isGlobals && b.isGlobals) && noAdjacentGlobals (b :: t)
  | _ => true

/-- what the section denotes: the effect on the accumulators -/
def StartItem.apply (acc : Annotation) : StartItem → Annotation
  | .labile m => { acc with labile := addMods acc.labile [m] }
  | .globals g => { acc with static := appendOpt acc.static (g.filter fun m => strHasAt m.val),
                             isotope := appendOpt acc.isotope (g.filter fun m => !strHasAt m.val) }
  | .unknown l => { acc with unknown := addMods acc.unknown l }
  | .nterm l => { acc with nterm := addMods acc.nterm l }

def renderStart (plus : Plus) (items : List StartItem) : List Char := items.flatMap (StartItem.render plus)

/-- the section as a piece of surface syntax -/
def StartItem.spelled (plus : Plus) : StartItem → SStart
  | .labile m => .labile (m.spelled (plus m))
  | .globals g => .globals (spelledMods plus g)
  | .unknown l => .unknown (spelledMods plus l)
  | .nterm l => .nterm (spelledMods plus l)

theorem StartItem.spelled_render (plus : Plus) (it : StartItem) : (it.spelled plus).render = it.render plus := by
  cases it <;> simp [StartItem.spelled, SStart.render, StartItem.render, Mod.serialize_eq_render, serializeMods_eq_render]

theorem StartItem.spelled_ok (plus : Plus) (it : StartItem) (hok : it.ok = true) :
    (it.spelled plus).wf = true ∧ ∀ acc, (it.spelled plus).denote acc = it.apply acc := by
  cases it with
  | labile m =>
    obtain ⟨hw, hd⟩ := canonMod_spelled '{' '}' (by decide) (by decide) (plus m) m hok
    exact ⟨hw, fun acc => by simp only [StartItem.spelled, SStart.denote, hd]; rfl⟩
  | globals g =>
    simp only [StartItem.ok, Bool.and_eq_true, List.all_eq_true] at hok
    obtain ⟨hw, hd⟩ := canonMods_spelled '<' '>' (by decide) (by decide) plus g
      (List.all_eq_true.mpr fun m hm => (canonGlobal_canonMod m (hok.2 m hm)).1)
    refine ⟨?_, fun acc => by simp only [StartItem.spelled, SStart.denote, hd, appendRun_eq]; rfl⟩
    simp only [StartItem.spelled, SStart.wf, List.isEmpty_map, hok.1, Bool.true_and, List.all_map, List.all_eq_true]
    intro m hm
    obtain ⟨hc, hs, h1⟩ := canonGlobal_canonMod m (hok.2 m hm)
    obtain ⟨hw1, hd1⟩ := canonMod_spelled '<' '>' (by decide) (by decide) (plus m) m hc
    have hv : convertType (m.spelled (plus m)).txt = m.val := congrArg Mod.val hd1
    have hmult : (m.spelled (plus m)).mult = none := by simp [Mod.spelled, h1]
    simp only [Function.comp_apply, SMod.wfGlobal, hw1, hv, hs, hmult, Bool.and_self]
  | unknown l =>
    simp only [StartItem.ok, Bool.and_eq_true] at hok
    obtain ⟨hw, hd⟩ := canonMods_spelled '[' ']' (by decide) (by decide) plus l hok.2
    exact ⟨by simp [StartItem.spelled, SStart.wf, hok.1, hw],
      fun acc => by simp only [StartItem.spelled, SStart.denote, hd]; rfl⟩
  | nterm l =>
    simp only [StartItem.ok, Bool.and_eq_true] at hok
    obtain ⟨hw, hd⟩ := canonMods_spelled '[' ']' (by decide) (by decide) plus l hok.2
    exact ⟨by simp [StartItem.spelled, SStart.wf, hok.1, hw],
      fun acc => by simp only [StartItem.spelled, SStart.denote, hd]; rfl⟩

theorem noAdjacentGlobals_spelled (plus : Plus) (items : List StartItem) :
    sNoAdjacentGlobals (items.map (StartItem.spelled plus)) = noAdjacentGlobals items := by
  induction items with
  | nil => rfl
  | cons a t ih =>
    cases t with
    | nil => rfl
    | cons b t' =>
      have hg : ∀ it : StartItem, (it.spelled plus).isGlobals = it.isGlobals := fun it => by cases it <;> rfl
      simp only [List.map_cons, sNoAdjacentGlobals, noAdjacentGlobals, hg] at ih ⊢
      rw [ih]

theorem startItems_spelled_spec (plus : Plus) (items : List StartItem) (hok : ∀ it ∈ items, it.ok = true) :
    (items.map (StartItem.spelled plus)).all SStart.wf = true ∧
    (items.map (StartItem.spelled plus)).flatMap SStart.render = renderStart plus items ∧
    ∀ acc, (items.map (StartItem.spelled plus)).foldl SStart.denote acc = items.foldl StartItem.apply acc := by
  refine ⟨by simpa [List.all_eq_true] using fun it hit => (it.spelled_ok plus (hok it hit)).1, ?_, fun acc => ?_⟩
  · rw [List.flatMap_map, renderStart]; congr 1; exact funext (StartItem.spelled_render plus)
  · induction items generalizing acc with
    | nil => rfl
    | cons it t ih =>
      simp only [List.map_cons, List.foldl_cons, (it.spelled_ok plus (hok it (by simp))).2]
      exact ih (fun it' h => hok it' (by simp [h])) _

/-- **the leading sections in any order** -/
theorem parseStart_items (plus : Plus) (items : List StartItem) (hok : ∀ it ∈ items, it.ok = true)
    (hadj : noAdjacentGlobals items = true) (acc : Annotation) (rest : List Char) (hrest : StartStop rest) :
    parseStart true acc (renderStart plus items ++ rest) = .ok (items.foldl StartItem.apply acc, rest) := by
  obtain ⟨hw, hr, hd⟩ := startItems_spelled_spec plus items hok
  rw [← hr, ← hd]
  exact sstarts_steps _ hw (by rw [noAdjacentGlobals_spelled, hadj]) acc rest hrest

/-- the leading sections of `a` in the serializer's fixed order: the labile groups, one `<…>` run (static rules, then
isotope labels), the unknown-position block, the N-terminal block -/
def startItems (a : Annotation) : List StartItem :=
  (a.labile.getD []).map .labile ++
    ((if a.static.getD [] ++ a.isotope.getD [] = [] then [] else [.globals (a.static.getD [] ++ a.isotope.getD [])]) ++
      ((match a.unknown with | none => [] | some l => [.unknown l]) ++
        (match a.nterm with | none => [] | some l => [.nterm l])))

theorem renderStart_startItems (plus : Plus) (a : Annotation) :
    renderStart plus (startItems a) = serializeStart plus a := by
  have hl : renderStart plus ((a.labile.getD []).map .labile) = optMods '{' '}' plus a.labile := by
    rw [optMods_eq]; simp [renderStart, List.flatMap_map, StartItem.render, serializeMods]
  have hg : renderStart plus (if a.static.getD [] ++ a.isotope.getD [] = [] then []
      else [.globals (a.static.getD [] ++ a.isotope.getD [])]) =
      optMods '<' '>' plus a.static ++ optMods '<' '>' plus a.isotope := by
    rw [optMods_eq, optMods_eq, ← serializeMods_append]
    split
    · rename_i h; rw [h]; rfl
    · simp [renderStart, StartItem.render]
  simp only [startItems, renderStart, List.flatMap_append] at hl hg ⊢
  rw [hl, hg]
  cases hu : a.unknown <;> cases hn : a.nterm <;> simp [serializeStart, StartItem.render, hu, hn]

theorem filter_static_isotope (st iso : List Mod) (hst : st.all canonStatic = true)
    (hiso : iso.all canonIsotope = true) :
    (st ++ iso).filter (fun m => strHasAt m.val) = st ∧ (st ++ iso).filter (fun m => !strHasAt m.val) = iso := by
  have hs : ∀ m ∈ st, strHasAt m.val = true := fun m hm => (canonStatic_iff.1 (List.all_eq_true.mp hst m hm)).2.2.1
  have hi : ∀ m ∈ iso, strHasAt m.val = false := fun m hm => (canonIsotope_iff.1 (List.all_eq_true.mp hiso m hm)).2.2.1
  constructor
  · rw [List.filter_append, List.filter_eq_self.mpr hs, List.filter_eq_nil_iff.mpr (by simpa using hi), List.append_nil]
  · rw [List.filter_append, List.filter_eq_nil_iff.mpr (by simpa using hs), List.filter_eq_self.mpr (by simpa using hi),
      List.nil_append]

theorem foldl_labile (l : List Mod) (acc : Annotation) :
    (l.map StartItem.labile).foldl StartItem.apply acc = { acc with labile := appendOpt acc.labile l } := by
  induction l generalizing acc with
  | nil => rfl
  | cons m t ih => rw [List.map_cons, List.foldl_cons, ih, ← appendOpt_addMods]; rfl

theorem noAdjacentGlobals_cons (it : StartItem) (h : it.isGlobals = false) (R : List StartItem) :
    noAdjacentGlobals (it :: R) = noAdjacentGlobals R := by
  cases R <;> simp [noAdjacentGlobals, h]

theorem startItems_spec (a : Annotation) (h1 : canonOptMods '{' '}' a.labile = true)
    (h2 : canonGlobal canonStatic a.static = true) (h3 : canonGlobal canonIsotope a.isotope = true)
    (h4 : canonOptMods '[' ']' a.unknown = true) (h5 : canonOptMods '[' ']' a.nterm = true) :
    (∀ it ∈ startItems a, it.ok = true) ∧ noAdjacentGlobals (startItems a) = true ∧
      (startItems a).foldl StartItem.apply { seq := [] } =
        { seq := [], labile := a.labile, static := a.static, isotope := a.isotope, unknown := a.unknown,
          nterm := a.nterm } := by
  have hst := (canonGlobal_getD h2).1
  have hiso := (canonGlobal_getD h3).1
  refine ⟨?_, ?_, ?_⟩
  · simp only [startItems, List.mem_append, List.mem_map]
    rintro it (⟨m, hm, rfl⟩ | h | h | h)
    · exact List.all_eq_true.mp (canonGlobal_getD (canonOptMods_eq '{' '}' ▸ h1)).1 m hm
    · split at h
      · simp at h
      · rename_i hne
        rw [List.mem_singleton.mp h]
        simp only [StartItem.ok, Bool.and_eq_true, Bool.not_eq_eq_eq_not, Bool.not_true, List.isEmpty_eq_false_iff,
          List.all_append, List.all_eq_true, Bool.or_eq_true]
        exact ⟨hne, fun m hm => Or.inl (List.all_eq_true.mp hst m hm), fun m hm => Or.inr (List.all_eq_true.mp hiso m hm)⟩
    · cases hu : a.unknown <;> rw [hu] at h h4
      · simp at h
      · rw [List.mem_singleton.mp h]; exact h4
    · cases hn : a.nterm <;> rw [hn] at h h5
      · simp at h
      · rw [List.mem_singleton.mp h]; exact h5
  · unfold startItems
    induction a.labile.getD [] with
    | nil => split <;> cases a.unknown <;> cases a.nterm <;> rfl
    | cons m t ih => exact (noAdjacentGlobals_cons _ rfl _).trans ih
  · have hg : ∀ acc : Annotation, (if a.static.getD [] ++ a.isotope.getD [] = [] then []
        else [StartItem.globals (a.static.getD [] ++ a.isotope.getD [])]).foldl StartItem.apply acc =
        StartItem.apply acc (.globals (a.static.getD [] ++ a.isotope.getD [])) := by
      intro acc
      split
      · rename_i h; rw [h]; simp [StartItem.apply, appendOpt_eq, optAppend_nil]
      · rfl
    obtain ⟨f1, f2⟩ := filter_static_isotope _ _ hst hiso
    simp only [startItems, List.foldl_append, foldl_labile, hg, StartItem.apply, f1, f2,
      appendOpt_eq, optAppend_none, (canonGlobal_getD h2).2, (canonGlobal_getD h3).2,
      (canonGlobal_getD (canonOptMods_eq '{' '}' ▸ h1)).2]
    cases a.unknown <;> cases a.nterm <;> simp [StartItem.apply, addMods]

/-- **start section**: labile, static, isotope, unknown-position and N-terminal modifications written by
`_serialize_annotation_start` are read back by `_parse_sequence_start` into a fresh accumulator -/
theorem parseStart_sections (plus : Plus) (a : Annotation) (h1 : canonOptMods '{' '}' a.labile = true)
    (h2 : canonGlobal canonStatic a.static = true) (h3 : canonGlobal canonIsotope a.isotope = true)
    (h4 : canonOptMods '[' ']' a.unknown = true) (h5 : canonOptMods '[' ']' a.nterm = true)
    (rest : List Char) (hrest : StartStop rest) :
    parseStart true { seq := [] } (serializeStart plus a ++ rest) =
      .ok ({ seq := [], labile := a.labile, static := a.static, isotope := a.isotope, unknown := a.unknown,
             nterm := a.nterm }, rest) := by
  obtain ⟨hok, hadj, hd⟩ := startItems_spec a h1 h2 h3 h4 h5
  rw [← renderStart_startItems, parseStart_items plus _ hok hadj _ rest hrest, hd]

end Pept
