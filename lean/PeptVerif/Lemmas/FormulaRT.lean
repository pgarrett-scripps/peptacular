import PeptVerif.Lemmas.NumText
import PeptVerif.Lemmas.ListSort
import PeptVerif.Lemmas.RatSum
/-!
Chemical formulas of `Model/Formula.lean`: what the writer emits for a list of tokens (`render`) is read back token by
token (`parseChem_render`), parsing and mass are additive over concatenation (`parseChem_append`,
`chemMassComp_addAll`; on arbitrary texts through `parseFrom`, the parse of the rest of a text from a state of the
splitter).  `wsum` is this file's own weighted sum, not `RatSum.wsum`: the values are `Num` (a rational with the
int/float flag), not `Rat`; `wsum` reads the rational and forgets the flag (`wsum_eq`).
-/
namespace Formula
open ModDb ListSort
open AssocList (alter lookup_alter)

abbrev Tok := Str × Num

theorem Num.zero_add (v : Num) : Num.add Num.zero v = v := by
  cases v
  simp [Num.add, Num.zero, Num.ofInt]

theorem Num.add_assoc (a b c : Num) : Num.add (Num.add a b) c = Num.add a (Num.add b c) := by
  simp [Num.add, Rat.add_assoc, Bool.or_assoc]

theorem Num.add_comm (a b : Num) : Num.add a b = Num.add b a := by
  simp [Num.add, Rat.add_comm, Bool.or_comm]

def keys (d : Comp) : List Str := d.map (·.1)

theorem keys_eq (d : Comp) : keys d = AssocList.keys d := rfl

theorem keys_nil : keys [] = [] := rfl
theorem keys_cons (a : Str × Num) (d : Comp) : keys (a :: d) = a.1 :: keys d := rfl
theorem keys_append (a b : Comp) : keys (a ++ b) = keys a ++ keys b := List.map_append

theorem addTo_cons_self (k : Str) (w : Num) (d : Comp) (v : Num) :
    addTo ((k, w) :: d) k v = (k, Num.add w v) :: d := by
  simp only [addTo, beq_self_eq_true, if_true]

theorem addTo_cons_ne {k' k : Str} (h : k' ≠ k) (w : Num) (d : Comp) (v : Num) :
    addTo ((k', w) :: d) k v = (k', w) :: addTo d k v := by
  simp only [addTo, beq_iff_eq, h, if_false]

theorem addTo_eq (d : Comp) (k : Str) (v : Num) :
    addTo d k v = alter (fun o => Num.add (o.getD Num.zero) v) k d := by
  induction d with
  | nil => rfl
  | cons p d ih => obtain ⟨a, w⟩ := p; simp [addTo, alter, ih]

theorem setTo_eq (d : Comp) (k : Str) (v : Num) : setTo d k v = alter (fun _ => v) k d := by
  induction d with
  | nil => rfl
  | cons p d ih => obtain ⟨a, w⟩ := p; simp [setTo, alter, ih]

theorem addAll_nil (d : Comp) : addAll d [] = d := rfl
theorem addAll_cons (d : Comp) (t : Tok) (ts : List Tok) : addAll d (t :: ts) = addAll (addTo d t.1 t.2) ts := rfl
theorem addAll_append (d : Comp) (a b : List Tok) : addAll d (a ++ b) = addAll (addAll d a) b :=
  List.foldl_append

theorem addTo_zero_add (d : Comp) (k : Str) (v : Num) : addTo d k (Num.add Num.zero v) = addTo d k v := by
  rw [Num.zero_add]

theorem addTo_addTo_same (d : Comp) (k : Str) (w v : Num) :
    addTo (addTo d k w) k v = addTo d k (Num.add w v) := by
  induction d with
  | nil => simp only [addTo, beq_self_eq_true, if_true, Num.add_assoc]
  | cons a d ih =>
    obtain ⟨k', w'⟩ := a
    by_cases h : k' = k
    · subst h
      rw [addTo_cons_self, addTo_cons_self, addTo_cons_self, Num.add_assoc]
    · rw [addTo_cons_ne h, addTo_cons_ne h, addTo_cons_ne h, ih]

theorem mem_keys_addTo_iff {d : Comp} {k k' : Str} {v : Num} :
    k' ∈ keys (addTo d k v) ↔ k' ∈ keys d ∨ k' = k := by
  rw [addTo_eq, keys_eq, keys_eq]; exact AssocList.mem_keys_alter.trans or_comm

theorem mem_keys_addTo {d : Comp} {k k' : Str} {v : Num} (h : k' ∈ keys (addTo d k v)) : k' ∈ keys d ∨ k' = k :=
  mem_keys_addTo_iff.1 h

theorem addTo_comm_of_mem {d : Comp} {k : Str} (h : k ∈ keys d) (k' : Str) (w v : Num) :
    addTo (addTo d k' w) k v = addTo (addTo d k v) k' w := by
  induction d with
  | nil => cases h
  | cons a d ih =>
    obtain ⟨a, u⟩ := a
    by_cases h1 : a = k' <;> by_cases h2 : a = k
    · subst h1; subst h2
      rw [addTo_addTo_same, addTo_addTo_same, Num.add_comm]
    · subst h1
      rw [addTo_cons_self, addTo_cons_ne h2, addTo_cons_ne h2, addTo_cons_self]
    · subst h2
      rw [addTo_cons_self, addTo_cons_ne h1, addTo_cons_ne h1, addTo_cons_self]
    · rw [addTo_cons_ne h1, addTo_cons_ne h2, addTo_cons_ne h2, addTo_cons_ne h1,
        ih ((List.mem_cons.1 h).resolve_left (Ne.symm h2))]

theorem addTo_addAll_of_mem {d : Comp} {k : Str} (h : k ∈ keys d) (v : Num) (e : List Tok) :
    addTo (addAll d e) k v = addAll (addTo d k v) e := by
  induction e generalizing d with
  | nil => rfl
  | cons t e ih =>
    rw [addAll_cons, addAll_cons, ih (mem_keys_addTo_iff.2 (.inl h)), addTo_comm_of_mem h]

theorem addAll_addTo (d e : Comp) (k : Str) (v : Num) :
    addAll d (addTo e k v) = addTo (addAll d e) k v := by
  induction e generalizing d with
  | nil => rw [addTo, addAll_cons, addAll_nil, addAll_nil, Num.zero_add]
  | cons a e ih =>
    obtain ⟨a, u⟩ := a
    by_cases h : a = k
    · subst h
      rw [addTo_cons_self, addAll_cons, addAll_cons,
        addTo_addAll_of_mem (mem_keys_addTo_iff.2 (.inr rfl)), addTo_addTo_same]
    · rw [addTo_cons_ne h, addAll_cons, addAll_cons, ih]

theorem addAll_assoc (d e : Comp) (ps : List Tok) : addAll d (addAll e ps) = addAll (addAll d e) ps := by
  induction ps generalizing e with
  | nil => rfl
  | cons t ps ih => rw [addAll_cons, ih, addAll_addTo, addAll_cons]

theorem addAll_addAll_nil (d : Comp) (ps : List Tok) : addAll d (addAll [] ps) = addAll d ps :=
  addAll_assoc d [] ps

theorem foldl_addAll_groups (L : List (List Tok)) (d : Comp) :
    (L.map (addAll [])).foldl addAll d = addAll d L.flatten := by
  induction L generalizing d with
  | nil => rfl
  | cons g L ih =>
    simp only [List.map_cons, List.foldl_cons, List.flatten_cons, ih, addAll_addAll_nil, addAll_append]

theorem mem_keys_addAll {d : Comp} {ts : List Tok} {k' : Str} (h : k' ∈ keys (addAll d ts)) :
    k' ∈ keys d ∨ k' ∈ keys ts := by
  induction ts generalizing d with
  | nil => exact .inl h
  | cons t ts ih =>
    rw [keys_cons, List.mem_cons]
    rcases ih h with h | h
    · exact (mem_keys_addTo h).imp_right .inl
    · exact .inr (.inr h)

theorem addTo_new {d : Comp} {k : Str} (h : k ∉ keys d) (v : Num) : addTo d k v = d ++ [(k, v)] := by
  rw [addTo_eq, AssocList.alter_of_not_mem _ (keys_eq d ▸ h)]; simp [Num.zero_add]

theorem addAll_distinct {d l : Comp} (hl : (keys l).Nodup) (hd : ∀ k ∈ keys l, k ∉ keys d) :
    addAll d l = d ++ l := by
  rw [addAll]; simp only [addTo_eq]
  rw [AssocList.foldl_alter_of_fresh (fun kv : Str × Num => kv.1) (fun kv o => Num.add (o.getD Num.zero) kv.2) l d hl
    fun p hp => hd p.1 (List.mem_map_of_mem (f := (·.1)) hp)]
  simp [Num.zero_add]

theorem addAll_nil_of_nodup {l : Comp} (hl : (keys l).Nodup) : addAll [] l = l :=
  addAll_distinct hl (fun _ _ h => nomatch h)

/-- sum (from `w`) of the counts of the tokens whose key is exactly `k` -/
def sumAt (k : Str) (ts : List Tok) (w : Num) : Num :=
  (ts.filter (fun t => t.1 == k)).foldl (fun a t => Num.add a t.2) w

theorem sumAt_cons (k : Str) (t : Tok) (ts : List Tok) (w : Num) :
    sumAt k (t :: ts) w = if t.1 = k then sumAt k ts (Num.add w t.2) else sumAt k ts w := by
  by_cases h : t.1 = k <;> simp [sumAt, h]

theorem get?_nil (k : Str) : Comp.get? [] k = none := rfl

theorem get?_cons (a : Str × Num) (d : Comp) (k : Str) :
    Comp.get? (a :: d) k = if a.1 = k then some a.2 else Comp.get? d k := by
  by_cases h : a.1 = k <;> simp [Comp.get?, h]

theorem get?_eq (d : Comp) (k : Str) : d.get? k = d.lookup k := by
  induction d with
  | nil => rfl
  | cons p d ih => obtain ⟨a, v⟩ := p; rw [get?_cons, AssocList.lookup_cons, ih]

theorem get?_addTo (d : Comp) (k k' : Str) (v : Num) :
    (addTo d k v).get? k' =
      if k = k' then some (Num.add ((d.get? k).getD Num.zero) v) else d.get? k' := by
  simp only [get?_eq, addTo_eq, lookup_alter, eq_comm (a := k')]

theorem get?_addAll (d : Comp) (ts : List Tok) (k : Str) :
    (addAll d ts).get? k =
      if (d.get? k).isSome || ts.any (fun t => t.1 == k) then some (sumAt k ts ((d.get? k).getD Num.zero))
      else none := by
  induction ts generalizing d with
  | nil =>
    cases h : d.get? k <;> simp [addAll, sumAt, h]
  | cons t ts ih =>
    rw [addAll_cons, ih, get?_addTo]
    by_cases h : t.1 = k
    · simp [h, sumAt_cons]
    · have hb : (t.1 == k) = false := by simpa using h
      simp only [h, if_false, sumAt_cons, List.any_cons, hb, Bool.false_or]

theorem get?_addAll_nil (ts : List Tok) (k : Str) :
    (addAll [] ts).get? k = if ts.any (fun t => t.1 == k) then some (sumAt k ts Num.zero) else none := by
  have := get?_addAll [] ts k
  simpa only [get?_nil, Option.isSome_none, Bool.false_or, Option.getD_none] using this

theorem get?_none_of_not_mem {d : Comp} {k : Str} (h : k ∉ keys d) : d.get? k = none :=
  (get?_eq d k).trans (AssocList.lookup_eq_none_iff.2 (keys_eq d ▸ h))

theorem setTo_new {d : Comp} {k : Str} (h : k ∉ keys d) (v : Num) : setTo d k v = d ++ [(k, v)] :=
  (setTo_eq d k v).trans (AssocList.alter_of_not_mem _ (keys_eq d ▸ h))

/-- assigning to a key that is absent is adding to it (`d.get(k, 0) + v`) -/
theorem setTo_eq_addTo {d : Comp} {k : Str} (h : d.get? k = none) (v : Num) : setTo d k v = addTo d k v := by
  rw [setTo_eq, addTo_eq]
  exact AssocList.alter_congr (by rw [← get?_eq, h]; exact (Num.zero_add v).symm)

def wsum (w : Str → Rat) (g : Comp) : Rat := (g.map (fun kv => w kv.1 * kv.2.val)).sum

theorem wsum_eq (w : Str → Rat) (g : Comp) : wsum w g = RatSum.wsum w (g.map fun kv => (kv.1, kv.2.val)) := by
  simp [wsum, RatSum.wsum, List.map_map, Function.comp_def]

theorem wsum_cons (w : Str → Rat) (kv : Str × Num) (g : Comp) : wsum w (kv :: g) = w kv.1 * kv.2.val + wsum w g := rfl

theorem wsum_append (w : Str → Rat) (g₁ g₂ : Comp) : wsum w (g₁ ++ g₂) = wsum w g₁ + wsum w g₂ := by
  simp only [wsum, List.map_append, List.sum_append]

theorem wsum_addTo (w : Str → Rat) (k : Str) (v : Num) (d : Comp) :
    wsum w (addTo d k v) = wsum w d + w k * v.val := by
  induction d with
  | nil => rw [addTo, Num.zero_add, wsum_cons]; exact Rat.add_comm _ _
  | cons a d ih =>
    obtain ⟨a, u⟩ := a
    by_cases h : a = k
    · subst h
      simp only [addTo_cons_self, wsum_cons, Num.add]
      ring
    · simp only [addTo_cons_ne h, wsum_cons, ih, Rat.add_assoc]

theorem wsum_addAll (w : Str → Rat) (g d : Comp) : wsum w (addAll d g) = wsum w d + wsum w g := by
  induction g generalizing d with
  | nil => exact (Rat.add_zero _).symm
  | cons kv r ih => rw [addAll_cons, ih, wsum_addTo, wsum_cons, Rat.add_assoc]

theorem wsum_addAll_nil (w : Str → Rat) (g : Comp) : wsum w (addAll [] g) = wsum w g :=
  (wsum_addAll w g []).trans (Rat.zero_add _)

theorem wsum_perm (w : Str → Rat) {l l' : Comp} (p : l.Perm l') : wsum w l = wsum w l' :=
  RatSum.sum_perm (p.map _)

theorem finditer_skip (pre rest : Str) :
    finditerCondensed pre.length (pre ++ rest) = finditerCondensed 0 rest := by
  induction pre with
  | nil => simp
  | cons x pre ih => simpa [finditerCondensed] using ih

/-- a key of the condensed pattern: `[A-Z][a-z]*` or `e`, `p`, `n` -/
def CondKey (k : Str) : Prop :=
  ∃ c lows, k = c :: lows ∧
    (isUpper c = true ∧ (∀ x ∈ lows, isLower x = true) ∨ (c = 101 ∨ c = 112 ∨ c = 110) ∧ lows = [])

theorem finditer_tok {k cnt : Str} (rest : Str) (hk : CondKey k) (hne : cnt ≠ [])
    (hcc : NumChars cnt) (hcs : countStr (cnt ++ rest) = cnt) :
    finditerCondensed 0 (k ++ cnt ++ rest) = (k, cnt) :: finditerCondensed 0 rest := by
  obtain ⟨c, lows, rfl, ⟨hc, hl⟩ | ⟨hc, rfl⟩⟩ := hk
  · have hsp : spanP isLower (lows ++ (cnt ++ rest)) = (lows, cnt ++ rest) := by
      apply spanP_append _ _ _ hl
      intro x r hx
      cases cnt with
      | nil => exact absurd rfl hne
      | cons y ys =>
        obtain rfl : y = x := (List.cons.inj hx).1
        exact cc_not_lower (hcc y List.mem_cons_self)
    have hskip := finditer_skip (lows ++ cnt) rest
    simp only [List.cons_append, List.append_assoc, finditerCondensed, hc, if_true, hsp, List.drop_left, hcs]
    simp only [List.length_append, List.append_assoc] at hskip
    rw [hskip]
  · have hu : isUpper c = false := by rcases hc with rfl | rfl | rfl <;> decide
    have hp : (c == 101 || c == 112 || c == 110) = true := by rcases hc with rfl | rfl | rfl <;> decide
    simp only [List.cons_append, List.nil_append, finditerCondensed, hu, hp, if_true, hcs, finditer_skip cnt rest,
      Bool.false_eq_true, if_false]

theorem condKey_alpha {k : Str} (h : CondKey k) : ∀ x ∈ k, isAlpha x = true := by
  obtain ⟨c, lows, rfl, ⟨hc, hl⟩ | ⟨hc, rfl⟩⟩ := h
  · intro x hx
    rcases List.mem_cons.1 hx with rfl | hx
    · exact upper_alpha hc
    · exact lower_alpha (hl x hx)
  · intro x hx
    obtain rfl := List.mem_singleton.1 hx
    rcases hc with rfl | rfl | rfl <;> decide

/-- a key the writer prints bare: `Upper lower*` other than `D` / `T`, or a particle `e` / `p` / `n` -/
def plainKeyB : Str → Bool
  | [] => false
  | c :: lows =>
    (isUpper c && lows.all isLower && !((c == 68 || c == 84) && lows.isEmpty))
      || ((c == 101 || c == 112 || c == 110) && lows.isEmpty)

/-- a key the writer prints in brackets: `D`, `T`, or `digit+ letter+` -/
def isoKeyB (k : Str) : Bool :=
  k == [68] || k == [84] ||
    (!(spanP isDigit k).1.isEmpty && !(spanP isDigit k).2.isEmpty && (spanP isDigit k).2.all isAlpha)

def PlainKey (k : Str) : Prop := plainKeyB k = true
def IsoKey (k : Str) : Prop := isoKeyB k = true
instance (k : Str) : Decidable (PlainKey k) := by unfold PlainKey; infer_instance
instance (k : Str) : Decidable (IsoKey k) := by unfold IsoKey; infer_instance

theorem plainKey_cond {k : Str} (h : PlainKey k) : CondKey k ∧ k ≠ [68] ∧ k ≠ [84] := by
  cases k with
  | nil => cases h
  | cons c lows =>
    simp only [PlainKey, plainKeyB, Bool.or_eq_true, Bool.and_eq_true, List.all_eq_true, beq_iff_eq,
      Bool.not_eq_true', List.isEmpty_iff] at h
    rcases h with ⟨⟨hu, hl⟩, hdt⟩ | ⟨hp, rfl⟩
    · refine ⟨⟨c, lows, rfl, .inl ⟨hu, hl⟩⟩, ?_, ?_⟩ <;>
      · intro he
        obtain ⟨rfl, rfl⟩ := List.cons.inj he
        cases hdt
    · refine ⟨⟨c, [], rfl, .inr ⟨by simpa only [or_assoc] using hp, rfl⟩⟩, ?_, ?_⟩ <;>
      · intro he
        obtain ⟨rfl, -⟩ := List.cons.inj he
        simp only [Nat.reduceEqDiff, or_self] at hp

theorem isoKey_cases {k : Str} (h : IsoKey k) :
    k = [68] ∨ k = [84] ∨ ∃ ds ls, k = ds ++ ls ∧ ds ≠ [] ∧ ls ≠ [] ∧ (∀ x ∈ ds, isDigit x = true)
      ∧ (∀ x ∈ ls, isAlpha x = true) := by
  simp only [IsoKey, isoKeyB, Bool.or_eq_true, Bool.and_eq_true, beq_iff_eq, List.all_eq_true,
    Bool.not_eq_true', List.isEmpty_eq_false_iff] at h
  rcases h with (h | h) | ⟨⟨h1, h2⟩, h3⟩
  · exact .inl h
  · exact .inr (.inl h)
  · exact .inr (.inr ⟨_, _, (spanP_spec isDigit k).1, h1, h2, (spanP_spec isDigit k).2, h3⟩)

theorem plainKey_not_iso {k : Str} (h : PlainKey k) : isIsoKey k = false := by
  obtain ⟨⟨c, lows, rfl, hc⟩, h68, h84⟩ := plainKey_cond h
  have hd : isDigit c = false :=
    alpha_not_digit (condKey_alpha ⟨c, lows, rfl, hc⟩ c List.mem_cons_self)
  simp only [isIsoKey, hd, Bool.false_or, Bool.or_eq_false_iff, beq_eq_false_iff_ne]
  exact ⟨h68, h84⟩

theorem isoKey_iso {k : Str} (h : IsoKey k) : isIsoKey k = true := by
  rcases isoKey_cases h with rfl | rfl | ⟨ds, ls, rfl, hd, _, hdd, _⟩
  · decide
  · decide
  · cases ds with
    | nil => exact absurd rfl hd
    | cons d ds => simp [isIsoKey, hdd d (by simp)]

theorem plainKey_ne {k : Str} (h : PlainKey k) : k ≠ [] := by
  intro he; subst he; simp [PlainKey, plainKeyB] at h
theorem isoKey_ne {k : Str} (h : IsoKey k) : k ≠ [] := by
  intro he; subst he; simp [IsoKey, isoKeyB, spanP] at h

theorem isoKey_alnum {k : Str} (h : IsoKey k) : ∀ x ∈ k, (isAlpha x || isDigit x) = true := by
  rcases isoKey_cases h with rfl | rfl | ⟨ds, ls, rfl, _, _, hdd, hll⟩
  · decide
  · decide
  · intro x hx
    simp at hx
    rcases hx with hx | hx
    · simp [hdd x hx]
    · simp [hll x hx]

/-- what `write_chem_formula` (sep = '') emits for one entry -/
def tokStr (t : Tok) : Str :=
  if isIsoKey t.1 then [91] ++ t.1 ++ t.2.show ++ [93] else t.1 ++ t.2.show

def render (ts : List Tok) : Str := (ts.map tokStr).flatten

@[simp] theorem render_nil : render [] = [] := rfl
@[simp] theorem render_cons (t : Tok) (ts : List Tok) : render (t :: ts) = tokStr t ++ render ts := rfl
theorem render_append (a b : List Tok) : render (a ++ b) = render a ++ render b := by
  simp [render]

def PlainTok (t : Tok) : Prop := PlainKey t.1 ∧ NumOK t.2
def IsoTok (t : Tok) : Prop := IsoKey t.1 ∧ NumOK t.2
def WFTok (t : Tok) : Prop := (PlainKey t.1 ∨ IsoKey t.1) ∧ NumOK t.2

theorem tokStr_plain {t : Tok} (h : PlainTok t) : tokStr t = t.1 ++ t.2.show := by
  simp [tokStr, plainKey_not_iso h.1]
theorem tokStr_iso {t : Tok} (h : IsoTok t) : tokStr t = 91 :: (t.1 ++ t.2.show) ++ [93] := by
  simp [tokStr, isoKey_iso h.1]

/-- key and count side by side, as the writer puts them in a bracket-free run -/
def bare (ts : List Tok) : Str := (ts.map (fun t => t.1 ++ t.2.show)).flatten

theorem bare_cons (t : Tok) (ts : List Tok) : bare (t :: ts) = t.1 ++ t.2.show ++ bare ts := rfl

theorem render_plain {ps : List Tok} (h : ∀ t ∈ ps, PlainTok t) : render ps = bare ps := by
  induction ps with
  | nil => rfl
  | cons t ps ih =>
    rw [render_cons, bare_cons, tokStr_plain (h t List.mem_cons_self), ih fun t ht => h t (List.mem_cons_of_mem _ ht)]

def CondTok (t : Tok) : Prop := CondKey t.1 ∧ NumOK t.2

theorem PlainTok.cond {t : Tok} (h : PlainTok t) : CondTok t := ⟨(plainKey_cond h.1).1, h.2⟩

theorem bare_head {ps : List Tok} (h : ∀ t ∈ ps, CondTok t) : ∀ c r, bare ps = c :: r → isAlpha c = true := by
  intro c r hr
  cases ps with
  | nil => cases hr
  | cons t ps =>
    obtain ⟨hk, -⟩ := h t List.mem_cons_self
    obtain ⟨a, as, hkk, -⟩ := id hk
    rw [bare_cons, hkk] at hr
    obtain rfl : a = c := (List.cons.inj hr).1
    exact condKey_alpha hk a (hkk ▸ List.mem_cons_self)

theorem finditer_bare {ps : List Tok} (h : ∀ t ∈ ps, CondTok t) :
    finditerCondensed 0 (bare ps) = ps.map (fun t => (t.1, t.2.show)) := by
  induction ps with
  | nil => rfl
  | cons t ps ih =>
    have hps : ∀ t ∈ ps, CondTok t := fun t ht => h t (List.mem_cons_of_mem _ ht)
    obtain ⟨hk, hv⟩ := h t List.mem_cons_self
    have hr : ∀ c r, bare ps = c :: r → (isDigit c || c == 46) = false :=
      fun c r hc => alpha_not_dd (bare_head hps c r hc)
    rw [bare_cons, finditer_tok _ hk hv.ne hv.chars (hv.count _ hr), ih hps, List.map_cons]

theorem countOf_show {v : Num} (h : NumOK v) : countOf v.show = some v := by
  have := h.ne
  simp [countOf, h.conv, this]

theorem condensedFold_bare {ps : List Tok} (h : ∀ t ∈ ps, NumOK t.2) (d : Comp) (n : Nat) :
    condensedFold (ps.map (fun t => (t.1, t.2.show))) d n = some (addAll d ps, n + (bare ps).length) := by
  induction ps generalizing d n with
  | nil => rfl
  | cons t ps ih =>
    simp only [List.map_cons, condensedFold, countOf_show (h t List.mem_cons_self),
      ih (fun t ht => h t (List.mem_cons_of_mem _ ht)), bare_cons, List.length_append, Nat.add_assoc]
    rfl

theorem parseCondensed_bare {ps : List Tok} (h : ∀ t ∈ ps, CondTok t) :
    parseCondensed (bare ps) = .ok (addAll [] ps) := by
  cases ps with
  | nil => rfl
  | cons t ps =>
    obtain ⟨a, as, hkk, -⟩ := (h t List.mem_cons_self).1
    have hne : (bare (t :: ps)).isEmpty = false := by rw [bare_cons, hkk]; rfl
    simp only [parseCondensed, hne, finditer_bare h, condensedFold_bare fun t ht => (h t ht).2, Bool.false_eq_true,
      if_false]
    simp only [List.map_cons, List.isEmpty_cons, Nat.zero_add, bne_self_eq_false, Bool.false_eq_true, if_false]

theorem finditer_run {ps : List Tok} (h : ∀ t ∈ ps, PlainTok t) :
    finditerCondensed 0 (render ps) = ps.map (fun t => (t.1, t.2.show)) := by
  rw [render_plain h]
  exact finditer_bare fun t ht => (h t ht).cond

theorem render_plain_ne {ps : List Tok} (h : ∀ t ∈ ps, PlainTok t) (hne : ps ≠ []) : render ps ≠ [] := by
  obtain ⟨t, ps, rfl⟩ := List.exists_cons_of_ne_nil hne
  obtain ⟨⟨a, as, hkk, -⟩, -⟩ := (h t List.mem_cons_self).cond
  rw [render_plain h, bare_cons, hkk]
  exact List.cons_ne_nil _ _

theorem countStr_show {v : Num} (h : NumOK v) : countStr v.show = v.show := by
  have := h.count [] (by intro c r hc; cases hc)
  simpa using this

theorem show_head_cc {v : Num} (h : NumOK v) :
    ∀ c r, v.show = c :: r → (isDigit c || c == 45 || c == 46) = true := by
  intro c r hc
  exact h.chars c (by simp [hc])

theorem parseIsotope_tok {t : Tok} (h : IsoTok t) :
    parseIsotope (t.1 ++ t.2.show) = .ok (addAll [] [t]) := by
  obtain ⟨k, v⟩ := t
  have hv : NumOK v := h.2
  -- `D` and `T` are handed to the condensed parser, where they are ordinary keys
  have hDT : ∀ c, c = 68 ∨ c = 84 → parseIsotope ([c] ++ v.show) = .ok (addAll [] [([c], v)]) := by
    intro c hc
    have hu : isUpper c = true := by rcases hc with rfl | rfl <;> decide
    have hcc : (c == 68 || c == 84) = true := by rcases hc with rfl | rfl <;> decide
    have := parseCondensed_bare (ps := [([c], v)])
      (fun t ht => List.mem_singleton.1 ht ▸ ⟨⟨c, [], rfl, .inl ⟨hu, nofun⟩⟩, hv⟩)
    rw [bare_cons, show bare [] = [] from rfl, List.append_nil] at this
    simpa only [parseIsotope, List.cons_append, List.nil_append, hcc, if_true] using this
  rcases isoKey_cases h.1 with rfl | rfl | ⟨ds, ls, rfl, hd, hl, hdd, hll⟩
  · exact hDT 68 (.inl rfl)
  · exact hDT 84 (.inr rfl)
  · cases ds with
    | nil => exact absurd rfl hd
    | cons d ds =>
      have hd0 : isDigit d = true := hdd d (by simp)
      have hne : (d == 68 || d == 84) = false := by
        simp only [charClass] at hd0 ⊢; omega
      have h1 : spanP isDigit (d :: ds ++ (ls ++ v.show)) = (d :: ds, ls ++ v.show) := by
        apply spanP_append _ _ _ hdd
        intro c r hc
        cases ls with
        | nil => exact absurd rfl hl
        | cons a as =>
          simp at hc
          exact alpha_not_digit (hc.1 ▸ hll a (by simp))
      have h2 : spanP isAlpha (ls ++ v.show) = (ls, v.show) := by
        apply spanP_append _ _ _ hll
        intro c r hc
        exact cc_not_alpha (show_head_cc hv c r hc)
      have hls : ls.isEmpty = false := by simp [hl]
      show parseIsotope ((d :: ds ++ ls) ++ v.show) = _
      rw [List.append_assoc]
      simp only [parseIsotope, List.cons_append, hne]
      simp only [← List.cons_append, h1, h2, hls, countStr_show hv, countOf_show hv]
      simp [addAll, addTo]

theorem parseComponent_iso {t : Tok} (h : IsoTok t) :
    parseComponent (render [t]) = .ok (addAll [] [t]) := by
  rw [render_cons, render_nil, List.append_nil, tokStr_iso h]
  simp only [List.cons_append, parseComponent, List.dropLast_concat]
  exact parseIsotope_tok h

theorem parseComponent_run {ps : List Tok} (h : ∀ t ∈ ps, PlainTok t) :
    parseComponent (render ps) = .ok (addAll [] ps) := by
  have hc : ∀ t ∈ ps, CondTok t := fun t ht => (h t ht).cond
  rw [render_plain h]
  unfold parseComponent
  split
  · next r heq => exact absurd rfl (alpha_not_br (bare_head hc 91 r heq)).1
  · exact parseCondensed_bare hc

theorem splitChem_run (s acc rest : Str) (h : ∀ c ∈ s, c ≠ 91 ∧ c ≠ 93) :
    splitChem false acc (s ++ rest) = splitChem false (s.reverse ++ acc) rest := by
  induction s generalizing acc with
  | nil => rfl
  | cons c s ih =>
    have hc := h c (by simp)
    have := ih (c :: acc) (fun x hx => h x (by simp [hx]))
    simp only [List.cons_append, splitChem, beq_iff_eq, hc.1, hc.2, if_false, this]
    simp

theorem splitChem_inside (s acc rest : Str) (h : ∀ c ∈ s, c ≠ 93) :
    splitChem true acc (s ++ 93 :: rest) =
      match splitChem false [] rest with
      | .ok l => .ok ((93 :: (s.reverse ++ acc)).reverse :: l)
      | .error e => .error e := by
  induction s generalizing acc with
  | nil => cases h' : splitChem false [] rest <;> simp [splitChem, h']
  | cons c s ih =>
    have hc := h c (by simp)
    have := ih (c :: acc) (fun x hx => h x (by simp [hx]))
    simp only [List.cons_append, splitChem, beq_iff_eq, hc, if_false, this]
    simp

theorem plainTok_chars {t : Tok} (h : PlainTok t) : ∀ c ∈ tokStr t, c ≠ 91 ∧ c ≠ 93 := by
  rw [tokStr_plain h]
  intro c hc
  simp at hc
  rcases hc with hc | hc
  · exact alpha_not_br (condKey_alpha (plainKey_cond h.1).1 c hc)
  · exact cc_not_br (h.2.chars c hc)

theorem isoTok_chars {t : Tok} (h : IsoTok t) : ∀ c ∈ t.1 ++ t.2.show, c ≠ 93 := by
  intro c hc
  simp at hc
  rcases hc with hc | hc
  · have := isoKey_alnum h.1 c hc
    simp at this
    rcases this with h1 | h1
    · exact (alpha_not_br h1).2
    · exact (digit_not_br h1).2
  · exact (cc_not_br (h.2.chars c hc)).2

/-- the components `_split_chem_formula` cuts a rendered token list into: maximal runs of plain tokens and single
bracketed tokens (`ps` = the run being accumulated) -/
def groups : List Tok → List Tok → List (List Tok)
  | ps, [] => if ps.isEmpty then [] else [ps]
  | ps, t :: ts =>
    if isIsoKey t.1 then (if ps.isEmpty then [t] :: groups [] ts else ps :: [t] :: groups [] ts)
    else groups (ps ++ [t]) ts

theorem groups_flatten (ps ts : List Tok) : (groups ps ts).flatten = ps ++ ts := by
  induction ts generalizing ps with
  | nil => cases ps <;> simp [groups]
  | cons t ts ih =>
    by_cases h : isIsoKey t.1 = true
    · cases ps <;> simp [groups, h, ih]
    · simp [groups, h, ih]

theorem wfTok_cases {t : Tok} (h : WFTok t) :
    (PlainTok t ∧ isIsoKey t.1 = false) ∨ (IsoTok t ∧ isIsoKey t.1 = true) := by
  rcases h.1 with hk | hk
  · exact .inl ⟨⟨hk, h.2⟩, plainKey_not_iso hk⟩
  · exact .inr ⟨⟨hk, h.2⟩, isoKey_iso hk⟩

theorem forall_mem_concat {α : Type} {P : α → Prop} {l : List α} {a : α} (hl : ∀ x ∈ l, P x) (ha : P a) :
    ∀ x ∈ l ++ [a], P x := by
  intro x hx
  rcases List.mem_append.1 hx with hx | hx
  · exact hl x hx
  · exact List.mem_singleton.1 hx ▸ ha

theorem rev_isEmpty_false {s : Str} (h : s ≠ []) : s.reverse.isEmpty = false := by
  cases s with
  | nil => exact absurd rfl h
  | cons a as => simp

theorem splitChem_render {ps ts : List Tok} (hps : ∀ t ∈ ps, PlainTok t) (hts : ∀ t ∈ ts, WFTok t) :
    splitChem false (render ps).reverse (render ts) = .ok ((groups ps ts).map render) := by
  induction ts generalizing ps with
  | nil =>
    cases ps with
    | nil => rfl
    | cons p ps =>
      have h2 := rev_isEmpty_false (render_plain_ne hps (by simp))
      simp only [render_nil, splitChem, h2, groups, List.isEmpty_cons, Bool.false_eq_true, if_false,
        List.reverse_reverse, List.map_cons, List.map_nil]
  | cons t ts ih =>
    have hts' : ∀ t ∈ ts, WFTok t := fun t ht => hts t (by simp [ht])
    rcases wfTok_cases (hts t (by simp)) with ⟨hp, hi⟩ | ⟨hp, hi⟩
    · have := ih (forall_mem_concat hps hp) hts'
      simp only [groups, hi, Bool.false_eq_true, if_false, render_cons, splitChem_run _ _ _ (plainTok_chars hp)]
      rw [← this, render_append]
      simp
    · have h0 := ih (ps := []) (by simp) hts'
      simp only [render_nil, List.reverse_nil] at h0
      have e : tokStr t ++ render ts = 91 :: ((t.1 ++ t.2.show) ++ 93 :: render ts) := by
        rw [tokStr_iso hp]; simp
      have e2 : (93 :: ((t.1 ++ t.2.show).reverse ++ [91])).reverse = tokStr t := by
        rw [tokStr_iso hp]; simp
      rw [render_cons, e]
      simp only [splitChem, beq_self_eq_true, if_true]
      rw [splitChem_inside _ _ _ (isoTok_chars hp), h0]
      simp only [e2]
      cases ps with
      | nil => simp [groups, hi]
      | cons p ps =>
        have h2 := rev_isEmpty_false (render_plain_ne hps (by simp))
        rw [render_cons] at h2
        simp only [h2, groups, hi, if_true, List.isEmpty_cons, Bool.false_eq_true, if_false,
          List.reverse_reverse, List.map_cons, render_cons, render_nil, List.append_nil]

theorem parseComponents_cons_ok {x : Str} {xs : List Str} {d : Comp} {ds : List Comp} (h1 : parseComponent x = .ok d)
    (h2 : parseComponents xs = .ok ds) : parseComponents (x :: xs) = .ok (d :: ds) := by
  simp only [parseComponents, h1, h2]

theorem parseComponents_groups {ps ts : List Tok} (hps : ∀ t ∈ ps, PlainTok t) (hts : ∀ t ∈ ts, WFTok t) :
    parseComponents ((groups ps ts).map render) = .ok ((groups ps ts).map (addAll [])) := by
  induction ts generalizing ps with
  | nil =>
    cases ps with
    | nil => rfl
    | cons p ps => exact parseComponents_cons_ok (parseComponent_run hps) rfl
  | cons t ts ih =>
    have hts' : ∀ t ∈ ts, WFTok t := fun t ht => hts t (List.mem_cons_of_mem _ ht)
    rcases wfTok_cases (hts t List.mem_cons_self) with ⟨hp, hi⟩ | ⟨hp, hi⟩
    · simp only [groups, hi, Bool.false_eq_true, if_false]
      exact ih (forall_mem_concat hps hp) hts'
    · have h0 := parseComponents_cons_ok (parseComponent_iso hp) (ih (ps := []) nofun hts')
      cases ps with
      | nil =>
        simp only [groups, hi, if_true, List.isEmpty_nil]
        exact h0
      | cons p ps =>
        simp only [groups, hi, if_true, List.isEmpty_cons, Bool.false_eq_true, if_false]
        exact parseComponents_cons_ok (parseComponent_run hps) h0

/-- **write → parse for arbitrary token lists** (repeated keys allowed): the parse of the rendered tokens is the
left-to-right accumulation of the tokens into an empty dict -/
theorem parseChem_render {ts : List Tok} (h : ∀ t ∈ ts, WFTok t) :
    parseChem (render ts) [] = .ok (addAll [] ts) := by
  have h1 := splitChem_render (ps := []) (by simp) h
  simp only [render_nil, List.reverse_nil] at h1
  simp only [parseChem, bne_self_eq_false, Bool.false_eq_true, if_false, h1,
    parseComponents_groups (ps := []) nofun h, foldl_addAll_groups, groups_flatten, List.nil_append]

/-- zero-count entries are not written -/
def dropZeros (c : Comp) : Comp := c.filter (fun kv => !kv.2.isZero)

/-- the order in which `write_chem_formula` visits the entries -/
def hillSort (elems : List Elem) (hill : Bool) (c : Comp) : Comp :=
  if hill then sortBy (fun kv => hillIndex elems kv.1) c else c

theorem insertBy_eq {α : Type} (key : α → Nat) (x : α) (l : List α) :
    insertBy key x l = insertB (fun a b => decide (key a < key b)) x l := by
  induction l <;> simp [insertBy, insertB, *]

theorem sortBy_eq {α : Type} (key : α → Nat) (l : List α) :
    sortBy key l = sortB (fun a b => decide (key a < key b)) l.reverse := by
  unfold sortBy sortB
  rw [List.foldr_reverse]; congr; funext acc x; exact insertBy_eq key x acc

theorem sortBy_perm {α : Type} (key : α → Nat) (l : List α) : (sortBy key l).Perm l :=
  sortBy_eq key l ▸ (perm_sort _ _).trans l.reverse_perm

theorem hillSort_true (elems : List Elem) (c : Comp) :
    hillSort elems true c = sortBy (fun kv => hillIndex elems kv.1) c := rfl

theorem hillSort_perm (elems : List Elem) (hill : Bool) (c : Comp) : (hillSort elems hill c).Perm c := by
  cases hill
  · exact List.Perm.refl _
  · exact sortBy_perm _ _

theorem flatten_write (l : Comp) (h : ∀ kv ∈ l, kv.1 ≠ []) :
    (l.map (fun kv =>
      if kv.2.isZero || kv.1 == [] then []
      else if isIsoKey kv.1 then [91] ++ kv.1 ++ kv.2.show ++ [93]
      else kv.1 ++ kv.2.show)).flatten = render (dropZeros l) := by
  induction l with
  | nil => rfl
  | cons a l ih =>
    have ha : (a.1 == []) = false := by simpa using h a (by simp)
    have := ih (fun kv hkv => h kv (by simp [hkv]))
    by_cases hz : a.2.isZero = true
    · simp only [List.map_cons, List.flatten_cons, this, hz, Bool.true_or, if_true, dropZeros, List.filter_cons,
        Bool.not_true, Bool.false_eq_true, if_false, List.nil_append]
    · simp only [Bool.not_eq_true] at hz
      simp only [List.map_cons, List.flatten_cons, this, hz, ha, Bool.or_false, Bool.false_eq_true, if_false,
        dropZeros, List.filter_cons, Bool.not_false, if_true, render_cons, tokStr]

theorem writeChem_nosep (elems : List Elem) (c : Comp) (hill : Bool) (h : ∀ kv ∈ c, kv.1 ≠ []) :
    writeChem elems c [] hill = render (dropZeros (hillSort elems hill c)) :=
  -- with `sep = []`, `writeChem` unfolds to the flattened map over `hillSort elems hill c`
  flatten_write (hillSort elems hill c) fun kv hkv => h kv ((hillSort_perm elems hill c).mem_iff.1 hkv)

theorem writeChem_sep (elems : List Elem) (c : Comp) (sep : Str) (hill : Bool) (h : sep ≠ []) :
    writeChem elems c sep hill =
      intercalate sep ((dropZeros (hillSort elems hill c)).map (fun kv => kv.1 ++ sep ++ kv.2.show)) := by
  simp [writeChem, hillSort, dropZeros, h]

def WFComp (c : Comp) : Prop := (keys c).Nodup ∧ ∀ kv ∈ c, WFTok kv

theorem WFComp.perm {c c' : Comp} (h : WFComp c) (p : c'.Perm c) : WFComp c' :=
  ⟨(p.map _).nodup_iff.2 h.1, fun kv hkv => h.2 kv (p.mem_iff.1 hkv)⟩

theorem WFComp.dropZeros {c : Comp} (h : WFComp c) : WFComp (dropZeros c) :=
  ⟨h.1.sublist (List.Sublist.map _ List.filter_sublist), fun kv hkv => h.2 kv (List.mem_filter.1 hkv).1⟩

theorem wfTok_key_ne {t : Tok} (h : WFTok t) : t.1 ≠ [] := by
  rcases h.1 with h | h
  · exact plainKey_ne h
  · exact isoKey_ne h

theorem parseChem_write {c : Comp} (elems : List Elem) (hill : Bool) (h : WFComp c) :
    parseChem (writeChem elems c [] hill) [] = .ok (dropZeros (hillSort elems hill c)) := by
  have hw : WFComp (dropZeros (hillSort elems hill c)) := (h.perm (hillSort_perm elems hill c)).dropZeros
  rw [writeChem_nosep elems c hill (fun kv hkv => wfTok_key_ne (h.2 kv hkv)), parseChem_render hw.2,
    addAll_nil_of_nodup hw.1]

/-- the mass the table gives for a key (0 where `chem_mass` raises) -/
def em (T : MassTable) (mono : Bool) (k : Str) : Rat :=
  match elemMass T mono k with
  | .ok m => m
  | .error _ => 0

/-- `chem_mass` does not raise on the key, as a Boolean (for concrete tables) -/
def knownB (T : MassTable) (mono : Bool) (k : Str) : Bool :=
  match elemMass T mono k with
  | .ok _ => true
  | .error _ => false

theorem known_of_all {T : MassTable} {mono : Bool} {c : Comp}
    (h : c.all (fun kv => knownB T mono kv.1) = true) : ∀ kv ∈ c, ∃ m, elemMass T mono kv.1 = .ok m := by
  intro kv hkv
  have := List.all_eq_true.1 h kv hkv
  unfold knownB at this
  split at this
  · next m hm => exact ⟨m, hm⟩
  · cases this

/-- `chem_mass` knows every symbol of the table and the three particles, provided every non-isotope row has an average
mass (a linear check on the table) -/
theorem known_of_table {T : MassTable} (mono : Bool) {k : Str}
    (hall : T.elems.all (fun e => isIsoKey e.sym || e.avg.isSome) = true)
    (hk : k ∈ T.elems.map (·.sym) ∨ k = [101] ∨ k = [112] ∨ k = [110]) : ∃ m, elemMass T mono k = .ok m := by
  unfold elemMass findElem
  cases hf : T.elems.find? (fun e => e.sym == k) with
  | none =>
    rcases hk with hk | hk | hk | hk
    · obtain ⟨e, he, rfl⟩ := List.mem_map.1 hk
      have := List.find?_eq_none.1 hf e he
      simp at this
    · subst hk; exact ⟨_, rfl⟩
    · subst hk; exact ⟨_, rfl⟩
    · subst hk; exact ⟨_, rfl⟩
  | some e =>
    have he : e ∈ T.elems := List.mem_of_find?_eq_some hf
    have hs : e.sym = k := by simpa using List.find?_some hf
    have h1 := List.all_eq_true.1 hall e he
    rw [hs] at h1
    simp only [Bool.or_eq_true] at h1
    by_cases hm : (mono || isIsoKey k) = true
    · exact ⟨e.iso.toRat, by simp only [hm, if_true]⟩
    · have hi : isIsoKey k = false := by
        cases h : isIsoKey k
        · rfl
        · simp [h] at hm
      have ha : e.avg.isSome = true := by
        rcases h1 with h1 | h1
        · rw [hi] at h1; cases h1
        · exact h1
      obtain ⟨a, ha'⟩ := Option.isSome_iff_exists.1 ha
      exact ⟨a.toRat, by simp only [hm, Bool.false_eq_true, if_false, ha']⟩

theorem chemMassComp_eq_ok {T : MassTable} {mono : Bool} {c : Comp} {m : Rat} :
    chemMassComp T mono c = .ok m ↔ (∀ kv ∈ c, ∃ m, elemMass T mono kv.1 = .ok m) ∧ m = wsum (em T mono) c := by
  induction c generalizing m with
  | nil => exact ⟨fun h => ⟨nofun, (Except.ok.inj h).symm⟩, fun h => h.2 ▸ rfl⟩
  | cons a c ih =>
    obtain ⟨k, v⟩ := a
    rw [List.forall_mem_cons, wsum_cons, chemMassComp]
    cases he : elemMass T mono k with
    | error e => exact ⟨nofun, fun ⟨⟨⟨_, hm⟩, _⟩, _⟩ => nomatch hm⟩
    | ok mk =>
      have hem : em T mono k = mk := by simp only [em, he]
      cases hc : chemMassComp T mono c with
      | error e => exact ⟨nofun, fun h => nomatch hc.symm.trans (ih.2 ⟨h.1.2, rfl⟩)⟩
      | ok t =>
        obtain ⟨h1, rfl⟩ := ih.1 hc
        simp only [Except.ok.injEq, hem]
        exact ⟨fun h => ⟨⟨⟨mk, rfl⟩, h1⟩, h.symm⟩, fun h => h.2.symm⟩

theorem chemMassComp_known {T : MassTable} {mono : Bool} {c : Comp}
    (h : ∀ kv ∈ c, ∃ m, elemMass T mono kv.1 = .ok m) :
    chemMassComp T mono c = .ok (wsum (em T mono) c) :=
  chemMassComp_eq_ok.2 ⟨h, rfl⟩

theorem known_addAll {T : MassTable} {mono : Bool} {d : Comp} {ts : List Tok}
    (hd : ∀ kv ∈ d, ∃ m, elemMass T mono kv.1 = .ok m) (ht : ∀ kv ∈ ts, ∃ m, elemMass T mono kv.1 = .ok m) :
    ∀ kv ∈ addAll d ts, ∃ m, elemMass T mono kv.1 = .ok m := by
  intro kv hkv
  rcases mem_keys_addAll (List.mem_map_of_mem hkv) with h | h <;> obtain ⟨x, hx, e⟩ := List.mem_map.1 h
  · exact e ▸ hd x hx
  · exact e ▸ ht x hx

theorem chemMassComp_addAll {T : MassTable} {mono : Bool} {c₁ c₂ : Comp} {m₁ m₂ : Rat}
    (h₁ : chemMassComp T mono c₁ = .ok m₁) (h₂ : chemMassComp T mono c₂ = .ok m₂) :
    chemMassComp T mono (addAll c₁ c₂) = .ok (m₁ + m₂) := by
  obtain ⟨k₁, rfl⟩ := chemMassComp_eq_ok.1 h₁
  obtain ⟨k₂, rfl⟩ := chemMassComp_eq_ok.1 h₂
  rw [chemMassComp_known (known_addAll k₁ k₂), wsum_addAll]

theorem wsum_dropZeros (w : Str → Rat) (c : Comp) : wsum w (dropZeros c) = wsum w c := by
  rw [wsum_eq, wsum_eq, ← RatSum.wsum_filter_ne_zero w (c.map _), dropZeros, List.filter_map]
  rfl

theorem chemMassStr_of_parse {T : MassTable} {mono : Bool} {c : Comp} {s sep : Str} (elems : List Elem) (hill : Bool)
    (hp : parseChem s sep = .ok (dropZeros (hillSort elems hill c)))
    (hk : ∀ kv ∈ c, ∃ m, elemMass T mono kv.1 = .ok m) :
    chemMassStr T mono s sep = chemMassComp T mono c := by
  have hk' : ∀ kv ∈ dropZeros (hillSort elems hill c), ∃ m, elemMass T mono kv.1 = .ok m := fun kv hkv =>
    hk kv ((hillSort_perm elems hill c).mem_iff.1 (List.mem_filter.1 hkv).1)
  simp only [chemMassStr, hp, chemMassComp_known hk', chemMassComp_known hk, wsum_dropZeros,
    wsum_perm _ (hillSort_perm elems hill c)]

theorem chemMassStr_write {T : MassTable} {mono : Bool} {c : Comp} (elems : List Elem) (hill : Bool)
    (h : WFComp c) (hk : ∀ kv ∈ c, ∃ m, elemMass T mono kv.1 = .ok m) :
    chemMassStr T mono (writeChem elems c [] hill) [] = chemMassComp T mono c :=
  chemMassStr_of_parse elems hill (parseChem_write elems hill h) hk

def SepFree (x : Nat) (t : Tok) : Prop := x ∉ t.1 ∧ x ∉ t.2.show

theorem splitOn_write (x : Nat) (t : Tok) (l : Comp) (h : ∀ kv ∈ t :: l, SepFree x kv) :
    splitOn [x] (intercalate [x] ((t :: l).map (fun kv => kv.1 ++ [x] ++ kv.2.show))) =
      (t :: l).flatMap (fun kv => [kv.1, kv.2.show]) := by
  have ht := h t List.mem_cons_self
  induction l generalizing t with
  | nil =>
    rw [List.map_cons, List.map_nil, intercalate, List.append_assoc, List.singleton_append,
      splitOn_append_cons ht.1, splitOn_of_not_mem ht.2]
    rfl
  | cons t' l ih =>
    have e : intercalate [x] ((t :: t' :: l).map (fun kv => kv.1 ++ [x] ++ kv.2.show)) =
        t.1 ++ x :: (t.2.show ++ x :: intercalate [x] ((t' :: l).map (fun kv => kv.1 ++ [x] ++ kv.2.show))) := by
      show (t.1 ++ [x] ++ t.2.show) ++ [x] ++ _ = _
      simp
    rw [e, splitOn_append_cons ht.1, splitOn_append_cons ht.2,
      ih t' (fun kv hkv => h kv (List.mem_cons_of_mem _ hkv)) (h t' (List.mem_cons_of_mem _ List.mem_cons_self))]
    rfl

theorem splitFold_pairs {l : Comp} (hn : ∀ kv ∈ l, NumOK kv.2) (d : Comp) :
    splitFold (l.flatMap (fun kv => [kv.1, kv.2.show])) d = .ok (addAll d l) := by
  induction l generalizing d with
  | nil => rfl
  | cons t l ih =>
    have hv := hn t List.mem_cons_self
    have ih' := ih (fun kv hkv => hn kv (List.mem_cons_of_mem _ hkv)) (addTo d t.1 t.2)
    simp only [List.flatMap_cons, List.cons_append, List.nil_append, splitFold, hv.isNum, if_true, hv.conv]
    split
    · exact ih'
    · next h => rw [setTo_eq_addTo h]; exact ih'

theorem wfTok_sepFree {x : Nat} (hx : (isAlpha x || isDigit x || x == 45 || x == 46) = false) {t : Tok} (h : WFTok t) :
    SepFree x t := by
  simp only [Bool.or_eq_false_iff] at hx
  obtain ⟨⟨⟨ha, hd⟩, h45⟩, h46⟩ := hx
  refine ⟨fun hc => ?_, fun hc => ?_⟩
  · have : (isAlpha x || isDigit x) = true := by
      rcases h.1 with hp | hi
      · rw [condKey_alpha (plainKey_cond hp).1 x hc]; rfl
      · exact isoKey_alnum hi x hc
    rw [ha, hd] at this; cases this
  · have := h.2.chars x hc
    rw [hd, h45, h46] at this; cases this

theorem parseChem_write_sep {c : Comp} (elems : List Elem) (hill : Bool) {x : Nat}
    (hx : (isAlpha x || isDigit x || x == 45 || x == 46) = false) (h : WFComp c) (hne : dropZeros c ≠ []) :
    parseChem (writeChem elems c [x] hill) [x] = .ok (dropZeros (hillSort elems hill c)) := by
  have hw : WFComp (dropZeros (hillSort elems hill c)) := (h.perm (hillSort_perm elems hill c)).dropZeros
  have hperm : (dropZeros (hillSort elems hill c)).Perm (dropZeros c) :=
    (hillSort_perm elems hill c).filter _
  rw [writeChem_sep elems c [x] hill (by simp)]
  cases hl : dropZeros (hillSort elems hill c) with
  | nil =>
    rw [hl] at hperm
    exact absurd hperm.symm.eq_nil hne
  | cons t l =>
    rw [hl] at hw
    have hsf : ∀ kv ∈ t :: l, SepFree x kv := fun kv hkv => wfTok_sepFree hx (hw.2 kv hkv)
    have hb : ([x] != ([] : Str)) = true := by simp
    simp only [parseChem, hb, if_true, splitOn_write x t l hsf]
    rw [splitFold_pairs (fun kv hkv => (hw.2 kv hkv).2), addAll_nil_of_nodup hw.1]

/-- the tokenizer does not look across a boundary that is followed by an upper-case letter -/
theorem finditer_append (f : Str) (hf : ∀ c r, f = c :: r → isUpper c = true) :
    ∀ (a : Str) (n : Nat), n ≤ a.length →
      finditerCondensed n (a ++ f) = finditerCondensed n a ++ finditerCondensed 0 f := by
  have hlow : ∀ c r, f = c :: r → isLower c = false := by
    intro c r h
    have := hf c r h
    simp only [charClass] at *
    omega
  have hcc : ∀ c r, f = c :: r → (isDigit c || c == 45 || c == 46) = false := by
    intro c r h
    have := hf c r h
    simp only [charClass] at *
    omega
  intro a
  induction a with
  | nil => intro n hn; simp at hn; subst hn; simp [finditerCondensed]
  | cons c r ih =>
    intro n hn
    cases n with
    | succ k =>
      simp only [List.cons_append, finditerCondensed]
      exact ih k (by simpa using hn)
    | zero =>
      have hl := spanP_fst_length_le isLower r
      by_cases hu : isUpper c = true
      · have hdrop : List.drop (spanP isLower r).1.length (r ++ f) = List.drop (spanP isLower r).1.length r ++ f := by
          rw [List.drop_append_of_le_length hl]
        have hc2 := countStr_length_le (List.drop (spanP isLower r).1.length r)
        simp only [List.length_drop] at hc2
        simp only [List.cons_append, finditerCondensed, hu, if_true, spanP_append_right isLower r f hlow, hdrop,
          countStr_append _ f hcc]
        rw [ih _ (by omega)]
      · by_cases hp : (c == 101 || c == 112 || c == 110) = true
        · have hc2 := countStr_length_le r
          simp only [List.cons_append, finditerCondensed, hu, hp, if_true, Bool.false_eq_true, if_false,
            countStr_append _ f hcc]
          rw [ih _ hc2]
        · simp only [List.cons_append, finditerCondensed, hu, hp, Bool.false_eq_true, if_false]
          exact ih 0 (by omega)

theorem condensedFold_append (a b : List (Str × Str)) (d : Comp) (n : Nat) :
    condensedFold (a ++ b) d n =
      match condensedFold a d n with
      | none => none
      | some (d', n') => condensedFold b d' n' := by
  induction a generalizing d n with
  | nil => rfl
  | cons x a ih =>
    obtain ⟨el, cnt⟩ := x
    simp only [List.cons_append, condensedFold]
    cases countOf cnt with
    | none => rfl
    | some v => exact ih _ _

theorem condensedFold_shift (ms : List (Str × Str)) (d : Comp) (n : Nat) :
    condensedFold ms d n = (condensedFold ms [] 0).map (fun p => (addAll d p.1, n + p.2)) := by
  induction ms generalizing d n with
  | nil => simp [condensedFold, addAll]
  | cons x ms ih =>
    obtain ⟨el, cnt⟩ := x
    simp only [condensedFold]
    cases countOf cnt with
    | none => rfl
    | some v =>
      simp only []
      rw [ih (addTo d el v), ih (addTo [] el v)]
      cases condensedFold ms [] 0 with
      | none => rfl
      | some p =>
        simp only [Option.map_some, Option.some.injEq, Prod.mk.injEq]
        refine ⟨?_, by omega⟩
        rw [addAll_assoc]
        show _ = addAll (addAll d [(el, Num.add Num.zero v)]) p.1
        simp [addAll, Num.zero_add]

theorem parseCondensed_ok {s : Str} {d : Comp} (hs : s ≠ []) :
    parseCondensed s = .ok d ↔
      ((finditerCondensed 0 s).isEmpty = false ∧ condensedFold (finditerCondensed 0 s) [] 0 = some (d, s.length)) := by
  have hs' : s.isEmpty = false := by simpa using hs
  unfold parseCondensed
  simp only [hs', Bool.false_eq_true, if_false]
  cases hm : (finditerCondensed 0 s).isEmpty with
  | true => simp
  | false =>
    simp only [Bool.false_eq_true, if_false, true_and]
    cases hc : condensedFold (finditerCondensed 0 s) [] 0 with
    | none => simp
    | some p =>
      obtain ⟨d', n⟩ := p
      by_cases hn : n = s.length
      · subst hn; simp
      · simp [hn]

theorem parseCondensed_append {l f : Str} {dl df : Comp} (hl : parseCondensed l = .ok dl)
    (hf : parseCondensed f = .ok df) (hln : l ≠ []) (hfu : ∀ c r, f = c :: r → isUpper c = true)
    (hfn : f ≠ []) : parseCondensed (l ++ f) = .ok (addAll dl df) := by
  obtain ⟨hl1, hl2⟩ := (parseCondensed_ok hln).1 hl
  obtain ⟨hf1, hf2⟩ := (parseCondensed_ok hfn).1 hf
  have hne : l ++ f ≠ [] := by simp [hln]
  rw [parseCondensed_ok hne, finditer_append f hfu l 0 (by omega)]
  refine ⟨?_, ?_⟩
  · cases h : finditerCondensed 0 l with
    | nil => rw [h] at hl1; simp at hl1
    | cons a as => simp
  · rw [condensedFold_append, hl2]
    simp only []
    rw [condensedFold_shift, hf2]
    simp

theorem parseComponent_run_eq (s : Str) (h : ∀ r, s ≠ 91 :: r) : parseComponent s = parseCondensed s := by
  unfold parseComponent
  split
  · next r => exact absurd rfl (h r)
  · rfl

theorem foldl_addAll_base (Y : List Comp) (d : Comp) : Y.foldl addAll d = addAll d (Y.foldl addAll []) := by
  induction Y generalizing d with
  | nil => rfl
  | cons y Y ih =>
    simp only [List.foldl_cons]
    rw [ih (addAll d y), ih (addAll [] y), addAll_assoc, addAll_addAll_nil]

theorem parseComponents_append (X Y : List Str) :
    parseComponents (X ++ Y) =
      match parseComponents X with
      | .error e => .error e
      | .ok dx => match parseComponents Y with
        | .error e => .error e
        | .ok dy => .ok (dx ++ dy) := by
  induction X with
  | nil => cases h : parseComponents Y <;> simp [parseComponents, h]
  | cons x X ih =>
    simp only [List.cons_append, parseComponents, ih]
    cases parseComponent x with
    | error e => rfl
    | ok d =>
      cases parseComponents X with
      | error e => rfl
      | ok dx =>
        cases parseComponents Y with
        | error e => rfl
        | ok dy => rfl

/-- dict sum of two parses; fails when either does -/
abbrev add? (x y : Option Comp) : Option Comp := Option.map₂ addAll x y

theorem add?_assoc (x y z : Option Comp) : add? (add? x y) z = add? x (add? y z) :=
  Option.map₂_assoc fun a b c => (addAll_assoc a b c).symm

theorem add?_nil (x : Option Comp) : add? x (some []) = x := by cases x <;> rfl

theorem add?_eq_some {x y : Option Comp} {c : Comp} (h : add? x y = some c) :
    ∃ a b, x = some a ∧ y = some b ∧ c = addAll a b :=
  let ⟨a, b, ha, hb, e⟩ := Option.map₂_eq_some_iff.1 h
  ⟨a, b, ha, hb, e.symm⟩

/-- components → composition (the second half of `parse_chem_formula`) -/
def comps? (L : List Str) : Option Comp :=
  match parseComponents L with
  | .error _ => none
  | .ok ds => some (ds.foldl addAll [])

theorem comps?_append (X Y : List Str) : comps? (X ++ Y) = add? (comps? X) (comps? Y) := by
  unfold comps?
  rw [parseComponents_append]
  cases parseComponents X with
  | error e => rfl
  | ok dx =>
    cases parseComponents Y with
    | error e => rfl
    | ok dy =>
      simp only [List.foldl_append]
      rw [foldl_addAll_base]; rfl

theorem comps?_single (l : Str) : comps? [l] = (parseComponent l).toOption.map (addAll []) := by
  unfold comps?
  simp only [parseComponents]
  cases parseComponent l <;> rfl

/-- two bracket-free components side by side parse like their concatenation: both go to `parseCondensed`, whose
tokenizer does not look across a boundary followed by an upper-case letter (`finditer_append`) -/
theorem comps?_glue {l f : Str} {a d : Comp} (hl : comps? [l] = some a) (hf : comps? [f] = some d)
    (hln : l ≠ []) (hl91 : ∀ r, l ≠ 91 :: r) (hfu : ∀ c r, f = c :: r → isUpper c = true) (hfn : f ≠ []) :
    comps? [l ++ f] = add? (comps? [l]) (comps? [f]) := by
  have hf91 : ∀ r, f ≠ 91 :: r := fun r h => absurd (hfu 91 r h) (by decide)
  have hlf91 : ∀ r, l ++ f ≠ 91 :: r := by
    intro r h
    cases l with
    | nil => exact hln rfl
    | cons a t => exact hl91 t (by rw [(List.cons.inj h).1])
  rw [comps?_single, parseComponent_run_eq _ hl91] at hl
  rw [comps?_single, parseComponent_run_eq _ hf91] at hf
  rw [comps?_single, comps?_single, comps?_single, parseComponent_run_eq _ hl91,
    parseComponent_run_eq _ hf91, parseComponent_run_eq _ hlf91]
  cases hc1 : parseCondensed l with
  | error e => rw [hc1] at hl; cases hl
  | ok dl =>
    cases hc2 : parseCondensed f with
    | error e => rw [hc2] at hf; cases hf
    | ok df =>
      rw [parseCondensed_append hc1 hc2 hln hfu hfn]
      simp only [add?, Except.toOption, Option.map_some, Option.map₂_some_some, ← addAll_assoc, addAll_addAll_nil]

/-- what `parse_chem_formula` makes of the rest `s` of its text when `_split_chem_formula` has reached the state
(`b`, `acc`): the split of the rest, every component parsed, the dicts added -/
def parseFrom (b : Bool) (acc s : Str) : Option Comp :=
  match splitChem b acc s with
  | .error _ => none
  | .ok L => comps? L

theorem parseFrom_eq_some {s : Str} {c : Comp} : parseFrom false [] s = some c ↔ parseChem s [] = .ok c := by
  simp only [parseChem, parseFrom, comps?, bne_self_eq_false, Bool.false_eq_true, if_false]
  cases splitChem false [] s with
  | error e => exact ⟨nofun, nofun⟩
  | ok L => cases h : parseComponents L <;> simp [h]

theorem parseFrom_true_nil (acc : Str) : parseFrom true acc [] = none := rfl

theorem parseFrom_open (acc r : Str) :
    parseFrom false acc (91 :: r) = add? (parseFrom false acc []) (parseFrom true [91] r) := by
  simp only [parseFrom, splitChem, beq_self_eq_true, if_true]
  cases splitChem true [91] r with
  | error e => exact (Option.map₂_none_right _ _).symm
  | ok l =>
    have : (if acc.isEmpty then l else acc.reverse :: l) = (if acc.isEmpty then [] else [acc.reverse]) ++ l := by
      split <;> rfl
    simp only [this, comps?_append]

theorem parseFrom_stray (acc r : Str) : parseFrom false acc (93 :: r) = none := rfl

theorem parseFrom_run (s acc rest : Str) (h : ∀ c ∈ s, c ≠ 91 ∧ c ≠ 93) :
    parseFrom false acc (s ++ rest) = parseFrom false (s.reverse ++ acc) rest := by
  rw [parseFrom, splitChem_run s acc rest h]; rfl

theorem parseFrom_close (acc r : Str) :
    parseFrom true acc (93 :: r) = add? (comps? [(93 :: acc).reverse]) (parseFrom false [] r) := by
  simp only [parseFrom, splitChem, beq_self_eq_true, if_true]
  cases splitChem false [] r with
  | error e => exact (Option.map₂_none_right _ _).symm
  | ok l => exact comps?_append [_] l

theorem parseFrom_inside {c : Nat} (h : c ≠ 93) (acc r : Str) :
    parseFrom true acc (c :: r) = parseFrom true (c :: acc) r := by
  simp only [parseFrom, splitChem, beq_iff_eq, h, if_false]

theorem add?_nil_parseFrom (b : Bool) (acc s : Str) : add? (some []) (parseFrom b acc s) = parseFrom b acc s := by
  unfold parseFrom
  cases splitChem b acc s with
  | error e => rfl
  | ok L => exact (comps?_append [] L).symm

/-- what is left of the text when the pending run ends: nothing, or a bracket -/
theorem parseFrom_pending (acc rest : Str) (hr : ∀ c r, rest = c :: r → c = 91 ∨ c = 93) :
    parseFrom false acc rest = add? (parseFrom false acc []) (parseFrom false [] rest) := by
  cases rest with
  | nil => exact (add?_nil _).symm
  | cons c r =>
    rcases hr c r rfl with rfl | rfl
    · rw [parseFrom_open, parseFrom_open [], ← add?_assoc, show parseFrom false [] [] = some [] from rfl, add?_nil]
    · exact (Option.map₂_none_right _ _).symm

def noBr (c : Nat) : Bool := c != 91 && c != 93

/-- the splitter in one step to the end of the bracket-free run the text begins with -/
theorem parseFrom_span (acc s : Str) : parseFrom false acc s =
    add? (parseFrom false ((s.takeWhile noBr).reverse ++ acc) []) (parseFrom false [] (s.dropWhile noBr)) := by
  conv => lhs; rw [← List.takeWhile_append_dropWhile (p := noBr) (l := s)]
  rw [parseFrom_run _ _ _ fun c hc => by simpa [noBr] using List.all_eq_true.1 List.all_takeWhile c hc]
  refine parseFrom_pending _ _ fun c r h => ?_
  have := List.head?_dropWhile_not noBr s
  rw [h] at this
  simpa only [List.head?_cons, Option.all_some, noBr, Bool.not_eq_true', Bool.and_eq_false_iff,
    bne_eq_false_iff_eq] using this

theorem parseFrom_pend {acc : Str} (h : acc ≠ []) : parseFrom false acc [] = comps? [acc.reverse] := by
  cases acc with
  | nil => exact absurd rfl h
  | cons => rfl

/-- a pending run `acc` is parsed together with the run the text begins with (`comps?_glue`); nothing else of the
parse of `s₂` depends on it -/
theorem parseFrom_acc {acc s₂ : Str} {a c₂ : Comp} (h91 : ∀ x ∈ acc, x ≠ 91)
    (hb : ∀ c r, s₂ = c :: r → isUpper c = true ∨ c = 91) (ha : parseFrom false acc [] = some a)
    (h₂ : parseFrom false [] s₂ = some c₂) : parseFrom false acc s₂ = some (addAll a c₂) := by
  suffices h : parseFrom false acc s₂ = add? (parseFrom false acc []) (parseFrom false [] s₂) by rw [h, ha, h₂]; rfl
  by_cases he : acc = []
  · subst he; exact (add?_nil_parseFrom _ _ _).symm
  cases s₂ with
  | nil => exact parseFrom_pending _ _ nofun
  | cons c r =>
    rcases hb c r rfl with hu | rfl
    · have hp : noBr c = true := by
        have := alpha_not_br (upper_alpha hu); simp [noBr, this.1, this.2]
      rw [parseFrom_span [], List.append_nil] at h₂ ⊢
      rw [parseFrom_span acc]
      simp only [List.takeWhile_cons_of_pos hp] at h₂ ⊢
      obtain ⟨d, -, hd, -, -⟩ := add?_eq_some h₂
      have e : ∀ acc, parseFrom false ((c :: r.takeWhile noBr).reverse ++ acc) [] = comps? [acc.reverse ++ c :: r.takeWhile noBr] :=
        fun acc => by rw [parseFrom_pend (by simp)]; simp
      have e0 := e []
      rw [List.append_nil, List.reverse_nil, List.nil_append] at e0
      rw [e0] at hd ⊢
      rw [parseFrom_pend he] at ha ⊢
      rw [e, comps?_glue ha hd (by simpa using he) (fun t ht => h91 91 (List.mem_reverse.1 (ht ▸ List.mem_cons_self)) rfl)
          (fun c' t ht => by cases ht; exact hu) (by simp), add?_assoc]
    · exact parseFrom_pending _ _ (by simp)

/-- Additivity from any state of the splitter, by running it over `s₁`.  Outside a bracket the pending run holds no `[`
(the side condition): it is then a component for the condensed parser, so that `comps?_glue` joins it to what `s₂`
begins with (`parseFrom_acc`, the case `s₁ = []`). -/
theorem parseFrom_append {s₂ : Str} {c₂ : Comp} (hb : ∀ c r, s₂ = c :: r → isUpper c = true ∨ c = 91)
    (h₂ : parseFrom false [] s₂ = some c₂) (s₁ : Str) : ∀ (b : Bool) (acc : Str) (c₁ : Comp),
    (b = true ∨ ∀ x ∈ acc, x ≠ 91) → parseFrom b acc s₁ = some c₁ →
      parseFrom b acc (s₁ ++ s₂) = some (addAll c₁ c₂) := by
  induction s₁ with
  | nil =>
    intro b acc c₁ hacc h₁
    cases b with
    | true => rw [parseFrom_true_nil] at h₁; cases h₁
    | false => exact parseFrom_acc (hacc.resolve_left nofun) hb h₁ h₂
  | cons c r ih =>
    intro b acc c₁ hacc h₁
    rw [List.cons_append]
    cases b with
    | false =>
      have hacc' := hacc.resolve_left nofun
      by_cases h91 : c = 91
      · subst h91
        rw [parseFrom_open] at h₁ ⊢
        obtain ⟨a, cr, ha, hr, rfl⟩ := add?_eq_some h₁
        rw [ha, ih true [91] cr (.inl rfl) hr, ← addAll_assoc]; rfl
      · by_cases h93 : c = 93
        · subst h93; rw [parseFrom_stray] at h₁; cases h₁
        · have hc : ∀ x ∈ [c], x ≠ 91 ∧ x ≠ 93 := by simp [h91, h93]
          have e := parseFrom_run [c] acc
          simp only [List.singleton_append, List.reverse_singleton] at e
          rw [e _ hc] at h₁ ⊢
          exact ih false (c :: acc) c₁ (.inr (by simpa [h91] using hacc')) h₁
    | true =>
      by_cases h93 : c = 93
      · subst h93
        rw [parseFrom_close] at h₁ ⊢
        obtain ⟨a, cr, ha, hr, rfl⟩ := add?_eq_some h₁
        rw [ha, ih false [] cr (.inr nofun) hr, ← addAll_assoc]; rfl
      · rw [parseFrom_inside h93] at h₁ ⊢
        exact ih true (c :: acc) c₁ (.inl rfl) h₁

/-- **Parsing is additive on arbitrary formula strings**: if both parts parse and the second part starts a new token
(an upper-case letter or a bracket), the composition of the concatenation is the dict sum of the compositions. -/
theorem parseChem_append {s₁ s₂ : Str} {c₁ c₂ : Comp} (h₁ : parseChem s₁ [] = .ok c₁)
    (h₂ : parseChem s₂ [] = .ok c₂) (hb : ∀ c r, s₂ = c :: r → isUpper c = true ∨ c = 91) :
    parseChem (s₁ ++ s₂) [] = .ok (addAll c₁ c₂) :=
  parseFrom_eq_some.1 (parseFrom_append hb (parseFrom_eq_some.2 h₂) s₁ false [] c₁ (.inr nofun) (parseFrom_eq_some.2 h₁))

/-- token of the property's domain: a key the table / the writer knows how to print, an int or finite-decimal count -/
def DomTok (t : Tok) : Prop := (PlainKey t.1 ∨ IsoKey t.1) ∧ NumWF t.2

/-- composition (Python dict) of the property's domain: distinct keys, every entry a `DomTok` -/
def DomComp (c : Comp) : Prop := (keys c).Nodup ∧ ∀ kv ∈ c, DomTok kv

theorem DomTok.wf {t : Tok} (h : DomTok t) : WFTok t := ⟨h.1, numOK_of_wf _ h.2⟩
theorem DomComp.wf {c : Comp} (h : DomComp c) : WFComp c := ⟨h.1, fun kv hkv => (h.2 kv hkv).wf⟩

theorem numWF_int (i : Int) : NumWF (Num.ofInt i) := by
  refine ⟨fun _ => ?_, fun h => ?_⟩
  · simp [Num.ofInt]
  · simp [Num.ofInt] at h

/-- a float count given as `m / 10^s`; the bound 399 is that of `NumWF`: `showFloat` finds the scale by `decScale 400` -/
theorem numWF_dec (m : Int) (s : Nat) (hs : s ≤ 399) : NumWF ⟨(m : Rat) / ((10 ^ s : Nat) : Rat), true⟩ := by
  refine ⟨fun h => by simp at h, fun _ => ⟨s, hs, ?_⟩⟩
  have h : ((m : Rat) / ((10 ^ s : Nat) : Rat)) = Rat.divInt m ((10 ^ s : Nat) : Int) := by
    rw [Rat.divInt_eq_div]; simp
  rw [h]
  have := Rat.den_dvd m ((10 ^ s : Nat) : Int)
  exact_mod_cast this

def k13C : Str := str% "13C"
def kC : Str := str% "C"
def kH : Str := str% "H"
def kE : Str := str% "e"
def kD : Str := str% "D"
def kCe : Str := str% "Ce"
def numNeg15 : Num := ⟨((-15 : Int) : Rat) / ((10 ^ 1 : Nat) : Rat), true⟩
/-- tokens with a repeated key: `[13C6]C2H-1.5e-1C3[D2]Ce1` -/
def exToks : List Tok :=
  [(k13C, Num.ofInt 6), (kC, Num.ofInt 2), (kH, numNeg15), (kE, Num.ofInt (-1)), (kC, Num.ofInt 3),
   (kD, Num.ofInt 2), (kCe, Num.ofInt 1)]
/-- a dict with a zero entry -/
def exComp : Comp :=
  [(kH, numNeg15), (k13C, Num.ofInt 6), (kC, Num.ofInt 2), (kCe, Num.ofInt 0), (kE, Num.ofInt (-1)), (kD, Num.ofInt 2)]

theorem exToks_dom : ∀ t ∈ exToks, DomTok t := by
  intro t ht
  simp only [exToks, List.mem_cons, List.not_mem_nil, or_false] at ht
  rcases ht with rfl | rfl | rfl | rfl | rfl | rfl | rfl
  · exact ⟨.inr (by decide), numWF_int 6⟩
  · exact ⟨.inl (by decide), numWF_int 2⟩
  · exact ⟨.inl (by decide), numWF_dec (-15) 1 (by decide)⟩
  · exact ⟨.inl (by decide), numWF_int (-1)⟩
  · exact ⟨.inl (by decide), numWF_int 3⟩
  · exact ⟨.inr (by decide), numWF_int 2⟩
  · exact ⟨.inl (by decide), numWF_int 1⟩

theorem exComp_dom : DomComp exComp := by
  refine ⟨by decide, ?_⟩
  intro t ht
  simp only [exComp, List.mem_cons, List.not_mem_nil, or_false] at ht
  rcases ht with rfl | rfl | rfl | rfl | rfl | rfl
  · exact ⟨.inl (by decide), numWF_dec (-15) 1 (by decide)⟩
  · exact ⟨.inr (by decide), numWF_int 6⟩
  · exact ⟨.inl (by decide), numWF_int 2⟩
  · exact ⟨.inl (by decide), numWF_int 0⟩
  · exact ⟨.inl (by decide), numWF_int (-1)⟩
  · exact ⟨.inr (by decide), numWF_int 2⟩

/-- a toy table for the examples of `Props/C15.lean` (the theorems there are for every table) -/
def exTable : MassTable :=
  { elems := [⟨kC, ⟨12, 0⟩, some ⟨12011, 3⟩, some 0⟩, ⟨kH, ⟨1007825, 6⟩, some ⟨1008, 3⟩, some 1⟩,
              ⟨k13C, ⟨13003355, 6⟩, none, none⟩, ⟨kD, ⟨2014102, 6⟩, none, none⟩, ⟨kCe, ⟨139905, 3⟩, some ⟨140116, 3⟩, some 20⟩],
    electron := ⟨548579909, 12⟩, proton := ⟨1007276466, 9⟩, neutron := ⟨1008664915, 9⟩ }

end Formula
