import PeptVerif.Lemmas.MassBlocks
import PeptVerif.Lemmas.Fragment
/-!
Connection between the abstract-weight fragment model (`Model/Fragment.lean`) and the concrete mass model
(`Model/Mass.lean`). `LabelledDecomposes` says what a path of `mass` has to satisfy on the slices of a working copy for the
fragmenter's component sums to be right (mass = weight of the slice + an offset per ion type and charge + isotope·neutron
+ loss); the theorem over it rests on the additivity of the weight in the cut point. The fast path on a *plain* working copy
(static rules written out, no isotope labels, no labile / unknown-position / interval mods, no charge adducts) is one
instance (`decomposes_plain`), the composition path the other (`Lemmas/FragmentLabel.lean`). Core Lean only.

Two models are in scope under one set of names: `adjustMass`, `roundOpt`, `ionBase` unqualified are the fragment model's
(`Fragment.ionBase`: what in an ion's mass does not come from residues); the mass model's are written `Mass.adjustMass`,
`Chem.roundOpt`.
-/
namespace Fragment
open Pept Pept.Mass Chem

theorem roundHalfEven_eq : roundHalfEven = Chem.roundHalfEvenInt := rfl

def modsSum (mw : Mod → Rat) (l : List Mod) : Rat := (l.map mw).sum

def optSum (mw : Mod → Rat) : Option (List Mod) → Rat
  | none => 0
  | some l => modsSum mw l

def intSum (mw : Mod → Rat) : Option (List (Int × List Mod)) → Rat
  | none => 0
  | some d => (d.map fun p => modsSum mw p.2).sum

theorem optSum_flat (f : Mod → Rat) (o : Option (List Mod)) : optSum f o = ((o.getD []).map f).sum := by
  cases o <;> rfl

theorem intSum_flat (f : Mod → Rat) (d : Option (List (Int × List Mod))) :
    intSum f d = (((d.getD []).flatMap (·.2)).map f).sum := by
  cases d with
  | none => rfl
  | some l => exact (RatSum.sum_flatMap (·.2) f l).symm

/-- residues + N-terminal + residue + C-terminal modifications -/
def plainWeight (w : Char → Rat) (mw : Mod → Rat) (b : Annotation) : Rat :=
  (b.seq.map w).sum + optSum mw b.nterm + intSum mw b.internal + optSum mw b.cterm

/-- no static rules, isotope labels, labile / unknown-position / interval mods, charge adducts: what is left of a
working copy of `fragment` without isotope labels -/
structure Plain (a : Annotation) : Prop where
  static : a.static = none
  isotope : a.isotope = none
  labile : a.labile = none
  unknown : a.unknown = none
  intervals : a.intervals = none
  adducts : a.adducts = none

/-- residues have table masses `w`, none of them is B or Z; every modification resolves to `mw` -/
structure Resolves (env : Pept.Env) (mono : Bool) (w : Char → Rat) (mw : Mod → Rat) (seq : List Char) : Prop where
  residues : ∀ c ∈ seq, aaMass mono c.toNat = some (w c)
  notB : seq.contains 'B' = false
  notZ : seq.contains 'Z' = false
  mods : ∀ m : Mod, modMass env mono m = .ok (mw m)

theorem plainWeight_placed (w : Char → Rat) (mw : Mod → Rat) (b : Annotation) (t : Chem.Key) (hl : b.labile = none)
    (hu : b.unknown = none) (hi : b.intervals = none) :
    plainWeight w mw b = (b.seq.map w).sum + ((Spec.placedMods b t).map mw).sum := by
  unfold Spec.placedMods
  rw [hl, hu, hi]
  simp only [Option.getD_none, ite_self, List.nil_append, List.flatMap_nil, List.append_nil, plainWeight, optSum_flat,
    intSum_flat, List.map_append, List.sum_append]
  grind

theorem massWith_plain (cm : CompMassFn) (env : Pept.Env) (w : Char → Rat) (mw : Mod → Rat) (b : Annotation)
    (o : Opts) (hp : Plain b) (hr : Resolves env o.mono w mw b.seq) (ho1 : o.adducts = none)
    (ho2 : o.isotopeMods = none) :
    massWith cm env b o =
      Mass.adjustMass (plainWeight w mw b) (effCharge b o) o.ion o.mono o.isotope o.loss none o.precision := by
  rw [massWith_fast cm env b o ⟨effCharge b o, none, none⟩
      (by unfold resolveArgs effLabels; rw [hp.adducts, ho1, ho2, hp.isotope]; rfl) rfl hr.notB hr.notZ,
    fastMass_eq env b o _ w mw 0 (by rw [hp.static]; rfl) hr.residues (fun m _ => hr.mods m),
    plainWeight_placed w mw b o.ion hp.labile hp.unknown hp.intervals]
  congr 1
  -- `Spec.sumR` of `fastMass_eq` is `List.sum`; the static block contributes the `0`
  exact congrArg (· + _) (Rat.zero_add _)

/-! ### the weight of a slice is additive in the cut point -/

/-- the residue-mod part of a slice's weight, as a sum over the parent's entries inside the span -/
def intPart (mw : Mod → Rat) (d : List (Int × List Mod)) (s e : Int) : Rat :=
  ((d.filterMap fun p => if s ≤ p.1 ∧ p.1 < e then some (p.1 - s, p.2) else none).map fun p => modsSum mw p.2).sum

theorem intPart_cons (mw : Mod → Rat) (p : Int × List Mod) (d : List (Int × List Mod)) (s e : Int) :
    intPart mw (p :: d) s e = (if s ≤ p.1 ∧ p.1 < e then modsSum mw p.2 else 0) + intPart mw d s e := by
  unfold intPart
  by_cases c : s ≤ p.1 ∧ p.1 < e
  · simp only [List.filterMap_cons, c, and_self, if_true, List.map_cons, List.sum_cons]
  · simp only [List.filterMap_cons, c, if_false, Rat.zero_add]

theorem intPart_split (mw : Mod → Rat) (d : List (Int × List Mod)) (s m e : Int) (h1 : s ≤ m) (h2 : m ≤ e) :
    intPart mw d s e = intPart mw d s m + intPart mw d m e := by
  induction d with
  | nil => simp [intPart, Rat.add_zero]
  | cons p d ih =>
    rw [intPart_cons, intPart_cons, intPart_cons, ih]
    grind

theorem intSum_slice (mw : Mod → Rat) (a : Annotation) (s e : Int) :
    intSum mw (slice a s e).internal = intPart mw (a.internal.getD []) s e := by
  rw [slice_internal]
  cases a.internal <;> rfl

theorem map_pySlice {α β} (f : α → β) (l : List α) (s e : Int) : (pySlice l s e).map f = pySlice (l.map f) s e := by
  simp [pySlice, List.map_take, List.map_drop]

theorem plainWeight_split (w : Char → Rat) (mw : Mod → Rat) (a : Annotation) (s m e : Int)
    (h0 : 0 ≤ s) (h1 : s < m) (h2 : m < e) (h3 : e ≤ alen a) :
    plainWeight w mw (slice a s e) = plainWeight w mw (slice a s m) + plainWeight w mw (slice a m e) := by
  unfold plainWeight
  rw [slice_seq, slice_seq, slice_seq, map_pySlice, map_pySlice, map_pySlice]
  have hseq := spanSum_split (a.seq.map w) s m e (by omega) (by omega)
  unfold spanSum at hseq
  rw [hseq, slice_nterm, slice_nterm, slice_nterm, slice_cterm, slice_cterm, slice_cterm,
    intSum_slice, intSum_slice, intSum_slice]
  have hm : m > 0 := by omega
  have hme : m < alen a := by omega
  simp only [hm, hme, if_true, optSum]
  rw [intPart_split mw _ s m e (by omega) (by omega)]
  grind

theorem spanSum_single (comps : List Rat) (k : Nat) (x : Rat) (h : comps[k]? = some x) :
    spanSum comps (k : Int) ((k : Int) + 1) = x := by
  unfold spanSum pySlice
  rw [Int.toNat_natCast_add_one, Int.toNat_natCast, Nat.add_sub_cancel_left, List.take_one, List.head?_drop, h]
  exact Rat.add_zero x

theorem spanSum_eq_plainWeight (w : Char → Rat) (mw : Mod → Rat) (a : Annotation) (comps : List Rat)
    (hc : ∀ k : Nat, k < a.seq.length → comps[k]? = some (plainWeight w mw (slice a (k : Int) ((k : Int) + 1))))
    (s : Nat) (len : Nat) (hlen : s + (len + 1) ≤ a.seq.length) :
    spanSum comps (s : Int) ((s : Int) + (len : Int) + 1) =
      plainWeight w mw (slice a (s : Int) ((s : Int) + (len : Int) + 1)) := by
  induction len with
  | zero =>
    have := spanSum_single comps s _ (hc s (by omega))
    simpa using this
  | succ len ih =>
    have hl : alen a = (a.seq.length : Int) := rfl
    have e1 : (s : Int) + ((len + 1 : Nat) : Int) + 1 = ((s : Int) + (len : Int) + 1) + 1 := by omega
    have hsplit := spanSum_split comps (s : Int) ((s : Int) + (len : Int) + 1) (((s : Int) + (len : Int) + 1) + 1)
      (by omega) (by omega)
    have hw := plainWeight_split w mw a (s : Int) ((s : Int) + (len : Int) + 1) (((s : Int) + (len : Int) + 1) + 1)
      (by omega) (by omega) (by omega) (by rw [hl]; omega)
    have hk := spanSum_single comps (s + len + 1) _ (hc (s + len + 1) (by omega))
    have e2 : ((s + len + 1 : Nat) : Int) = (s : Int) + (len : Int) + 1 := by omega
    rw [e2] at hk
    rw [e1, hsplit, hw, ih (by omega), hk]

/-! ### slices of a plain annotation are plain; the final identity -/

theorem plain_slice (a : Annotation) (s e : Int) (hp : Plain a) : Plain (slice a s e) := by
  exact ⟨(slice_static a s e).trans hp.static, (slice_isotope a s e).trans hp.isotope,
    (slice_labile a s e).trans hp.labile, (slice_unknown a s e).trans hp.unknown,
    slice_intervals_none a s e hp.intervals, (slice_adducts a s e).trans hp.adducts⟩

theorem mem_pySlice {α} (l : List α) (s e : Int) (x : α) (h : x ∈ pySlice l s e) : x ∈ l :=
  List.mem_of_mem_drop (List.mem_of_mem_take h)

theorem contains_pySlice (l : List Char) (s e : Int) (c : Char) (h : l.contains c = false) :
    (pySlice l s e).contains c = false := by
  simp only [List.contains_eq_mem, decide_eq_false_iff_not] at h ⊢
  exact fun hc => h (mem_pySlice _ _ _ _ hc)

/-- `B` and `Z` have no table mass, so the two fields about them follow from the residues -/
theorem Resolves.of_residues {env : Pept.Env} {mono : Bool} {w : Char → Rat} {mw : Mod → Rat} {seq : List Char}
    (hres : ∀ c ∈ seq, aaMass mono c.toNat = some (w c)) (hmods : ∀ m : Mod, modMass env mono m = .ok (mw m)) :
    Resolves env mono w mw seq :=
  have h := noBZ_of_residues mono seq fun c hc => by rw [hres c hc]; rfl
  ⟨hres, h.1, h.2, hmods⟩

theorem resolves_slice (env : Pept.Env) (mono : Bool) (w : Char → Rat) (mw : Mod → Rat) (a : Annotation) (s e : Int)
    (hr : Resolves env mono w mw a.seq) : Resolves env mono w mw (slice a s e).seq := by
  rw [slice_seq]
  exact .of_residues (fun c hc => hr.residues c (mem_pySlice _ _ _ _ hc)) hr.mods

theorem eq_some_getD {α} {o : Option α} (d : α) (h : o.isSome = true) : o = some (o.getD d) := by
  cases o with
  | none => cases h
  | some v => rfl

/-- the concrete tables agree with the abstract parameters of the fragment model for one ion type -/
structure TablesAgree (P : MassParams) (mono : Bool) (t : Ion) : Prop where
  proton : P.proton = Gen.protonMass
  neutron : P.neutron = Gen.neutronMass
  /-- the `'n'` entry of `*_FRAGMENT_ADJUSTMENTS` is 0 (the fragmenter adds it to every component and once more) -/
  adjN : fragmentAdjMass mono ionN = some 0
  adjN' : P.fragAdjN mono = 0
  fragAdj : fragmentAdjMass mono (keyOfChars t.name) = some (P.fragAdj mono t)
  ionOffset : fragmentIonAdjMass mono (keyOfChars t.name) = some (P.ionOffset mono t)
  notP : keyOfChars t.name ≠ ionP
  notN : keyOfChars t.name ≠ ionN

/-- a component: `mass(slice(k, k+1), charge=0, ion_type='n', monoisotopic=mono)` is the weight of that slice -/
theorem component_eq (cm : CompMassFn) (env : Pept.Env) (mono : Bool) (w : Char → Rat) (mw : Mod → Rat)
    (a : Annotation) (s e : Int) (hp : Plain a) (hr : Resolves env mono w mw a.seq)
    (hN : fragmentAdjMass mono ionN = some 0) :
    massWith cm env (slice a s e) { charge := some 0, ion := ionN, mono := mono } =
      .ok (plainWeight w mw (slice a s e)) := by
  rw [massWith_plain cm env w mw (slice a s e) _ (plain_slice a s e hp) (resolves_slice env mono w mw a s e hr) rfl rfl]
  refine (adjustMass_parts _ (some 0) _ _ _ _ none _ 0 hN _ (chargeTerm_pn 0 ionN mono rfl)).trans ?_
  simp only [Chem.roundOpt]
  congr 1
  grind

/-! ### isotope-labelled peptides: the offset depends on the ion type *and* the charge -/

/-- the empty peptide carrying the isotope labels of `a` (what `_label_shift` hands to `mass`) -/
def blankOf (a : Annotation) : Annotation := { seq := [], isotope := a.isotope }

/-- `mass(b, charge=c, ion_type=t, monoisotopic=mono, isotope=iso, loss=loss)` -/
def massOf (cm : CompMassFn) (menv : Pept.Env) (mono : Bool) (b : Annotation) (t : Chem.Key) (c iso : Int) (loss : Rat) :
    Except Pept.Err Rat :=
  massWith cm menv b { charge := some c, ion := t, mono := mono, isotope := iso, loss := loss }

/-- **What the label path of `mass` has to satisfy** for the fragmenter's component sums to be right: on every slice of
the working copy `a` (and on the empty labelled peptide) the mass is
`residues + placed modifications + O(ion type, charge) + isotope·neutron + loss`, where the offset `O` — the labelled
ion-type adjustment plus the labelled charge carriers — depends on the ion type **and the charge** (with `<D>` the
charge-carrying hydrogens are labelled too), and nothing else. -/
structure LabelledDecomposes (cm : CompMassFn) (menv : Pept.Env) (mono : Bool) (a : Annotation)
    (w : Char → Rat) (mw : Mod → Rat) (t : Chem.Key) (O : Int → Rat) (neutron : Rat) : Prop where
  /-- as ion type `t`: residues + placed mods + `O charge` + isotope·neutron + loss -/
  slices : ∀ (s e : Int) (c iso : Int) (loss : Rat),
    massOf cm menv mono (slice a s e) t c iso loss =
      .ok (plainWeight w mw (slice a s e) + O c + (iso : Rat) * neutron + loss)
  /-- as the neutral species (`ion_type='n'`, charge 0): residues + placed mods, no offset -/
  comps : ∀ (s e : Int), massOf cm menv mono (slice a s e) ionN 0 0 0 = .ok (plainWeight w mw (slice a s e))
  /-- the empty labelled peptide as ion type `t`: the offset alone -/
  blank : ∀ (c : Int), massOf cm menv mono (blankOf a) t c 0 0 = .ok (O c)

/-- the components are the neutral masses of the one-residue slices; `O` is everything that does not come from residues -/
theorem mkFrag_mass_of_decomposes (cm : CompMassFn) (menv : Pept.Env) (w : Char → Rat) (mw : Mod → Rat)
    (O : Int → Rat) (j : Job) (t : Ion) (s len : Nat) (c iso : Int) (loss : Rat)
    (hd : LabelledDecomposes cm menv j.monoisotopic j.annotation w mw (keyOfChars t.name) O j.env.P.neutron)
    (hprec : j.precision = none) (hlen : s + (len + 1) ≤ j.annotation.seq.length)
    (hc : ∀ k : Nat, k < j.annotation.seq.length → ∃ x,
      massOf cm menv j.monoisotopic (slice j.annotation (k : Int) ((k : Int) + 1)) ionN 0 0 0 = .ok x ∧
      j.massComponents[k]? = some x)
    (hO : ionBase j t c iso loss = O c + (iso : Rat) * j.env.P.neutron + loss) :
    massOf cm menv j.monoisotopic (slice j.annotation (s : Int) ((s : Int) + (len : Int) + 1))
        (keyOfChars t.name) c iso loss =
      .ok (mkFrag j ⟨t, (s : Int), (s : Int) + (len : Int) + 1, c, iso, loss⟩).mass := by
  have hcomps : ∀ k : Nat, k < j.annotation.seq.length →
      j.massComponents[k]? = some (plainWeight w mw (slice j.annotation (k : Int) ((k : Int) + 1))) := by
    intro k hk
    obtain ⟨x, hx, hxk⟩ := hc k hk
    rw [hd.comps] at hx
    rw [hxk, ← Except.ok.inj hx]
  rw [hd.slices, mass_formula, hprec, spanSum_eq_plainWeight w mw j.annotation j.massComponents hcomps s len hlen, hO]
  simp only [roundOpt]
  congr 1
  grind

theorem plainWeight_blankOf (w : Char → Rat) (mw : Mod → Rat) (a : Annotation) : plainWeight w mw (blankOf a) = 0 := by
  simp only [plainWeight, blankOf, optSum, intSum, List.map_nil, List.sum_nil, Rat.add_zero]

theorem plain_blankOf (a : Annotation) (hp : Plain a) : Plain (blankOf a) :=
  ⟨rfl, hp.isotope, rfl, rfl, rfl, rfl⟩

theorem decomposes_plain (cm : CompMassFn) (menv : Pept.Env) (mono : Bool) (w : Char → Rat) (mw : Mod → Rat)
    (a : Annotation) (P : MassParams) (t : Ion) (hp : Plain a) (hr : Resolves menv mono w mw a.seq)
    (ht : TablesAgree P mono t) :
    LabelledDecomposes cm menv mono a w mw (keyOfChars t.name)
      (fun c => P.proton * ((c - 1 : Int) : Rat) + P.ionOffset mono t + P.fragAdj mono t) P.neutron := by
  have hpn : (keyOfChars t.name = ionP || keyOfChars t.name = ionN) = false := by
    simp [ht.notP, ht.notN]
  have key : ∀ (b : Annotation) (c iso : Int) (loss : Rat), Plain b → Resolves menv mono w mw b.seq →
      massOf cm menv mono b (keyOfChars t.name) c iso loss =
        .ok (plainWeight w mw b + (P.proton * ((c - 1 : Int) : Rat) + P.ionOffset mono t + P.fragAdj mono t) +
          (iso : Rat) * P.neutron + loss) := by
    intro b c iso loss hb hrb
    unfold massOf
    rw [massWith_plain cm menv w mw b _ hb hrb rfl rfl]
    refine (adjustMass_parts _ (some c) _ _ _ _ none _ _ ht.fragAdj _ (chargeTerm_fragment c _ mono _ hpn ht.ionOffset)).trans ?_
    simp only [Chem.roundOpt, ← ht.proton, ← ht.neutron, Rat.intCast_sub]
    congr 1
    grind
  refine ⟨fun s e c iso loss => key _ c iso loss (plain_slice a s e hp) (resolves_slice menv mono w mw a s e hr),
    fun s e => component_eq cm menv mono w mw a s e hp hr ht.adjN, fun c => ?_⟩
  rw [key _ c 0 0 (plain_blankOf a hp) ⟨fun _ hc => (nomatch hc), rfl, rfl, hr.mods⟩, plainWeight_blankOf]
  congr 1
  grind

/-- `ionBase` when the label shift is the mass `m` of the empty labelled peptide less the table terms: `m` replaces them -/
theorem ionBase_of_shift (j : Job) (t : Ion) (c iso : Int) (loss m : Rat) (hN : j.env.P.fragAdjN j.monoisotopic = 0)
    (hsh : labelShift j t c = m - (j.env.P.proton * ((c - 1 : Int) : Rat) + j.env.P.ionOffset j.monoisotopic t +
      j.env.P.fragAdj j.monoisotopic t)) :
    ionBase j t c iso loss = m + (iso : Rat) * j.env.P.neutron + loss := by
  simp only [ionBase, hsh, hN]
  grind

end Fragment
