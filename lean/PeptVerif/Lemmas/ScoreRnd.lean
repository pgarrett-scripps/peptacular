import PeptVerif.Spec.ScoreRnd
import PeptVerif.Lemmas.Score
/-! Error propagation through the rounded window bounds of C17: one rounded operation (`rnd_step`), a bound of the form
`rnd (x ∓ off)` (`rnd_bound_err`), hence all four bounds within `slack` of the exact ones. -/
namespace Score

/-- `rnd` has relative error at most `u` (IEEE binary64 round-to-nearest: `u = 2^-53` in the normal range; trusted,
see the header of `Spec/ScoreRnd.lean`) -/
def RndRel (rnd : Rat → Rat) (u : Rat) : Prop := ∀ z, |rnd z - z| ≤ u * |z|

/-- the absolute slack of the sandwich: `u·(|mz|+|tol|)` for th, `u·|mz| + 4u·|mz·tol/10⁶|` for ppm -/
def slack (u : Rat) (t : Tol) (tol x : Rat) : Rat :=
  match t with
  | .th => u * (|x| + |tol|)
  | .ppm => u * |x| + 4 * u * |x * tol / 1000000|

theorem RndRel.u_nonneg {rnd : Rat → Rat} {u : Rat} (h : RndRel rnd u) : 0 ≤ u := by
  have h1 := h 1
  rw [abs_one, mul_one] at h1
  exact (abs_nonneg _).trans h1

theorem rnd_step {rnd : Rat → Rat} {u : Rat} (hrel : RndRel rnd u) (z e b : Rat) (h : |z - e| ≤ b) :
    |rnd z - e| ≤ b + u * (|e| + b) := by
  have h2 : |z| ≤ |e| + b := sub_le_iff_le_add'.mp ((abs_sub_abs_le_abs_sub z e).trans h)
  calc |rnd z - e| ≤ |rnd z - z| + |z - e| := abs_sub_le _ _ _
    _ ≤ u * (|e| + b) + b := add_le_add ((hrel z).trans (mul_le_mul_of_nonneg_left h2 hrel.u_nonneg)) h
    _ = b + u * (|e| + b) := add_comm _ _

/-- A bound `rnd (x ∓ off)` whose offset is within `b` of `E` lies within `b + u(|x| + |E| + b)` of `x ∓ E`; all four
window bounds (th: `off = E = tol`, `b = 0`; ppm: the rounded offset) have this form. -/
theorem rnd_bound_err {rnd : Rat → Rat} {u : Rat} (hrel : RndRel rnd u) (x off E b : Rat) (h : |off - E| ≤ b) :
    |rnd (x - off) - (x - E)| ≤ b + u * (|x| + |E| + b) ∧ |rnd (x + off) - (x + E)| ≤ b + u * (|x| + |E| + b) := by
  have hu := hrel.u_nonneg
  have key : ∀ z e, |z - e| ≤ b → |e| ≤ |x| + |E| → |rnd z - e| ≤ b + u * (|x| + |E| + b) := fun z e hz he =>
    (rnd_step hrel z e b hz).trans (add_le_add_right (mul_le_mul_of_nonneg_left (add_le_add_left he b) hu) b)
  refine ⟨key _ _ ?_ (abs_sub x E), key _ _ ?_ (abs_add_le x E)⟩
  · rw [sub_sub_sub_cancel_left, abs_sub_comm]
    exact h
  · rw [add_sub_add_left_eq_sub]
    exact h

/-- the rounded ppm offset `rnd (rnd (x·tol) / 10⁶)` is within `(2u+u²)·|E|` of `E = x·tol/10⁶` -/
theorem ppm_offset_err {rnd : Rat → Rat} {u : Rat} (hrel : RndRel rnd u) (tol x : Rat) :
    |rnd (rnd (x * tol) / 1000000) - x * tol / 1000000|
      ≤ u * |x * tol / 1000000| + u * (|x * tol / 1000000| + u * |x * tol / 1000000|) := by
  refine rnd_step hrel _ _ _ ?_
  rw [← sub_div, abs_div, abs_div, abs_of_pos (by norm_num : (0 : Rat) < 1000000), ← mul_div_assoc]
  exact div_le_div_of_nonneg_right (hrel (x * tol)) (by norm_num)

theorem ppm_bound_err {rnd : Rat → Rat} {u : Rat} (hrel : RndRel rnd u) (hu : u ≤ 1/8) (tol x : Rat) :
    |loR rnd .ppm tol x - (x - x * tol / 1000000)| ≤ slack u .ppm tol x
    ∧ |hiR rnd .ppm tol x - (x + x * tol / 1000000)| ≤ slack u .ppm tol x := by
  have hu0 := hrel.u_nonneg
  have h := rnd_bound_err hrel x _ _ _ (ppm_offset_err hrel tol x)
  have hA := abs_nonneg (x * tol / 1000000)
  simp only [slack]
  generalize |x * tol / 1000000| = A at h hA ⊢
  -- with `t = u·A` the bound is `u|x| + 3t + 3ut + u²t`, which is `≤ u|x| + 4t` as soon as `3u + u² ≤ 1`; `u ≤ 1/8` is a
  -- round sufficient condition (`ut ≤ t/8`, `u²t ≤ ut/8`); doubles have `u = 2⁻⁵³`
  have ht : 0 ≤ u * A := mul_nonneg hu0 hA
  have h1 := mul_le_mul_of_nonneg_right hu ht
  have h2 := mul_le_mul_of_nonneg_right hu (mul_nonneg hu0 ht)
  have hfin : u * A + u * (A + u * A) + u * (|x| + A + (u * A + u * (A + u * A))) ≤ u * |x| + 4 * u * A := by
    linarith only [ht, h1, h2]
  exact ⟨h.1.trans hfin, h.2.trans hfin⟩

theorem th_bound_err {rnd : Rat → Rat} {u : Rat} (hrel : RndRel rnd u) (tol x : Rat) :
    |loR rnd .th tol x - (x - tol)| ≤ slack u .th tol x
    ∧ |hiR rnd .th tol x - (x + tol)| ≤ slack u .th tol x := by
  have h := rnd_bound_err hrel x tol tol 0 (by rw [sub_self, abs_zero])
  rw [zero_add, add_zero] at h
  exact h

theorem inWindowR_iff (rnd : Rat → Rat) (t : Tol) (tol y x : Rat) :
    inWindowR rnd t tol y x = true ↔ loR rnd t tol x ≤ y ∧ y ≤ hiR rnd t tol x := by
  simp only [inWindowR, Bool.and_eq_true, decide_eq_true_eq]

theorem sandwich_of_bound_err (rnd : Rat → Rat) (t : Tol) (tol x E S y : Rat)
    (hl : |loR rnd t tol x - (x - E)| ≤ S) (hh : |hiR rnd t tol x - (x + E)| ≤ S) :
    (|y - x| ≤ E - S → inWindowR rnd t tol y x = true) ∧ (inWindowR rnd t tol y x = true → |y - x| ≤ E + S) := by
  rw [inWindowR_iff]
  have ⟨l1, l2⟩ := abs_le.mp hl
  have ⟨h1, h2⟩ := abs_le.mp hh
  constructor
  · intro h
    have ⟨a, b⟩ := abs_le.mp h
    exact ⟨by linarith only [l2, a], by linarith only [h1, b]⟩
  · rintro ⟨a, b⟩
    exact abs_le.mpr ⟨by linarith only [l1, a], by linarith only [h2, b]⟩

end Score
