import PeptVerif.Lemmas.Mass
import PeptVerif.Lemmas.StaticMods
/-! Lemmas for C03.  The composition calculator is walked stage by stage free of masses and of the mode, under `AllReady` (what
the path asks of the resolver), up to `compMass_parts`; `resComp_mass` / `modsCompOf_mass` weigh the parts under any mass
assignment.  What depends on the mode (row gap, residues, charge carrier, the fast path at the library's weights) stands
beside the walk and meets it in `mass_eq_compMass`.  The table fact `ionTablesOk` is a hypothesis here and evaluated in
`Props/C02` (`ion_tables_ok`). -/
namespace Pept
open Chem Mass Spec CompCalc

namespace CompCalc

/-- the mass `chem_mass` assigns to one dict key in the given mode (0 for an unknown key) -/
abbrev μ (mono : Bool) : Elem → Rat := fun e => (elemMass mono e).getD 0

def resMass (env : Env) (mono : Bool) (v : ModVal) : Except Err Rat :=
  if mono then (env.res v).mono else (env.res v).avg

/-- the resolution of one modification value is usable by both calculators: a plain shift whose mass is the shift, or a
composition together with a tabulated mass in the mode (their difference is the row's `gap`, see `gapOf`) -/
def Consistent (env : Env) (mono : Bool) (v : ModVal) : Prop :=
  (∃ d, (env.res v).delta = .ok (some d) ∧ resMass env mono v = .ok d) ∨
  (∃ c x, (env.res v).delta = .ok none ∧ (env.res v).comp = .ok c ∧ resMass env mono v = .ok x)

/-- … and exactly self-consistent: the tabulated mass IS the mass of the composition in the mode -/
def ExactlyConsistent (env : Env) (mono : Bool) (v : ModVal) : Prop :=
  (∃ d, (env.res v).delta = .ok (some d) ∧ resMass env mono v = .ok d) ∨
  (∃ c, (env.res v).delta = .ok none ∧ (env.res v).comp = .ok c ∧ resMass env mono v = .ok (chemMassL (μ mono) c))

def AllConsistent (env : Env) (mono : Bool) (l : List Mod) : Prop := ∀ m ∈ l, Consistent env mono m.val

/-- the delta / comp half of `Consistent`: nothing about masses or the mode -/
def CompReady (env : Env) (v : ModVal) : Prop :=
  (∃ d, (env.res v).delta = .ok (some d)) ∨ ((env.res v).delta = .ok none ∧ ∃ c, (env.res v).comp = .ok c)

def AllReady (env : Env) (l : List Mod) : Prop := ∀ m ∈ l, CompReady env m.val

theorem Consistent.ready {env : Env} {mono : Bool} {v : ModVal} (h : Consistent env mono v) : CompReady env v := by
  rcases h with ⟨d, hd, _⟩ | ⟨c, x, hd, hc, _⟩
  · exact Or.inl ⟨d, hd⟩
  · exact Or.inr ⟨hd, c, hc⟩

theorem AllConsistent.ready {env : Env} {mono : Bool} {l : List Mod} (h : AllConsistent env mono l) : AllReady env l :=
  fun m hm => (h m hm).ready

theorem allReady_append (env : Env) (a b : List Mod) : AllReady env (a ++ b) ↔ AllReady env a ∧ AllReady env b :=
  List.forall_mem_append

def deltaPart (env : Env) (m : Mod) : Rat :=
  match (env.res m.val).delta with
  | .ok (some d) => d * (m.mult : Rat)
  | _ => 0

def isKept (env : Env) (m : Mod) : Bool :=
  match (env.res m.val).delta with
  | .ok (some _) => false
  | _ => true

def compOf (env : Env) (m : Mod) : Comp :=
  match (env.res m.val).comp with
  | .ok c => scale (m.mult : Rat) c
  | .error _ => []

def keptOf (env : Env) (l : List Mod) : List Mod := l.filter (isKept env)

/-- the row gap of one written modification: (tabulated mass − mass of its composition) × multiplier; 0 for plain shifts -/
def gapOf (env : Env) (mono : Bool) (m : Mod) : Rat :=
  if isKept env m then modValue env mono m - chemMassL (μ mono) (compOf env m) else 0

def gapSum (env : Env) (mono : Bool) (l : List Mod) : Rat := sumR (l.map (gapOf env mono))

def sumF (f : Mod → Rat) (l : List Mod) : Rat := sumR (l.map f)

theorem modsValue_eq_sumF (env : Env) (mono : Bool) (l : List Mod) : modsValue env mono l = sumF (modValue env mono) l := rfl
theorem gapSum_eq_sumF (env : Env) (mono : Bool) (l : List Mod) : gapSum env mono l = sumF (gapOf env mono) l := rfl

theorem sumF_append (f : Mod → Rat) (a b : List Mod) : sumF f (a ++ b) = sumF f a + sumF f b := by
  simp [sumF, sumR_append]

theorem sumF_perm (f : Mod → Rat) {l₁ l₂ : List Mod} (h : l₁.Perm l₂) : sumF f l₁ = sumF f l₂ := RatSum.sum_perm (h.map f)

theorem gapSum_append (env : Env) (mono : Bool) (a b : List Mod) :
    gapSum env mono (a ++ b) = gapSum env mono a + gapSum env mono b := by
  simp [gapSum, sumR_append]

theorem popList_ok (env : Env) (l : List Mod) (h : AllReady env l) :
    popList env l = .ok (sumF (deltaPart env) l, keptOf env l) := by
  unfold popList sumF keptOf
  induction l with
  | nil => rfl
  | cons m l ih =>
    rw [List.foldrM_cons, ih fun x hx => h x (List.mem_cons_of_mem _ hx), ExceptList.ok_bind]
    -- a shift is added and dropped, anything else kept: the same steps on either answer of `delta`
    rcases h m List.mem_cons_self with ⟨d, hd⟩ | ⟨hd, _⟩ <;>
    · rw [hd, ExceptList.ok_bind]
      simp only [List.map_cons, sumR_cons, List.filter_cons, deltaPart, isKept, hd]
      show Except.ok _ = Except.ok _
      congr 2
      ring

theorem isKept_of_shift {env : Env} {m : Mod} {d : Rat} (hd : (env.res m.val).delta = .ok (some d)) : isKept env m = false := by
  unfold isKept; rw [hd]

theorem isKept_of_comp {env : Env} {m : Mod} (hd : (env.res m.val).delta = .ok none) : isKept env m = true := by
  unfold isKept; rw [hd]

theorem modValue_of_resMass {env : Env} {mono : Bool} {m : Mod} {x : Rat} (h : resMass env mono m.val = .ok x) :
    modValue env mono m = x * (m.mult : Rat) := by
  unfold modValue
  rw [show (if mono then (env.res m.val).mono else (env.res m.val).avg) = resMass env mono m.val from rfl, h]

theorem modResolves_of_resMass {env : Env} {mono : Bool} {m : Mod} {x : Rat} (h : resMass env mono m.val = .ok x) :
    modResolves env mono m = true := by
  unfold modResolves
  rw [show (if mono then (env.res m.val).mono else (env.res m.val).avg) = resMass env mono m.val from rfl, h]

theorem gapOf_shift {env : Env} {m : Mod} {d : Rat} (mono : Bool) (hd : (env.res m.val).delta = .ok (some d)) :
    gapOf env mono m = 0 := by
  unfold gapOf; rw [isKept_of_shift hd]; rfl

theorem gapOf_comp {env : Env} {mono : Bool} {m : Mod} {c : Comp} {x : Rat} (hd : (env.res m.val).delta = .ok none)
    (hc : (env.res m.val).comp = .ok c) (hm : resMass env mono m.val = .ok x) :
    gapOf env mono m = (x - chemMassL (μ mono) c) * (m.mult : Rat) := by
  unfold gapOf compOf
  rw [isKept_of_comp hd, if_pos rfl, modValue_of_resMass hm, hc, chemMassL_scale]
  ring

theorem modValue_split (env : Env) (mono : Bool) (m : Mod) (h : Consistent env mono m.val) :
    modValue env mono m = deltaPart env m + (if isKept env m then chemMassL (μ mono) (compOf env m) else 0)
      + gapOf env mono m := by
  rcases h with ⟨d, hd, hm⟩ | ⟨c, x, hd, hc, hm⟩
  · rw [gapOf_shift mono hd, isKept_of_shift hd, modValue_of_resMass hm]
    unfold deltaPart
    rw [hd]; simp
  · have hdp : deltaPart env m = 0 := by unfold deltaPart; rw [hd]
    rw [hdp, isKept_of_comp hd]
    unfold gapOf
    rw [isKept_of_comp hd]
    simp only [if_true]
    ring

theorem modsValue_split (env : Env) (mono : Bool) (l : List Mod) (h : AllConsistent env mono l) :
    modsValue env mono l = sumF (deltaPart env) l
      + sumF (fun m => if isKept env m then chemMassL (μ mono) (compOf env m) else 0) l + gapSum env mono l := by
  unfold modsValue gapSum sumF
  induction l with
  | nil => simp [sumR_nil]
  | cons m l ih =>
    simp only [List.map_cons, sumR_cons, ih fun x hx => h x (List.mem_cons_of_mem _ hx),
      modValue_split env mono m (h m List.mem_cons_self)]
    ring

theorem sumF_kept (env : Env) (f : Mod → Rat) (l : List Mod) :
    sumF f (keptOf env l) = sumF (fun m => if isKept env m then f m else 0) l := by
  unfold keptOf sumF
  induction l with
  | nil => rfl
  | cons m l ih =>
    rw [List.filter_cons, List.map_cons, sumR_cons, ← ih]
    split
    · rfl
    · exact (zero_add _).symm

def HasComps (env : Env) (l : List Mod) : Prop := ∀ m ∈ l, ∃ c, (env.res m.val).comp = .ok c

theorem kept_has_comp (env : Env) (l : List Mod) (h : AllReady env l) : HasComps env (keptOf env l) := by
  intro m hm
  obtain ⟨hml, hk⟩ := List.mem_filter.mp hm
  rcases h m hml with ⟨d, hd⟩ | ⟨_, hc⟩
  · rw [isKept_of_shift hd] at hk; cases hk
  · exact hc

theorem modComp_ok (env : Env) (m : Mod) (h : ∃ c, (env.res m.val).comp = .ok c) :
    modComp env m = .ok (compOf env m) := by
  obtain ⟨c, hc⟩ := h
  unfold modComp compOf
  rw [hc]
  rfl

theorem addMods_eq (env : Env) (acc : Comp) (l : List Mod) (h : HasComps env l) :
    addMods env acc l = .ok (addAlls acc (l.map (compOf env))) :=
  foldlM_addAll _ _ l (fun acc m hm => by rw [modComp_ok env m (h m hm)]; rfl) acc

/-- the compositions of the kept modifications of `l`, added up -/
def modsCompOf (env : Env) (l : List Mod) : Comp := addAlls [] ((keptOf env l).map (compOf env))

theorem modsCompOf_mass (env : Env) (ν : Elem → Rat) (l : List Mod) :
    chemMassL ν (modsCompOf env l) = sumF (fun m => if isKept env m then chemMassL ν (compOf env m) else 0) l := by
  rw [modsCompOf, chemMassL_addAlls, chemMassL_nil, zero_add, List.map_map, ← sumR_eq_sum, ← sumF_kept]; rfl

def ivMods (ivs : Option (List Interval)) : List Mod := (ivs.getD []).flatMap (fun iv => iv.mods.getD [])
def intMods (d : Option (List (Int × List Mod))) : List Mod := (d.getD []).flatMap (·.2)

theorem addMods_append (env : Env) (acc : Comp) (l₁ l₂ : List Mod) :
    addMods env acc (l₁ ++ l₂) = addMods env acc l₁ >>= fun c => addMods env c l₂ := List.foldlM_append

theorem addOptMods_eq (env : Env) (acc : Comp) (o : Option (List Mod)) :
    addOptMods env acc o = addMods env acc (o.getD []) := by cases o <;> rfl

theorem foldlM_addMods {α} (env : Env) (f : α → List Mod) (l : List α) (acc : Comp) :
    l.foldlM (fun acc x => addMods env acc (f x)) acc = addMods env acc (l.flatMap f) := by
  induction l generalizing acc with
  | nil => rfl
  | cons x l ih => rw [List.foldlM_cons, List.flatMap_cons, addMods_append]; simp only [ih]

/-- the order in which `_sequence_comp` adds the placed modifications -/
def compOrder (a : Annotation) (ion : Key) : List Mod :=
  a.unknown.getD [] ++ ivMods a.intervals ++ (if ion = ionP then a.labile.getD [] else []) ++ a.nterm.getD [] ++
    a.cterm.getD [] ++ intMods a.internal

theorem modsComp_eq (env : Env) (a : Annotation) (ion : Key) (hs : a.static = none) :
    modsComp env a ion = addMods env [] (compOrder a ion) := by
  have hiv : ∀ acc, intervalsComp env acc a.intervals = addMods env acc (ivMods a.intervals) := by
    intro acc
    unfold ivMods
    cases a.intervals with
    | none => rfl
    | some l => simp only [intervalsComp, addOptMods_eq, foldlM_addMods, Option.getD_some]
  have hin : ∀ acc, internalComp env acc a.internal = addMods env acc (intMods a.internal) := by
    intro acc
    unfold intMods
    cases a.internal with
    | none => rfl
    | some l => simp only [internalComp, foldlM_addMods, Option.getD_some]
  have hl : ∀ acc, labileComp env acc a ion = addMods env acc (if ion = ionP then a.labile.getD [] else []) := by
    intro acc; unfold labileComp; split
    · exact addOptMods_eq env acc _
    · rfl
  unfold modsComp compOrder addStatic
  simp only [hs, hiv, hin, hl, addOptMods_eq, addMods_append, bind_assoc, bind_pure]

theorem foldr_fst_sum {β} (l : List (Rat × β)) : l.foldr (fun r acc => r.1 + acc) 0 = sumR (l.map (·.1)) := by
  rw [sumR_eq_sum, List.sum_eq_foldr, List.foldr_map]

theorem popOpt_ok (env : Env) (o : Option (List Mod)) (h : AllReady env (o.getD [])) :
    popOpt env o = .ok (sumF (deltaPart env) (o.getD []), o.map (keptOf env)) := by
  cases o with
  | none => rfl
  | some l =>
    show (do let (d, k) ← popList env l; pure (d, some k)) = _
    rw [popList_ok env l h]
    rfl

def keptInterval (env : Env) (iv : Interval) : Interval := { iv with mods := iv.mods.map (keptOf env) }
def keptEntry (env : Env) (p : Int × List Mod) : Int × List Mod := (p.1, keptOf env p.2)

theorem popInterval_ok (env : Env) (iv : Interval) (h : AllReady env (iv.mods.getD [])) :
    popInterval env iv = .ok (sumF (deltaPart env) (iv.mods.getD []), keptInterval env iv) := by
  unfold popInterval
  rw [popOpt_ok env iv.mods h]
  rfl

theorem popEntry_ok (env : Env) (p : Int × List Mod) (h : AllReady env p.2) :
    popEntry env p = .ok (sumF (deltaPart env) p.2, keptEntry env p) := by
  unfold popEntry
  rw [popList_ok env p.2 h]
  rfl

theorem popUnits_ok {α} (env : Env) (pop : α → Except Err (Rat × α)) (f : α → List Mod) (k : α → α) (l : List α)
    (h : ∀ x ∈ l, pop x = .ok (sumF (deltaPart env) (f x), k x)) :
    (do let rs ← l.mapM pop; pure (rs.foldr (fun r acc => r.1 + acc) 0, some (rs.map (·.2))))
      = Except.ok (sumF (deltaPart env) (l.flatMap f), some (l.map k)) := by
  rw [ExceptList.mapM_ok h, ExceptList.ok_bind, foldr_fst_sum]
  unfold sumF
  rw [sumR_flatMap]
  simp [List.map_map, Function.comp_def]

theorem popIntervals_ok (env : Env) (ivs : Option (List Interval))
    (h : AllReady env (ivMods ivs)) :
    popIntervals env ivs = .ok (sumF (deltaPart env) (ivMods ivs), ivs.map (List.map (keptInterval env))) := by
  cases ivs with
  | none => rfl
  | some l =>
    exact popUnits_ok env _ _ _ l fun iv hiv =>
      popInterval_ok env iv fun m hm => h m (List.mem_flatMap.mpr ⟨iv, hiv, hm⟩)

theorem popInternal_ok (env : Env) (d : Option (List (Int × List Mod)))
    (h : AllReady env (intMods d)) :
    popInternal env d = .ok (sumF (deltaPart env) (intMods d), d.map (List.map (keptEntry env))) := by
  cases d with
  | none => rfl
  | some l =>
    exact popUnits_ok env _ _ _ l fun p hp =>
      popEntry_ok env p fun m hm => h m (List.mem_flatMap.mpr ⟨p, hp, hm⟩)

def popped (env : Env) (a : Annotation) : Annotation :=
  { a with labile := a.labile.map (keptOf env), unknown := a.unknown.map (keptOf env),
           nterm := a.nterm.map (keptOf env), cterm := a.cterm.map (keptOf env),
           intervals := a.intervals.map (List.map (keptInterval env)),
           internal := a.internal.map (List.map (keptEntry env)) }

/-- every modification written in the annotation (global rules excluded) -/
def writtenMods (a : Annotation) : List Mod :=
  a.labile.getD [] ++ a.unknown.getD [] ++ a.nterm.getD [] ++ a.cterm.getD [] ++ ivMods a.intervals ++ intMods a.internal

theorem popDeltaMassMods_ok (env : Env) (a : Annotation) (h : AllReady env (writtenMods a)) :
    popDeltaMassMods env a = .ok (sumF (deltaPart env) (writtenMods a), popped env a) := by
  unfold writtenMods at h ⊢
  simp only [allReady_append] at h
  obtain ⟨⟨⟨⟨⟨h1, h2⟩, h3⟩, h4⟩, h5⟩, h6⟩ := h
  unfold popDeltaMassMods
  rw [popOpt_ok env _ h1, ExceptList.ok_bind]; dsimp only
  rw [popOpt_ok env _ h2, ExceptList.ok_bind]; dsimp only
  rw [popOpt_ok env _ h3, ExceptList.ok_bind]; dsimp only
  rw [popOpt_ok env _ h4, ExceptList.ok_bind]; dsimp only
  rw [popIntervals_ok env _ h5, ExceptList.ok_bind]; dsimp only
  rw [popInternal_ok env _ h6, ExceptList.ok_bind]
  simp only [sumF_append]
  rfl

theorem keptOf_append (env : Env) (a b : List Mod) : keptOf env (a ++ b) = keptOf env a ++ keptOf env b := by
  simp [keptOf]

theorem getD_map_kept (env : Env) (o : Option (List Mod)) : (o.map (keptOf env)).getD [] = keptOf env (o.getD []) := by
  cases o <;> rfl

theorem ivMods_popped (env : Env) (ivs : Option (List Interval)) :
    ivMods (ivs.map (List.map (keptInterval env))) = keptOf env (ivMods ivs) := by
  cases ivs with
  | none => rfl
  | some l =>
    unfold ivMods keptOf
    simp only [Option.map_some, Option.getD_some, List.flatMap_map, List.filter_flatMap]
    congr 1
    funext iv
    exact getD_map_kept env iv.mods

theorem intMods_popped (env : Env) (d : Option (List (Int × List Mod))) :
    intMods (d.map (List.map (keptEntry env))) = keptOf env (intMods d) := by
  cases d with
  | none => rfl
  | some l =>
    unfold intMods keptOf
    simp only [Option.map_some, Option.getD_some, List.flatMap_map, List.filter_flatMap]
    rfl

theorem placedMods_eq (a : Annotation) (ion : Key) :
    placedMods a ion = (if ion = ionP then a.labile.getD [] else []) ++ a.unknown.getD [] ++ a.nterm.getD [] ++
      ivMods a.intervals ++ intMods a.internal ++ a.cterm.getD [] := rfl

theorem placedMods_subset (a : Annotation) (ion : Key) : ∀ m ∈ placedMods a ion, m ∈ writtenMods a := by
  intro m hm
  rw [placedMods_eq] at hm
  unfold writtenMods
  by_cases hp : ion = ionP
  · simp only [hp, if_true, List.mem_append] at hm ⊢
    rcases hm with ((((h | h) | h) | h) | h) | h <;> simp only [h, true_or, or_true]
  · simp only [hp, if_false, List.nil_append, List.mem_append] at hm ⊢
    rcases hm with (((h | h) | h) | h) | h <;> simp only [h, true_or, or_true]

theorem compOrder_popped (env : Env) (a : Annotation) (ion : Key) :
    compOrder (popped env a) ion = keptOf env (compOrder a ion) := by
  unfold compOrder popped
  simp only [getD_map_kept, ivMods_popped, intMods_popped, keptOf_append]
  split <;> rfl

/-- the same lists appended in another order: count each modification (`List.perm_iff_count`, `omega`), here and below -/
theorem compOrder_perm (a : Annotation) (ion : Key) : (compOrder a ion).Perm (placedMods a ion) := by
  rw [placedMods_eq, List.perm_iff_count]
  intro m
  unfold compOrder
  simp only [List.count_append]
  omega

theorem modsComp_popped (env : Env) (a : Annotation) (ion : Key) (hs : a.static = none) :
    modsComp env (popped env a) ion = addMods env [] (keptOf env (compOrder a ion)) := by
  rw [modsComp_eq env _ ion (show (popped env a).static = none from hs), compOrder_popped]

def resSum (mono : Bool) (seq : List Char) : Rat :=
  sumR (seq.map fun ch => constMass mono ((lookup ch.toNat Gen.aaComp).getD []))

def KnownResidues (seq : List Char) : Prop := ∀ ch ∈ seq, ∃ f, lookup ch.toNat Gen.aaComp = some f

theorem residues_lib (mono : Bool) (seq : List Char) (h : KnownResidues seq) :
    ∀ ch ∈ seq, aaMass mono ch.toNat = some (constMass mono ((lookup ch.toNat Gen.aaComp).getD [])) := by
  intro ch hch
  obtain ⟨f, hf⟩ := h ch hch
  rw [aaMass, hf]
  rfl

/-- Σ `AA_COMPOSITIONS[aa]` -/
def resComp (seq : List Char) : Comp := addAlls [] (seq.map fun ch => (lookup ch.toNat Gen.aaComp).getD [])

theorem residueComp_eq (seq : List Char) (h : KnownResidues seq) : residueComp seq = .ok (resComp seq) :=
  foldlM_addAll _ _ seq (fun acc ch hch => by obtain ⟨f, hf⟩ := h ch hch; rw [hf]; rfl) []

theorem resComp_mass (ν : Elem → Rat) (seq : List Char) :
    chemMassL ν (resComp seq) = sumR (seq.map fun ch => chemMassL ν ((lookup ch.toNat Gen.aaComp).getD [])) := by
  rw [resComp, chemMassL_addAlls, chemMassL_nil, zero_add, List.map_map, ← sumR_eq_sum]; rfl

theorem constMass_eq_mu (mono : Bool) (c : Comp) : constMass mono c = chemMassL (μ mono) c := rfl

theorem resComp_resSum (mono : Bool) (seq : List Char) : chemMassL (μ mono) (resComp seq) = resSum mono seq :=
  resComp_mass (μ mono) seq

theorem noBZ (seq : List Char) (h : KnownResidues seq) : seq.contains 'B' = false ∧ seq.contains 'Z' = false :=
  noBZ_of_residues true seq fun ch hch => by rw [residues_lib true seq h ch hch]; rfl

theorem mu_electron (mono : Bool) : μ mono kE = Gen.electronMass := by
  simp only [μ, elemMass_eq_lit]
  decide +kernel +revert

theorem mu_neutron (mono : Bool) : μ mono kNn = Gen.neutronMass := by
  simp only [μ, elemMass_eq_lit]
  decide +kernel +revert

/-- h⁺ = m(H) − mₑ in the mode's hydrogen mass -/
def hplus (mono : Bool) : Rat := μ mono kH - Gen.electronMass

theorem protonsComp_mass (mono : Bool) (n : Int) :
    chemMassL (μ mono) (addAll [] (protonsComp n)) = (n : Rat) * hplus mono := by
  rw [chemMassL_addAll]
  unfold protonsComp hplus
  rw [chemMassL_cons, chemMassL_cons, chemMassL_nil]
  simp only
  rw [mu_electron]
  ring

/-- the two encodings of the +1 ion agree: for every ion type but `n` (whose adduct text is empty and never parsed), the
composition parsed from `FRAGMENT_ION_BASE_CHARGE_ADDUCTS[t]` is `FRAGMENT_ION_COMPOSITIONS[t]` up to zero counts -/
def ionTablesOk : Bool :=
  Gen.ionComp.all (fun p =>
    p.1 == ionN ||
    (match lookup p.1 Gen.baseAdducts with
      | none => false
      | some s => match chargeAdductsCompStr s with
        | .ok c => decide (dropZeros c = dropZeros (addAll [] p.2))
        | .error _ => false))

theorem baseAdducts_of_tables (hI : ionTablesOk = true) (ion : Key) (ic : Comp) (hic : lookup ion Gen.ionComp = some ic)
    (hn : ion ≠ ionN) :
    ∃ s base, lookup ion Gen.baseAdducts = some s ∧ chargeAdductsCompStr s = .ok base ∧
      ∀ ν : Elem → Rat, chemMassL ν base = chemMassL ν ic := by
  have hm := mem_of_lookup ion _ ic hic
  have := List.all_eq_true.mp hI (ion, ic) hm
  simp only [Bool.or_eq_true, beq_iff_eq] at this
  rcases this with h | h
  · exact absurd h hn
  · cases hs : lookup ion Gen.baseAdducts with
    | none => rw [hs] at h; simp at h
    | some s =>
      rw [hs] at h
      simp only at h
      cases hb : chargeAdductsCompStr s with
      | error e => rw [hb] at h; simp at h
      | ok base =>
        rw [hb] at h
        have hd : dropZeros base = dropZeros (addAll [] ic) := of_decide_eq_true h
        refine ⟨s, base, rfl, hb, ?_⟩
        intro ν
        rw [← chemMassL_dropZeros ν base, hd, chemMassL_dropZeros, chemMassL_addAll, chemMassL_nil]
        ring

/-- default charge carriers (`H⁺`) next to the ion type's own: `z` for `p`/`n`, `z − 1` for a fragment type -/
def carrierCount (ion : Key) (z : Int) : Rat := if ion = ionP || ion = ionN then (z : Rat) else (z : Rat) - 1

/-- the ion type's own charge carrier as the mass calculator tabulates it (`p`/`n` have none) -/
def ownCarrierMass (mono : Bool) (ion : Key) : Rat :=
  if ion = ionP || ion = ionN then 0 else (fragmentIonAdjMass mono ion).getD 0

/-- the default charge carrier in both calculators: `carrierCount` hydrogen cations, counted as `H − e` in the composition
and as `PROTON_MASS` in the mass, plus the ion type's own carrier, the same table entry on both sides -/
theorem defaultCarrier_ok (hI : ionTablesOk = true) (mono : Bool) (ion : Key) (z : Int)
    (hion : ion = ionP ∨ ion = ionN ∨ (lookup ion Gen.ionComp).isSome = true) :
    ∃ car, defaultCarrier z ion = .ok car ∧
      (ion = ionP ∨ ion = ionN ∨ (lookup ion Gen.baseAdducts).isSome = true) ∧
      chemMassL (μ mono) car = carrierCount ion z * hplus mono + ownCarrierMass mono ion ∧
      Mass.chargeTerm z ion mono none = .ok (Gen.protonMass * carrierCount ion z + ownCarrierMass mono ion) := by
  unfold defaultCarrier carrierCount ownCarrierMass
  by_cases hpn : (ion = ionP || ion = ionN) = true
  · simp only [hpn, if_true]
    refine ⟨_, rfl, ?_, ?_, ?_⟩
    · simp only [Bool.or_eq_true, decide_eq_true_eq] at hpn; tauto
    · rw [protonsComp_mass]; ring
    · rw [chargeTerm_pn z ion mono hpn, add_zero]
  · have hpn' : (ion = ionP || ion = ionN) = false := by simpa using hpn
    have hn : ion ≠ ionN := by rintro rfl; simp at hpn'
    have hic : (lookup ion Gen.ionComp).isSome = true := by
      rcases hion with h | h | h
      · rw [h] at hpn'; simp at hpn'
      · exact absurd h hn
      · exact h
    obtain ⟨ic, hic⟩ := Option.isSome_iff_exists.mp hic
    obtain ⟨s, base, hs, hb, hbm⟩ := baseAdducts_of_tables hI ion ic hic hn
    have hfi : fragmentIonAdjMass mono ion = some (constMass mono ic) := congrArg (Option.map (constMass mono)) hic
    simp only [hpn', Bool.false_eq_true, if_false, hs, hb, hfi, ExceptList.ok_bind, Option.getD_some]
    refine ⟨_, rfl, Or.inr (Or.inr rfl), ?_, chargeTerm_fragment z ion mono _ hpn' hfi⟩
    rw [chemMassL_addAll, protonsComp_mass, hbm]
    push_cast
    rfl

theorem seqBaseComp_ok (b : Annotation) (ion : Key) (rc adj car : Comp) (hrc : residueComp b.seq = .ok rc)
    (hadj : lookup ion neutralAdj = some adj) (hcar : carrierComp b ion = .ok car) :
    seqBaseComp b ion = .ok (addAll (addAll rc adj) car) := by
  unfold seqBaseComp
  rw [hrc, ExceptList.ok_bind, hadj]
  simp only
  rw [hcar]
  rfl

theorem override_fields (a : Annotation) (ch : Option Int) (ad : Option ModVal) (iso : Option (List Mod)) :
    (overrideArgs a ch ad iso).static = a.static ∧ (overrideArgs a ch ad iso).seq = a.seq ∧
    writtenMods (overrideArgs a ch ad iso) = writtenMods a ∧
    (∀ ion, placedMods (overrideArgs a ch ad iso) ion = placedMods a ion) ∧
    (overrideArgs a ch ad iso).charge = (match ch with | some c => some c | none => a.charge) ∧
    (overrideArgs a ch ad iso).adducts = (match ad with | some v => some [⟨v, 1⟩] | none => a.adducts) ∧
    (overrideArgs a ch ad iso).isotope = (match iso with | some l => some l | none => a.isotope) := by
  cases ch <;> cases ad <;> cases iso <;> exact ⟨rfl, rfl, rfl, fun _ => rfl, rfl, rfl, rfl⟩

/-- what is written once the labile modifications of a fragment are dropped, and what is placed, are the same
modifications in another order -/
theorem written_dropLabile_perm (b : Annotation) (ion : Key) :
    (writtenMods (dropLabile b ion)).Perm (placedMods b ion) := by
  rw [placedMods_eq, List.perm_iff_count]
  intro m
  unfold writtenMods dropLabile
  by_cases hp : ion = ionP
  · simp only [hp, if_true, List.count_append]; omega
  · simp only [hp, if_false, Option.getD_none, List.nil_append, List.count_append]; omega

theorem compOrder_dropLabile (b : Annotation) (ion : Key) : compOrder (dropLabile b ion) ion = compOrder b ion := by
  unfold compOrder dropLabile
  by_cases hp : ion = ionP <;> simp [hp]

theorem popped_dropLabile_fields (env : Env) (b : Annotation) (ion : Key) :
    (popped env (dropLabile b ion)).adducts = b.adducts ∧ (popped env (dropLabile b ion)).isotope = b.isotope ∧
    (popped env (dropLabile b ion)).seq = b.seq ∧ (popped env (dropLabile b ion)).charge = b.charge ∧
    (popped env (dropLabile b ion)).static = b.static := by
  unfold popped dropLabile
  split <;> exact ⟨rfl, rfl, rfl, rfl, rfl⟩

theorem findAll_go_length (pat : List Char) (fuel : Nat) (s : List Char) (i : Nat) :
    (findAll.go pat s i fuel).length = countSub.go pat s fuel := by
  induction fuel generalizing s i with
  | zero => rfl
  | succ fuel ih =>
    cases s with
    | nil => rfl
    | cons c r =>
      unfold findAll.go countSub.go
      by_cases hp : pat.isPrefixOf (c :: r) = true
      · simp only [hp, if_true, List.length_cons, ih]; omega
      · simp only [hp, Bool.false_eq_true, if_false, ih]

theorem findAll_length (pat s : List Char) : (findAll pat s).length = countSub pat s := by
  unfold findAll countSub
  by_cases hp : pat.isEmpty = true
  · simp [hp]
  · simp only [hp, Bool.false_eq_true, if_false]; exact findAll_go_length pat _ s 0

/-- the model of C12 has the same dict update under its own name; through this equation `Static.addInternalAt_perm` serves here -/
theorem addAt_eq : @addAt = @Static.internalAppend := by
  funext d i l
  induction d with
  | nil => rfl
  | cons p d ih => obtain ⟨k, v⟩ := p; simp only [addAt, Static.internalAppend, ih]

theorem addInternal_eq : @addInternal = @Static.addInternal := by
  funext d i l
  cases d <;> simp only [addInternal, Static.addInternal, addAt_eq]

theorem condenseRule_internal (a : Annotation) (p : List Char × List Mod) :
    condenseRule a p = { a with internal := (if p.1 = nTerm || p.1 = cTerm then a.internal
                                               else Static.addInternalAt a.internal (findAll p.1 a.seq) p.2) } := by
  unfold condenseRule
  split
  · rfl
  · generalize findAll p.1 a.seq = idx
    induction idx generalizing a with
    | nil => rfl
    | cons i idx ih => rw [List.foldl_cons, ih, addInternal_eq]; rfl

def mapMods (map : List (List Char × List Mod)) : List Mod := map.flatMap (·.2)

theorem mapMods_nil : mapMods [] = [] := rfl

def ruleCopies (seq : List Char) (p : List Char × List Mod) : List Mod :=
  if p.1 = nTerm || p.1 = cTerm then [] else (List.replicate (countSub p.1 seq) p.2).flatten

theorem foldl_condenseRule (map : List (List Char × List Mod)) (a : Annotation) :
    ∃ d, map.foldl condenseRule a = { a with internal := d } ∧
      (intMods d).Perm (intMods a.internal ++ map.flatMap (ruleCopies a.seq)) := by
  induction map generalizing a with
  | nil => exact ⟨a.internal, rfl, by simp⟩
  | cons p map ih =>
    rw [List.foldl_cons, condenseRule_internal]
    obtain ⟨d, hd, hp⟩ := ih { a with internal := (if p.1 = nTerm || p.1 = cTerm then a.internal
      else Static.addInternalAt a.internal (findAll p.1 a.seq) p.2) }
    refine ⟨d, hd, hp.trans ?_⟩
    rw [List.flatMap_cons, ← List.append_assoc]
    refine List.Perm.append_right _ ?_
    unfold ruleCopies
    split
    · simp
    · rw [← findAll_length]
      exact Static.addInternalAt_perm _ a.internal p.2

/-- Σ over the residue-targeted rules: Σ f(mods) × number of matching residues -/
def rulesSum (f : Mod → Rat) (seq : List Char) (map : List (List Char × List Mod)) : Rat :=
  sumR (map.map fun p => if p.1 = nTerm || p.1 = cTerm then 0 else sumF f p.2 * ((countSub p.1 seq : Nat) : Rat))

theorem getD_appendOpt (o : Option (List Mod)) (l : List Mod) : (appendOpt o l).getD [] = o.getD [] ++ l := by
  cases o <;> rfl

/-- Σ f over the global rules once parsed: terminal rules once, residue rules × number of matching residues -/
def mapSum (f : Mod → Rat) (seq : List Char) (map : List (List Char × List Mod)) : Rat :=
  (match map.lookup nTerm with | some l => sumF f l | none => 0) +
  (match map.lookup cTerm with | some l => sumF f l | none => 0) + rulesSum f seq map

def mapGap (env : Env) (mono : Bool) (seq : List Char) (map : List (List Char × List Mod)) : Rat :=
  mapSum (gapOf env mono) seq map

theorem mapGap_eq (env : Env) (mono : Bool) (seq : List Char) (map : List (List Char × List Mod)) :
    mapGap env mono seq map = mapSum (gapOf env mono) seq map := rfl

/-- `condenseWith` in two steps: the terminal rules are appended to the terminal modifications of an annotation `a2`
that is otherwise `a` without its rules; the residue rules are folded into `a2` -/
theorem condenseWith_terminal (a : Annotation) (map : List (List Char × List Mod)) :
    ∃ a2, condenseWith a map = map.foldl condenseRule a2 ∧
      a2.seq = a.seq ∧ a2.isotope = a.isotope ∧ a2.static = none ∧ a2.labile = a.labile ∧ a2.unknown = a.unknown ∧
      a2.intervals = a.intervals ∧ a2.charge = a.charge ∧ a2.adducts = a.adducts ∧ a2.internal = a.internal ∧
      a2.nterm.getD [] = a.nterm.getD [] ++ (map.lookup nTerm).getD [] ∧
      a2.cterm.getD [] = a.cterm.getD [] ++ (map.lookup cTerm).getD [] := by
  unfold condenseWith
  generalize map.lookup nTerm = oN
  generalize map.lookup cTerm = oC
  cases oN <;> cases oC <;>
    exact ⟨_, rfl, rfl, rfl, rfl, rfl, rfl, rfl, rfl, rfl, rfl, by simp [getD_appendOpt], by simp [getD_appendOpt]⟩

theorem mem_mapMods_of_lookup (map : List (List Char × List Mod)) (key : List Char) :
    ∀ m ∈ (map.lookup key).getD [], m ∈ mapMods map := by
  intro m hm
  cases ho : map.lookup key with
  | none => rw [ho] at hm; cases hm
  | some l =>
    rw [ho] at hm
    exact List.mem_flatMap.mpr ⟨(key, l), AssocList.mem_of_lookup ho, hm⟩

/-- what the global rules place: terminal rules once, a residue rule once per matching residue -/
def placedByRules (seq : List Char) (map : List (List Char × List Mod)) : List Mod :=
  (map.lookup nTerm).getD [] ++ (map.lookup cTerm).getD [] ++ map.flatMap (ruleCopies seq)

theorem placedByRules_nil (seq : List Char) : placedByRules seq [] = [] := rfl

theorem condenseWith_perm (a : Annotation) (map : List (List Char × List Mod)) (ion : Key) :
    (condenseWith a map).static = none ∧ (condenseWith a map).seq = a.seq ∧ (condenseWith a map).isotope = a.isotope ∧
    (condenseWith a map).charge = a.charge ∧ (condenseWith a map).adducts = a.adducts ∧
    (placedMods (condenseWith a map) ion).Perm (placedMods a ion ++ placedByRules a.seq map) ∧
    (writtenMods (condenseWith a map)).Perm (writtenMods a ++ placedByRules a.seq map) := by
  obtain ⟨a2, hcw, e1, e2, e3, e4, e5, e6, e7, e8, e9, en, ec⟩ := condenseWith_terminal a map
  obtain ⟨d, hd, hv⟩ := foldl_condenseRule map a2
  rw [e9, e1, List.perm_iff_count] at hv
  rw [hcw, hd]
  refine ⟨e3, e1, e2, e7, e8, ?_, ?_⟩
  · rw [placedMods_eq, placedMods_eq, List.perm_iff_count]
    intro m
    have := hv m
    simp only [e4, e5, e6, en, ec, placedByRules, List.count_append] at this ⊢
    omega
  · unfold writtenMods
    rw [List.perm_iff_count]
    intro m
    have := hv m
    simp only [e4, e5, e6, en, ec, placedByRules, List.count_append] at this ⊢
    omega

theorem sumF_replicate (f : Mod → Rat) (n : Nat) (l : List Mod) :
    sumF f (List.replicate n l).flatten = sumF f l * (n : Rat) := by
  induction n with
  | zero => simp [sumF, sumR_nil]
  | succ n ih => rw [List.replicate_succ, List.flatten_cons, sumF_append, ih]; push_cast; ring

theorem sumF_placedByRules (f : Mod → Rat) (seq : List Char) (map : List (List Char × List Mod)) :
    sumF f (placedByRules seq map) = mapSum f seq map := by
  have hsum : ∀ o : Option (List Mod), sumF f (o.getD []) = (match o with | some l => sumF f l | none => 0) := by
    intro o; cases o <;> rfl
  unfold placedByRules mapSum rulesSum
  rw [sumF_append, sumF_append, hsum, hsum]
  congr 1
  unfold sumF
  rw [sumR_flatMap]
  congr 2
  funext p
  unfold ruleCopies
  split
  · rfl
  · exact sumF_replicate f _ p.2

theorem mem_placedByRules (seq : List Char) (map : List (List Char × List Mod)) :
    ∀ m ∈ placedByRules seq map, m ∈ mapMods map := by
  intro m hm
  unfold placedByRules at hm
  simp only [List.mem_append] at hm
  rcases hm with (h | h) | h
  · exact mem_mapMods_of_lookup map nTerm m h
  · exact mem_mapMods_of_lookup map cTerm m h
  · obtain ⟨p, hp, hmp⟩ := List.mem_flatMap.mp h
    unfold ruleCopies at hmp
    split at hmp
    · cases hmp
    · obtain ⟨l, hl, hml⟩ := List.mem_flatten.mp hmp
      exact List.mem_flatMap.mpr ⟨p, hp, (List.eq_of_mem_replicate hl) ▸ hml⟩

/-- `map` is what `parse_static_mods` returns for the annotation's global rules; no rules, no entries -/
def RulesParse (env : Env) (a : Annotation) (map : List (List Char × List Mod)) : Prop :=
  match a.static with
  | none => map = []
  | some st => env.parseStatic st = .ok map

theorem rulesParse_none (env : Env) (a : Annotation) (h : a.static = none) : RulesParse env a [] := by
  unfold RulesParse; rw [h]

theorem rulesParse_some {env : Env} {a : Annotation} {st : List Mod} {map : List (List Char × List Mod)}
    (hs : a.static = some st) : RulesParse env a map ↔ env.parseStatic st = .ok map := by
  unfold RulesParse; rw [hs]

theorem RulesParse.cases {env : Env} {a : Annotation} {map : List (List Char × List Mod)} (h : RulesParse env a map) :
    (a.static = none ∧ map = []) ∨ ∃ st, a.static = some st ∧ env.parseStatic st = .ok map := by
  unfold RulesParse at h
  cases hs : a.static with
  | none => rw [hs] at h; exact .inl ⟨rfl, h⟩
  | some st => rw [hs] at h; exact .inr ⟨st, rfl, h⟩

/-- it depends on the annotation's `static` field only -/
theorem RulesParse.congr {env : Env} {a b : Annotation} {map : List (List Char × List Mod)} (hst : b.static = a.static)
    (h : RulesParse env a map) : RulesParse env b map := by
  unfold RulesParse at h ⊢; rw [hst]; exact h

theorem mapSum_nil (f : Mod → Rat) (seq : List Char) : mapSum f seq [] = 0 := by
  simp [mapSum, rulesSum, sumR_nil]

theorem staticValue_eq (env : Env) (mono : Bool) (a : Annotation) (map : List (List Char × List Mod))
    (h : RulesParse env a map) : staticValue env mono a = mapSum (modValue env mono) a.seq map := by
  unfold staticValue
  rcases h.cases with ⟨hs, rfl⟩ | ⟨st, hs, hp⟩
  · rw [hs]; exact (mapSum_nil _ _).symm
  · rw [hs]; simp only; rw [hp]; rfl

theorem condenseStatic_ok (env : Env) (b : Annotation) (map : List (List Char × List Mod)) (h : RulesParse env b map) :
    condenseStatic env b = .ok (condenseWith b map) := by
  unfold condenseStatic
  rcases h.cases with ⟨hs, rfl⟩ | ⟨st, hs, hp⟩
  · obtain ⟨_, _, _, _, _, _, _, _, _, _, _⟩ := b
    cases hs
    rfl
  · rw [hs]; simp only; rw [hp]; rfl

theorem Consistent.resolves {env : Env} {mono : Bool} {m : Mod} (h : Consistent env mono m.val) :
    modResolves env mono m = true := by
  rcases h with ⟨d, _, hv⟩ | ⟨c, x, _, _, hv⟩ <;> exact modResolves_of_resMass hv

theorem staticMass_lib (env : Env) (mono : Bool) (a : Annotation) (map : List (List Char × List Mod))
    (h : RulesParse env a map) (hc : AllConsistent env mono (mapMods map)) :
    staticMass env mono a.seq a.static = .ok (mapSum (modValue env mono) a.seq map) := by
  rw [← staticValue_eq env mono a map h]
  apply staticMass_ok
  rcases h.cases with ⟨hs, -⟩ | ⟨st, hs, hp⟩
  · rw [hs]
  · rw [hs]
    simp only
    rw [hp]
    exact List.all_eq_true.mpr fun p hp => List.all_eq_true.mpr fun m hm =>
      (hc m (List.mem_flatMap.mpr ⟨p, hp, hm⟩)).resolves

/-- the probe of global rules whose target does not occur succeeds when the rule modifications resolve -/
theorem staticProbe_ok (env : Env) (b : Annotation) (map : List (List Char × List Mod))
    (h : RulesParse env b map) (hc : AllReady env (mapMods map)) : staticProbe env b = .ok () := by
  unfold staticProbe
  rcases h.cases with ⟨hs, -⟩ | ⟨st, hs, hp⟩
  · rw [hs]; rfl
  · rw [hs]
    simp only
    rw [hp, ExceptList.ok_bind]
    refine (ExceptList.foldlM_ok (g := fun _ _ => ()) (fun _ p hpm => ?_) ()).trans (by rfl)
    unfold probeRule
    split
    · rfl
    · have hcp : AllReady env p.2 := fun m hm => hc m (List.mem_flatMap.mpr ⟨p, hpm, hm⟩)
      rw [popList_ok env p.2 hcp, ExceptList.ok_bind]
      simp only
      rw [addMods_eq env [] _ (kept_has_comp env p.2 hcp), ExceptList.ok_bind]
      rfl

theorem mass_fast_lib (env : Env) (a : Annotation) (o : Opts) (r : Resolved) (map : List (List Char × List Mod))
    (hr : resolveArgs a o = .ok r) (hiso : r.isotopeMods = none)
    (hrules : RulesParse env a map) (hprec : o.precision = none) (hres : KnownResidues a.seq)
    (hcons : AllConsistent env o.mono (writtenMods a ++ mapMods map))
    (fa : Rat) (hfa : fragmentAdjMass o.mono o.ion = some fa)
    (ct : Rat) (hct : Mass.chargeTerm (r.charge.getD 0) o.ion o.mono r.adducts = .ok ct) :
    mass env a o = .ok (resSum o.mono a.seq
      + (mapSum (modValue env o.mono) a.seq map + modsValue env o.mono (placedMods a o.ion))
      + ct + fa + ((o.isotope : Rat) * Gen.neutronMass + o.loss)) := by
  rw [mass_fast_parts env a o r _ (modValue env o.mono) hr hiso _
    (staticMass_lib env o.mono a map hrules fun m hm => hcons m (List.mem_append_right _ hm))
    (residues_lib o.mono a.seq hres) (fun m hm => modMass_ok env o.mono m (hcons m (List.mem_append_left _ (placedMods_subset a o.ion m hm))).resolves)
    fa hfa ct hct,
    hprec]
  apply congrArg Except.ok
  show mapSum (modValue env o.mono) a.seq map + resSum o.mono a.seq + modsValue env o.mono _ + _ + _ + _ = _
  ring

/-- mass side minus composition side for one stated ion: the electron correction applied once instead of `count`
times; for an "electron" written with a charge other than −1 the two sides read the count differently -/
def ionGap (x : List Nat) : Rat :=
  match parseIonElements x with
  | .ok (cnt, sym, q) =>
    if sym = kE then (cnt : Rat) * Gen.electronMass * (1 + (q : Rat))
    else (q : Rat) * Gen.electronMass * ((cnt : Rat) - 1)
  | .error _ => 0

/-- … for a whole list; the literal `+H+` is `PROTON_MASS` on the mass side and `H − e` in the composition -/
def adductGap (mono : Bool) (s : List Nat) : Rat :=
  if s = [43, 72, 43] then Gen.protonMass - hplus mono else sumR ((splitComma s).map ionGap)

def ionCompOf (x : List Nat) : Comp := match adductComp x with | .ok c => c | .error _ => []

theorem mu_eq_lib (mono : Bool) (e : Elem) : μ mono e = lib.elem mono e := rfl

theorem adduct_ion (mono : Bool) (x : List Nat) (h : adductIonOk mono x = true) :
    adductComp x = .ok (ionCompOf x) ∧
    adductMass mono x = .ok (chemMassL (μ mono) (ionCompOf x) + ionGap x) := by
  unfold adductIonOk at h
  unfold ionCompOf adductComp ionGap
  cases hp : parseIonElements x with
  | error e => rw [hp] at h; simp at h
  | ok r =>
    obtain ⟨cnt, sym, q⟩ := r
    rw [hp] at h
    simp only [ExceptList.ok_bind, ExceptList.pure_eq_ok]
    refine ⟨trivial, ?_⟩
    by_cases he : sym = kE
    · subst he
      rw [adductMass_electron mono x cnt q hp]
      simp only [if_true, setKey]
      rw [chemMassL_cons, chemMassL_nil, mu_electron]
      apply congrArg Except.ok
      simp only
      ring
    · simp only [he, if_false, decide_false, Bool.false_or] at h ⊢
      obtain ⟨m, hm⟩ := Option.isSome_iff_exists.mp h
      have hs : setKey [(sym, (cnt : Rat))] kE (-1 * (q : Rat) * (cnt : Rat)) = [(sym, (cnt : Rat)), (kE, -1 * (q : Rat) * (cnt : Rat))] := by
        simp [setKey, he]
      rw [adductMass_parsed mono x cnt sym q m hp he hm, hs, chemMassL_cons, chemMassL_cons, chemMassL_nil, mu_electron,
        show μ mono sym = m from elem_of_table mono sym m hm]
      apply congrArg Except.ok
      simp only
      ring

/-- the literal `+H+` is one hydrogen cation in the composition (in the mass it is `PROTON_MASS`) -/
theorem chargeAdductsCompStr_H : chargeAdductsCompStr [43, 72, 43] = .ok (addAll [] (protonsComp 1)) := by
  delta chargeAdductsCompStr adductComp parseIonElements
  rw [isotopic_lit_ok]
  decide +kernel

theorem adducts_str (mono : Bool) (s : List Nat)
    (h : (splitComma s).all (adductIonOk mono) = true) :
    ∃ comp, chargeAdductsCompStr s = .ok comp ∧
      chargeAdductsMassStr mono s = .ok (chemMassL (μ mono) comp + adductGap mono s) := by
  unfold chargeAdductsMassStr adductGap
  by_cases hs : s = [43, 72, 43]
  · subst hs
    refine ⟨_, chargeAdductsCompStr_H, ?_⟩
    simp only [if_true]
    rw [protonsComp_mass]
    apply congrArg Except.ok
    push_cast
    ring
  · have hi := fun x hx => adduct_ion mono x (List.all_eq_true.mp h x hx)
    refine ⟨_, foldlM_addAll _ _ _ (fun acc x hx => by rw [(hi x hx).1]; rfl) [], ?_⟩
    simp only [hs, if_false]
    rw [sumM_ok _ _ _ fun x hx => (hi x hx).2, chemMassL_addAlls, chemMassL_nil, zero_add, List.map_map, ← sumR_eq_sum,
      sumR_map_add]
    rfl

/-- where the adduct list comes from: the `charge_adducts` argument, or the annotation (`PEPTIDE/2[+Na+,+K+]`) -/
def AdductSource (a : Annotation) (o : Opts) (s : List Char) : Prop :=
  o.adducts = some (.str s) ∨ (o.adducts = none ∧ ∃ k, a.adducts = some [⟨.str s, k⟩])

theorem resolve_of_source (a : Annotation) (o : Opts) (s : List Char) (h : AdductSource a o s)
    (hl : o.isotopeMods = none) (hl' : a.isotope = none) :
    resolveArgs a o = .ok ⟨effCharge a o, some (.str s), none⟩ := by
  unfold resolveArgs effLabels
  rw [hl, hl']
  rcases h with h | ⟨h, k, ha⟩
  · rw [h]
    cases a.adducts <;> rfl
  · rw [h, ha]; rfl

theorem override_adducts (a : Annotation) (o : Opts) (s : List Char) (h : AdductSource a o s) :
    ∃ k, (overrideArgs a o.charge o.adducts none).adducts = some [⟨.str s, k⟩] := by
  obtain ⟨-, -, -, -, -, f3, -⟩ := override_fields a o.charge o.adducts none
  rcases h with h | ⟨h, k, ha⟩
  · exact ⟨1, by rw [f3, h]⟩
  · exact ⟨k, by rw [f3, h]; exact ha⟩

/-- **`comp_mass` in parts**, for any labels, rules and charge carrier, and free of masses: the sequence part is the residues'
composition, the neutral adjustment and the carrier; the modification part is the compositions of those of the modifications `K`
that are kept, with the isotope offset as `n`; `K` is, in some order, the placed modifications and what the global rules place;
both parts go through `applyLabels`; the second component is the sum of the popped shifts.
(`resComp_mass`, `modsCompOf_mass` weigh the parts under any mass assignment, `addAlls_inv` carries invariants.)
`hne`: an empty adduct list would be cleared (`clearEmptyAdducts`) and the default carrier taken; `hcc`: without adducts
`carrierCheck` looks the ion type up in `baseAdducts` (a KeyError) before anything else. -/
theorem compMass_parts (env : Env) (a : Annotation) (ion : Key) (charge : Option Int) (isotope : Int)
    (adducts : Option ModVal) (isoMods : Option (List Mod)) (useIso : Bool) (map : List (List Char × List Mod))
    (hrules : RulesParse env a map) (hres : KnownResidues a.seq)
    (hready : AllReady env (writtenMods a ++ mapMods map))
    (adj : Comp) (hadj : lookup ion neutralAdj = some adj)
    (car : Comp) (hcar : carrierComp (overrideArgs a charge adducts isoMods) ion = .ok car)
    (hne : (overrideArgs a charge adducts isoMods).adducts ≠ some [])
    (hcc : (overrideArgs a charge adducts isoMods).adducts = none →
      ion = ionP ∨ ion = ionN ∨ (lookup ion Gen.baseAdducts).isSome = true) :
    ∃ K, K.Perm (placedMods a ion ++ placedByRules a.seq map) ∧
      compMass env a ion charge isotope adducts isoMods useIso
        = (applyLabels (overrideArgs a charge adducts isoMods) useIso (addAll (addAll (resComp a.seq) adj) car)
            (addKey (modsCompOf env K) kNn (isotope : Rat))).map
            (fun p => (dropZeros (addAll (addAll [] p.1) p.2), sumF (deltaPart env) K)) := by
  generalize hov : overrideArgs a charge adducts isoMods = ov at *
  obtain ⟨f1, f4, f5, f6, -, -, -⟩ := hov ▸ override_fields a charge adducts isoMods
  -- `b`: the rules condensed (same fields, rule modifications placed); `c`: labile dropped for a fragment, shifts popped
  obtain ⟨g1, g2, g3, g4, g5, g6, g7⟩ := condenseWith_perm ov map ion
  generalize hb : condenseWith ov map = b at *
  obtain ⟨p1, p2, p3, p4, -⟩ := popped_dropLabile_fields env b ion
  rw [f4, f6] at g6
  rw [f4, f5] at g7
  rw [f4] at g2
  have hrb : RulesParse env ov map := hrules.congr f1
  have hreadyM : AllReady env (mapMods map) := fun m hm => hready m (List.mem_append_right _ hm)
  have hreadyP : AllReady env (placedMods b ion) := fun m hm => by
    rcases List.mem_append.mp (g6.subset hm) with h | h
    · exact hready m (List.mem_append_left _ (placedMods_subset a ion m h))
    · exact hreadyM m (mem_placedByRules a.seq map m h)
  obtain ⟨hB, hZ⟩ := noBZ a.seq hres
  have hmc : modsComp env (popped env (dropLabile b ion)) ion = .ok (modsCompOf env (compOrder b ion)) := by
    rw [modsComp_popped env _ ion (by unfold dropLabile; split <;> simp [g1]), compOrder_dropLabile]
    exact addMods_eq env [] _ (kept_has_comp env _ fun m hm => hreadyP m ((compOrder_perm b ion).subset hm))
  have hadd : (popped env (dropLabile b ion)).adducts = ov.adducts := p1.trans g5
  have hclear : clearEmptyAdducts (popped env (dropLabile b ion)) = popped env (dropLabile b ion) := by
    unfold clearEmptyAdducts; rw [hadd]
    cases ho : ov.adducts with
    | none => rfl
    | some l => cases l with
      | nil => exact absurd ho hne
      | cons m ms => rfl
  have hsb : seqBaseComp (popped env (dropLabile b ion)) ion = .ok (addAll (addAll (resComp a.seq) adj) car) :=
    seqBaseComp_ok _ ion _ adj car (by rw [p3, g2]; exact residueComp_eq a.seq hres) hadj
      (by rw [← hcar]; unfold carrierComp effAdducts; rw [hadd, p4, g4])
  have hcheck : carrierCheck (popped env (dropLabile b ion)) ion = .ok () := by
    unfold carrierCheck effAdducts; rw [hadd]
    cases ho : ov.adducts with
    | some l => cases l with
      | nil => exact absurd ho hne
      | cons m ms => cases ms <;> rfl
    | none => rcases hcc ho with h | h | h <;> simp [h]
  refine ⟨compOrder b ion, (compOrder_perm b ion).trans g6, ?_⟩
  unfold compMass
  rw [hov, staticProbe_ok env ov map hrb hreadyM, ExceptList.ok_bind, condenseStatic_ok env ov map hrb, hb, ExceptList.ok_bind,
    popDeltaMassMods_ok env _ fun m hm => hreadyP m ((written_dropLabile_perm b ion).subset hm), ExceptList.ok_bind]
  dsimp only
  rw [hclear]
  unfold sequenceComp
  rw [hcheck, ExceptList.ok_bind, p3, g2]
  simp only [hB, hZ, Bool.false_eq_true, if_false]
  rw [hsb, ExceptList.ok_bind, hmc, ExceptList.ok_bind, sumF_perm _ (written_dropLabile_perm b ion),
    ← sumF_perm _ (compOrder_perm b ion)]
  have hlab : ∀ sb m, applyLabels (popped env (dropLabile b ion)) useIso sb m = applyLabels ov useIso sb m := by
    intro sb m; unfold applyLabels; rw [p2, g3]
  rw [hlab]
  generalize applyLabels ov useIso _ _ = x
  rcases x with e | ⟨s, m⟩ <;> rfl

theorem applyLabels_none (a : Annotation) (useIso : Bool) (sb mc : Comp) (h : a.isotope = none) :
    applyLabels a useIso sb mc = .ok (sb, mc) := by
  unfold applyLabels; rw [h]; rfl

theorem applyLabels_some (a : Annotation) (useIso : Bool) (sb mc : Comp) (L : List Mod) (lm : List (Key × Key))
    (h : a.isotope = some L) (hp : parseIsotopeMods L = .ok lm) :
    applyLabels a useIso sb mc = .ok (relabel sb lm, if useIso then relabel mc lm else mc) := by
  unfold applyLabels; rw [h]; simp only; unfold applyIsotopeMods; rw [hp]
  cases useIso <;> rfl

/-- `compMass_parts` under labels `L` that parse to `lm`, without global rules: the sequence part relabelled, the modification
part only with `use_isotope_on_mods` -/
theorem compMass_labels (env : Env) (a : Annotation) (ion : Key) (charge : Option Int) (isotope : Int)
    (adducts : Option ModVal) (useIso : Bool) (L : List Mod) (lm : List (Key × Key))
    (hparse : parseIsotopeMods L = .ok lm) (hstatic : a.static = none) (hres : KnownResidues a.seq)
    (hready : AllReady env (writtenMods a))
    (adj : Comp) (hadj : lookup ion neutralAdj = some adj)
    (car : Comp) (hcar : carrierComp (overrideArgs a charge adducts (some L)) ion = .ok car)
    (hne : (overrideArgs a charge adducts (some L)).adducts ≠ some [])
    (hcc : (overrideArgs a charge adducts (some L)).adducts = none →
      ion = ionP ∨ ion = ionN ∨ (lookup ion Gen.baseAdducts).isSome = true) :
    ∃ K, K.Perm (placedMods a ion) ∧
      compMass env a ion charge isotope adducts (some L) useIso
        = .ok (dropZeros (addAll (addAll [] (relabel (addAll (addAll (resComp a.seq) adj) car) lm))
            (if useIso then relabel (addKey (modsCompOf env K) kNn (isotope : Rat)) lm
              else addKey (modsCompOf env K) kNn (isotope : Rat))), sumF (deltaPart env) K) := by
  obtain ⟨K, hK, hcm⟩ := compMass_parts env a ion charge isotope adducts (some L) useIso [] (rulesParse_none env a hstatic)
    hres (by rw [mapMods_nil, List.append_nil]; exact hready) adj hadj car hcar hne hcc
  rw [placedByRules_nil, List.append_nil] at hK
  refine ⟨K, hK, ?_⟩
  rw [hcm, applyLabels_some _ _ _ _ L lm (override_fields a charge adducts (some L)).2.2.2.2.2.2 hparse]
  rfl

/-- **mass calculator = composition calculator + popped shifts, up to the carrier discrepancy `κ` and the row gaps** —
whatever the charge carrier, on which the two calculators are compared separately: `car` is the carrier composition
`comp_mass` builds, `chem_mass(car) + κ` what `adjust_mass` adds for it.  With global rules or without (`RulesParse`), any
ion type that has a neutral adjustment, any charge, isotope offset and loss, both modes; no isotope labels. -/
theorem mass_eq_compMass (env : Env) (a : Annotation) (o : Opts) (map : List (List Char × List Mod))
    (hrules : RulesParse env a map) (hl' : a.isotope = none) (hprec : o.precision = none)
    (hres : KnownResidues a.seq) (hcons : AllConsistent env o.mono (writtenMods a ++ mapMods map))
    (hadj : (lookup o.ion neutralAdj).isSome = true)
    (radd : Option ModVal) (hr : resolveArgs a o = .ok ⟨effCharge a o, radd, none⟩)
    (car : Comp) (κ : Rat)
    (hcar : carrierComp (overrideArgs a o.charge o.adducts none) o.ion = .ok car)
    (hne : (overrideArgs a o.charge o.adducts none).adducts ≠ some [])
    (hcc : (overrideArgs a o.charge o.adducts none).adducts = none →
      o.ion = ionP ∨ o.ion = ionN ∨ (lookup o.ion Gen.baseAdducts).isSome = true)
    (hct : Mass.chargeTerm ((effCharge a o).getD 0) o.ion o.mono radd = .ok (chemMassL (μ o.mono) car + κ)) :
    ∃ c d, compMass env a o.ion o.charge o.isotope o.adducts none o.useIsotopeOnMods = .ok (c, d) ∧
      mass env a o = .ok (chemMassL (μ o.mono) c + d + o.loss + κ
        + (gapSum env o.mono (placedMods a o.ion) + mapGap env o.mono a.seq map)) := by
  obtain ⟨adj, hadj⟩ := Option.isSome_iff_exists.mp hadj
  obtain ⟨K, hK, hcm⟩ := compMass_parts env a o.ion o.charge o.isotope o.adducts none
    o.useIsotopeOnMods map hrules hres hcons.ready adj hadj car hcar hne hcc
  have hiso : (overrideArgs a o.charge o.adducts none).isotope = none :=
    (override_fields a o.charge o.adducts none).2.2.2.2.2.2.trans hl'
  refine ⟨_, _, by rw [hcm, applyLabels_none _ _ _ _ hiso]; rfl, ?_⟩
  -- both sides in the same parts: residues, adjustment, carrier; the modifications `K` split into shifts, compositions, gaps
  have hKc : AllConsistent env o.mono K := fun m hm => by
    rcases List.mem_append.mp (hK.subset hm) with h | h
    · exact hcons m (List.mem_append_left _ (placedMods_subset a o.ion m h))
    · exact hcons m (List.mem_append_right _ (mem_placedByRules a.seq map m h))
  have hsum : ∀ f, sumF f K = sumF f (placedMods a o.ion) + mapSum f a.seq map := fun f => by
    rw [sumF_perm f hK, sumF_append, sumF_placedByRules]
  have hv := modsValue_split env o.mono K hKc
  rw [modsValue_eq_sumF, gapSum_eq_sumF, hsum, hsum (gapOf env o.mono)] at hv
  rw [mass_fast_lib env a o _ map hr rfl hrules hprec hres hcons _ (congrArg (Option.map (constMass o.mono)) hadj) _ hct]
  apply congrArg Except.ok
  rw [chemMassL_dropZeros, chemMassL_addAll, chemMassL_addAll, chemMassL_nil, chemMassL_addAll, chemMassL_addAll,
    chemMassL_addKey, mu_neutron, modsCompOf_mass, resComp_resSum, modsValue_eq_sumF, gapSum_eq_sumF, mapGap_eq, constMass_eq_mu]
  linarith

/-- number of charges the fast path adds as `PROTON_MASS` where the composition path adds `H − e` -/
def kProtons (a : Annotation) (o : Opts) : Rat :=
  if o.ion = ionP || o.ion = ionN then (((effCharge a o).getD 0 : Int) : Rat) else (((effCharge a o).getD 0 : Int) : Rat) - 1

theorem kProtons_eq (a : Annotation) (o : Opts) : kProtons a o = carrierCount o.ion ((effCharge a o).getD 0) := rfl

/-- … **with the default charge carrier**: each of its `kProtons` hydrogen cations is `PROTON_MASS` in the mass and
`H − e` in the composition -/
theorem mass_eq_compMass_default (hI : ionTablesOk = true) (env : Env) (a : Annotation) (o : Opts)
    (map : List (List Char × List Mod)) (hrules : RulesParse env a map)
    (hl : o.isotopeMods = none) (hl' : a.isotope = none)
    (had : o.adducts = none) (had' : a.adducts = none) (hprec : o.precision = none)
    (hres : KnownResidues a.seq) (hcons : AllConsistent env o.mono (writtenMods a ++ mapMods map))
    (hadj : (lookup o.ion neutralAdj).isSome = true)
    (hion : o.ion = ionP ∨ o.ion = ionN ∨ (lookup o.ion Gen.ionComp).isSome = true) :
    ∃ c d, compMass env a o.ion o.charge o.isotope none none o.useIsotopeOnMods = .ok (c, d) ∧
      mass env a o = .ok (chemMassL (μ o.mono) c + d + o.loss
        + kProtons a o * (Gen.protonMass - hplus o.mono)
        + (gapSum env o.mono (placedMods a o.ion) + mapGap env o.mono a.seq map)) := by
  obtain ⟨car, hcar, hcc, hcm, hct⟩ := defaultCarrier_ok hI o.mono o.ion ((effCharge a o).getD 0) hion
  obtain ⟨-, -, -, -, f7, f3, -⟩ := override_fields a o.charge none none
  have hadd : (overrideArgs a o.charge none none).adducts = none := f3.trans had'
  have := mass_eq_compMass env a o map hrules hl' hprec hres hcons hadj none
    (by unfold resolveArgs effLabels; rw [hl, hl', had, had']; rfl) car (kProtons a o * (Gen.protonMass - hplus o.mono))
    (by rw [had, ← hcar]; unfold carrierComp effAdducts; rw [hadd, f7]; rfl)
    (by rw [had, hadd]; simp) (fun _ => hcc)
    (by rw [hct, hcm, kProtons_eq]; apply congrArg; ring)
  rwa [had] at this

/-- … **with an explicit adduct list** (any ion type: the list replaces the whole charge carrier in both calculators):
the discrepancy is `adductGap` = Σ q·mₑ·(count − 1) over the stated ions, the known finding
KF-C03-adduct-electron-count, exactly -/
theorem mass_eq_compMass_adductList (env : Env) (a : Annotation) (o : Opts) (s : List Char)
    (map : List (List Char × List Mod)) (hsrc : AdductSource a o s) (hrules : RulesParse env a map)
    (hl : o.isotopeMods = none) (hl' : a.isotope = none) (hprec : o.precision = none)
    (hres : KnownResidues a.seq) (hcons : AllConsistent env o.mono (writtenMods a ++ mapMods map))
    (hadj : (lookup o.ion neutralAdj).isSome = true)
    (hions : (splitComma (s.map Char.toNat)).all (adductIonOk o.mono) = true) :
    ∃ c d, compMass env a o.ion o.charge o.isotope o.adducts none o.useIsotopeOnMods = .ok (c, d) ∧
      mass env a o = .ok (chemMassL (μ o.mono) c + d + o.loss + adductGap o.mono (s.map Char.toNat)
        + (gapSum env o.mono (placedMods a o.ion) + mapGap env o.mono a.seq map)) := by
  obtain ⟨car, hcar, hmass⟩ := adducts_str o.mono (s.map Char.toNat) hions
  obtain ⟨k, fa⟩ := override_adducts a o s hsrc
  exact mass_eq_compMass env a o map hrules hl' hprec hres hcons hadj (some (.str s)) (resolve_of_source a o s hsrc hl hl') car
    (adductGap o.mono (s.map Char.toNat))
    (by unfold carrierComp effAdducts; rw [fa]; exact hcar) (by rw [fa]; simp) (fun h => by rw [fa] at h; cases h) hmass

end CompCalc
end Pept
