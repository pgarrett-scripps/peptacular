import PeptVerif.Model.Spans
import PeptVerif.Spec.Spans
import PeptVerif.Lemmas.ListSort
/-! Site lists of C06. `S⁺ = sortDedup (0 :: n :: S)` is strictly increasing, so the index of a site in it is the
number of sites before it: that turns the position counter of `enzGo` into the specification's `inside`
(`mem_enzGo`). Core Lean only. -/
namespace Spans

/-- strictly increasing -/
def SSorted (l : List Int) : Prop := l.Pairwise (· < ·)

theorem ssorted_cons {a : Int} {l : List Int} : SSorted (a :: l) ↔ (∀ y ∈ l, a < y) ∧ SSorted l :=
  List.pairwise_cons

open ListSort in
theorem insertSorted_eq (x : Int) (l : List Int) : insertSorted x l = insertD (fun a b => decide (a < b)) x l := by
  induction l <;> simp [insertSorted, insertD, *]

open ListSort in
theorem sortDedup_eq (l : List Int) : sortDedup l = sortD (fun a b => decide (a < b)) l := by
  unfold sortDedup sortD; congr; funext x l; exact insertSorted_eq x l

theorem mem_insertSorted (x y : Int) (l : List Int) : y ∈ insertSorted x l ↔ y = x ∨ y ∈ l :=
  insertSorted_eq x l ▸ ListSort.mem_insertD _

theorem lt_of_not_lt_of_ne (x y : Int) (h : decide (x < y) = false) (hne : x ≠ y) : y < x := by
  have := of_decide_eq_false h; omega

theorem ssorted_insertSorted (x : Int) (l : List Int) (h : SSorted l) : SSorted (insertSorted x l) :=
  insertSorted_eq x l ▸ ListSort.pairwise_insertD (R := (· < ·)) (fun _ _ _ => Int.lt_trans)
    (fun _ _ h => of_decide_eq_true h) lt_of_not_lt_of_ne x h

theorem ssorted_sortDedup (l : List Int) : SSorted (sortDedup l) :=
  sortDedup_eq l ▸ ListSort.pairwise_sortD (R := (· < ·)) (fun _ _ _ => Int.lt_trans)
    (fun _ _ h => of_decide_eq_true h) lt_of_not_lt_of_ne l

theorem mem_sortDedup (x : Int) (l : List Int) : x ∈ sortDedup l ↔ x ∈ l :=
  sortDedup_eq l ▸ ListSort.mem_sortD _

theorem nodup_of_pairwise_lt {l : List Int} (h : l.Pairwise (· < ·)) : l.Nodup :=
  h.imp (by intro a b h; omega)

theorem nodup_of_pairwise_gt {l : List Int} (h : l.Pairwise (· > ·)) : l.Nodup :=
  h.imp (by intro a b h; omega)

theorem ssorted_ext (l₁ l₂ : List Int) (h₁ : SSorted l₁) (h₂ : SSorted l₂) (h : ∀ x, x ∈ l₁ ↔ x ∈ l₂) :
    l₁ = l₂ :=
  ((List.perm_ext_iff_of_nodup (nodup_of_pairwise_lt h₁) (nodup_of_pairwise_lt h₂)).mpr h).eq_of_pairwise
    (fun a b _ _ (hab : a < b) (hba : b < a) => absurd hba (Int.lt_asymm hab)) h₁ h₂

theorem sortDedup_congr (l₁ l₂ : List Int) (h : ∀ x, x ∈ l₁ ↔ x ∈ l₂) : sortDedup l₁ = sortDedup l₂ :=
  ssorted_ext _ _ (ssorted_sortDedup _) (ssorted_sortDedup _) (by intro x; simp [mem_sortDedup, h])

theorem idx_eq_count (l : List Int) (h : SSorted l) (i : Nat) (x : Int) (hx : l[i]? = some x) :
    (l.filter (fun y => y < x)).length = i := by
  induction l generalizing i with
  | nil => simp at hx
  | cons a l ih =>
    rw [ssorted_cons] at h
    cases i with
    | zero =>
      simp at hx; subst hx
      simp
      intro y hy; have := h.1 y hy; omega
    | succ i =>
      simp at hx
      have hax : a < x := h.1 x (List.mem_of_getElem? hx)
      simp [hax]
      exact ih h.2 i hx

theorem mem_of_count (l : List Int) (h : SSorted l) (x : Int) (hx : x ∈ l) :
    l[(l.filter (fun y => y < x)).length]? = some x := by
  obtain ⟨i, hi⟩ := List.getElem?_of_mem hx
  rw [idx_eq_count l h i x hi]; exact hi

/-- the second part is the one wanted: a strictly increasing list inside `[a,b]` with `b-a+1` elements contains every
integer of `[a,b]`; the bound on the length is what the induction needs to get there -/
theorem ssorted_length (l : List Int) (h : SSorted l) (a b : Int) (hb : ∀ x ∈ l, a ≤ x ∧ x ≤ b) :
    (l.length : Int) ≤ max 0 (b - a + 1) ∧
      ((l.length : Int) = b - a + 1 → ∀ i, a ≤ i → i ≤ b → i ∈ l) := by
  induction l generalizing a with
  | nil =>
    refine ⟨by simp; omega, ?_⟩
    intro h i h1 h2; simp at h; omega
  | cons x t ih =>
    rw [ssorted_cons] at h
    have hx := hb x (by simp)
    have ih := ih h.2 (x + 1) (fun y hy => by have := h.1 y hy; have := hb y (by simp [hy]); omega)
    simp only [List.length_cons]
    refine ⟨by omega, ?_⟩
    intro hlen i h1 h2
    have hxa : x = a := by omega
    subst hxa
    by_cases hi : i = x
    · simp [hi]
    · exact List.mem_cons_of_mem _ (ih.2 (by omega) i (by omega) h2)

/-- a non-empty part of a list has a least element, for any total preorder -/
theorem exists_extremal {α : Type} (le : α → α → Prop) (total : ∀ a b, le a b ∨ le b a)
    (trans : ∀ {a b c}, le a b → le b c → le a c) (P : α → Prop) (l : List α) (h : ∃ e ∈ l, P e) :
    ∃ e ∈ l, P e ∧ ∀ y ∈ l, P y → le e y := by
  induction l with
  | nil => simp at h
  | cons x l ih =>
    have refl : ∀ a, le a a := fun a => (total a a).elim id id
    by_cases hl : ∃ e ∈ l, P e
    · obtain ⟨e, he, hPe, hmin⟩ := ih hl
      by_cases hx : P x ∧ le x e
      · refine ⟨x, by simp, hx.1, fun y hy hPy => ?_⟩
        rcases List.mem_cons.mp hy with rfl | hy
        · exact refl y
        · exact trans hx.2 (hmin y hy hPy)
      · refine ⟨e, by simp [he], hPe, fun y hy hPy => ?_⟩
        rcases List.mem_cons.mp hy with rfl | hy
        · exact (total e y).resolve_right fun h => hx ⟨hPy, h⟩
        · exact hmin y hy hPy
    · obtain ⟨e, he, hPe⟩ := h
      rcases List.mem_cons.mp he with rfl | he
      · refine ⟨e, by simp, hPe, fun y hy hPy => ?_⟩
        rcases List.mem_cons.mp hy with rfl | hy
        · exact refl y
        · exact absurd ⟨y, hy, hPy⟩ hl
      · exact absurd ⟨e, he, hPe⟩ hl

theorem exists_least_ge (l : List Int) (a : Int) (h : ∃ e ∈ l, a ≤ e) :
    ∃ e ∈ l, a ≤ e ∧ ∀ y ∈ l, a ≤ y → e ≤ y :=
  exists_extremal (· ≤ ·) Int.le_total Int.le_trans (a ≤ ·) l h

theorem exists_greatest_le (l : List Int) (a : Int) (h : ∃ e ∈ l, e ≤ a) :
    ∃ e ∈ l, e ≤ a ∧ ∀ y ∈ l, y ≤ a → y ≤ e :=
  exists_extremal (· ≥ ·) (fun a b => Int.le_total b a) (fun h1 h2 => Int.le_trans h2 h1) (· ≤ a) l h

theorem plus_sortDedup (n : Int) (S : List Int) : plus n (sortDedup S) = plus n S := by
  unfold plus
  apply sortDedup_congr
  intro x; simp [mem_sortDedup]

theorem ssorted_plus (n : Int) (S : List Int) : SSorted (plus n S) := ssorted_sortDedup _

theorem mem_plus (n : Int) (S : List Int) (x : Int) : x ∈ plus n S ↔ x = 0 ∨ x = n ∨ x ∈ S := by
  unfold plus; simp [mem_sortDedup]

theorem mem_plus_append {n : Int} {U S : List Int} {y : Int} :
    y ∈ plus n (U ++ S) ↔ y ∈ plus n U ∨ y ∈ S := by
  simp only [mem_plus, List.mem_append, or_assoc]

theorem plus_bounds (n : Int) (U : List Int) (hn : 0 ≤ n) (hU : ∀ y ∈ U, 0 ≤ y ∧ y ≤ n) :
    ∀ y ∈ plus n U, 0 ≤ y ∧ y ≤ n := by
  intro y hy
  rcases (mem_plus n U y).mp hy with rfl | rfl | hy
  · omega
  · omega
  · exact hU y hy

theorem inside_cons_head (a : Int) (l : List Int) (h : SSorted (a :: l)) (e : Int) :
    inside (a :: l) a e = (l.filter (fun y => y < e)).length := by
  rw [ssorted_cons] at h
  simp only [inside, List.filter_cons]
  have : ¬ (a < a) := by omega
  simp only [this, decide_false, Bool.false_and]
  congr 1
  apply List.filter_congr
  intro x hx
  have := h.1 x hx
  simp [this]

theorem inside_cons_tail (a : Int) (l : List Int) (h : SSorted (a :: l)) (s e : Int) (hs : s ∈ l) :
    inside (a :: l) s e = inside l s e := by
  rw [ssorted_cons] at h
  have := h.1 s hs
  simp only [inside, List.filter_cons]
  have : ¬ (s < a) := by omega
  simp [this]

theorem inside_eq_zero_iff (l : List Int) (s e : Int) : inside l s e = 0 ↔ ∀ y ∈ l, ¬ (s < y ∧ y < e) := by
  unfold inside
  rw [List.length_eq_zero_iff, List.filter_eq_nil_iff]
  constructor
  · intro h y hy; have := h y hy; simpa using this
  · intro h y hy; have := h y hy; simpa using this

theorem inside_mono (l : List Int) (s s' e e' : Int) (hs : s' ≤ s) (he : e ≤ e') :
    inside l s e ≤ inside l s' e' := by
  unfold inside
  rw [← List.countP_eq_length_filter, ← List.countP_eq_length_filter]
  refine List.countP_mono_left fun y _ hy => ?_
  simp only [Bool.and_eq_true, decide_eq_true_eq] at hy ⊢
  omega

/-- widening an interval so that it takes in one more element of the list raises the count -/
theorem inside_lt (l : List Int) (s s' e e' w : Int) (hw : w ∈ l) (hs : s' ≤ s) (he : e ≤ e')
    (hin : s' < w ∧ w < e') (hout : ¬ (s < w ∧ w < e)) : inside l s e < inside l s' e' := by
  obtain ⟨l₁, l₂, rfl⟩ := List.append_of_mem hw
  have h1 := inside_mono l₁ s s' e e' hs he
  have h2 := inside_mono l₂ s s' e e' hs he
  have hq : (decide (s' < w) && decide (w < e')) = true := by simpa using hin
  have hp : (decide (s < w) && decide (w < e)) = false := by simpa using hout
  unfold inside at h1 h2 ⊢
  simp only [List.filter_append, List.filter_cons, hq, hp, if_true, Bool.false_eq_true, if_false,
    List.length_append, List.length_cons]
  omega

theorem inside_congr (l : List Int) (s s' e e' : Int)
    (h : ∀ y ∈ l, (s < y ∧ y < e) ↔ (s' < y ∧ y < e')) : inside l s e = inside l s' e' := by
  unfold inside
  congr 1
  apply List.filter_congr
  intro y hy
  have := h y hy
  rw [Bool.eq_iff_iff]; simpa using this

theorem mem_range (a b x : Int) : x ∈ range a b ↔ a ≤ x ∧ x < b := by
  unfold range
  simp only [List.mem_map, List.mem_range]
  constructor
  · rintro ⟨k, hk, rfl⟩; omega
  · rintro ⟨h1, h2⟩; exact ⟨(x - a).toNat, by omega, by omega⟩

theorem pairwise_range (a b : Int) : (range a b).Pairwise (· < ·) := by
  unfold range
  rw [List.pairwise_map]
  exact List.pairwise_lt_range.imp (by intro x y h; omega)

theorem length_range (a b : Int) : ((range a b).length : Int) = max 0 (b - a) := by
  unfold range; simp; omega

theorem mem_rangeDown (a b x : Int) : x ∈ rangeDown a b ↔ b < x ∧ x ≤ a := by
  unfold rangeDown
  simp only [List.mem_map, List.mem_range]
  constructor
  · rintro ⟨k, hk, rfl⟩; omega
  · rintro ⟨h1, h2⟩; exact ⟨(a - x).toNat, by omega, by omega⟩

theorem pairwise_rangeDown (a b : Int) : (rangeDown a b).Pairwise (· > ·) := by
  unfold rangeDown
  rw [List.pairwise_map]
  exact List.pairwise_lt_range.imp (by intro x y h; omega)

/-- the test `len(sorted(set(sites))) == max_index + 1` of `build_spans` recognises exactly the site
lists that contain every position `0..n`, provided all sites lie in `[0,n]` -/
theorem length_sortDedup_iff (n : Int) (S : List Int) (hn : -1 ≤ n) (hb : ∀ s ∈ S, 0 ≤ s ∧ s ≤ n) :
    ((sortDedup S).length : Int) = n + 1 ↔ NonSpecific n S := by
  constructor
  · intro h i h0 hn
    have := (ssorted_length (sortDedup S) (ssorted_sortDedup S) 0 n
      (fun x hx => hb x ((mem_sortDedup x S).mp hx))).2 (by omega) i h0 hn
    exact (mem_sortDedup i S).mp this
  · intro h
    have : sortDedup S = range 0 (n + 1) := by
      apply ssorted_ext _ _ (ssorted_sortDedup S) (pairwise_range _ _)
      intro x
      rw [mem_sortDedup, mem_range]
      constructor
      · intro hx; have := hb x hx; omega
      · intro hx; exact h x hx.1 (by omega)
    rw [this, length_range]; omega


theorem mk_mem_buildNonEnzymatic (span : Span) (lo hi : Option Int) (s e v : Int) :
    (s, e, v) ∈ buildNonEnzymatic span lo hi ↔
      span.1 ≤ s ∧ s < span.2.1 ∧ e ≤ span.2.1 ∧ v = 0 ∧ lo.getD 1 ≤ e - s ∧
        e - s ≤ hi.getD (span.2.1 - span.1 - 1) ∧ e - s < span.2.1 - span.1 := by
  unfold buildNonEnzymatic
  simp only [List.mem_flatMap, List.mem_map, mem_range, Prod.mk.injEq]
  constructor
  · rintro ⟨i, ⟨h1, h2⟩, j, ⟨h3, h4⟩, rfl, rfl, rfl⟩
    omega
  · rintro ⟨h1, h2, h3, rfl, h4, h5, h6⟩
    exact ⟨s, ⟨h1, h2⟩, e, by omega, rfl, rfl, rfl⟩

theorem buildNonEnzymatic_nodup (span : Span) (lo hi : Option Int) :
    (buildNonEnzymatic span lo hi).Nodup := by
  unfold buildNonEnzymatic
  simp only [List.Nodup]
  rw [List.pairwise_flatMap]
  constructor
  · intro i _
    rw [List.pairwise_map]
    exact (pairwise_range _ _).imp (by intro a b h; simp; omega)
  · exact (pairwise_range _ _).imp (by
      intro a b h x hx y hy
      simp only [List.mem_map] at hx hy
      obtain ⟨_, _, rfl⟩ := hx
      obtain ⟨_, _, rfl⟩ := hy
      simp; omega)

theorem mk_mem_buildLeftSemi (span : Span) (lo hi : Option Int) (s e v : Int) :
    (s, e, v) ∈ buildLeftSemi span lo hi ↔
      s = span.1 ∧ v = span.2.2 ∧ s ≤ e ∧ e < span.2.1 ∧
        lo.getD 1 ≤ e - s ∧ e - s ≤ hi.getD (span.2.1 - span.1) := by
  unfold buildLeftSemi
  simp only [List.mem_map, List.mem_filter, mem_rangeDown, Prod.mk.injEq, decide_eq_true_eq]
  constructor
  · rintro ⟨i, ⟨⟨h1, h2⟩, h3⟩, rfl, rfl, rfl⟩
    omega
  · rintro ⟨rfl, rfl, h1, h2, h3, h4⟩
    exact ⟨e, by omega, rfl, rfl, rfl⟩

theorem buildLeftSemi_nodup (span : Span) (lo hi : Option Int) : (buildLeftSemi span lo hi).Nodup := by
  unfold buildLeftSemi
  simp only [List.Nodup]
  rw [List.pairwise_map]
  exact ((pairwise_rangeDown _ _).filter _).imp (by intro a b h; simp; omega)

theorem mk_mem_buildRightSemi (span : Span) (lo hi : Option Int) (s e v : Int) :
    (s, e, v) ∈ buildRightSemi span lo hi ↔
      e = span.2.1 ∧ v = span.2.2 ∧ span.1 < s ∧ s ≤ e ∧
        lo.getD 1 ≤ e - s ∧ e - s ≤ hi.getD (span.2.1 - span.1) := by
  unfold buildRightSemi
  simp only [List.mem_map, List.mem_filter, mem_range, Prod.mk.injEq, decide_eq_true_eq]
  constructor
  · rintro ⟨i, ⟨⟨h1, h2⟩, h3⟩, rfl, rfl, rfl⟩
    omega
  · rintro ⟨rfl, rfl, h1, h2, h3, h4⟩
    exact ⟨s, by omega, rfl, rfl, rfl⟩

theorem buildRightSemi_nodup (span : Span) (lo hi : Option Int) : (buildRightSemi span lo hi).Nodup := by
  unfold buildRightSemi
  simp only [List.Nodup]
  rw [List.pairwise_map]
  exact ((pairwise_range _ _).filter _).imp (by intro a b h; simp; omega)

/-- the spans that start at `s`: one per site among the next `mc + 1`, its value the site's index -/
theorem mem_enzGo_head (mc : Nat) (lo hi s : Int) (rest : List Int) (x : Span) :
    x ∈ ((rest.take (mc+1)).zipIdx).filterMap (fun p =>
        if lo ≤ p.1 - s ∧ p.1 - s ≤ hi then some (s, p.1, (p.2 : Int)) else none) ↔
      ∃ e, ∃ j : Nat, rest[j]? = some e ∧ j ≤ mc ∧ lo ≤ e - s ∧ e - s ≤ hi ∧ x = (s, e, (j : Int)) := by
  simp only [List.mem_filterMap, Prod.exists, List.mem_zipIdx_iff_getElem?, List.getElem?_take]
  refine exists_congr fun e => exists_congr fun j => ?_
  constructor
  · rintro ⟨hj, hx⟩
    split at hj
    · split at hx
      · rename_i hjm hc
        exact ⟨hj, by omega, hc.1, hc.2, (Option.some.inj hx).symm⟩
      · cases hx
    · cases hj
  · rintro ⟨hj, hmc, hlo, hhi, rfl⟩
    exact ⟨by rw [if_pos (by omega)]; exact hj, by rw [if_pos ⟨hlo, hhi⟩]⟩

theorem mem_enzGo (mc : Nat) (lo hi : Int) (l : List Int) (h : SSorted l) (s e v : Int) :
    (s, e, v) ∈ enzGo mc lo hi l ↔
      s ∈ l ∧ e ∈ l ∧ s < e ∧ v = (inside l s e : Int) ∧ inside l s e ≤ mc ∧ lo ≤ e - s ∧ e - s ≤ hi := by
  induction l with
  | nil => simp [enzGo]
  | cons a l ih =>
    obtain ⟨hlt, hl⟩ := ssorted_cons.mp h
    simp only [enzGo, List.mem_append]
    rw [mem_enzGo_head, ih hl]
    constructor
    · rintro (⟨e', j, hj, hmc, hlo, hhi, hx⟩ | ⟨hs, he, hse, hv, hmc, hb⟩)
      · cases hx
        have he : e ∈ l := List.mem_of_getElem? hj
        -- in a strictly increasing list the index of `e` is the number of sites before it
        rw [inside_cons_head _ l h e, idx_eq_count l hl j e hj]
        exact ⟨List.mem_cons_self, List.mem_cons_of_mem _ he, hlt e he, rfl, hmc, hlo, hhi⟩
      · rw [inside_cons_tail a l h s e hs]
        exact ⟨List.mem_cons_of_mem _ hs, List.mem_cons_of_mem _ he, hse, hv, hmc, hb⟩
    · rintro ⟨hs, he, hse, hv, hmc, hb⟩
      rcases List.mem_cons.mp hs with rfl | hs
      · have he' : e ∈ l := (List.mem_cons.mp he).resolve_left (by omega)
        rw [inside_cons_head s l h e] at hv hmc
        exact Or.inl ⟨e, _, mem_of_count l hl e he', hmc, hb.1, hb.2, by rw [hv]⟩
      · have hsa := hlt s hs
        have he' : e ∈ l := (List.mem_cons.mp he).resolve_left (by omega)
        rw [inside_cons_tail a l h s e hs] at hv hmc
        exact Or.inr ⟨hs, he', hse, hv, hmc, hb⟩

theorem nodup_enzGo (mc : Nat) (lo hi : Int) (l : List Int) (h : SSorted l) : (enzGo mc lo hi l).Nodup := by
  induction l with
  | nil => simp [enzGo]
  | cons a l ih =>
    obtain ⟨hlt, hl⟩ := ssorted_cons.mp h
    simp only [enzGo]
    rw [List.nodup_append]
    refine ⟨?_, ih hl, ?_⟩
    · simp only [List.Nodup]
      rw [List.pairwise_filterMap, List.pairwise_iff_getElem]
      intro i j hi hj hij b hb b' hb'
      simp only [List.getElem_zipIdx] at hb hb'
      split at hb
      · split at hb'
        · simp only [Option.some.injEq] at hb hb'
          subst hb hb'
          simp; omega
        · simp at hb'
      · simp at hb
    · intro x hx y hy
      obtain ⟨s, e, v⟩ := x
      obtain ⟨s', e', v'⟩ := y
      rw [mem_enzGo _ _ _ _ hl] at hy
      have := hlt s' hy.1
      obtain ⟨_, _, _, _, _, _, hq⟩ := (mem_enzGo_head ..).mp hx
      simp only [Prod.mk.injEq] at hq
      simp only [ne_eq, Prod.mk.injEq]; omega

/-- `build_spans` hands the enzymatic builder the de-duplicated site list; the cleavage points are the same -/
theorem buildEnzymatic_sortDedup (n : Int) (sites : List Int) (mc : Nat) (lo hi : Option Int) :
    buildEnzymatic n (sortDedup sites) mc lo hi = enzGo mc (lo.getD 1) (hi.getD n) (plus n sites) := by
  unfold buildEnzymatic; rw [← plus_sortDedup n sites]; rfl

theorem mem_enzGo_plus (n : Int) (S : List Int) (mc : Nat) (lo hi s e v : Int) :
    (s, e, v) ∈ enzGo mc lo hi (plus n S) ↔ IsEnz n S mc (s, e, v) ∧ lo ≤ e - s ∧ e - s ≤ hi := by
  rw [mem_enzGo _ _ _ _ (ssorted_plus n S)]
  unfold IsEnz
  simp only [and_assoc]

theorem mk_mem_buildEnzymatic (n : Int) (sites : List Int) (mc : Nat) (lo hi : Option Int) (s e v : Int) :
    (s, e, v) ∈ buildEnzymatic n sites mc lo hi ↔
      IsEnz n sites mc (s, e, v) ∧ lo.getD 1 ≤ e - s ∧ e - s ≤ hi.getD n :=
  mem_enzGo_plus n sites mc _ _ s e v

theorem mk_mem_buildSpans_enzymatic (n : Int) (sites : List Int) (mc : Nat) (lo hi : Option Int)
    (hlen : ((sortDedup sites).length : Int) ≠ n + 1) (s e v : Int) :
    (s, e, v) ∈ buildSpans n sites mc lo hi false ↔
      IsEnz n sites mc (s, e, v) ∧ lo.getD 1 ≤ e - s ∧ e - s ≤ hi.getD n := by
  unfold buildSpans
  simp only [hlen, if_false, Bool.false_eq_true]
  rw [buildEnzymatic_sortDedup]
  exact mem_enzGo_plus n sites mc _ _ s e v

def SpanLT (a b : Span) : Prop := a.1 < b.1 ∨ (a.1 = b.1 ∧ (a.2.1 < b.2.1 ∨ (a.2.1 = b.2.1 ∧ a.2.2 < b.2.2)))

theorem spanLt_iff (a b : Span) : spanLt a b = true ↔ SpanLT a b := by
  simp [spanLt, SpanLT]

theorem SpanLT.trans {a b c : Span} (h₁ : SpanLT a b) (h₂ : SpanLT b c) : SpanLT a c := by
  unfold SpanLT at *; omega

theorem SpanLT.of_not_of_ne {a b : Span} (h₁ : ¬ SpanLT a b) (h₂ : a ≠ b) : SpanLT b a := by
  obtain ⟨a1, a2, a3⟩ := a; obtain ⟨b1, b2, b3⟩ := b
  simp only [SpanLT, ne_eq, Prod.mk.injEq] at *; omega

open ListSort in
theorem insertSpan_eq (x : Span) (l : List Span) : insertSpan x l = insertD spanLt x l := by
  induction l <;> simp [insertSpan, insertD, *]

open ListSort in
theorem sortDedupSpans_eq (l : List Span) : sortDedupSpans l = sortD spanLt l := by
  unfold sortDedupSpans sortD; congr; funext x l; exact insertSpan_eq x l

theorem mem_sortDedupSpans (x : Span) (l : List Span) : x ∈ sortDedupSpans l ↔ x ∈ l :=
  sortDedupSpans_eq l ▸ ListSort.mem_sortD _

theorem pairwise_sortDedupSpans (l : List Span) : (sortDedupSpans l).Pairwise SpanLT :=
  sortDedupSpans_eq l ▸ ListSort.pairwise_sortD (R := SpanLT) (fun _ _ _ => SpanLT.trans)
    (fun _ _ h => (spanLt_iff _ _).mp h)
    (fun x y h hne => SpanLT.of_not_of_ne (fun h' => by rw [(spanLt_iff _ _).mpr h'] at h; cases h) hne) l

theorem nodup_of_pairwise_spanLT {l : List Span} (h : l.Pairwise SpanLT) : l.Nodup :=
  h.imp (by intro a b h heq; subst heq; unfold SpanLT at h; omega)

end Spans
