import PeptVerif.Spec.StaticMods
import PeptVerif.Lemmas.AssocList
/-! Core Lean only: what the dictionary updates of `condense_static_mods` leave under each key, and that they permute the
modifications placed on residues; the literal occurrences of a target (`targetIndices`). -/
namespace Pept
namespace Static
open AssocList (alter lookup_alter)

theorem occAux_length (t : List Char) (s : List Char) (skip pos : Nat) :
    (occAux t s skip pos).length = countAux t s skip := by
  induction s generalizing skip pos with
  | nil => simp [occAux, countAux]
  | cons c s ih =>
    cases skip with
    | succ k => simp [occAux, countAux, ih]
    | zero =>
      simp only [occAux, countAux]
      split
      · simp [ih]; omega
      · simp [ih]

theorem targetIndices_length (t seq : List Char) : (targetIndices t seq).length = countOcc t seq := by
  unfold targetIndices countOcc
  split
  · rfl
  · exact occAux_length t seq 0 0

theorem occAux_bounds (t : List Char) (s : List Char) (skip pos : Nat) :
    ∀ i ∈ occAux t s skip pos, pos ≤ i ∧ i < pos + s.length := by
  induction s generalizing skip pos with
  | nil => simp [occAux]
  | cons c s ih =>
    intro i hi
    rw [List.length_cons]
    cases skip with
    | succ k =>
      simp only [occAux] at hi
      have := ih k (pos + 1) i hi
      omega
    | zero =>
      simp only [occAux] at hi
      split at hi
      · rcases List.mem_cons.mp hi with rfl | h
        · omega
        · have := ih _ (pos + 1) i h
          omega
      · have := ih 0 (pos + 1) i hi
        omega

theorem targetIndices_lt (t seq : List Char) : ∀ i ∈ targetIndices t seq, i < seq.length := by
  intro i hi
  unfold targetIndices at hi
  split at hi
  · simp at hi
  · have := occAux_bounds t seq 0 0 i hi; omega

theorem occAux_single (c : Char) (s : List Char) (pos : Nat) :
    occAux [c] s 0 pos = ((List.range s.length).filter fun i => s[i]? == some c).map (· + pos) := by
  induction s generalizing pos with
  | nil => simp [occAux]
  | cons x s ih =>
    simp only [occAux, List.length_cons, List.length_nil, Nat.sub_self]
    rw [List.range_succ_eq_map, List.filter_cons]
    have hmap : (List.filter (fun i => (x :: s)[i]? == some c) (List.map Nat.succ (List.range s.length))).map (· + pos)
        = ((List.range s.length).filter fun i => s[i]? == some c).map (· + (pos + 1)) := by
      rw [List.filter_map, List.map_map]
      congr 1
      · funext i; simp [Function.comp]; omega
    by_cases h : x = c
    · subst h
      have : isPrefix [x] (x :: s) = true := by simp [isPrefix]
      simp [this, ih, hmap]
    · have : isPrefix [c] (x :: s) = false := by
        simp [isPrefix]; exact fun e => h e.symm
      simp [this, ih, hmap, h]

theorem targetIndices_single (c : Char) (seq : List Char) :
    targetIndices [c] seq = (List.range seq.length).filter fun i => seq[i]? == some c := by
  simp [targetIndices, occAux_single]

theorem internalGet_eq (d : List (Int × List Mod)) (i : Int) : internalGet d i = d.lookup i := by
  induction d with
  | nil => rfl
  | cons p d ih => obtain ⟨k, v⟩ := p; rw [internalGet, AssocList.lookup_cons, ih]

theorem internalAppend_eq (d : List (Int × List Mod)) (j : Int) (ms : List Mod) :
    internalAppend d j ms = alter (fun o => o.getD [] ++ ms) j d := by
  induction d with
  | nil => rfl
  | cons p d ih => obtain ⟨k, v⟩ := p; simp [internalAppend, alter, ih]

theorem dictGet_eq {α} (m : List (List Char × α)) (k : List Char) : dictGet m k = m.lookup k := by
  induction m with
  | nil => rfl
  | cons p m ih => obtain ⟨a, v⟩ := p; rw [dictGet, AssocList.lookup_cons, ih]

theorem internalGet_internalAppend (d : List (Int × List Mod)) (i j : Int) (ms : List Mod) :
    internalGet (internalAppend d j ms) i =
      if i = j then some ((internalGet d j).getD [] ++ ms) else internalGet d i := by
  simp only [internalGet_eq, internalAppend_eq, lookup_alter]

def getO (cur : Option (List (Int × List Mod))) (i : Int) : List Mod := (internalGet (cur.getD []) i).getD []

theorem modsAt_eq_getO (a : Annotation) (i : Int) : modsAt a i = getO a.internal i := rfl

theorem getO_addInternal (cur : Option (List (Int × List Mod))) (i j : Int) (ms : List Mod) :
    getO (addInternal cur j ms) i = getO cur i ++ (if i = j then ms else []) := by
  cases cur with
  | none =>
    by_cases h : i = j
    · subst h; simp [addInternal, getO, internalGet]
    · have : ¬ j = i := fun e => h e.symm
      simp [addInternal, getO, internalGet, h, this]
  | some d =>
    simp only [addInternal, getO, Option.getD_some, internalGet_internalAppend]
    by_cases h : i = j
    · subst h; simp
    · simp [h]

theorem addInternalAt_cons (cur : Option (List (Int × List Mod))) (j : Nat) (idx : List Nat) (ms : List Mod) :
    addInternalAt cur (j :: idx) ms = addInternalAt (addInternal cur (Int.ofNat j) ms) idx ms := rfl

theorem getO_addInternalAt (idx : List Nat) (cur : Option (List (Int × List Mod))) (i : Nat) (ms : List Mod) :
    getO (addInternalAt cur idx ms) (i : Int) = getO cur (i : Int) ++ (List.replicate (idx.count i) ms).flatten := by
  induction idx generalizing cur with
  | nil => simp [addInternalAt]
  | cons j idx ih =>
    rw [addInternalAt_cons, ih, getO_addInternal]
    by_cases h : j = i
    · subst h
      simp [List.replicate_succ, List.append_assoc]
    · have h' : ¬ ((i : Int) = Int.ofNat j) := by
        simp only [Int.ofNat_eq_natCast]; omega
      rw [if_neg h']
      simp [h]

theorem getO_addInternalAt_neg (idx : List Nat) (cur : Option (List (Int × List Mod))) (i : Int) (hi : i < 0)
    (ms : List Mod) : getO (addInternalAt cur idx ms) i = getO cur i := by
  induction idx generalizing cur with
  | nil => simp [addInternalAt]
  | cons j idx ih =>
    rw [addInternalAt_cons, ih, getO_addInternal]
    have h' : ¬ i = Int.ofNat j := by
      simp only [Int.ofNat_eq_natCast]; omega
    rw [if_neg h']; simp

theorem getO_applyResidueRules (seq : List Char) (m : StaticMap) (cur : Option (List (Int × List Mod))) (i : Nat) :
    getO (applyResidueRules seq cur m) (i : Int) = getO cur (i : Int) ++ ruleModsAt seq i m := by
  induction m generalizing cur with
  | nil => simp [applyResidueRules, ruleModsAt]
  | cons p m ih =>
    obtain ⟨k, ms⟩ := p
    simp only [applyResidueRules, ruleModsAt]
    cases hk : isTermKey k with
    | true => simp [ih]
    | false => simp [ih, getO_addInternalAt, List.append_assoc]

theorem getO_applyResidueRules_neg (seq : List Char) (m : StaticMap) (cur : Option (List (Int × List Mod))) (i : Int)
    (hi : i < 0) : getO (applyResidueRules seq cur m) i = getO cur i := by
  induction m generalizing cur with
  | nil => simp [applyResidueRules]
  | cons p m ih =>
    obtain ⟨k, ms⟩ := p
    simp only [applyResidueRules]
    cases hk : isTermKey k with
    | true => simp [ih]
    | false => simp [ih, getO_addInternalAt_neg _ _ _ hi]

theorem forall_keys_internalAppend (P : Int → Prop) (d : List (Int × List Mod)) (i : Int) (ms : List Mod) (hi : P i)
    (hd : ∀ q ∈ d, P q.1) : ∀ q ∈ internalAppend d i ms, P q.1 := by
  rw [internalAppend_eq]
  exact fun q hq => AssocList.forall_keys_alter _ hi (fun a ha => by
    obtain ⟨p, hp, e⟩ := List.mem_map.1 ha; exact e ▸ hd p hp) q.1 (List.mem_map_of_mem hq)

def KeysIn (n : Nat) (cur : Option (List (Int × List Mod))) : Prop := ∀ q ∈ cur.getD [], 0 ≤ q.1 ∧ q.1 < (n : Int)

theorem keysIn_addInternal (n : Nat) (cur : Option (List (Int × List Mod))) (i : Nat) (ms : List Mod) (hi : i < n)
    (h : KeysIn n cur) : KeysIn n (addInternal cur (Int.ofNat i) ms) := by
  have hin : 0 ≤ Int.ofNat i ∧ Int.ofNat i < (n : Int) := ⟨Int.natCast_nonneg i, Int.ofNat_lt.mpr hi⟩
  cases cur with
  | none => intro q hq; rw [List.mem_singleton.mp hq]; exact hin
  | some d => exact forall_keys_internalAppend (fun k => 0 ≤ k ∧ k < (n : Int)) d _ ms hin h

theorem keysIn_addInternalAt (n : Nat) (idx : List Nat) (cur : Option (List (Int × List Mod))) (ms : List Mod)
    (hi : ∀ i ∈ idx, i < n) (h : KeysIn n cur) : KeysIn n (addInternalAt cur idx ms) := by
  induction idx generalizing cur with
  | nil => exact h
  | cons j idx ih =>
    rw [addInternalAt_cons]
    exact ih _ (fun i hi' => hi i (by simp [hi'])) (keysIn_addInternal n cur j ms (hi j (by simp)) h)

theorem keysIn_applyResidueRules (seq : List Char) (m : StaticMap) (cur : Option (List (Int × List Mod)))
    (h : KeysIn seq.length cur) : KeysIn seq.length (applyResidueRules seq cur m) := by
  induction m generalizing cur with
  | nil => exact h
  | cons x m ih =>
    obtain ⟨k, ms⟩ := x
    simp only [applyResidueRules]
    split
    · exact ih cur h
    · exact ih _ (keysIn_addInternalAt _ _ cur ms (targetIndices_lt k seq) h)

theorem condenseStatic_ok (a c : Annotation) (h : condenseStatic a = .ok c) :
    (a.static = none ∧ c = a) ∨
      ∃ rules m, a.static = some rules ∧ parseStaticMods (some rules) = .ok m ∧ c = applyMap a m := by
  unfold condenseStatic at h
  split at h
  · exact Or.inl ⟨‹_›, (Except.ok.inj h).symm⟩
  · split at h
    · cases h
    · exact Or.inr ⟨_, _, ‹_›, ‹_›, (Except.ok.inj h).symm⟩

theorem condenseStatic_static (a c : Annotation) (h : condenseStatic a = .ok c) : c.static = none := by
  rcases condenseStatic_ok a c h with ⟨hs, rfl⟩ | ⟨_, _, _, _, rfl⟩
  · exact hs
  · rfl

theorem condenseStatic_idem (a c : Annotation) (h : condenseStatic a = .ok c) : condenseStatic c = .ok c := by
  have := condenseStatic_static a c h
  simp [condenseStatic, this]

theorem condenseStatic_seq (a c : Annotation) (h : condenseStatic a = .ok c) : c.seq = a.seq := by
  rcases condenseStatic_ok a c h with ⟨_, rfl⟩ | ⟨_, _, _, _, rfl⟩ <;> rfl

/-- condensing writes the rules onto the termini and the residues only -/
theorem condenseStatic_untouched (a c : Annotation) (h : condenseStatic a = .ok c) :
    c.isotope = a.isotope ∧ c.adducts = a.adducts ∧ c.charge = a.charge := by
  rcases condenseStatic_ok a c h with ⟨_, rfl⟩ | ⟨_, _, _, _, rfl⟩ <;> exact ⟨rfl, rfl, rfl⟩

theorem condenseStatic_isotope (a c : Annotation) (L : Option (List Mod)) (h : condenseStatic a = .ok c) :
    condenseStatic { a with isotope := L } = .ok { c with isotope := L } := by
  rcases condenseStatic_ok a c h with ⟨hs, rfl⟩ | ⟨_, _, hs, hp, rfl⟩
  · simp [condenseStatic, hs]
  · simp only [condenseStatic, hs, hp]; rfl

theorem keysIn_condense (a c : Annotation) (hc : condenseStatic a = .ok c) (h : KeysIn a.seq.length a.internal) :
    KeysIn c.seq.length c.internal := by
  rcases condenseStatic_ok a c hc with ⟨_, rfl⟩ | ⟨_, m, _, _, rfl⟩
  · exact h
  · exact keysIn_applyResidueRules a.seq m a.internal h

/-! ### condensing permutes the placed modifications

Every additive or membership fact about the residue modifications after condensing follows from one invariant: they are
the old ones and each rule's, once per index, in some order. The index list is a variable (any model of the occurrences of a
target is served). -/

abbrev intMods (cur : Option (List (Int × List Mod))) : List Mod := (cur.getD []).flatMap (·.2)

theorem internalAppend_perm (d : List (Int × List Mod)) (i : Int) (ms : List Mod) :
    ((internalAppend d i ms).flatMap (·.2)).Perm (d.flatMap (·.2) ++ ms) := by
  induction d with
  | nil => simp [internalAppend]
  | cons p d ih =>
    simp only [internalAppend]
    split <;> simp only [List.flatMap_cons, List.append_assoc]
    · exact List.Perm.append_left _ List.perm_append_comm
    · exact List.Perm.append_left _ ih

theorem addInternal_perm (cur : Option (List (Int × List Mod))) (i : Int) (ms : List Mod) :
    (intMods (addInternal cur i ms)).Perm (intMods cur ++ ms) := by
  cases cur with
  | none => simp [addInternal, intMods]
  | some d => exact internalAppend_perm d i ms

theorem addInternalAt_perm (idx : List Nat) (cur : Option (List (Int × List Mod))) (ms : List Mod) :
    (intMods (addInternalAt cur idx ms)).Perm (intMods cur ++ (List.replicate idx.length ms).flatten) := by
  induction idx generalizing cur with
  | nil => simp [addInternalAt]
  | cons j idx ih =>
    refine (ih (addInternal cur (Int.ofNat j) ms)).trans ?_
    rw [List.length_cons, List.replicate_succ, List.flatten_cons, ← List.append_assoc]
    exact List.Perm.append_right _ (addInternal_perm cur _ ms)

def residueRuleMods (seq : List Char) (m : StaticMap) : List Mod :=
  m.flatMap fun p => if isTermKey p.1 then [] else (List.replicate (countOcc p.1 seq) p.2).flatten

theorem applyResidueRules_perm (seq : List Char) (m : StaticMap) (cur : Option (List (Int × List Mod))) :
    (intMods (applyResidueRules seq cur m)).Perm (intMods cur ++ residueRuleMods seq m) := by
  induction m generalizing cur with
  | nil => simp [applyResidueRules, residueRuleMods]
  | cons p m ih =>
    obtain ⟨k, ms⟩ := p
    unfold residueRuleMods at ih ⊢
    simp only [applyResidueRules, List.flatMap_cons]
    split
    · simpa using ih cur
    · refine (ih _).trans ?_
      rw [← List.append_assoc, ← targetIndices_length]
      exact List.Perm.append_right _ (addInternalAt_perm _ cur ms)

theorem mem_residueRuleMods {seq : List Char} {m : StaticMap} {x : Mod} (h : x ∈ residueRuleMods seq m) :
    ∃ p ∈ m, x ∈ p.2 := by
  obtain ⟨p, hp, hxp⟩ := List.mem_flatMap.mp h
  split at hxp
  · cases hxp
  · obtain ⟨l, hl, hxl⟩ := List.mem_flatten.mp hxp
    exact ⟨p, hp, (List.mem_replicate.mp hl).2 ▸ hxl⟩

end Static
end Pept
