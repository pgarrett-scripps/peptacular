import PeptVerif.Spec.Mass
import PeptVerif.Lemmas.ExceptList
import PeptVerif.Lemmas.RatSum
/-!
The fast path of `mass` block by block, as equations in `Except` (errors included): a sum over appended or flattened lists
is the blocks run one after the other, so the six placed-modification blocks are ONE `sumMods` over `Spec.placedMods`.
`fastMass_eq` leaves `adjust_mass` unopened.  Core Lean only.
-/
namespace Pept
open Chem Spec

theorem Spec.sumR_eq_sum (l : List Rat) : sumR l = l.sum := rfl

namespace Mass

theorem sumM_ok {α} (f : α → Except Err Rat) (g : α → Rat) (l : List α)
    (h : ∀ x ∈ l, f x = .ok (g x)) : sumM f l = .ok (sumR (l.map g)) := by
  rw [sumM, ExceptList.foldlM_ok (g := fun acc x => acc + g x) (fun b x hx => by rw [h x hx]; rfl),
    RatSum.foldl_add, Rat.zero_add]; rfl

theorem foldlM_sum_acc {α} (f : α → Except Err Rat) (l : List α) (a z : Rat) :
    l.foldlM (fun acc x => do let v ← f x; pure (acc + v)) (a + z)
      = (do let s ← l.foldlM (fun acc x => do let v ← f x; pure (acc + v)) z; pure (a + s)) := by
  induction l generalizing z with
  | nil => rfl
  | cons x l ih =>
    simp only [List.foldlM_cons, bind_assoc, pure_bind]
    refine bind_congr fun v => ?_
    rw [Rat.add_assoc]; exact ih (z + v)

theorem sumM_append {α} (f : α → Except Err Rat) (l₁ l₂ : List α) :
    sumM f (l₁ ++ l₂) = (do let a ← sumM f l₁; let b ← sumM f l₂; pure (a + b)) := by
  show (l₁ ++ l₂).foldlM _ 0 = _
  rw [List.foldlM_append]
  refine bind_congr fun a => ?_
  have := foldlM_sum_acc f l₂ a 0
  rwa [Rat.add_zero] at this

theorem sumM_nil {α} (f : α → Except Err Rat) : sumM f [] = .ok 0 := rfl

theorem sumM_cons {α} (f : α → Except Err Rat) (x : α) (l : List α) :
    sumM f (x :: l) = (do let a ← f x; let s ← sumM f l; pure (a + s)) := by
  show (x :: l).foldlM _ 0 = _
  rw [List.foldlM_cons]
  simp only [bind_assoc, pure_bind]
  refine bind_congr fun a => ?_
  have := foldlM_sum_acc f l a 0
  rw [Rat.add_zero] at this
  rw [Rat.zero_add]; exact this

theorem sumM_flatMap {α β} (f : β → Except Err Rat) (g : α → List β) (l : List α) :
    sumM (fun x => sumM f (g x)) l = sumM f (l.flatMap g) := by
  induction l with
  | nil => rfl
  | cons x l ih => rw [List.flatMap_cons, sumM_append, ← ih, sumM_cons]

theorem sumOptMods_eq (env : Env) (mono : Bool) (o : Option (List Mod)) :
    sumOptMods env mono o = sumMods env mono (o.getD []) := by cases o <;> rfl

theorem placedModsMass_eq (env : Env) (mono : Bool) (a : Annotation) (ion : Key) :
    placedModsMass env mono a ion = sumMods env mono (placedMods a ion) := by
  have hl : labileMass env mono a ion = sumMods env mono (if ion = ionP then a.labile.getD [] else []) := by
    unfold labileMass; split
    · exact sumOptMods_eq env mono _
    · rfl
  have hiv : intervalsMass env mono a.intervals
      = sumMods env mono ((a.intervals.getD []).flatMap fun iv => iv.mods.getD []) := by
    cases a.intervals with
    | none => rfl
    | some l => simp only [intervalsMass, sumOptMods_eq, sumMods, sumM_flatMap, Option.getD_some]
  have hin : internalMass env mono a.internal = sumMods env mono ((a.internal.getD []).flatMap (·.2)) := by
    cases a.internal with
    | none => rfl
    | some l => simp only [internalMass, sumMods, sumM_flatMap, Option.getD_some]
  unfold placedModsMass placedMods
  rw [hl, hiv, hin]
  simp only [sumOptMods_eq, sumMods, sumM_append, bind_assoc, pure_bind]

theorem sumMods_eq (env : Env) (mono : Bool) (mw : Mod → Rat) (l : List Mod)
    (h : ∀ m ∈ l, modMass env mono m = .ok (mw m)) : sumMods env mono l = .ok (sumR (l.map mw)) :=
  sumM_ok _ _ l h

theorem residueMass_eq (mono : Bool) (w : Char → Rat) (seq : List Char)
    (h : ∀ c ∈ seq, aaMass mono c.toNat = some (w c)) : residueMass mono seq = .ok (sumR (seq.map w)) :=
  sumM_ok _ _ seq fun c hc => by rw [h c hc]; rfl

/-- `B` and `Z` have no entry in `AA_COMPOSITIONS` -/
theorem noBZ_of_residues (mono : Bool) (seq : List Char) (h : ∀ c ∈ seq, (aaMass mono c.toNat).isSome = true) :
    seq.contains 'B' = false ∧ seq.contains 'Z' = false := by
  have hn : ∀ c : Char, lookup c.toNat Gen.aaComp = none → seq.contains c = false := by
    intro c hc
    cases hm : seq.contains c with
    | false => rfl
    | true =>
      have := h c (List.contains_iff_mem.mp hm)
      unfold aaMass at this
      rw [hc] at this
      cases this
  exact ⟨hn 'B' (by decide +kernel), hn 'Z' (by decide +kernel)⟩

theorem fastMass_eq (env : Env) (a : Annotation) (o : Opts) (r : Resolved) (w : Char → Rat) (mw : Mod → Rat) (sv : Rat)
    (hst : staticMass env o.mono a.seq a.static = .ok sv)
    (hres : ∀ c ∈ a.seq, aaMass o.mono c.toNat = some (w c))
    (hmods : ∀ m ∈ placedMods a o.ion, modMass env o.mono m = .ok (mw m)) :
    fastMass env a o r = adjustMass (sv + sumR (a.seq.map w) + sumR ((placedMods a o.ion).map mw))
      r.charge o.ion o.mono o.isotope o.loss r.adducts o.precision := by
  unfold fastMass
  rw [hst, ExceptList.ok_bind, residueMass_eq o.mono w a.seq hres, ExceptList.ok_bind, placedModsMass_eq,
    sumMods_eq env o.mono mw _ hmods, ExceptList.ok_bind]

theorem fastMass_ok_iff (env : Env) (a : Annotation) (o : Opts) (r : Resolved) (v : Rat) :
    fastMass env a o r = .ok v ↔ ∃ st rs pm, staticMass env o.mono a.seq a.static = .ok st ∧
      residueMass o.mono a.seq = .ok rs ∧ placedModsMass env o.mono a o.ion = .ok pm ∧
      adjustMass (st + rs + pm) r.charge o.ion o.mono o.isotope o.loss r.adducts o.precision = .ok v := by
  simp only [fastMass, ExceptList.bind_eq_ok]
  exact ⟨fun ⟨st, h1, rs, h2, pm, h3, h4⟩ => ⟨st, rs, pm, h1, h2, h3, h4⟩,
    fun ⟨st, rs, pm, h1, h2, h3, h4⟩ => ⟨st, h1, rs, h2, pm, h3, h4⟩⟩

theorem fastMass_error (env : Env) (a : Annotation) (o : Opts) (r : Resolved) (e : Err)
    (h : fastMass env a o r = .error e) :
    staticMass env o.mono a.seq a.static = .error e ∨ residueMass o.mono a.seq = .error e ∨
      placedModsMass env o.mono a o.ion = .error e ∨
      ∃ b, adjustMass b r.charge o.ion o.mono o.isotope o.loss r.adducts o.precision = .error e := by
  simp only [fastMass, ExceptList.bind_eq_error] at h
  rcases h with h | ⟨_, -, h | ⟨_, -, h | ⟨_, -, h⟩⟩⟩
  · exact .inl h
  · exact .inr (.inl h)
  · exact .inr (.inr (.inl h))
  · exact .inr (.inr (.inr ⟨_, h⟩))

theorem staticMass_ok_iff (env : Env) (mono : Bool) (seq : List Char) (st : Option (List Mod)) (v : Rat) :
    staticMass env mono seq st = .ok v ↔
      (st = none ∧ v = 0) ∨ ∃ l map, st = some l ∧ env.parseStatic l = .ok map ∧ staticMapMass env mono seq map = .ok v := by
  cases st with
  | none => simp [staticMass, pure, Except.pure, eq_comm]
  | some l => simp [staticMass, ExceptList.bind_eq_ok]

theorem staticMass_error (env : Env) (mono : Bool) (seq : List Char) (st : Option (List Mod)) (e : Err)
    (h : staticMass env mono seq st = .error e) :
    ∃ l, st = some l ∧ (env.parseStatic l = .error e ∨
      ∃ map, env.parseStatic l = .ok map ∧ staticMapMass env mono seq map = .error e) := by
  cases st with
  | none => cases h
  | some l => exact ⟨l, rfl, ExceptList.bind_eq_error.1 h⟩

theorem massWith_fast (cm : CompMassFn) (env : Env) (a : Annotation) (o : Opts) (r : Resolved)
    (hr : resolveArgs a o = .ok r) (hiso : r.isotopeMods = none) (hB : a.seq.contains 'B' = false)
    (hZ : a.seq.contains 'Z' = false) : massWith cm env a o = fastMass env a o r := by
  unfold massWith
  rw [hr, ExceptList.ok_bind]
  simp only [hB, hZ, Bool.false_eq_true, if_false]
  rw [hiso]

theorem massWith_labels (cm : CompMassFn) (env : Env) (a : Annotation) (o : Opts) (r : Resolved) (m : Mod) (ms : List Mod)
    (hr : resolveArgs a o = .ok r) (hlab : r.isotopeMods = some (m :: ms))
    (hB : a.seq.contains 'B' = false) (hZ : a.seq.contains 'Z' = false) :
    massWith cm env a o = (do
      let (c, d) ← cm env a o.ion r.charge o.isotope r.adducts (some (m :: ms)) o.useIsotopeOnMods
      let cmass ← chemMass o.mono c none
      pure (roundOpt (cmass + d + o.loss) o.precision)) := by
  unfold massWith
  rw [hr, ExceptList.ok_bind]
  simp only [hB, hZ, Bool.false_eq_true, if_false]
  rw [hlab]

theorem adjustMass_parts (base : Rat) (charge : Option Int) (ion : Key) (mono : Bool) (isotope : Int) (loss : Rat)
    (adducts : Option ModVal) (precision : Option Int) (fa : Rat) (hfa : fragmentAdjMass mono ion = some fa)
    (ct : Rat) (hct : Mass.chargeTerm (charge.getD 0) ion mono adducts = .ok ct) :
    adjustMass base charge ion mono isotope loss adducts precision
      = .ok (roundOpt (base + ct + fa + ((isotope : Rat) * Gen.neutronMass + loss)) precision) := by
  unfold adjustMass
  dsimp only
  rw [hct, ExceptList.ok_bind, hfa]
  rfl

theorem chargeTerm_pn (z : Int) (ion : Key) (mono : Bool) (h : (ion = ionP || ion = ionN) = true) :
    chargeTerm z ion mono none = .ok (Gen.protonMass * (z : Rat)) := by
  unfold chargeTerm; simp only [h, if_true]; rfl

/-- a fragment type brings its first charge carrier `off` itself, hence `z − 1` protons -/
theorem chargeTerm_fragment (z : Int) (ion : Key) (mono : Bool) (off : Rat) (h : (ion = ionP || ion = ionN) = false)
    (hoff : fragmentIonAdjMass mono ion = some off) :
    chargeTerm z ion mono none = .ok (Gen.protonMass * ((z : Rat) - 1) + off) := by
  unfold chargeTerm; simp only [h, Bool.false_eq_true, if_false, hoff]; rfl

theorem adjustMass_precision_last (base : Rat) (charge : Option Int) (ion : Key) (mono : Bool) (isotope : Int) (loss : Rat)
    (adducts : Option ModVal) (precision : Option Int) :
    adjustMass base charge ion mono isotope loss adducts precision
      = (fun x => roundOpt x precision) <$> adjustMass base charge ion mono isotope loss adducts none := by
  unfold adjustMass
  dsimp only
  cases Mass.chargeTerm (charge.getD 0) ion mono adducts with
  | error e => rfl
  | ok ct => cases fragmentAdjMass mono ion <;> rfl

theorem fastMass_precision_last (env : Env) (a : Annotation) (o : Opts) (r : Resolved) :
    fastMass env a o r = (fastMass env a { o with precision := none } r).map (fun x => roundOpt x o.precision) := by
  show _ = (fun x => roundOpt x o.precision) <$> _
  unfold fastMass
  simp only [map_bind, adjustMass_precision_last _ _ _ _ _ _ _ o.precision]

theorem massWith_precision_last (cm : CompMassFn) (env : Env) (a : Annotation) (o : Opts) :
    massWith cm env a o = (massWith cm env a { o with precision := none }).map (fun x => roundOpt x o.precision) := by
  show _ = (fun x => roundOpt x o.precision) <$> _
  unfold massWith
  have hr : resolveArgs a { o with precision := none } = resolveArgs a o := rfl
  rw [hr, map_bind]
  refine bind_congr fun r => ?_
  split
  · rfl
  · split
    · rfl
    · split
      · simp only [map_bind]; rfl
      · exact fastMass_precision_last env a o r

end Mass
end Pept
