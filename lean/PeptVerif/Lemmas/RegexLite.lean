import PeptVerif.Model.RegexLite
/-! The regex subset of C06/C13. A look-around item reads only the two characters at the cursor (`holdsAt`), so a prefix of
such items is one Boolean test (`matchItems_append_zeroWidth`); the walk over the start positions is a `flatMap` over the
offsets (`sitesGo_eq_flatMap`), so what a rule cuts is read off `matchItems` at one offset, without induction.
Core Lean only. -/
namespace RegexLite

def Item.zeroWidth : Item → Bool
  | .consume _ => false
  | _ => true

/-- truth of a zero-width item given the neighbouring characters -/
def Item.holds : Item → Option Char → Option Char → Bool
  | .behind cls, prev, _ => match prev with | some c => cls.contains c | none => false
  | .ahead cls, _, next => match next with | some c => cls.contains c | none => false
  | .aheadNot cls, _, next => match next with | some c => !cls.contains c | none => false
  | .notAhead cls, _, next => match next with | some c => !cls.contains c | none => true
  | .consume _, _, _ => false

def holdsAt (p : Pattern) (prev next : Option Char) : Bool := p.all fun it => it.holds prev next

theorem holdsAt_cons (it : Item) (ps : Pattern) (a b : Option Char) :
    holdsAt (it :: ps) a b = (it.holds a b && holdsAt ps a b) := by simp [holdsAt]

theorem holdsAt_eq_false {p : Pattern} {it : Item} (hit : it ∈ p) {prev next : Option Char}
    (h : it.holds prev next = false) : holdsAt p prev next = false :=
  List.all_eq_false.mpr ⟨it, hit, by rw [h]; exact Bool.false_ne_true⟩

theorem holdsAt_nil (a b : Option Char) : holdsAt [] a b = true := by simp [holdsAt]

theorem matchItems_cons_zeroWidth (it : Item) (hz : it.zeroWidth = true) (q : Pattern) (before after : List Char) :
    matchItems (it :: q) before after =
      if it.holds before.head? after.head? = true then matchItems q before after else none := by
  cases it with
  | consume c => cases hz
  | behind c => cases before <;> rfl
  | ahead c => cases after <;> rfl
  | aheadNot c =>
    cases after with
    | nil => rfl
    | cons a _ => simp only [matchItems, Item.holds, List.head?_cons, Bool.not_eq_true', Bool.eq_false_iff, ne_eq, ite_not]
  | notAhead c =>
    cases after with
    | nil => rfl
    | cons a _ => simp only [matchItems, Item.holds, List.head?_cons, Bool.not_eq_true', Bool.eq_false_iff, ne_eq, ite_not]

/-- leading look-around items only test the two characters at the cursor -/
theorem matchItems_append_zeroWidth (pre q : Pattern) (hz : ∀ it ∈ pre, it.zeroWidth = true)
    (before after : List Char) :
    matchItems (pre ++ q) before after =
      if holdsAt pre before.head? after.head? = true then matchItems q before after else none := by
  induction pre with
  | nil => rfl
  | cons it ps ih =>
    rw [List.cons_append, matchItems_cons_zeroWidth it (hz it List.mem_cons_self),
      ih fun x hx => hz x (List.mem_cons_of_mem _ hx), holdsAt_cons]
    cases it.holds before.head? after.head? <;> rfl

theorem matchItems_zeroWidth (p : Pattern) (hz : ∀ it ∈ p, it.zeroWidth = true) (before after : List Char) :
    matchItems p before after = bif holdsAt p before.head? after.head? then some 0 else none := by
  have h := matchItems_append_zeroWidth p [] hz before after
  rw [List.append_nil] at h
  rw [h]
  cases holdsAt p before.head? after.head? <;> rfl

theorem matchItems_le (p : Pattern) (before after : List Char) (k : Nat)
    (h : matchItems p before after = some k) : k ≤ after.length := by
  induction p generalizing before after k with
  | nil => cases h; exact Nat.zero_le _
  | cons it ps ih =>
    cases it with
    | consume cls =>
      cases after with
      | nil => cases h
      | cons c rest =>
        rw [matchItems] at h
        split at h
        · obtain ⟨j, hj, rfl⟩ := Option.map_eq_some_iff.mp h
          exact Nat.succ_le_succ (ih _ _ _ hj)
        · cases h
    | _ =>
      rw [matchItems_cons_zeroWidth _ rfl] at h
      split at h
      · exact ih _ _ _ h
      · cases h

theorem matchItems_one (pre post : Pattern) (cls : List Char) (hpre : ∀ it ∈ pre, it.zeroWidth = true)
    (hpost : ∀ it ∈ post, it.zeroWidth = true) (before after : List Char) :
    matchItems (pre ++ .consume cls :: post) before after =
      match after with
      | [] => none
      | c :: rest =>
        if (holdsAt pre before.head? (some c) && cls.contains c && holdsAt post (some c) rest.head?) = true then some 1
        else none := by
  rw [matchItems_append_zeroWidth pre _ hpre]
  cases after with
  | nil => simp only [matchItems]; split <;> rfl
  | cons c rest =>
    simp only [matchItems, matchItems_zeroWidth post hpost, List.head?_cons]
    cases holdsAt pre before.head? (some c) <;> cases cls.contains c <;> cases holdsAt post (some c) rest.head? <;> rfl

def siteAt (p : Pattern) (i : Nat) (before after : List Char) : List Nat :=
  match matchItems p before after with
  | some 0 => [i]
  | some _ => [i + 1]
  | none => []

theorem walk_eq_flatMap {β : Type} (F go : Nat → List Char → List Char → List β)
    (hnil : ∀ i b, go i b [] = F i b [])
    (hcons : ∀ i b c r, go i b (c :: r) = F i b (c :: r) ++ go (i + 1) (c :: b) r)
    (i : Nat) (before after : List Char) :
    go i before after =
      (List.range (after.length + 1)).flatMap fun k => F (i + k) ((after.take k).reverse ++ before) (after.drop k) := by
  induction after generalizing i before with
  | nil => exact (hnil i before).trans (List.append_nil _).symm
  | cons c rest ih =>
    rw [hcons, List.length_cons, List.range_succ_eq_map, List.flatMap_cons, List.flatMap_map]
    refine congrArg (F i before (c :: rest) ++ ·) ((ih (i + 1) (c :: before)).trans ?_)
    simp [Nat.add_assoc, Nat.add_comm 1]

theorem sitesGo_eq_flatMap (p : Pattern) (i : Nat) (before after : List Char) :
    sitesGo p i before after =
      (List.range (after.length + 1)).flatMap fun k =>
        siteAt p (i + k) ((after.take k).reverse ++ before) (after.drop k) :=
  walk_eq_flatMap (siteAt p) (sitesGo p) (fun _ _ => rfl) (fun _ _ _ _ => rfl) ..

theorem mem_sites (p : Pattern) (s : List Char) (x : Nat) :
    x ∈ sites p s ↔ ∃ k, k ≤ s.length ∧ x ∈ siteAt p k (s.take k).reverse (s.drop k) := by
  simp only [sites, sitesGo_eq_flatMap, List.mem_flatMap, List.mem_range, Nat.lt_succ_iff, Nat.zero_add,
    List.append_nil]

theorem mem_siteAt {p : Pattern} {i : Nat} {before after : List Char} {x : Nat} :
    x ∈ siteAt p i before after ↔ ∃ m, matchItems p before after = some m ∧ x = if m = 0 then i else i + 1 := by
  unfold siteAt
  rcases matchItems p before after with _ | _ | m <;> simp

theorem sites_le (p : Pattern) (s : List Char) : ∀ x ∈ sites p s, x ≤ s.length := by
  intro x hx
  obtain ⟨k, hk, h⟩ := (mem_sites p s x).mp hx
  obtain ⟨m, hm, rfl⟩ := mem_siteAt.mp h
  have := matchItems_le p _ _ _ hm
  rw [List.length_drop] at this
  split <;> omega

theorem head?_reverse_take (s : List Char) (k : Nat) (hk : k ≤ s.length) :
    (s.take k).reverse.head? = if k = 0 then none else s[k - 1]? := by
  cases k with
  | zero => rfl
  | succ k =>
    rw [List.head?_reverse, List.getLast?_take]
    simp [List.getElem?_eq_getElem (show k < s.length by omega)]

/-- a zero-width rule cuts at `x` iff its look-around conditions hold for the residues adjacent to `x`; for every
pattern of that kind and every text. -/
theorem mem_sites_zeroWidth (p : Pattern) (hz : ∀ it ∈ p, it.zeroWidth = true) (s : List Char) (x : Nat) :
    x ∈ sites p s ↔ x ≤ s.length ∧ holdsAt p (if x = 0 then none else s[x - 1]?) s[x]? = true := by
  rw [mem_sites]
  constructor
  · rintro ⟨k, hk, h⟩
    obtain ⟨m, hm, rfl⟩ := mem_siteAt.mp h
    rw [matchItems_zeroWidth p hz, head?_reverse_take _ _ hk, List.head?_drop] at hm
    cases hh : holdsAt p (if k = 0 then none else s[k - 1]?) s[k]? <;> rw [hh] at hm <;> cases hm
    exact ⟨hk, hh⟩
  · rintro ⟨hx, hh⟩
    refine ⟨x, hx, mem_siteAt.mpr ⟨0, ?_, rfl⟩⟩
    rw [matchItems_zeroWidth p hz, head?_reverse_take _ _ hx, List.head?_drop, hh]
    rfl

theorem mem_sites_one (pre post : Pattern) (cls : List Char) (hpre : ∀ it ∈ pre, it.zeroWidth = true)
    (hpost : ∀ it ∈ post, it.zeroWidth = true) (s : List Char) (x : Nat) :
    x ∈ sites (pre ++ .consume cls :: post) s ↔
      ∃ k : Nat, ∃ h : k < s.length, x = k + 1 ∧
        (holdsAt pre (if k = 0 then none else s[k - 1]?) (some s[k]) && cls.contains s[k] &&
          holdsAt post (some s[k]) s[k + 1]?) = true := by
  simp only [mem_sites, mem_siteAt, matchItems_one pre post cls hpre hpost]
  constructor
  · rintro ⟨k, hk, m, hm, rfl⟩
    by_cases hlt : k < s.length
    · rw [List.drop_eq_getElem_cons hlt, head?_reverse_take s k hk] at hm
      simp only [List.head?_drop] at hm
      by_cases hh : (holdsAt pre (if k = 0 then none else s[k - 1]?) (some s[k]) && cls.contains s[k] &&
          holdsAt post (some s[k]) s[k + 1]?) = true
      · rw [if_pos hh] at hm; cases hm; exact ⟨k, hlt, rfl, hh⟩
      · rw [if_neg hh] at hm; cases hm
    · rw [List.drop_eq_nil_of_le (by omega)] at hm; cases hm
  · rintro ⟨k, hk, rfl, hh⟩
    refine ⟨k, by omega, 1, ?_, rfl⟩
    rw [List.drop_eq_getElem_cons hk, head?_reverse_take s k (by omega)]
    simp only [List.head?_drop, hh, if_true]

theorem mem_sites_consumeZW (cls : List Char) (zw : Pattern) (hz : ∀ it ∈ zw, it.zeroWidth = true)
    (s : List Char) (x : Nat) :
    x ∈ sites (.consume cls :: zw) s ↔
      ∃ k, ∃ h : k < s.length, x = k + 1 ∧ cls.contains s[k] = true ∧ holdsAt zw (some s[k]) s[k + 1]? = true := by
  simpa only [List.nil_append, holdsAt_nil, Bool.true_and, Bool.and_eq_true] using
    mem_sites_one [] zw cls (fun _ h => nomatch h) hz s x

end RegexLite
