import Lean.Meta.Tactic.Simp.RegisterCommand

/-- character classes of `Model/Formula.lean` as bounds on the code point: `simp only [charClass] at *; omega` decides
any relation between them -/
register_simp_attr charClass
