import PeptVerif.Generated.Unimod
import PeptVerif.Generated.PsiMod
import PeptVerif.Model.Formula
import PeptVerif.Lemmas.ElemTables
import PeptVerif.Lemmas.ModDbTables
/-!
C03, exhaustive clause: every vocabulary entry's tabulated masses against the mass of its tabulated composition,
computed with the element table of `Model/Chem.lean` (recomputed from data/chem.txt).
The vocabularies are `Generated/Unimod.lean` / `Generated/PsiMod.lean` (regenerated from the loaded databases); the
composition text is read with the formula model of `Model/Formula.lean` (C15).  Mathlib-free.
-/
namespace Pept.ModTables
open Pept Pept.Chem ModDb

/-- the tabulated composition of an entry as a composition of this model (packed keys, exact counts) -/
def entryComp (e : Entry) : Option Comp :=
  match e.comp with
  | some f => match Formula.parseChem f [] with
    | .ok c => some (c.map fun kv => (keyOfCodes kv.1, kv.2.val))
    | .error _ => none
  | none => none

def absQ (q : Rat) : Rat := if q < 0 then -q else q

/-- the checkers of `Model/ModDbFacts.lean` (C10) write the same absolute value under another name -/
theorem absQ_eq_absRat : absQ = absRat := rfl

/-- composed of C, H, N, O, P, S and their isotopes only -/
def chnops (c : Comp) : Bool :=
  c.all fun p => p.1 == kC || p.1 == kH || p.1 == kN || p.1 == kO || p.1 == 80 /- 'P' -/ || p.1 == kS || isIsotopeKey p.1

/-- `chem_mass(composition, monoisotopic)`; `none` = unknown element -/
def massOf (mono : Bool) (c : Comp) : Option Rat :=
  if c.all (fun p => (elemMassFast mono p.1).isSome) then some (chemMassL (fun e => (elemMassFast mono e).getD 0) c) else none

/-- `massOf` is the library's `chem_mass` (the literal tables equal the recomputed ones: `Lemmas/ElemTables.lean`) -/
theorem massOf_eq (mono : Bool) (c : Comp) (x : Rat) (h : massOf mono c = some x) :
    c.all (fun p => (elemMass mono p.1).isSome) = true ∧ chemMassL (fun e => (elemMass mono e).getD 0) c = x := by
  have hf : (fun e => (elemMass mono e).getD 0) = (fun e => (elemMassFast mono e).getD 0) := by
    funext e; rw [elemMassFast_eq]
  have hg : (fun (p : Chem.Elem × Rat) => (elemMass mono p.1).isSome) = (fun p => (elemMassFast mono p.1).isSome) := by
    funext p; rw [elemMassFast_eq]
  unfold massOf at h
  rw [hf, hg]
  split at h
  · rename_i hall; exact ⟨hall, Option.some.inj h⟩
  · cases h

/-- |tabulated monoisotopic mass − mass of the composition| -/
def monoGap (e : Entry) : Option Rat := do
  let c ← entryComp e; let m ← e.mono; let x ← massOf true c; pure (absQ (x - m.toRat))

/-- |tabulated average mass − average mass of the composition| -/
def avgGap (e : Entry) : Option Rat := do
  let c ← entryComp e; let m ← e.avg; let x ← massOf false c; pure (absQ (x - m.toRat))

/-- monoisotopic row consistent within 1e-4 -/
def monoOk (e : Entry) : Bool := match monoGap e with | some g => decide (g ≤ 1 / 10000) | none => false

/-- average row consistent within 1e-3 + 5 ppm of the tabulated mass -/
def avgOk (e : Entry) : Bool :=
  match avgGap e, e.avg with
  | some g, some a => decide (g ≤ 1 / 1000 + 5 / 1000000 * absQ a.toRat)
  | _, _ => false

def isChnops (e : Entry) : Bool := match entryComp e with | some c => chnops c | none => false

/-- ids of the entries failing a predicate -/
def failing (p : Entry → Bool) (db : List Entry) : List Str := (db.filter (fun e => !p e)).map (·.id)


/-- rows that carry both a monoisotopic mass and a composition -/
def rows (db : List Entry) : List Entry := db.filter (fun e => e.mono.isSome && e.comp.isSome)

/-- the PSI-MOD rows whose monoisotopic mass is not the mass of their composition within 1e-4 (charged species: one
electron mass; iron-sulfur clusters, ...) -/
def psimodMonoExcluded : List Str := [[48,48,48,52,57], [48,48,48,55,49], [48,48,48,55,53], [48,48,48,56,51], [48,48,49,52,53], [48,48,49,52,54], [48,48,49,52,55], [48,48,49,52,56], [48,48,49,52,57], [48,48,50,51,48], [48,48,50,51,49], [48,48,50,56,53], [48,48,50,56,57], [48,48,50,57,48], [48,48,50,57,49], [48,48,50,57,51], [48,48,50,57,52], [48,48,51,48,53], [48,48,51,51,49], [48,48,51,51,54], [48,48,51,53,51], [48,48,51,54,49], [48,48,51,54,50], [48,48,51,54,52], [48,48,55,49,49], [48,48,56,48,49], [48,48,56,53,52], [48,48,56,53,53], [48,48,56,53,54], [48,48,56,53,55], [48,48,56,54,52], [48,48,56,56,56], [48,48,56,56,57], [48,49,49,52,53], [48,49,51,56,50], [48,49,52,52,51], [48,49,52,54,52], [48,49,52,54,53], [48,49,53,56,56], [48,49,54,56,55], [48,49,54,57,56], [48,49,54,57,57], [48,49,55,48,48], [48,49,55,48,49], [48,49,55,48,50], [48,49,55,55,51], [48,49,55,56,52], [48,49,55,56,56], [48,49,55,56,57], [48,49,55,57,48], [48,49,55,57,49], [48,49,55,57,50], [48,49,55,57,55], [48,49,55,57,56], [48,49,56,48,49], [48,49,56,48,50], [48,49,57,48,54], [48,49,57,48,55], [48,49,57,51,51], [48,49,57,51,52], [48,49,57,55,52], [48,49,57,57,48], [48,49,57,57,49]]

/-! `Formula.chemMassStr` over the element table the library has loaded (`Gen.massTable`) and `massOf` over the tables of
`Model/Chem.lean` read the same composition text; they give the same monoisotopic mass as soon as the two element tables
agree on the elements of the composition (`chemMassComp_of_agreeOn` in `Lemmas/ModTablesBridge.lean`).  Because
`keyOfCodes` is not injective, `massOf` knowing a packed key says nothing about whether the loaded table knows the symbol:
hence the explicit list `unimodElems`. -/

/-- The elements that occur in Unimod compositions, in order of first occurrence (from the generated table; the last clause
of `unimod_rows` checks that there is no other).  When Unimod gains an element that clause fails: add the symbol here,
and `elems_agree` then checks that both element tables give it the same monoisotopic mass. -/
def unimodElems : List Str :=
  [str% "H", str% "C", str% "O", str% "N", str% "S", str% "2H", str% "P", str% "Na", str% "13C", str% "Cl", str% "F",
   str% "I", str% "Se", str% "18O", str% "15N", str% "Br", str% "Hg", str% "Fe", str% "Mo", str% "Cu", str% "K", str% "B",
   str% "As", str% "Li", str% "Ca", str% "Ni", str% "Zn", str% "Ag", str% "Mg", str% "Al", str% "Si"]

def agreeOn (M : Formula.MassTable) (ks : List Str) : Bool :=
  ks.all fun k => match Formula.elemMass M true k with
    | .ok y => elemMassFast true (keyOfCodes k) == some y
    | .error _ => false

def elemsIn (ks : List Str) (e : Entry) : Bool :=
  match e.comp with
  | some f => match Formula.parseChem f [] with
    | .ok c => c.all fun kv => ks.contains kv.1
    | .error _ => false
  | none => false

theorem elems_agree : agreeOn Gen.massTable unimodElems = true := by decide +kernel

/-! The table obligations, restated clause by clause in `Props/C03.lean`.  The clauses about one table are evaluated as one
conjunction: the kernel remembers what `entryComp`, `monoOk`, `avgOk` reduce to on a row, so a row is read and its masses
are summed once per table and not once per clause. -/

theorem unimod_rows :
    Gen.Unimod.entries.all monoOk = true ∧
    failing avgOk Gen.Unimod.entries = [str% "291", str% "391", str% "415", str% "424", str% "444", str% "954"] ∧
    Gen.Unimod.entries.all (fun e => avgOk e || !isChnops e) = true ∧
    Gen.Unimod.entries.all (elemsIn unimodElems) = true := by
  rw [Gen.Unimod.entries_flat]
  decide +kernel

theorem psimod_rows :
    failing monoOk (rows Gen.PsiMod.entries) = psimodMonoExcluded ∧
    (rows Gen.PsiMod.entries).length = 1541 ∧ (failing avgOk (rows Gen.PsiMod.entries)).length = 1048 := by
  rw [Gen.PsiMod.entries_flat]
  decide +kernel

end Pept.ModTables
