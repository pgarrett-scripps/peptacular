import PeptVerif.Model.Annotation
namespace Pept

theorem Annotation.ext_fields {a b : Annotation} (h1 : a.seq = b.seq) (h2 : a.isotope = b.isotope) (h3 : a.static = b.static)
    (h4 : a.labile = b.labile) (h5 : a.unknown = b.unknown) (h6 : a.nterm = b.nterm) (h7 : a.cterm = b.cterm)
    (h8 : a.internal = b.internal) (h9 : a.intervals = b.intervals) (h10 : a.charge = b.charge)
    (h11 : a.adducts = b.adducts) : a = b := by
  cases a; cases b; simp_all

end Pept
