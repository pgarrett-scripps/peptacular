import PeptVerif.Lemmas.Isotope
import PeptVerif.Lemmas.RoundHalfEven
/-!
# Quantitative effect of pruning and rounding

By `convolve_eq_pushforward` a convolution step is a threshold filter on the list of all products followed by a merge
under the rounded key, which turns `∫ g` into `∫ g ∘ rnd` and so keeps the total.  So the loss of a pruned step is the
loss of a filter (`total_filter_bounds`), the loss of the `n` pruned rounds of one element is at most `θ` per product
ever formed (`elementalWork` counts the peaks that enter the rounds, `total_elementalFrom_pruned`), and the error of
Python's `round(x, nd)` is half a unit of the last place (`roundTo_err`).
-/
namespace Isotope

variable {κ : Type}

theorem total_nonneg (d : Dist κ) (hd : NonNeg d) : 0 ≤ total d := by
  have h := integral_mono d (fun _ => 0) (fun _ => 1) hd (fun _ => by norm_num)
  rwa [integral_const, zero_mul] at h

theorem length_filter_le_cast (d : Dist κ) (P : κ × Rat → Bool) : ((d.filter P).length : Rat) ≤ (d.length : Rat) := by
  exact_mod_cast List.length_filter_le P d

/-- **loss of a threshold filter**: if every dropped entry has abundance `≤ θ`, filtering loses at most
`(number of dropped entries)·θ` of the total, and never gains. -/
theorem total_filter_bounds (d : Dist κ) (P : κ × Rat → Bool) (θ : Rat) (hd : NonNeg d)
    (hP : ∀ p ∈ d, P p = false → p.2 ≤ θ) :
    total d - ((d.length : Rat) - ((d.filter P).length : Rat)) * θ ≤ total (d.filter P) ∧
      total (d.filter P) ≤ total d := by
  induction d with
  | nil => simp
  | cons p t ih =>
    obtain ⟨k, a⟩ := p
    obtain ⟨ha, ht⟩ := List.forall_mem_cons.1 hd
    obtain ⟨hle, hPt⟩ := List.forall_mem_cons.1 hP
    obtain ⟨i1, i2⟩ := ih ht hPt
    cases hk : P (k, a) with
    | true =>
      simp only [List.filter_cons, hk, if_true, total_cons, List.length_cons]
      push_cast
      constructor <;> linarith
    | false =>
      have hle := hle hk
      simp only [List.filter_cons, hk, total_cons, List.length_cons, Bool.false_eq_true, if_false]
      push_cast
      constructor <;> linarith

theorem total_filter_lower (d : Dist κ) (P : κ × Rat → Bool) (θ : Rat) (hθ : 0 ≤ θ) (hd : NonNeg d)
    (hP : ∀ p ∈ d, P p = false → p.2 ≤ θ) :
    total d - (d.length : Rat) * θ ≤ total (d.filter P) := by
  have h := (total_filter_bounds d P θ hd hP).1
  have h3 := mul_nonneg (Nat.cast_nonneg (α := Rat) (d.filter P).length) hθ
  linarith

section
variable [DecidableEq κ] [Add κ]

theorem keep_false_le (θ a : Rat) (h : keep (some θ) a = false) : a ≤ θ := by
  simp only [keep, decide_eq_false_iff_not, not_le] at h
  exact le_of_lt h

theorem total_convolve_pruned_bounds (rnd : κ → κ) (θ : Rat) (d1 d2 : Dist κ) (h1 : NonNeg d1) (h2 : NonNeg d2) :
    total d1 * total d2 -
        (((d1.length * d2.length : Nat) : Rat) - ((keptProducts (some θ) d1 d2).length : Rat)) * θ
      ≤ total (convolve rnd (some θ) none d1 d2) ∧
    total (convolve rnd (some θ) none d1 d2) ≤ total d1 * total d2 := by
  have hb := total_filter_bounds (allProducts d1 d2) (fun p => keep (some θ) p.2) θ
    (nonNeg_allProducts d1 d2 h1 h2) (fun p _ hp => keep_false_le θ p.2 hp)
  rwa [total_allProducts, length_allProducts, ← keptProducts, ← total_convolve_pruned rnd] at hb

theorem total_convolve_pruned_lower (rnd : κ → κ) (θ : Rat) (hθ : 0 ≤ θ) (d1 d2 : Dist κ) (h1 : NonNeg d1) (h2 : NonNeg d2) :
    total d1 * total d2 - ((d1.length * d2.length : Nat) : Rat) * θ ≤ total (convolve rnd (some θ) none d1 d2) := by
  have hb := total_filter_lower (allProducts d1 d2) (fun p => keep (some θ) p.2) θ hθ
    (nonNeg_allProducts d1 d2 h1 h2) (fun p _ hp => keep_false_le θ p.2 hp)
  rwa [total_allProducts, length_allProducts, ← keptProducts, ← total_convolve_pruned rnd] at hb

end

theorem roundHalfEven_bound (x : Rat) :
    ((roundHalfEven x : Int) : Rat) - x ≤ 1 / 2 ∧ x - ((roundHalfEven x : Int) : Rat) ≤ 1 / 2 :=
  Pept.Chem.roundHalfEvenInt_bound x

theorem roundTo_err (r : Nat) (q : Rat) : |roundTo (r : Int) q - q| ≤ 1 / 2 / (10 : Rat) ^ r := by
  have key : roundTo (r : Int) q = ((roundHalfEven (q * (10 : Rat) ^ r) : Int) : Rat) / (10 : Rat) ^ r := by
    unfold roundTo; simp
  rw [key]; exact Pept.Chem.roundHalfEvenInt_scaled_err q (by positivity)

section
variable [DecidableEq κ] [Add κ]

/-- number of peaks entering the `count` convolution rounds of `_calculate_elemental_distribution`
(the sum of the lengths of the intermediate distributions `d₀ … d_{count-1}`) -/
def elementalWork (floor : Option Rat) (isotopes : Dist κ) : Nat → Dist κ → Nat
  | 0, _ => 0
  | n + 1, d => d.length + elementalWork floor isotopes n (convolve id floor none d isotopes)

theorem total_elementalFrom_pruned (θ : Rat) (hθ : 0 ≤ θ) (isos : Dist κ) (hi : AllPos isos) (h1 : total isos = 1)
    (n : Nat) (d : Dist κ) (hd : AllPos d) :
    total d - ((elementalWork (some θ) isos n d * isos.length : Nat) : Rat) * θ
        ≤ total (elementalFrom (some θ) isos n d) ∧
      total (elementalFrom (some θ) isos n d) ≤ total d := by
  induction n generalizing d with
  | zero => simp [elementalFrom, elementalWork]
  | succ n ih =>
    simp only [elementalFrom, elementalWork]
    obtain ⟨i1, i2⟩ := ih _ (allPos_convolve id (some θ) none d isos hd hi)
    have b1 := total_convolve_pruned_lower id θ hθ d isos (nonNeg_of_allPos hd) (nonNeg_of_allPos hi)
    have b2 := (total_convolve_pruned_bounds id θ d isos (nonNeg_of_allPos hd) (nonNeg_of_allPos hi)).2
    rw [h1, mul_one] at b1 b2
    push_cast at i1 b1 ⊢
    constructor <;> linarith

end

end Isotope

namespace C14Ext
open Isotope

/-- two-peak pattern used in the non-vacuity examples -/
def exD : Dist Rat := [((0 : Rat), 9 / 10), (1, 1 / 10)]

theorem nonNeg_exD : NonNeg exD := by
  intro p hp
  simp only [exD, List.mem_cons, List.not_mem_nil, or_false] at hp
  rcases hp with rfl | rfl <;> norm_num

end C14Ext
