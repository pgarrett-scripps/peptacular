import PeptVerif.Lemmas.ModDict
import PeptVerif.Model.SequenceFuncs
import PeptVerif.Props.C01
import PeptVerif.Lemmas.CanonFields
import PeptVerif.Lemmas.InternalLookup
/-! C20 at text level: `strip` + `add_mod_dict(mod_dict)` reproduces the original string. -/
namespace Pept

theorem serialize_addModDict_strip (plus : Plus) (a : Annotation) (app : Bool) :
    serialize plus (addModDict (strip a) (modDict a) app) = serialize plus a := by
  rw [addModDict_strip_modDict]
  split
  · exact serialize_of_getInternal_eq plus a none (getInternal_of_internal_nil ‹_›)
  · rfl

theorem sequenceToAnnotation_serialize (plus : Plus) (a : Annotation) (hc : canon a = true) :
    sequenceToAnnotation (serialize plus a) = .ok a := by
  simp [sequenceToAnnotation, parse_serialize plus a hc]

theorem sequenceToAnnotation_residues (a : Annotation) (hc : canon a = true) :
    sequenceToAnnotation a.seq = .ok (strip a) := by
  have hAA : a.seq.all isAA = true := (canon_fields a hc).allAA
  simp [sequenceToAnnotation, parse, isUnmodified, hAA, strip]

theorem stripGetAddStr_serialize (plus plus' : Plus) (app : Bool) (a : Annotation) (hc : canon a = true) :
    stripGetAddStr plus' app (serialize plus a) = .ok (serialize plus' a) := by
  simp only [stripGetAddStr, stripModsStr, getModsStr, addModsStr, sequenceToAnnotation_serialize plus a hc, stripMods,
    getMods, sequenceToAnnotation_residues a hc, ptAddMods, serialize_addModDict_strip]

theorem popAddStr_serialize (plus plus' : Plus) (a : Annotation) (hc : canon a = true) :
    popAddStr plus' (serialize plus a) = .ok (serialize plus' a) := by
  simp only [popAddStr, popModsStr, addModsStr, sequenceToAnnotation_serialize plus a hc, ptPopMods,
    sequenceToAnnotation_residues a hc, ptAddMods, serialize_addModDict_strip]

end Pept
