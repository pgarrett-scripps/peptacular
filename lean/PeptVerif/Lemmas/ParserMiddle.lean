import PeptVerif.Lemmas.ParserRoundTrip
import PeptVerif.Lemmas.InternalLookup
/-!
Helper lemmas for C01: the middle section (residues, residue modifications, intervals). What one step of
`_parse_sequence_middle` does on each kind of text; and, without the parser, that the residue section
`_serialize_annotation_middle` writes for a canonical annotation is the text of surface-syntax segments (`middleSegs`)
that are well formed and denote the three fields they were made from (`middleSegs_spec`). No Mathlib.
-/
namespace Pept

/-- what may follow a bracket run inside the middle section: anything but `[`, `^`, a digit -/
def MidStop (r : List Char) : Prop := ModStop r ∧ r.head? ≠ some '['

theorem MidStop.nil : MidStop [] := ⟨ModStop.nil, by simp⟩

theorem MidStop.cons {x : Char} {t : List Char} (h1 : x ≠ '^') (h2 : x.isDigit = false) (h3 : x ≠ '[') : MidStop (x :: t) :=
  ⟨ModStop.cons h1 h2, by simpa using h3⟩

theorem parseMiddle_res (acc : Annotation) (dm : Option (Int × Bool)) (c : Char) (t : List Char) (hc : isAA c = true) :
    parseMiddle acc dm (c :: t) = parseMiddle { acc with seq := acc.seq ++ [c] } dm t := by
  rw [parseMiddle.eq_def]; simp [hc]

/-- `T` is the text of a non-empty run of `[`-modifications denoting `l`, whatever follows it (`MidStop`) -/
structure BracketRun (T : List Char) (l : List Mod) : Prop where
  head : T.head? = some '['
  ne_nil : l ≠ []
  parse : ∀ t, MidStop t → parseMods '[' ']' (T ++ t) = .ok (l, t)

theorem bracketRun_renderMods (l : List SMod) (hne : l ≠ []) (hl : l.all (SMod.wf '[' ']') = true) :
    BracketRun (renderMods '[' ']' l) (l.map SMod.denote) := by
  refine ⟨?_, by simpa using hne, fun t ht => parseMods_text '[' ']' (by decide) (by decide) (by decide) l hl t ht.1 ht.2⟩
  cases l with
  | nil => exact absurd rfl hne
  | cons s t => simpa using renderMods_head '[' ']' s t []

theorem BracketRun.cons {T : List Char} {l : List Mod} (h : BracketRun T l) : ∃ T', T = '[' :: T' := by
  obtain ⟨hh, _, _⟩ := h
  cases T with
  | nil => simp at hh
  | cons x T' => simp at hh; exact ⟨T', by rw [hh]⟩

theorem parseMiddle_mods (acc : Annotation) (hseq : acc.seq ≠ []) (dm : Option (Int × Bool)) (T : List Char) (l : List Mod)
    (hT : BracketRun T l) (t : List Char) (ht : MidStop t) :
    parseMiddle acc dm (T ++ t) = parseMiddle (addInternal acc l) dm t := by
  obtain ⟨T', rfl⟩ := hT.cons
  have h2 := hT.parse t ht
  simp only [List.cons_append] at h2 ⊢
  rw [parseMiddle.eq_def]
  simp [hseq]
  split
  · rename_i e he; rw [h2] at he; cases he
  · rename_i ms' rest' hb
    rw [h2] at hb; cases hb; rfl

theorem parseMiddle_close_mods (acc : Annotation) (st : Int) (hst : st ≠ Int.ofNat acc.seq.length) (amb : Bool)
    (T : List Char) (l : List Mod) (hT : BracketRun T l) (t : List Char) (ht : MidStop t) :
    parseMiddle acc (some (st, amb)) (')' :: (T ++ t)) =
      parseMiddle (addInterval acc ⟨st, Int.ofNat acc.seq.length, amb, some l⟩) none t := by
  have h2 := hT.parse t ht
  have hh : (T ++ t).head? = some '[' := by
    obtain ⟨T', rfl⟩ := hT.cons; rfl
  rw [parseMiddle.eq_def]
  have hst' : ¬ st = (acc.seq.length : Int) := by simpa [Int.ofNat_eq_natCast] using hst
  simp [hh, hst']
  split
  · rename_i e he; rw [h2] at he; cases he
  · rename_i ms' rest' hb
    rw [h2] at hb; cases hb; rfl

theorem parseMiddle_cterm (acc : Annotation) (T : List Char) (l : List Mod) (hT : BracketRun T l) (t : List Char)
    (ht : MidStop t) :
    parseMiddle acc none ('-' :: (T ++ t)) = .ok ({ acc with cterm := addMods acc.cterm l }, t) := by
  have h2 := hT.parse t ht
  rw [parseMiddle.eq_def]
  simp [h2, hT.ne_nil]

theorem parseMiddle_open (acc : Annotation) (t : List Char) :
    parseMiddle acc none ('(' :: t) = parseMiddle acc (some (Int.ofNat acc.seq.length, false)) t := by
  rw [parseMiddle.eq_def]
  simp

theorem parseMiddle_amb (acc : Annotation) (st : Int) (b : Bool) (t : List Char) :
    parseMiddle acc (some (st, b)) ('?' :: t) = parseMiddle acc (some (st, true)) t := by
  rw [parseMiddle.eq_def]
  simp

theorem parseMiddle_close_none (acc : Annotation) (st : Int) (hst : st ≠ Int.ofNat acc.seq.length) (amb : Bool) (t : List Char)
    (ht : t.head? ≠ some '[') :
    parseMiddle acc (some (st, amb)) (')' :: t) =
      parseMiddle (addInterval acc ⟨st, Int.ofNat acc.seq.length, amb, none⟩) none t := by
  rw [parseMiddle.eq_def]
  have hst' : ¬ st = (acc.seq.length : Int) := by simpa [Int.ofNat_eq_natCast] using hst
  simp [ht, hst']

/-- where the middle phase stops without consuming anything: the end of the input, `/` or `+` -/
def MiddleEnd (t : List Char) : Prop := t = [] ∨ ∃ c r, t = c :: r ∧ (c = '/' ∨ c = '+')

theorem middleEnd_slash (t : List Char) : MiddleEnd ('/' :: t) := Or.inr ⟨_, _, rfl, Or.inl rfl⟩

theorem ChainStop.middleEnd {r : List Char} (h : ChainStop r) : MiddleEnd r := by
  rcases h with h | ⟨t, h⟩ | ⟨t, h⟩ <;> subst h
  · exact Or.inl rfl
  · exact Or.inr ⟨_, _, rfl, Or.inr rfl⟩
  · exact middleEnd_slash _

theorem MiddleEnd.midStop {t : List Char} (h : MiddleEnd t) : MidStop t := by
  rcases h with h | ⟨c, r, h, hc⟩ <;> subst h
  · exact ⟨ModStop.nil, by simp⟩
  · rcases hc with hc | hc <;> subst hc <;> exact MidStop.cons (by decide) (by decide) (by decide)

theorem parseMiddle_stop (acc : Annotation) (t : List Char) (ht : MiddleEnd t) : parseMiddle acc none t = .ok (acc, t) := by
  rcases ht with h | ⟨c, r, h, hc⟩
  · subst h; rw [parseMiddle.eq_def]; rfl
  · subst h
    rw [parseMiddle.eq_def]
    have hA : isAA c = false := by rcases hc with h | h <;> subst h <;> decide
    have h1 : c ≠ '[' := by rcases hc with h | h <;> subst h <;> decide
    have h2 : c ≠ '-' := by rcases hc with h | h <;> subst h <;> decide
    simp [hA, h1, h2, hc]

theorem dictExtend_eq_alter (k : Int) (ms : List Mod) (d : List (Int × List Mod)) :
    dictExtend k ms d = AssocList.alter (fun o => o.getD [] ++ ms) k d := by
  induction d with
  | nil => rfl
  | cons p t ih => obtain ⟨k', v⟩ := p; simp [dictExtend, AssocList.alter, ih]

theorem dictExtend_new (k : Int) (ms : List Mod) (d : List (Int × List Mod)) (h : ∀ p ∈ d, p.1 < k) :
    dictExtend k ms d = d ++ [(k, ms)] := by
  rw [dictExtend_eq_alter]
  exact AssocList.alter_of_not_mem _ fun hk => by
    obtain ⟨p, hp, rfl⟩ := List.mem_map.1 hk; exact Int.lt_irrefl _ (h p hp)

def resRun (plus : Plus) (D : List (Int × List Mod)) : Int → List Char → List SRes
  | _, [] => []
  | i, c :: t => ⟨c, spelledMods plus ((dictGet i D).getD [])⟩ :: resRun plus D (i + 1) t

/-- the residue section from position `i` on: plain residues up to the next interval, then the interval as a group -/
def segsFrom (plus : Plus) (D : List (Int × List Mod)) : Int → List Char → List Interval → List SSeg
  | i, s, [] => (resRun plus D i s).map .res
  | i, s, iv :: L =>
    (resRun plus D i (s.take (iv.start - i).toNat)).map .res ++
      .group iv.ambiguous (resRun plus D iv.start ((s.drop (iv.start - i).toNat).take (iv.stop - iv.start).toNat))
        (spelledMods plus (iv.mods.getD [])) ::
      segsFrom plus D iv.stop (s.drop (iv.stop - i).toNat) L

def middleSegs (plus : Plus) (a : Annotation) : List SSeg :=
  segsFrom plus (a.internal.getD []) 0 a.seq (a.intervals.getD [])

/-- the only place where the residues are counted off: before the interval, inside it, after it -/
theorem segsFrom_cons (plus : Plus) (D : List (Int × List Mod)) (n : Int) (iv : Interval) (L : List Interval) (i : Int)
    (s : List Char) (hL : canonIntervalList n i (iv :: L) = true) (hn : i + s.length = n) :
    ∃ s₁ s₂ s₃, s = s₁ ++ (s₂ ++ s₃) ∧ i + s₁.length = iv.start ∧ iv.start + s₂.length = iv.stop ∧
      segsFrom plus D i s (iv :: L) = (resRun plus D i s₁).map .res ++
        .group iv.ambiguous (resRun plus D iv.start s₂) (spelledMods plus (iv.mods.getD [])) :: segsFrom plus D iv.stop s₃ L := by
  obtain ⟨h1, h2, h3, _⟩ := canonIntervalList_cons.1 hL
  obtain ⟨k, hk⟩ := Int.eq_ofNat_of_zero_le (Int.sub_nonneg.mpr h1)
  obtain ⟨m, hm⟩ := Int.eq_ofNat_of_zero_le (Int.sub_nonneg.mpr (Int.le_of_lt h2))
  have hkm : iv.stop - i = ((k + m : Nat) : Int) := by omega
  refine ⟨s.take k, (s.drop k).take m, s.drop (k + m), ?_, ?_, ?_, by rw [segsFrom, hk, hm, hkm]; rfl⟩
  · rw [← List.drop_drop, List.take_append_drop, List.take_append_drop]
  · rw [List.length_take]; omega
  · rw [List.length_take, List.length_drop]; omega

theorem segsFrom_ne_nil (plus : Plus) (D : List (Int × List Mod)) (i : Int) (s : List Char) (hs : s ≠ []) (L : List Interval) :
    segsFrom plus D i s L ≠ [] := by
  cases L with
  | nil => cases s with
    | nil => exact absurd rfl hs
    | cons c t => simp [segsFrom, resRun]
  | cons iv L => simp [segsFrom]

/-! the serializer looks through ALL intervals in front of every residue; sorted, they come one by one -/

/-- `ivMarks` of the Model on a plain list, so that the inductions below can take the head interval off -/
def marksL (plus : Plus) (i : Int) (ws : Bool) (L : List Interval) : List Char := L.flatMap (ivMark plus i ws)

theorem marksL_eq_ivMarks (plus : Plus) (i : Int) (ws : Bool) (L : List Interval) :
    marksL plus i ws L = ivMarks plus (some L) i ws := rfl

theorem marksL_cons (plus : Plus) (i : Int) (ws : Bool) (iv : Interval) (L : List Interval) :
    marksL plus i ws (iv :: L) = ivMark plus i ws iv ++ marksL plus i ws L := by
  rw [marksL, List.flatMap_cons]; rfl

theorem ivMark_eq_nil (plus : Plus) (i : Int) (ws : Bool) (iv : Interval) (h1 : iv.start ≠ i) (h2 : iv.stop ≠ i) :
    ivMark plus i ws iv = [] := by
  unfold ivMark
  rw [if_neg (fun hh => h1 hh.2), if_neg h2]; rfl

theorem marksL_far (plus : Plus) (n i : Int) (ws : Bool) (L : List Interval) (lo : Int)
    (h : canonIntervalList n lo L = true) (hi : i < lo) : marksL plus i ws L = [] := by
  induction L generalizing lo with
  | nil => rfl
  | cons iv t ih =>
    obtain ⟨h1, h2, _, _, h5⟩ := canonIntervalList_cons.1 h
    have := ivMark_eq_nil plus i ws iv (by omega) (by omega)
    rw [marksL_cons, this, List.nil_append]
    exact ih iv.stop h5 (by omega)

/-- `serializeResidues` as a function of the two fields it reads; recursive like the Model's loop, not the `zipIdx` form of
`serializeResidues_eq`, because the inductions below take the head interval off the list -/
def serRes (plus : Plus) (D : List (Int × List Mod)) (L : List Interval) : Int → List Char → List Char
  | i, [] => marksL plus i false L
  | i, c :: t => marksL plus i true L ++ c :: (optMods '[' ']' plus (dictGet i D) ++ serRes plus D L (i + 1) t)

theorem serializeResidues_serRes (plus : Plus) (a : Annotation) (i : Int) (s : List Char) :
    serializeResidues plus a i s = serRes plus (a.internal.getD []) (a.intervals.getD []) i s := by
  induction s generalizing i with
  | nil => rfl
  | cons c t ih =>
    simp only [serializeResidues, serRes, ih, ivMarks, marksL, internalAt]
    cases a.internal <;> simp [optMods, dictGet]

theorem resRun_render_cons (plus : Plus) (D : List (Int × List Mod)) (i : Int) (c : Char) (t : List Char) :
    (resRun plus D i (c :: t)).flatMap SRes.render =
      c :: (optMods '[' ']' plus (dictGet i D) ++ (resRun plus D (i + 1) t).flatMap SRes.render) := by
  simp only [resRun, List.flatMap_cons, SRes.render, renderMods_spelledMods, List.cons_append]

theorem serRes_run (plus : Plus) (D : List (Int × List Mod)) (L : List Interval) (s₁ s₂ : List Char) (i : Int)
    (h : ∀ j, i ≤ j → j < i + s₁.length → marksL plus j true L = []) :
    serRes plus D L i (s₁ ++ s₂) = (resRun plus D i s₁).flatMap SRes.render ++ serRes plus D L (i + s₁.length) s₂ := by
  induction s₁ generalizing i with
  | nil => simp [resRun]
  | cons c t ih =>
    have h0 := h i (Int.le_refl _) (by simp only [List.length_cons]; omega)
    have := ih (i + 1) (fun j h1 h2 => h j (by omega) (by simp only [List.length_cons]; omega))
    simp only [List.cons_append, serRes, h0, List.nil_append, this, resRun_render_cons, List.length_cons, List.append_assoc]
    congr 4; push_cast; omega

theorem serRes_past (plus : Plus) (D : List (Int × List Mod)) (iv : Interval) (L : List Interval) (s : List Char) (j : Int)
    (h1 : iv.start < iv.stop) (h2 : iv.stop < j) : serRes plus D (iv :: L) j s = serRes plus D L j s := by
  induction s generalizing j with
  | nil => rw [serRes, serRes, marksL_cons, ivMark_eq_nil plus j false iv (by omega) (by omega), List.nil_append]
  | cons c t ih =>
    rw [serRes, serRes, marksL_cons, ivMark_eq_nil plus j true iv (by omega) (by omega), List.nil_append,
      ih (j + 1) (by omega)]

theorem serRes_close (plus : Plus) (D : List (Int × List Mod)) (iv : Interval) (L : List Interval) (s : List Char)
    (h1 : iv.start < iv.stop) :
    serRes plus D (iv :: L) iv.stop s = ')' :: (optMods '[' ']' plus iv.mods ++ serRes plus D L iv.stop s) := by
  have hm : ∀ ws, marksL plus iv.stop ws (iv :: L) = ')' :: (optMods '[' ']' plus iv.mods ++ marksL plus iv.stop ws L) := by
    intro ws
    simp only [marksL_cons, ivMark, if_neg (show ¬ (ws = true ∧ iv.start = iv.stop) by omega), if_true,
      List.nil_append, List.cons_append]
  cases s with
  | nil => simp only [serRes, hm]
  | cons c t => simp only [serRes, hm, serRes_past plus D iv L t (iv.stop + 1) h1 (by omega), List.cons_append, List.append_assoc]

theorem marksL_cons_nil (plus : Plus) (n j : Int) (iv : Interval) (L : List Interval) (h1 : iv.start ≠ j) (h2 : j < iv.stop)
    (h5 : canonIntervalList n iv.stop L = true) : marksL plus j true (iv :: L) = [] := by
  rw [marksL_cons, marksL_far plus n j true L iv.stop h5 h2, ivMark_eq_nil plus j true iv h1 (by omega)]; rfl

theorem serRes_group (plus : Plus) (D : List (Int × List Mod)) (n : Int) (iv : Interval) (L : List Interval) (i : Int)
    (s₁ s₂ s₃ : List Char) (hL : canonIntervalList n i (iv :: L) = true) (hs₁ : i + s₁.length = iv.start)
    (hs₂ : iv.start + s₂.length = iv.stop) :
    serRes plus D (iv :: L) i (s₁ ++ (s₂ ++ s₃)) =
      (resRun plus D i s₁).flatMap SRes.render ++ '(' :: ((if iv.ambiguous then ['?'] else []) ++
        ((resRun plus D iv.start s₂).flatMap SRes.render ++
          ')' :: (optMods '[' ']' plus iv.mods ++ serRes plus D L iv.stop s₃))) := by
  obtain ⟨_, h2, _, _, h5⟩ := canonIntervalList_cons.1 hL
  have hopen : marksL plus iv.start true (iv :: L) = '(' :: (if iv.ambiguous then ['?'] else []) := by
    simp [marksL_cons, marksL_far plus n iv.start true L iv.stop h5 h2, ivMark, show ¬ iv.stop = iv.start by omega]
  rw [serRes_run plus D _ s₁ _ i (fun j _ hj => marksL_cons_nil plus n j iv L (by omega) (by omega) h5), hs₁]
  cases s₂ with
  | nil => simp only [List.length_nil] at hs₂; omega
  | cons c t =>
    simp only [List.length_cons] at hs₂
    rw [List.cons_append, serRes, hopen,
      serRes_run plus D _ t s₃ (iv.start + 1) (fun j _ hj => marksL_cons_nil plus n j iv L (by omega) (by omega) h5),
      show iv.start + 1 + (t.length : Int) = iv.stop by omega, serRes_close plus D iv L s₃ h2, resRun_render_cons]
    simp

theorem render_segsFrom (plus : Plus) (D : List (Int × List Mod)) (n : Int) (L : List Interval) :
    ∀ (i : Int) (s : List Char), canonIntervalList n i L = true → i + s.length = n →
      (segsFrom plus D i s L).flatMap SSeg.render = serRes plus D L i s := by
  induction L with
  | nil =>
    intro i s _ _
    have := serRes_run plus D [] s [] i (fun _ _ _ => rfl)
    simp only [List.append_nil, serRes, marksL, List.flatMap_nil] at this
    simp only [segsFrom, List.flatMap_map, this]
    rfl
  | cons iv L ih =>
    intro i s hL hn
    obtain ⟨s₁, s₂, s₃, rfl, hl1, hl2, hseg⟩ := segsFrom_cons plus D n iv L i s hL hn
    simp only [List.length_append, Int.natCast_add] at hn
    rw [hseg, serRes_group plus D n iv L i s₁ s₂ s₃ hL hl1 hl2]
    rw [← ih iv.stop s₃ (canonIntervalList_cons.1 hL).2.2.2.2 (by omega)]
    simp only [List.flatMap_append, List.flatMap_cons, List.flatMap_map, SSeg.render,
      renderMods_spelledMods, List.cons_append, List.append_assoc]

theorem dictGet_canon (n : Int) (D : List (Int × List Mod)) (lo : Int) (h : canonInternalList n lo D = true) (j : Int) :
    ((dictGet j D).getD []).all (canonMod '[' ']') = true := by
  rw [dictGet_eq_lookup]; exact lookup_canonInternalList h j

theorem resRun_wf (plus : Plus) (D : List (Int × List Mod)) (hD : ∀ j, ((dictGet j D).getD []).all (canonMod '[' ']') = true)
    (s : List Char) (hs : s.all isAA = true) (i : Int) : (resRun plus D i s).all SRes.wf = true := by
  induction s generalizing i with
  | nil => rfl
  | cons c t ih =>
    simp only [List.all_cons, Bool.and_eq_true] at hs
    simp only [resRun, List.all_cons, SRes.wf, hs.1, ih hs.2, Bool.true_and, Bool.and_true]
    exact (canonMods_spelled '[' ']' (by decide) (by decide) plus _ (hD i)).1

theorem wf_segsFrom (plus : Plus) (D : List (Int × List Mod)) (hD : ∀ j, ((dictGet j D).getD []).all (canonMod '[' ']') = true)
    (n : Int) (L : List Interval) :
    ∀ (i : Int) (s : List Char), s.all isAA = true → canonIntervalList n i L = true → i + s.length = n →
      (segsFrom plus D i s L).all SSeg.wf = true := by
  induction L with
  | nil =>
    intro i s hs _ _
    simpa [segsFrom, List.all_map, SSeg.wf, Function.comp_def] using resRun_wf plus D hD s hs i
  | cons iv L ih =>
    intro i s hs hL hn
    obtain ⟨s₁, s₂, s₃, rfl, hl1, hl2, hseg⟩ := segsFrom_cons plus D n iv L i s hL hn
    obtain ⟨_, h2, _, h4, h5⟩ := canonIntervalList_cons.1 hL
    simp only [List.length_append, Int.natCast_add] at hn
    simp only [List.all_append, Bool.and_eq_true] at hs
    have hne : (resRun plus D iv.start s₂).isEmpty = false := by
      cases s₂ with
      | nil => simp only [List.length_nil] at hl2; omega
      | cons c t => rfl
    simp only [hseg, List.all_append, List.all_cons, List.all_map, SSeg.wf, hne, resRun_wf plus D hD s₂ hs.2.1 iv.start,
      (canonOptMods_spelled '[' ']' (by decide) (by decide) plus _ h4).1, ih iv.stop s₃ hs.2.2 h5 (by omega),
      Bool.not_false, Bool.and_self, Bool.and_true, Function.comp_def]
    exact resRun_wf plus D hD s₁ hs.1 i

def sel (D : List (Int × List Mod)) : Int → List Char → List (Int × List Mod)
  | _, [] => []
  | i, _ :: t => (if (dictGet i D).getD [] = [] then [] else [(i, (dictGet i D).getD [])]) ++ sel D (i + 1) t

theorem sel_append (D : List (Int × List Mod)) (s₁ s₂ : List Char) (i : Int) :
    sel D i (s₁ ++ s₂) = sel D i s₁ ++ sel D (i + s₁.length) s₂ := by
  induction s₁ generalizing i with
  | nil => simp [sel]
  | cons c t ih =>
    simp only [List.cons_append, sel, ih, List.append_assoc, List.length_cons]
    congr 3; push_cast; omega

theorem dictGet_none_of_lt (n k lo : Int) (D : List (Int × List Mod)) (h : canonInternalList n lo D = true) (hk : k < lo) :
    dictGet k D = none := by
  rw [dictGet_eq_lookup, AssocList.lookup_eq_none_iff]
  intro hm
  obtain ⟨p, hp, rfl⟩ := List.mem_map.1 hm
  have := ((canonInternalList_iff n lo D).1 h).1 p hp
  omega

theorem sel_nil (s : List Char) (i : Int) : sel [] i s = [] := by
  induction s generalizing i with
  | nil => rfl
  | cons c t ih => simp [sel, dictGet, ih]

theorem sel_cons_lt (k : Int) (v : List Mod) (D : List (Int × List Mod)) (s : List Char) (i : Int) (h : k < i) :
    sel ((k, v) :: D) i s = sel D i s := by
  induction s generalizing i with
  | nil => rfl
  | cons c t ih =>
    have hg : dictGet i ((k, v) :: D) = dictGet i D := by rw [dictGet, if_neg (by omega)]
    rw [sel, sel, hg, ih (i + 1) (by omega)]

/-- a sorted dict is the table of its own lookups -/
theorem sel_canon (n : Int) (s : List Char) :
    ∀ (D : List (Int × List Mod)) (i : Int), canonInternalList n i D = true → i + s.length = n → sel D i s = D := by
  induction s with
  | nil =>
    intro D i hD hn
    cases D with
    | nil => rfl
    | cons p t =>
      obtain ⟨_, _, _⟩ := canonInternalList_cons.1 hD
      simp only [List.length_nil] at hn
      omega
  | cons c t ih =>
    intro D i hD hn
    simp only [List.length_cons, Int.natCast_add, Int.natCast_one] at hn
    cases D with
    | nil => exact sel_nil _ _
    | cons p D' =>
      obtain ⟨k, v⟩ := p
      obtain ⟨g1, g2, hv, g4, g5⟩ := canonInternalList_cons.1 hD
      by_cases hk : k = i
      · subst hk
        simp [sel, dictGet, hv, sel_cons_lt k v D' t (k + 1) (by omega), ih D' (k + 1) g5 (by omega)]
      · have hD1 : canonInternalList n (i + 1) ((k, v) :: D') = true :=
          canonInternalList_cons.2 ⟨by omega, g2, hv, g4, g5⟩
        simp [sel, dictGet_none_of_lt n i (i + 1) _ hD1 (by omega), ih _ (i + 1) hD1 (by omega)]

theorem denote_resRun (plus : Plus) (D : List (Int × List Mod))
    (hD : ∀ j, ((dictGet j D).getD []).all (canonMod '[' ']') = true) (s : List Char) :
    ∀ (acc : Annotation) (i : Int), Int.ofNat acc.seq.length = i →
      (resRun plus D i s).foldl SRes.denote acc =
        { acc with seq := acc.seq ++ s, internal := optAppend acc.internal (sel D i s) } := by
  induction s with
  | nil => intro acc i _; simp [resRun, sel, optAppend_nil]
  | cons c t ih =>
    intro acc i hi
    have hd := (canonMods_spelled '[' ']' (by decide) (by decide) plus _ (hD i)).2
    simp only [resRun, List.foldl_cons]
    rw [ih _ (i + 1) (by simp only [SRes.denote, List.length_append, List.length_cons, List.length_nil, Int.ofNat_eq_natCast] at hi ⊢; omega)]
    simp only [SRes.denote, hd, sel, ← optAppend_append, List.append_assoc, List.cons_append, List.nil_append,
      List.isEmpty_map, hi]
    congr 2
    unfold optAppend
    by_cases hv : (dictGet i D).getD [] = [] <;> simp [hv]

theorem denote_segsFrom (plus : Plus) (D : List (Int × List Mod))
    (hD : ∀ j, ((dictGet j D).getD []).all (canonMod '[' ']') = true) (n : Int) (L : List Interval) :
    ∀ (i : Int) (s : List Char) (acc : Annotation), canonIntervalList n i L = true → i + s.length = n →
      Int.ofNat acc.seq.length = i →
      (segsFrom plus D i s L).foldl SSeg.denote acc =
        { acc with seq := acc.seq ++ s, internal := optAppend acc.internal (sel D i s),
                   intervals := optAppend acc.intervals L } := by
  induction L with
  | nil =>
    intro i s acc _ _ hi
    have := denote_resRun plus D hD s acc i hi
    simp only [segsFrom, List.foldl_map, optAppend_nil]
    exact this
  | cons iv L ih =>
    intro i s acc hL hn hi
    obtain ⟨s₁, s₂, s₃, rfl, hl1, hl2, hseg⟩ := segsFrom_cons plus D n iv L i s hL hn
    obtain ⟨h1, h2, h3, h4, h5⟩ := canonIntervalList_cons.1 hL
    rw [hseg]
    simp only [List.length_append, Int.natCast_add] at hn
    simp only [Int.ofNat_eq_natCast] at hi
    have hmods := (canonOptMods_spelled '[' ']' (by decide) (by decide) plus _ h4).2
    simp only [List.foldl_append, List.foldl_cons, List.foldl_map, SSeg.denote]
    rw [denote_resRun plus D hD s₁ acc i (by simp only [Int.ofNat_eq_natCast]; exact hi),
      denote_resRun plus D hD s₂ _ iv.start (by simp only [List.length_append, Int.ofNat_eq_natCast]; omega),
      ih iv.stop s₃ _ h5 (by omega) (by simp only [List.length_append, Int.ofNat_eq_natCast]; omega)]
    have hiv : (⟨Int.ofNat (acc.seq ++ s₁).length, Int.ofNat (acc.seq ++ (s₁ ++ s₂)).length, iv.ambiguous,
        optList ((spelledMods plus (iv.mods.getD [])).map SMod.denote)⟩ : Interval) = iv := by
      rw [hmods]
      have e1 : Int.ofNat (acc.seq ++ s₁).length = iv.start := by simp only [List.length_append, Int.ofNat_eq_natCast]; omega
      have e2 : Int.ofNat (acc.seq ++ (s₁ ++ s₂)).length = iv.stop := by simp only [List.length_append, Int.ofNat_eq_natCast]; omega
      rw [e1, e2]
    simp only [sel_append, ← optAppend_append, List.append_assoc, hl1, hl2]
    rw [hiv, show some (acc.intervals.getD [] ++ [iv]) = optAppend acc.intervals [iv] from rfl]
    simp only [optAppend_append, List.singleton_append, List.append_assoc]

theorem middleSegs_spec (plus : Plus) (a : Annotation) (hs : a.seq.all isAA = true)
    (hD : canonInternal (Int.ofNat a.seq.length) a.internal = true)
    (hL : canonIntervals (Int.ofNat a.seq.length) a.intervals = true) :
    (middleSegs plus a).flatMap SSeg.render = serializeMiddle plus a ∧ (middleSegs plus a).all SSeg.wf = true ∧
      ∀ acc : Annotation, acc.seq = [] → acc.internal = none → acc.intervals = none →
        (middleSegs plus a).foldl SSeg.denote acc =
          { acc with seq := a.seq, internal := a.internal, intervals := a.intervals } := by
  obtain ⟨hD1, hD2⟩ := canonInternal_getD _ _ hD
  obtain ⟨hL1, hL2⟩ := canonIntervals_getD _ _ hL
  have hDc := dictGet_canon _ _ _ hD1
  have hn : (0 : Int) + a.seq.length = Int.ofNat a.seq.length := by simp
  refine ⟨?_, wf_segsFrom plus _ hDc _ _ 0 a.seq hs hL1 hn, fun acc h1 h2 h3 => ?_⟩
  · rw [middleSegs, render_segsFrom plus _ _ _ 0 a.seq hL1 hn, serializeMiddle, serializeResidues_serRes]
  · rw [middleSegs, denote_segsFrom plus _ hDc _ _ 0 a.seq acc hL1 hn (by simp [h1]), h1, h2, h3,
      optAppend_none, optAppend_none, hL2, List.nil_append, sel_canon _ a.seq _ 0 hD1 hn, hD2]

end Pept
