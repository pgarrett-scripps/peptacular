import PeptVerif.Lemmas.CondenseMass
/-! C18 with an isotope label in force: in an environment whose two calculators agree (`Coherent`) the composition path of
`mass` is the fast path plus the label shift of residues and termini; the label shift is additive over the residues, so the
differences of the pieces sum up, and the bound of `CondenseMass` applies with a slack for the tabulated masses. -/
namespace Pept
namespace CondenseMass
open Static AbsMass

/-- the environment in which every modification weighs what the COMPOSITION calculator gives it: the mass of its composition
(`mod_comp`) or its plain shift (`_parse_mod_delta_mass_only`). The label path of `mass` never consults `E.mu`, so it
computes in this environment whatever `E.mu` says. -/
def envC (E : Env) : Env :=
  { E with mu := fun v => match E.modRes v with | .comp c => chemMass E.em c | .delta d => d | .bad => 0 }

/-- the TABLE part of the agreement of the two mass calculators (C03's subject), plus the defaults of the call `mass(x)`
(`ion_type='p'`, `isotope=0`, `use_isotope_on_mods=False`): residue mass = mass of the residue composition, charge /
ion-type term = mass of its composition, the ion-type adjustment plus the (neutral) charge carrier has the atoms of the two
termini, the supplied dicts have distinct keys, plain shifts are scaled by their multiplier.
How far the tabulated modification masses `E.mu` are from the composition masses is NOT assumed here: it enters the bound as
an explicit slack term. -/
structure Coherent (E : Env) : Prop where
  res : ∀ x, E.res x = chemMass E.em (E.aaComp x)
  adj : E.adj = chemMass E.em E.ionAdj + chemMass E.em E.chargeComp
  term : ∀ x, compGet E.ionAdj x + compGet E.chargeComp x = compGet E.ntermComp x + compGet E.ctermComp x
  ndAa : ∀ x, NodupKeys (E.aaComp x)
  ndIon : NodupKeys E.ionAdj
  ndChg : NodupKeys E.chargeComp
  ndNt : NodupKeys E.ntermComp
  ndCt : NodupKeys E.ctermComp
  noIsoMods : E.useIsotopeOnMods = false
  ionP : E.ionP = true
  iso0 : E.isotope = 0
  quirk : E.q.deltaIgnoresMult = false

theorem modMass_envC (E : Env) (hq : E.q.deltaIgnoresMult = false) (m : Mod) :
    modMass (envC E) m = chemMass E.em (compOf E m) + deltaOf E m := by
  unfold modMass envC compOf deltaOf
  simp only
  cases E.modRes m.val with
  | comp c => simp only [chemMass_compScale]; ring
  | delta d => simp [hq, chemMass]
  | bad => simp [chemMass]

theorem compSum_mass (E : Env) (hq : E.q.deltaIgnoresMult = false) (l : List Mod) (acc : Comp) :
    chemMass E.em (compSum E acc l) = chemMass E.em acc + (sumMods (envC E) l - deltaSum E l) := by
  induction l generalizing acc with
  | nil => simp [compSum, deltaSum, sumMods]
  | cons m l ih =>
    rw [compSum, ih, chemMass_compAdd, deltaSum, sumMods, modMass_envC E hq m]
    ring

/-- all modifications of an annotation, as the fast path adds them (ion type `p`) -/
def modsTotal (E : Env) (b : Annotation) : ℚ :=
  optSum E b.labile + optSum E b.unknown + optSum E b.nterm + optSum E b.cterm + optIntervals E b.intervals + optInt E b.internal

/-- every `compSum` block contributes `sumMods (envC E) l − deltaSum E l` (`compSum_mass`), and the `deltaSum`s cancel against
`deltaMass`. `hlab`: `modsTotal` counts the labile modifications, the composition path only for ion type `p` -/
theorem modComposition_mass (E : Env) (hq : E.q.deltaIgnoresMult = false) (b : Annotation)
    (hlab : E.ionP = true ∨ b.labile = none) :
    chemMass E.em (modComposition E b) + deltaMass E b = modsTotal (envC E) b + (E.isotope : ℚ) * E.em ['n'] := by
  rcases hlab with h | h <;>
    simp only [modComposition, deltaMass, modsTotal, h, if_true, Bool.true_or, ite_self, Option.getD_none, compSum,
      deltaSum, chemMass_compAdd1, compSum_mass E hq, optSum_eq, optIntervals_eq, optInt_eq, sumMods, chemMass] <;>
    ring

/-- how many atoms of `x` the residues of `s` have -/
def seqCount (E : Env) : List Char → List Char → ℚ
  | [], _ => 0
  | r :: s, x => compGet (E.aaComp r) x + seqCount E s x

theorem compGet_seqCompOf (E : Env) (hnd : ∀ r, NodupKeys (E.aaComp r)) (s : List Char) (acc : Comp) (x : List Char) :
    compGet (seqCompOf E s acc) x = compGet acc x + seqCount E s x := by
  induction s generalizing acc with
  | nil => simp [seqCompOf, seqCount]
  | cons r s ih =>
    simp only [seqCompOf, seqCount, ih, compGet_compAdd _ _ _ (hnd r)]; ring

def seqShift (E : Env) (lm : LabelMap) (s : List Char) : ℚ := shiftG E.em (seqCount E s) lm

theorem seqCount_append (E : Env) (s t : List Char) (x : List Char) :
    seqCount E (s ++ t) x = seqCount E s x + seqCount E t x := by
  induction s with
  | nil => simp [seqCount]
  | cons r s ih => simp only [List.cons_append, seqCount, ih]; ring

theorem seqShift_nil (E : Env) (lm : LabelMap) : seqShift E lm [] = 0 := by
  unfold seqShift
  have : seqCount E [] = fun _ => 0 := by funext x; rfl
  rw [this, shiftG_zero]

theorem seqShift_append (E : Env) (lm : LabelMap) (s t : List Char) :
    seqShift E lm (s ++ t) = seqShift E lm s + seqShift E lm t := by
  unfold seqShift
  have : seqCount E (s ++ t) = fun x => seqCount E s x + seqCount E t x := by
    funext x; exact seqCount_append E s t x
  rw [this, shiftG_add]

/-- label shift of the terminal H and OH (what `termLabelShift` computes, both termini together) -/
def termShift (E : Env) (lm : LabelMap) : ℚ := labelShift E.em E.ntermComp lm + labelShift E.em E.ctermComp lm

theorem termLabelShift_some (E : Env) (comp : Comp) (hn : NodupKeys comp) (L : List Mod) (lm : LabelMap)
    (hl : parseIsotopeMods E.knownLabel L = .ok lm) :
    termLabelShift E comp (some L) = .ok (labelShift E.em comp lm) := by
  simp only [termLabelShift, hl, chemMass_relabel E.em lm _ hn]
  congr 1; ring

theorem labelShift_sequenceComposition (E : Env) (hc : Coherent E) (lm : LabelMap) (b : Annotation) :
    labelShift E.em (sequenceComposition E b) lm = seqShift E lm b.seq + termShift E lm := by
  rw [labelShift_eq_shiftG]
  have hg : compGet (sequenceComposition E b) =
      fun x => seqCount E b.seq x + (compGet E.ntermComp x + compGet E.ctermComp x) := by
    funext x
    unfold sequenceComposition
    rw [compGet_compAdd _ _ _ hc.ndChg, compGet_compAdd _ _ _ hc.ndIon, compGet_seqCompOf E hc.ndAa]
    have := hc.term x
    simp only [compGet]; linarith
  rw [hg, shiftG_add, shiftG_add]
  unfold seqShift termShift
  rw [labelShift_eq_shiftG, labelShift_eq_shiftG]

theorem chemMass_sequenceComposition (E : Env) (hc : Coherent E) (b : Annotation) :
    chemMass E.em (sequenceComposition E b) = sumRes E b.seq + E.adj := by
  unfold sequenceComposition
  rw [chemMass_compAdd, chemMass_compAdd, chemMass_seqCompOf E hc.res, hc.adj]
  simp only [chemMass]; ring

/-- **the composition path of `mass`, in a coherent environment**: residues + charge / ion-type term + label shift of
residues and termini + every modification at its ordinary weight -/
theorem massLabel_coherent (E : Env) (hc : Coherent E) (b : Annotation) (L : List Mod) (lm : LabelMap)
    (hst : b.static = none) (hiso : b.isotope = some L) (hl : parseIsotopeMods E.knownLabel L = .ok lm)
    (hres : ∀ m ∈ allMods b, isBad E m = false) :
    massLabel E b = .ok (sumRes E b.seq + E.adj + seqShift E lm b.seq + termShift E lm + modsTotal (envC E) b) := by
  rw [massLabel_ok E b b lm (by simp [condenseStatic, hst]) (List.any_eq_false.mpr fun m hm => by simp [hres m hm])
    (absentRuleBad_static_none E b hst) (by rw [hiso]; exact hl), hc.noIsoMods, if_neg Bool.false_ne_true, add_assoc,
    modComposition_mass E hc.quirk b (.inl hc.ionP), chemMass_relabel E.em lm _ (nodupKeys_sequenceComposition E b),
    labelShift_sequenceComposition E hc, chemMass_sequenceComposition E hc, hc.iso0]
  congr 1
  push_cast
  ring

/-- the label list is written `m0 :: L`: `massOf` takes the composition path only for a non-empty list (`some []` is the
fast path, with no label in force) -/
theorem pieceDiff_label (E : Env) (hc : Coherent E) (c : Annotation) (j : ℕ) (m0 : Mod) (L : List Mod) (lm : LabelMap)
    (hst : c.static = none) (hiso : c.isotope = some (m0 :: L)) (hl : parseIsotopeMods E.knownLabel (m0 :: L) = .ok lm)
    (hres : ∀ m ∈ allMods c, isBad E m = false) :
    pieceDiff E { slice (core c) j (j + 1) with labile := none } =
      .ok (seqShift E lm (pieceSeq c j) + termShift E lm + sumAt (envC E) c.internal j) := by
  rw [piece_core c j hst, hiso]
  have hsub : ∀ m ∈ allMods { seq := pieceSeq c j, isotope := some (m0 :: L), internal := pieceInternal c.internal j },
      isBad E m = false := by
    intro m hm
    apply hres
    simp only [allMods, Option.getD_none, List.flatMap_nil, List.append_nil, List.nil_append, pieceInternal] at hm ⊢
    cases hi : c.internal with
    | none => rw [hi] at hm; simp at hm
    | some d =>
      rw [hi] at hm
      simp only [Option.map_some, Option.getD_some, List.mem_flatMap, List.mem_map, List.mem_filter] at hm
      obtain ⟨q, ⟨q', ⟨hq', _⟩, hqe⟩, hmq⟩ := hm
      subst hqe
      simp only [List.mem_append, List.mem_flatMap, Option.getD_some]
      exact Or.inr ⟨q', hq', hmq⟩
  have hmass := massLabel_coherent E hc
    { seq := pieceSeq c j, isotope := some (m0 :: L), internal := pieceInternal c.internal j } (m0 :: L) lm rfl rfl hl hsub
  have hp := massOf_labelled E
    { seq := pieceSeq c j, isotope := some (m0 :: L), internal := pieceInternal c.internal j } m0 L rfl
  simp only [pieceDiff, stripped, hp, hmass, massOf_bare, modsTotal, optSum, optIntervals, optInt_pieceInternal,
    Except.ok.injEq]
  ring

/-- the significant part of the difference of piece `j`: label shift of its residue + modifications listed there -/
def effL (E : Env) (lm : LabelMap) (c : Annotation) : List ℚ :=
  (List.range c.seq.length).map fun j : ℕ => seqShift E lm (pieceSeq c j) + sumAt (envC E) c.internal (j : ℕ)

theorem pieceDiffs_label (E : Env) (hc : Coherent E) (c : Annotation) (m0 : Mod) (L : List Mod) (lm : LabelMap)
    (hst : c.static = none) (hiso : c.isotope = some (m0 :: L)) (hl : parseIsotopeMods E.knownLabel (m0 :: L) = .ok lm)
    (hres : ∀ m ∈ allMods c, isBad E m = false) :
    pieceDiffs E (splitPieces (core c)) = .ok ((List.range c.seq.length).map fun j : ℕ =>
      seqShift E lm (pieceSeq c j) + termShift E lm + sumAt (envC E) c.internal (j : ℕ)) := by
  rw [splitPieces_core]
  exact pieceDiffs_map E _ _ _ (fun j _ => pieceDiff_label E hc c j m0 L lm hst hiso hl hres)

/-- an additive function of the residues is the sum of its values on the one-residue pieces -/
theorem sum_pieces (f : List Char → ℚ) (h0 : f [] = 0) (hadd : ∀ s t, f (s ++ t) = f s + f t) (s : List Char) :
    listSum ((List.range s.length).map fun j : ℕ => f ((s.take (j + 1)).drop j)) = f s := by
  induction s with
  | nil => simp [listSum, h0]
  | cons x r ih =>
    rw [List.length_cons, List.range_succ_eq_map, List.map_cons, List.map_map]
    have h1 : f (((x :: r).take (0 + 1)).drop 0) = f [x] := by simp
    have h2 : (fun j : ℕ => f (((x :: r).take (j + 1)).drop j)) ∘ Nat.succ = fun j : ℕ => f ((r.take (j + 1)).drop j) := by
      funext j; simp
    simp only [listSum, h1, h2, ih]
    exact (hadd [x] r).symm

theorem listSum_effL (E : Env) (lm : LabelMap) (c : Annotation) (hr : InRange c) :
    listSum (effL E lm c) = seqShift E lm c.seq + optInt (envC E) c.internal := by
  unfold effL
  rw [listSum_add_map, ← listSum_diffsOf (envC E) c hr]
  exact congrArg (· + _) (sum_pieces (seqShift E lm) (seqShift_nil E lm) (seqShift_append E lm) c.seq)

theorem shiftsOf_label (E : Env) (hc : Coherent E) (c : Annotation) (p : ℕ) (m0 : Mod) (L : List Mod) (lm : LabelMap)
    (hst : c.static = none) (hiso : c.isotope = some (m0 :: L)) (hl : parseIsotopeMods E.knownLabel (m0 :: L) = .ok lm)
    (hres : ∀ m ∈ allMods c, isBad E m = false) :
    shiftsOf E c p = .ok
      (shiftsWith E c p (effL E lm c) (labelShift E.em E.ntermComp lm) (labelShift E.em E.ctermComp lm)) := by
  have hn := termLabelShift_some E _ hc.ndNt (m0 :: L) lm hl
  have hct := termLabelShift_some E _ hc.ndCt (m0 :: L) lm hl
  rw [← hiso] at hn hct
  rw [shiftsOf_eq E c p _ _ _ hn hct (pieceDiffs_label E hc c m0 L lm hst hiso hl hres)]
  congr 2
  unfold effL termShift
  rw [List.map_map]
  apply List.map_congr_left
  intro j _
  simp only [Function.comp]; ring

/-- what is dropped by the 1e-6 cut-off: residues and the two terminal label shifts -/
def droppedL (E : Env) (lm : LabelMap) (c : Annotation) : ℕ :=
  droppedNonzero (effL E lm c) +
    (if labelShift E.em E.ntermComp lm ≠ 0 ∧ ¬ absQ (labelShift E.em E.ntermComp lm) > threshold then 1 else 0) +
    (if labelShift E.em E.ctermComp lm ≠ 0 ∧ ¬ absQ (labelShift E.em E.ctermComp lm) > threshold then 1 else 0)

/-- the modifications written outside residue positions are weighed by `E.mu` (`mod_mass`, the tabulated mass) when their
sums are written, but by their composition when the labelled input is weighed: the total discrepancy -/
def slack (E : Env) (c : Annotation) : ℚ :=
  |optSum E c.nterm - optSum (envC E) c.nterm| + |optSum E c.cterm - optSum (envC E) c.cterm| +
  |optSum E c.labile - optSum (envC E) c.labile| + |optSum E c.unknown - optSum (envC E) c.unknown| +
  |optIntervals E c.intervals - optIntervals (envC E) c.intervals|

/-- **the bound of C18 with a label in force**, for a condensed annotation in a table-coherent environment -/
theorem outMass_err_label (E : Env) (hc : Coherent E) (c : Annotation) (p : ℕ) (s : Shifts) (m0 : Mod) (L : List Mod)
    (lm : LabelMap) (hst : c.static = none) (hiso : c.isotope = some (m0 :: L))
    (hl : parseIsotopeMods E.knownLabel (m0 :: L) = .ok lm) (hr : InRange c) (hn : ∀ i : ℤ, E.mu (.int i) = i)
    (hres : ∀ m ∈ allMods c, isBad E m = false) (hs : shiftsOf E c p = .ok s) :
    ∃ x, massOf E c = .ok x ∧
      |outMass E c s p - x| ≤ (writtenL c s : ℚ) * halfUlp p + (droppedL E lm c : ℚ) * threshold + slack E c := by
  have hx : massOf E c = .ok (sumRes E c.seq + E.adj + seqShift E lm c.seq + termShift E lm + modsTotal (envC E) c) := by
    rw [massOf_labelled E c m0 L hiso]
    exact massLabel_coherent E hc c (m0 :: L) lm hst hiso hl hres
  refine ⟨_, hx, ?_⟩
  rw [shiftsOf_label E hc c p m0 L lm hst hiso hl hres] at hs
  obtain rfl := Except.ok.inj hs
  have h := outMass_shiftsWith_err E c p (effL E lm c) (labelShift E.em E.ntermComp lm) (labelShift E.em E.ctermComp lm) hn
  rw [listSum_effL E lm c hr] at h
  -- triangle inequality: `outMass` against the reference of `outMass_shiftsWith_err`, weighed by `E.mu` (`h`), and that
  -- reference against `massOf`, weighed by `envC E`; the two differ in the modifications outside residue positions (`slack`)
  have hsl : |optSum E c.nterm + optSum E c.cterm + optSum E c.labile + optSum E c.unknown + optIntervals E c.intervals -
      (optSum (envC E) c.nterm + optSum (envC E) c.cterm + optSum (envC E) c.labile + optSum (envC E) c.unknown +
        optIntervals (envC E) c.intervals)| ≤ slack E c :=
    abs_add_sub_add_le (abs_add_sub_add_le (abs_add_sub_add_le (abs_add_sub_add_le le_rfl le_rfl) le_rfl) le_rfl) le_rfl
  refine (abs_sub_le _ _ _).trans (add_le_add h ((le_of_eq (congrArg abs ?_)).trans hsl))
  simp only [modsTotal, termShift]
  ring

/-- the modifications written outside residue positions -/
def outsideMods (c : Annotation) : List Mod :=
  c.nterm.getD [] ++ c.cterm.getD [] ++ c.labile.getD [] ++ c.unknown.getD [] ++
    (c.intervals.getD []).flatMap fun iv => iv.mods.getD []

theorem sumMods_close (E E' : Env) (w : Mod → ℚ) (l : List Mod) (h : ∀ m ∈ l, |modMass E m - modMass E' m| ≤ w m) :
    |sumMods E l - sumMods E' l| ≤ (l.map w).sum := by
  induction l with
  | nil => simp [sumMods]
  | cons m l ih =>
    simp only [sumMods, List.map_cons, List.sum_cons]
    exact abs_add_sub_add_le (h m (by simp)) (ih fun m' hm' => h m' (by simp [hm']))

theorem slack_le_sum (E : Env) (c : Annotation) (w : Mod → ℚ)
    (h : ∀ m ∈ outsideMods c, |modMass E m - modMass (envC E) m| ≤ w m) :
    slack E c ≤ ((outsideMods c).map w).sum := by
  have hs : ∀ l, (∀ m ∈ l, m ∈ outsideMods c) → |sumMods E l - sumMods (envC E) l| ≤ (l.map w).sum :=
    fun l hl => sumMods_close E (envC E) w l fun m hm => h m (hl m hm)
  simp only [slack, optSum_eq, optIntervals_eq]
  rw [outsideMods]
  simp only [List.map_append, List.sum_append]
  refine add_le_add (add_le_add (add_le_add (add_le_add (hs _ ?_) (hs _ ?_)) (hs _ ?_)) (hs _ ?_)) (hs _ ?_) <;>
    · intro m hm
      simp only [outsideMods, List.mem_append, hm, true_or, or_true]

/-- if every modification outside a residue position has a tabulated mass within `δ` of its composition mass (times the
multiplier already inside `modMass`), the slack is at most `δ` per such modification -/
theorem slack_le (E : Env) (c : Annotation) (δ : ℚ)
    (h : ∀ m ∈ outsideMods c, |modMass E m - modMass (envC E) m| ≤ δ) :
    slack E c ≤ δ * ((outsideMods c).length : ℚ) := by
  have := slack_le_sum E c (fun _ => δ) h
  rwa [List.map_const', List.sum_replicate, nsmul_eq_mul, mul_comm] at this

theorem slack_zero (E : Env) (c : Annotation) (h : ∀ m : Mod, modMass E m = modMass (envC E) m) : slack E c = 0 := by
  refine le_antisymm ?_ (by unfold slack; positivity)
  simpa using slack_le E c 0 fun m _ => by rw [h m, sub_self, abs_zero]

/-- Σ |multiplier| -/
def multSum : List Mod → ℚ
  | [] => 0
  | m :: r => |(m.mult : ℚ)| + multSum r

theorem sum_map_mult (δ : ℚ) (l : List Mod) : (l.map fun m => δ * |(m.mult : ℚ)|).sum = δ * multSum l := by
  induction l with
  | nil => simp [multSum]
  | cons m l ih => rw [List.map_cons, List.sum_cons, ih, multSum, mul_add]

/-- a tolerance `δ` per unit of modification (|tabulated − composition mass| ≤ δ·|multiplier|) bounds the slack by
`δ · Σ|multiplier|` over the modifications written outside residue positions -/
theorem slack_leW (E : Env) (c : Annotation) (δ : ℚ)
    (h : ∀ m ∈ outsideMods c, |modMass E m - modMass (envC E) m| ≤ δ * |(m.mult : ℚ)|) :
    slack E c ≤ δ * multSum (outsideMods c) :=
  sum_map_mult δ _ ▸ slack_le_sum E c _ h

end CondenseMass
end Pept
