import PeptVerif.Model.Reorder
import PeptVerif.Spec.Reorder
import PeptVerif.Lemmas.ListSort
import PeptVerif.Lemmas.RatSum
import PeptVerif.Lemmas.AnnotationExt
/-! The editors of `Model/Reorder.lean` seen through `residues`: each acts on the list of (residue, its modifications) by
an index map — `slice` by drop/take, `reverse`, `shift` by a rotation, `shuffle` / `sort_residues` by a permutation.
`slice`, `shift` and `permuteWith` are first written as one structure expression (`sliceGeneral`, `shiftBy`, `permuteBy`),
from which the laws about single fields are read off. `reverse`, `shift` and the permutations re-key the dict through a
bijection of the positions (`rekey κ`); each supplies one lemma `rekeys_* : Rekeys n κ g` about its index arithmetic, from
which its residues law, the well-formedness of the new dict and, in `ReorderCanon`, its canonicity follow. Mathlib-free. -/
namespace Pept.Reorder
open ListSort
open AssocList (alter)

theorem map_eq_self {α} (f : α → α) (l : List α) (h : ∀ x ∈ l, f x = x) : l.map f = l := by
  induction l with
  | nil => rfl
  | cons x t ih => simp [h x (by simp), ih (fun y hy => h y (by simp [hy]))]

theorem range_flatMap_drop_take {α} (L : List α) :
    (List.range L.length).flatMap (fun i => (L.drop i).take 1) = L := by
  induction L with
  | nil => rfl
  | cons x t ih =>
    rw [List.length_cons, List.range_succ_eq_map, List.flatMap_cons, List.flatMap_map]
    simp only [List.drop_zero, List.take_succ_cons, List.take_zero, List.drop_succ_cons]
    rw [ih]; rfl

theorem flatMap_congr_of_mem {α β} {f g : α → List β} {l : List α} (h : ∀ x ∈ l, f x = g x) :
    l.flatMap f = l.flatMap g := by
  simp only [List.flatMap_def, List.map_congr_left h]

theorem drop_take_append {α} (L : List α) (s e e' : Nat) (h1 : s ≤ e) (h2 : e ≤ e') :
    (L.drop s).take (e - s) ++ (L.drop e).take (e' - e) = (L.drop s).take (e' - s) := by
  have : L.drop e = (L.drop s).drop (e - s) := by rw [List.drop_drop]; congr 1; omega
  rw [this, ← List.take_add]; congr 1; omega

theorem nodup_map_of_inj_on {α β} (f : α → β) (l : List α) (hn : l.Nodup)
    (hinj : ∀ x ∈ l, ∀ y ∈ l, f x = f y → x = y) : (l.map f).Nodup :=
  List.pairwise_map.2 (List.Pairwise.imp_of_mem (fun ha hb hne h => hne (hinj _ ha _ hb h)) hn)

theorem getElem?_filterMap_of_all {α β} (f : α → Option β) (l : List α) (h : ∀ x ∈ l, (f x).isSome) (i : Nat) :
    (l.filterMap f)[i]? = l[i]?.bind f := by
  induction l generalizing i with
  | nil => simp
  | cons x t ih =>
    have hx := h x (by simp)
    obtain ⟨y, hy⟩ := Option.isSome_iff_exists.mp hx
    rw [List.filterMap_cons, hy]
    cases i with
    | zero => simp [hy]
    | succ i => simp [ih (fun z hz => h z (by simp [hz]))]

theorem range_filterMap_getElem? {α} (l : List α) : (List.range l.length).filterMap (l[·]?) = l := by
  apply List.ext_getElem?
  intro i
  rw [getElem?_filterMap_of_all]
  · by_cases hi : i < l.length
    · rw [List.getElem?_range hi]; simp
    · have h1 : (List.range l.length)[i]? = none := by simp; omega
      have h2 : l[i]? = none := by simp; omega
      rw [h1, h2]; rfl
  · intro x hx
    simp at hx
    simp [hx]

theorem filter_perm_split {α} (p q r : α → Bool) (L : List α)
    (h : ∀ x ∈ L, p x = (q x || r x) ∧ (q x && r x) = false) :
    (L.filter p).Perm (L.filter q ++ L.filter r) := by
  induction L with
  | nil => exact List.Perm.refl _
  | cons x t ih =>
    have iht := ih (fun y hy => h y (List.mem_cons_of_mem _ hy))
    obtain ⟨h1, h2⟩ := h x List.mem_cons_self
    rw [List.filter_cons, List.filter_cons, List.filter_cons, h1]
    cases hq : q x <;> cases hr : r x <;> simp only [hq, hr, Bool.or_false, Bool.or_true, Bool.false_eq_true, if_false, if_true,
      List.cons_append] at h2 ⊢
    · exact iht
    · exact (iht.cons x).trans List.perm_middle.symm
    · exact iht.cons x
    · cases h2

theorem none_ite_or {α} (p q : Prop) [Decidable p] [Decidable q] (x : Option α) :
    (if p then none else if q then none else x) = if p ∨ q then none else x := by
  by_cases hp : p <;> by_cases hq : q <;> simp [hp, hq]

theorem emod_range (k : Int) {n : Nat} (h : 0 < n) : 0 ≤ k % (n : Int) ∧ k % (n : Int) < n :=
  ⟨Int.emod_nonneg _ (by omega), Int.emod_lt_of_pos _ (by omega)⟩

theorem sub_emod_range (k e n : Int) (hk0 : 0 ≤ k) (hk : k < n) (he0 : 0 ≤ e) (he : e < n) :
    (k - e) % n = if e ≤ k then k - e else k - e + n := by
  split
  · exact Int.emod_eq_of_lt (by omega) (by omega)
  · rw [← Int.add_emod_right (k - e) n]
    exact Int.emod_eq_of_lt (by omega) (by omega)

theorem add_emod_range (i e n : Int) (hi0 : 0 ≤ i) (hi : i < n) (he0 : 0 ≤ e) (he : e < n) :
    (i + e) % n = if i + e < n then i + e else i + e - n := by
  split
  · exact Int.emod_eq_of_lt (by omega) (by omega)
  · rw [← Int.sub_emod_right (i + e) n]
    exact Int.emod_eq_of_lt (by omega) (by omega)

theorem neg_emod_range (k n : Int) (h : 0 < n) : (-k) % n = if k % n = 0 then 0 else n - k % n := by
  have h1 := Int.emod_add_mul_ediv k n
  have h2 := Int.emod_nonneg k (by omega : n ≠ 0)
  have h3 := Int.emod_lt_of_pos k h
  split
  · rename_i h0
    have : -k = n * (-(k / n)) := by rw [Int.mul_neg]; omega
    rw [this]; simp
  · rename_i h0
    have : -k = (n - k % n) + n * (-(k / n) - 1) := by rw [Int.mul_sub, Int.mul_neg]; omega
    rw [this, Int.add_mul_emod_self_left]
    exact Int.emod_eq_of_lt (by omega) (by omega)

theorem dictGet?_eq (d : Dict) (k : Int) : dictGet? d k = d.lookup k := by
  induction d with
  | nil => rfl
  | cons p d ih => obtain ⟨a, v⟩ := p; rw [dictGet?, AssocList.lookup_cons, ih]

theorem dictSet_eq (d : Dict) (k : Int) (v : List Mod) : dictSet d k v = alter (fun _ => v) k d := by
  induction d with
  | nil => rfl
  | cons p d ih => obtain ⟨a, w⟩ := p; simp [dictSet, alter, ih]

/-- look-up through a re-keyed dictionary: if among the keys of `d` exactly `k` is sent to `j` -/
theorem dictGet?_map_key (f : Int → Int) (d : Dict) (j k : Int)
    (h : ∀ p ∈ d, f p.1 = j ↔ p.1 = k) :
    dictGet? (d.map fun p => (f p.1, p.2)) j = dictGet? d k := by
  rw [dictGet?_eq, dictGet?_eq, AssocList.lookup_map_key f h]

theorem dictGet?_filterMap_slice (s e : Int) (d : Dict) (j : Int) (h1 : s ≤ j + s) (h2 : j + s < e) :
    dictGet? (d.filterMap (sliceEntry s e)) j = dictGet? d (j + s) := by
  rw [dictGet?_eq, dictGet?_eq]
  exact AssocList.lookup_filterMap_key (fun k => s ≤ k ∧ k < e) (· - s) fun p _ => by omega

theorem dictSet_append_of_not_mem (acc : Dict) (k : Int) (v : List Mod) (h : ∀ p ∈ acc, p.1 ≠ k) :
    dictSet acc k v = acc ++ [(k, v)] :=
  (dictSet_eq acc k v).trans (AssocList.alter_of_not_mem _ fun hk => by
    obtain ⟨p, hp, e⟩ := List.mem_map.1 hk; exact h p hp e)

theorem foldl_dictSet_of_nodup (l : List (Int × List Mod)) (acc : Dict)
    (hn : (l.map (·.1)).Nodup) (hd : ∀ p ∈ acc, ∀ q ∈ l, p.1 ≠ q.1) :
    l.foldl (fun d p => dictSet d p.1 p.2) acc = acc ++ l := by
  simp only [dictSet_eq]
  rw [AssocList.foldl_alter_of_fresh (·.1) (fun p _ => p.2) l acc hn fun q hq hk => by
    obtain ⟨p, hp, e⟩ := List.mem_map.1 hk; exact hd p hp q hq e]
  simp

theorem buildDict_of_nodup (l : List (Int × List Mod)) (hn : (l.map (·.1)).Nodup) : buildDict l = l := by
  unfold buildDict
  rw [foldl_dictSet_of_nodup l [] hn (by simp)]
  simp

theorem residues_getElem? (a : Annotation) (i : Nat) :
    (residues a)[i]? = a.seq[i]?.map fun c => (c, modsAt a i) := by
  unfold residues
  rw [List.getElem?_map, List.getElem?_zipIdx]
  cases a.seq[i]? <;> simp

theorem residues_length (a : Annotation) : (residues a).length = a.seq.length := by
  simp [residues]

/-- `{}` ↦ `None`, as in all four editors (`reverse`, `shift`, `shuffle`, `sort_residues`) -/
def rekey (κ : Int → Int) : Option Dict → Option Dict
  | none => none
  | some [] => none
  | some d => some (d.map fun p => (κ p.1, p.2))

theorem rekey_rekey (κ κ' : Int → Int) (o : Option Dict) : rekey κ' (rekey κ o) = rekey (κ' ∘ κ) o := by
  rcases o with _ | _ | ⟨p, t⟩
  · rfl
  · rfl
  · simp only [rekey, List.map_cons, List.map_map]; rfl

theorem rekey_of_fixes (κ : Int → Int) (o : Option Dict) (hne : o ≠ some [])
    (h : ∀ d, o = some d → ∀ p ∈ d, κ p.1 = p.1) : rekey κ o = o := by
  rcases o with _ | _ | ⟨p, t⟩
  · rfl
  · exact absurd rfl hne
  · exact congrArg some (map_eq_self _ _ fun q hq => Prod.ext (h _ rfl q hq) rfl)

theorem rekey_eq_some {κ : Int → Int} {o : Option Dict} {d' : Dict} (h : rekey κ o = some d') :
    ∃ d, o = some d ∧ d' = d.map fun p => (κ p.1, p.2) := by
  rcases o with _ | _ | ⟨p, t⟩
  · cases h
  · cases h
  · exact ⟨_, rfl, (Option.some.inj h).symm⟩

theorem modsAt_rekey {a b : Annotation} {κ : Int → Int} (hb : b.internal = rekey κ a.internal) (j k : Nat)
    (h : ∀ d, a.internal = some d → ∀ p ∈ d, κ p.1 = j ↔ p.1 = k) : modsAt b j = modsAt a k := by
  unfold modsAt
  rw [hb]
  rcases hd : a.internal with _ | _ | ⟨p, t⟩
  · rfl
  · rfl
  · exact congrArg (·.getD []) (dictGet?_map_key κ (p :: t) j k (h _ hd))

/-- `F` is quantified over the element type because it is used twice: on `a.seq : List Char` in the hypothesis and on
`residues a : List (Char × List Mod)` in the conclusion. -/
theorem residues_rekey {a b : Annotation} {κ : Int → Int} {g : Nat → Nat} (F : ∀ {α : Type}, List α → List α)
    (hF : ∀ {α : Type} (l : List α), l.length = a.seq.length →
      ∀ i, (F l)[i]? = if i < a.seq.length then l[g i]? else none)
    (hseq : b.seq = F a.seq) (hb : b.internal = rekey κ a.internal)
    (h : ∀ d, a.internal = some d → ∀ p ∈ d, ∀ j : Nat, j < a.seq.length → (κ p.1 = j ↔ p.1 = (g j : Nat))) :
    residues b = F (residues a) := by
  apply List.ext_getElem?
  intro i
  rw [residues_getElem?, hseq, hF _ rfl, hF _ (residues_length a)]
  split
  · next hi => rw [residues_getElem?, modsAt_rekey hb i (g i) fun d hd p hp => h d hd p hp i hi]
  · rfl

/-- all that an editor has to supply about its index arithmetic: `κ` (old key ↦ new key) sends the positions `0..n-1`
into themselves, and `g` (new position ↦ old position) is its inverse there -/
def Rekeys (n : Nat) (κ : Int → Int) (g : Nat → Nat) : Prop :=
  ∀ k : Int, 0 ≤ k → k < n → 0 ≤ κ k ∧ κ k < n ∧ ∀ j : Nat, j < n → (κ k = j ↔ k = (g j : Nat))

theorem Rekeys.inj {n κ g} (h : Rekeys n κ g) {k k' : Int} (h0 : 0 ≤ k) (h1 : k < n) (h0' : 0 ≤ k') (h1' : k' < n)
    (e : κ k = κ k') : k = k' := by
  obtain ⟨a0, a1, a2⟩ := h k h0 h1
  obtain ⟨j, hj⟩ := Int.eq_ofNat_of_zero_le a0
  rw [(a2 j (by omega)).1 hj, ((h k' h0' h1').2.2 j (by omega)).1 (e ▸ hj)]

theorem Rekeys.residues {n κ g} (h : Rekeys n κ g) {a b : Annotation} (hn : a.seq.length = n) (hk : KeysOK a)
    (F : ∀ {α : Type}, List α → List α)
    (hF : ∀ {α : Type} (l : List α), l.length = a.seq.length →
      ∀ i, (F l)[i]? = if i < a.seq.length then l[g i]? else none)
    (hseq : b.seq = F a.seq) (hb : b.internal = rekey κ a.internal) : residues b = F (residues a) := by
  subst hn
  exact residues_rekey F hF hseq hb fun d hd p hp => (h _ ((hk d hd).2 p hp).1 ((hk d hd).2 p hp).2).2.2

theorem Rekeys.nodup {n κ g} (h : Rekeys n κ g) {d : Dict} (hnd : (d.map (·.1)).Nodup)
    (hr : ∀ p ∈ d, 0 ≤ p.1 ∧ p.1 < (n : Int)) : ((d.map fun p => (κ p.1, p.2)).map (·.1)).Nodup := by
  rw [List.map_map, show ((·.1) ∘ fun p : Int × List Mod => (κ p.1, p.2)) = κ ∘ (·.1) from rfl, ← List.map_map]
  exact nodup_map_of_inj_on κ _ hnd fun x hx y hy e => by
    obtain ⟨p, hp, rfl⟩ := List.mem_map.1 hx
    obtain ⟨q, hq, rfl⟩ := List.mem_map.1 hy
    exact h.inj (hr p hp).1 (hr p hp).2 (hr q hq).1 (hr q hq).2 e

theorem Rekeys.keysOK {n κ g} (h : Rekeys n κ g) {a b : Annotation} (hn : a.seq.length = n) (hlen : b.seq.length = n)
    (hk : KeysOK a) (hb : b.internal = rekey κ a.internal) : KeysOK b := by
  intro d' hd'
  obtain ⟨d, hd, rfl⟩ := rekey_eq_some (hb ▸ hd')
  obtain ⟨hnd, hr⟩ := hk d hd
  rw [hn] at hr
  refine ⟨h.nodup hnd hr, fun q hq => ?_⟩
  obtain ⟨p, hp, rfl⟩ := List.mem_map.1 hq
  rw [hlen]
  exact ⟨(h _ (hr p hp).1 (hr p hp).2).1, (h _ (hr p hp).1 (hr p hp).2).2.1⟩

theorem pyIndex_nat (n i : Nat) : pyIndex n (i : Int) = min i n := by
  unfold pyIndex
  rw [if_neg (by omega)]
  rfl

theorem pySlice_nat {α} (l : List α) (s e : Nat) :
    pySlice l (s : Int) (e : Int) = (l.drop (min s l.length)).take (min e l.length - min s l.length) := by
  unfold pySlice
  rw [pyIndex_nat, pyIndex_nat]

theorem pySlice_of_le {α} (L : List α) {s e : Nat} (hs : s ≤ e) (he : e ≤ L.length) :
    pySlice L (s : Int) (e : Int) = (L.drop s).take (e - s) := by
  rw [pySlice_nat, Nat.min_eq_left he, Nat.min_eq_left (Nat.le_trans hs he)]

theorem pySlice_length_nat {α} (L : List α) (i j : Nat) (hij : i ≤ j) (hj : j ≤ L.length) :
    (pySlice L (i : Int) (j : Int)).length = j - i := by
  rw [pySlice_of_le L hij hj, List.length_take, List.length_drop]
  omega

theorem pySlice_pySlice_nat {α} (L : List α) (i j k l : Nat) (hij : i ≤ j) (hj : j ≤ L.length) (hkl : k ≤ l)
    (hl : l ≤ j - i) :
    pySlice (pySlice L (i : Int) (j : Int)) (k : Int) (l : Int) = pySlice L ((i + k : Nat) : Int) ((i + l : Nat) : Int) := by
  rw [pySlice_of_le _ hkl (by rw [pySlice_length_nat L i j hij hj]; exact hl), pySlice_of_le L hij hj,
    pySlice_of_le L (by omega) (by omega), List.drop_take, List.drop_drop, List.take_take]
  congr 1
  omega

theorem insertBy_eq {α} (key : α → Nat) (x : α) (l : List α) :
    insertBy key x l = insertB (fun a b => decide (key a ≤ key b)) x l := by
  induction l <;> simp [insertBy, insertB, *]

theorem sortBy_eq {α} (key : α → Nat) (l : List α) : sortBy key l = sortB (fun a b => decide (key a ≤ key b)) l := by
  induction l <;> simp [sortBy, insertBy_eq, *]

theorem sortBy_perm {α} (key : α → Nat) (l : List α) : (sortBy key l).Perm l := sortBy_eq key l ▸ perm_sort _ l

theorem sortBy_map {α β} (f : α → β) (key' : α → Nat) (key : β → Nat) (h : ∀ x, key' x = key (f x)) (l : List α) :
    (sortBy key' l).map f = sortBy key (l.map f) := by
  rw [sortBy_eq, sortBy_eq, map_sort _ f (fun a b => decide (key a ≤ key b)) (by simp [h])]

theorem sortBy_sorted {α} (key : α → Nat) (l : List α) : (sortBy key l).Pairwise (fun a b => key a ≤ key b) :=
  sortBy_eq key l ▸ pairwise_sort (R := fun a b => key a ≤ key b) (fun _ _ _ => Nat.le_trans)
    (fun x y => by simp [Decides]; omega) l

theorem sortBy_length {α} (key : α → Nat) (l : List α) : (sortBy key l).length = l.length :=
  (sortBy_perm key l).length_eq

theorem sortBy_isEmpty {α} (key : α → Nat) (l : List α) : (sortBy key l).isEmpty = l.isEmpty := by
  have := sortBy_length key l
  cases h1 : sortBy key l <;> cases h2 : l <;> simp_all

theorem sortBy_of_sorted {α} (key : α → Nat) (l : List α) (h : l.Pairwise (fun a b => key a ≤ key b)) :
    sortBy key l = l :=
  sortBy_eq key l ▸ sort_of_pairwise _ (h.imp (by simp))

/-- strictly sorted means pairwise distinct keys, which on the members is the antisymmetry `Perm.eq_of_pairwise` asks for -/
theorem eq_of_perm_of_sorted {α} (key : α → Nat) (l1 l2 : List α) (hp : l1.Perm l2)
    (h1 : l1.Pairwise (fun a b => key a ≤ key b)) (h2 : l2.Pairwise (fun a b => key a < key b)) : l1 = l2 := by
  refine hp.eq_of_pairwise (fun a b ha hb hab hba => ?_) h1 (h2.imp Nat.le_of_lt)
  exact List.Pairwise.forall_of_forall_of_flip (R := fun a b => key a = key b → a = b) (fun _ _ _ => rfl)
    (h2.imp (by omega)) (h2.imp (by simp only [flip]; omega)) (hp.mem_iff.1 ha) hb (by omega)

def stableLe {α} (key : α → Nat) (p q : α × Nat) : Prop :=
  key p.1 < key q.1 ∨ (key p.1 = key q.1 ∧ p.2 < q.2)

theorem stableLe_trans {α} (key : α → Nat) (p q r : α × Nat) : stableLe key p q → stableLe key q r → stableLe key p r := by
  unfold stableLe; omega

theorem sortBy_stable {α} (key : α → Nat) (l : List (α × Nat)) (hl : l.Pairwise (fun p q => p.2 < q.2)) :
    (sortBy (fun (p : α × Nat) => key p.1) l).Pairwise (stableLe key) :=
  sortBy_eq _ l ▸ pairwise_sort_of (stableLe_trans key) (hl.imp fun h => by simp [Decides, stableLe]; omega)

theorem zipIdx_pairwise_idx {α} (l : List α) (k : Nat) : (l.zipIdx k).Pairwise (fun p q => p.2 < q.2) :=
  List.Pairwise.of_map (·.2) (fun _ _ h => h) (by rw [List.zipIdx_map_snd]; exact List.pairwise_lt_range')

theorem weight_perm (w : Char × List Mod → Rat) (l1 l2 : List (Char × List Mod)) (h : l1.Perm l2) :
    weight w l1 = weight w l2 := RatSum.sum_perm (h.map w)

theorem weight_append (w : Char × List Mod → Rat) (l1 l2 : List (Char × List Mod)) :
    weight w (l1 ++ l2) = weight w l1 + weight w l2 := by
  unfold weight; rw [List.map_append, List.sum_append]

theorem weight_flatMap {α} (w : Char × List Mod → Rat) (f : α → List (Char × List Mod)) (l : List α) :
    weight w (l.flatMap f) = (l.map fun x => weight w (f x)).sum := RatSum.sum_flatMap f w l

theorem hasMods_false_iff (a : Annotation) : hasMods a = false ↔
    a.isotope = none ∧ a.static = none ∧ a.labile = none ∧ a.unknown = none ∧ a.nterm = none ∧ a.cterm = none ∧
    a.internal = none ∧ a.intervals = none ∧ a.charge = none ∧ a.adducts = none := by
  simp only [hasMods, Bool.or_eq_false_iff, Option.isSome_eq_false_iff, Option.isNone_iff_eq_none, and_assoc]

/-- both branches of `has_mods` give the same annotation -/
theorem slice_eq_general (a : Annotation) (s e : Int) : slice a s e = sliceGeneral a s e := by
  unfold slice
  split
  · next hm =>
    obtain ⟨seq, iso, sta, lab, unk, nt, ct, int, ivs, ch, add⟩ := a
    simp only [Bool.not_eq_true', hasMods_false_iff] at hm
    obtain ⟨rfl, rfl, rfl, rfl, rfl, rfl, rfl, rfl, rfl, rfl⟩ := hm
    simp only [sliceGeneral, plain, Option.map_none, noneIfEmpty, ite_self]
  · rfl

theorem slice_of_not_hasMods (a : Annotation) (s e : Int) (h : hasMods a = false) :
    slice a s e = plain (pySlice a.seq s e) := by
  simp [slice, h]

/-- every return type of `_return_digested_sequences` has the shape `fast if not has_mods else general` -/
theorem dispatch_eq {β} (a : Annotation) (f g : Spans.Span → β) (h : hasMods a = false → ∀ sp, f sp = g sp)
    (spans : List Spans.Span) : (if !hasMods a then spans.map f else spans.map g) = spans.map g := by
  cases hm : hasMods a
  · exact List.map_congr_left fun sp _ => h hm sp
  · rfl

theorem digestPieces_eq (a : Annotation) (spans : List Spans.Span) :
    digestPieces a spans = spans.map fun sp => slice a sp.1 sp.2.1 :=
  dispatch_eq a _ _ (fun h _ => (slice_of_not_hasMods a _ _ h).symm) spans

theorem sliceInplace_eq_general (a : Annotation) (s e : Int) : sliceInplace a s e = sliceGeneral a s e := by
  unfold sliceInplace
  split
  · next hm =>
    obtain ⟨seq, iso, sta, lab, unk, nt, ct, int, ivs, ch, add⟩ := a
    simp only [Bool.not_eq_true', hasMods_false_iff] at hm
    obtain ⟨rfl, rfl, rfl, rfl, rfl, rfl, rfl, rfl, rfl, rfl⟩ := hm
    simp only [sliceGeneral, Option.map_none, noneIfEmpty, ite_self]
  · unfold sliceGeneral
    by_cases h1 : s > 0 <;> by_cases h2 : e < (a.seq.length : Int) <;> simp only [h1, h2, if_true, if_false]

theorem slice_seq (a : Annotation) (s e : Int) : (slice a s e).seq = pySlice a.seq s e := by
  rw [slice_eq_general]; rfl

theorem slice_internal (a : Annotation) (s e : Int) :
    (slice a s e).internal = a.internal.map (·.filterMap (sliceEntry s e)) := by
  rw [slice_eq_general]; rfl

theorem slice_intervals (a : Annotation) (s e : Int) :
    (slice a s e).intervals = noneIfEmpty (a.intervals.map (·.filterMap (sliceInterval s e))) := by
  rw [slice_eq_general]; rfl

theorem slice_fields (a : Annotation) (s e : Int) :
    (slice a s e).nterm = (if s > 0 then none else a.nterm) ∧
    (slice a s e).cterm = (if e < (a.seq.length : Int) then none else a.cterm) ∧
    (slice a s e).isotope = a.isotope ∧ (slice a s e).static = a.static ∧ (slice a s e).labile = a.labile ∧
    (slice a s e).unknown = a.unknown ∧ (slice a s e).charge = a.charge ∧ (slice a s e).adducts = a.adducts := by
  rw [slice_eq_general]
  exact ⟨rfl, rfl, rfl, rfl, rfl, rfl, rfl, rfl⟩

theorem modsAt_slice (a : Annotation) (s e i : Nat) (hi : s + i < e) :
    modsAt (slice a s e) i = modsAt a (s + i) := by
  rw [slice_eq_general]
  unfold modsAt sliceGeneral
  cases a.internal with
  | none => rfl
  | some d =>
    simp only [Option.map_some]
    rw [dictGet?_filterMap_slice (s : Int) (e : Int) d (i : Int) (by omega) (by omega), Int.add_comm, Int.natCast_add]

theorem residues_slice (a : Annotation) (s e : Nat) (hs : s ≤ e) (he : e ≤ a.seq.length) :
    residues (slice a s e) = ((residues a).drop s).take (e - s) := by
  apply List.ext_getElem?
  intro i
  rw [residues_getElem?, slice_seq, pySlice_of_le a.seq hs he, List.getElem?_take, List.getElem?_take,
    List.getElem?_drop, List.getElem?_drop, residues_getElem?]
  by_cases hi : i < e - s
  · rw [if_pos hi, if_pos hi, modsAt_slice a s e i (by omega)]
  · rw [if_neg hi, if_neg hi]
    rfl

/-- `pop_labile_mods()` under a condition, as one structure expression -/
theorem ite_popLabile (c : Prop) [Decidable c] (s : Annotation) :
    (if c then { s with labile := none } else s) = { s with labile := if c then none else s.labile } := by
  split <;> rfl

theorem split_getElem?_eq (a : Annotation) (i : Nat) (hi : i < a.seq.length) :
    (split a)[i]? = some { slice a (i : Int) ((i + 1 : Nat) : Int) with
      labile := if i ≠ 0 ∨ (!truthy a.labile) = true then none else (slice a (i : Int) ((i + 1 : Nat) : Int)).labile } := by
  unfold split
  rw [List.getElem?_map, List.getElem?_range hi, Option.map_some, ite_popLabile, Int.natCast_add]
  rfl

theorem sliceEntry_bind (i j k l : Int) (hk : 0 ≤ k) (hl : i + l ≤ j) (p : Int × List Mod) :
    (sliceEntry i j p).bind (sliceEntry k l) = sliceEntry (i + k) (i + l) p := by
  unfold sliceEntry
  by_cases h1 : i ≤ p.1 ∧ p.1 < j
  · simp only [h1, and_self, if_true, Option.bind_some]
    by_cases h2 : k ≤ p.1 - i ∧ p.1 - i < l
    · rw [if_pos h2, if_pos (by omega), Int.sub_sub]
    · rw [if_neg h2, if_neg (by omega)]
  · rw [if_neg h1, if_neg (by omega)]
    rfl

theorem mem_filterMap_sliceEntry {s e : Int} {d : Dict} {p' : Int × List Mod} (h : p' ∈ d.filterMap (sliceEntry s e)) :
    ∃ p ∈ d, s ≤ p.1 ∧ p.1 < e ∧ p' = (p.1 - s, p.2) := by
  obtain ⟨p, hp, hpe⟩ := List.mem_filterMap.1 h
  unfold sliceEntry at hpe
  split at hpe
  · next hr => exact ⟨p, hp, hr.1, hr.2, (Option.some.inj hpe).symm⟩
  · cases hpe

theorem filterMap_sliceEntry_strict (s e : Int) (d : Dict) (h : d.Pairwise (fun p q => p.1 < q.1)) :
    (d.filterMap (sliceEntry s e)).Pairwise (fun p q => p.1 < q.1) := by
  refine List.Pairwise.filterMap _ ?_ h
  intro p q hpq p' hp' q' hq'
  unfold sliceEntry at hp' hq'
  split at hp' <;> split at hq'
  · cases hp'; cases hq'; exact Int.sub_lt_sub_right hpq s
  · cases hq'
  · cases hp'
  · cases hp'

theorem clip_clip (x i k : Int) (hk : 0 ≤ k) : max 0 (max 0 (x - i) - k) = max 0 (x - (i + k)) := by
  omega

theorem sliceInterval_bind (i j k l : Int) (hk : 0 ≤ k) (hl0 : 0 < l) (hl : i + l ≤ j) (iv : Interval) :
    (sliceInterval i j iv).bind (sliceInterval k l) = sliceInterval (i + k) (i + l) iv := by
  unfold sliceInterval
  by_cases h1 : iv.start < j ∧ iv.stop > i
  · simp only [h1, and_self, if_true, Option.bind_some]
    by_cases h3 : iv.start < i + l ∧ iv.stop > i + k
    · rw [if_pos (by omega), if_pos h3, clip_clip _ i k hk, clip_clip _ i k hk]
    · rw [if_neg (by omega), if_neg h3]
  · rw [if_neg h1, if_neg (by omega)]
    rfl

/-- when neither cut falls strictly inside an interval, exactly the fully contained intervals survive, re-indexed -/
theorem sliceInterval_contained (i j : Int) (iv : Interval) (hwf : iv.start < iv.stop)
    (hci : ¬ (iv.start < i ∧ i < iv.stop)) (hcj : ¬ (iv.start < j ∧ j < iv.stop)) :
    sliceInterval i j iv =
      if i ≤ iv.start ∧ iv.stop ≤ j then some { iv with start := iv.start - i, stop := iv.stop - i } else none := by
  unfold sliceInterval
  by_cases h : i ≤ iv.start ∧ iv.stop ≤ j
  · rw [if_pos h, if_pos (by omega)]
    congr 2 <;> omega
  · rw [if_neg h, if_neg (by omega)]

theorem filterMap_sliceInterval_contained (i j : Int) (L : List Interval) (hwf : ∀ iv ∈ L, iv.start < iv.stop)
    (hcut : ∀ iv ∈ L, ¬ (iv.start < i ∧ i < iv.stop) ∧ ¬ (iv.start < j ∧ j < iv.stop)) :
    L.filterMap (sliceInterval i j) = (L.filter fun iv => decide (i ≤ iv.start ∧ iv.stop ≤ j)).map
      fun iv => { iv with start := iv.start - i, stop := iv.stop - i } := by
  induction L with
  | nil => rfl
  | cons iv t ih =>
    have h1 := hwf iv (by simp)
    have h2 := hcut iv (by simp)
    rw [List.filterMap_cons, sliceInterval_contained i j iv h1 h2.1 h2.2,
      ih (fun x hx => hwf x (by simp [hx])) (fun x hx => hcut x (by simp [hx]))]
    by_cases hc : i ≤ iv.start ∧ iv.stop ≤ j <;> simp [hc]

theorem CutsOK.wf {ivs : Option (List Interval)} {n : Nat} {cuts : List Nat} (h : CutsOK ivs n cuts) {L : List Interval}
    (hL : ivs = some L) {iv : Interval} (hiv : iv ∈ L) : iv.start < iv.stop := (h L hL iv hiv).2.1

theorem CutsOK.inside {ivs : Option (List Interval)} {n : Nat} {cuts : List Nat} (h : CutsOK ivs n cuts)
    {L : List Interval} (hL : ivs = some L) {iv : Interval} (hiv : iv ∈ L) : 0 ≤ iv.start ∧ iv.stop ≤ (n : Int) :=
  ⟨(h L hL iv hiv).1, (h L hL iv hiv).2.2.1⟩

theorem CutsOK.not_cut {ivs : Option (List Interval)} {n : Nat} {cuts : List Nat} (h : CutsOK ivs n cuts)
    {L : List Interval} (hL : ivs = some L) {iv : Interval} (hiv : iv ∈ L) {c : Nat} (hc : c ∈ cuts) :
    ¬ (iv.start < (c : Int) ∧ (c : Int) < iv.stop) := (h L hL iv hiv).2.2.2 c hc

theorem CutsOK.tail {ivs : Option (List Interval)} {n s e : Nat} {rest : List Nat}
    (h : CutsOK ivs n (s :: e :: rest)) : CutsOK ivs n (e :: rest) := by
  intro L hL iv hiv
  obtain ⟨a1, a2, a3, a4⟩ := h L hL iv hiv
  exact ⟨a1, a2, a3, fun c hc => a4 c (List.mem_cons_of_mem _ hc)⟩

theorem CutsOK.pair {ivs : Option (List Interval)} {n s e : Nat} {rest : List Nat}
    (h : CutsOK ivs n (s :: e :: rest)) : CutsOK ivs n [s, e] := by
  intro L hL iv hiv
  obtain ⟨a1, a2, a3, a4⟩ := h L hL iv hiv
  exact ⟨a1, a2, a3, fun c hc => a4 c (by
    simp only [List.mem_cons, List.not_mem_nil, or_false] at hc
    rcases hc with h | h <;> simp [h])⟩

/-- what `CutsOK` is for: the intervals of a slice between two of the cuts are the contained ones, re-indexed -/
theorem CutsOK.filterMap_sliceInterval {ivs : Option (List Interval)} {n s e : Nat} (h : CutsOK ivs n [s, e])
    {L : List Interval} (hL : ivs = some L) :
    L.filterMap (sliceInterval s e) = (L.filter fun iv => decide ((s : Int) ≤ iv.start ∧ iv.stop ≤ (e : Int))).map
      fun iv => { iv with start := iv.start - s, stop := iv.stop - s } :=
  filterMap_sliceInterval_contained s e L (fun _ hiv => h.wf hL hiv)
    fun _ hiv => ⟨h.not_cut hL hiv (by simp), h.not_cut hL hiv (by simp)⟩

theorem noneIfEmpty_map_filterMap {α β} (g : α → Option β) (x : Option (List α)) :
    noneIfEmpty ((noneIfEmpty x).map (·.filterMap g)) = noneIfEmpty (x.map (·.filterMap g)) := by
  cases x with
  | none => rfl
  | some l => cases l <;> rfl

theorem slice_slice (a : Annotation) (i j k l : Nat) (hij : i ≤ j) (hj : j ≤ a.seq.length) (hkl : k ≤ l)
    (hl : l ≤ j - i) (hl0 : 0 < l ∨ a.intervals = none) :
    slice (slice a (i : Int) (j : Int)) (k : Int) (l : Int) = slice a ((i + k : Nat) : Int) ((i + l : Nat) : Int) := by
  rw [slice_eq_general a, slice_eq_general, slice_eq_general]
  unfold sliceGeneral
  refine Annotation.ext_fields (pySlice_pySlice_nat a.seq i j k l hij hj hkl hl) rfl rfl rfl rfl ?_ ?_ ?_ ?_ rfl rfl
  · dsimp only
    rw [none_ite_or]
    exact ite_congr (propext (by omega)) (fun _ => rfl) (fun _ => rfl)
  · dsimp only
    rw [none_ite_or, pySlice_length_nat a.seq i j hij hj]
    exact ite_congr (propext (by omega)) (fun _ => rfl) (fun _ => rfl)
  · dsimp only
    rw [Option.map_map]
    congr 1
    funext d
    simp only [Function.comp, List.filterMap_filterMap]
    congr 1
    funext p
    rw [Int.natCast_add, Int.natCast_add]
    exact sliceEntry_bind i j k l (by omega) (by omega) p
  · dsimp only
    rw [noneIfEmpty_map_filterMap, Option.map_map]
    cases hI : a.intervals with
    | none => rfl
    | some L =>
      have hl0' : 0 < l := hl0.resolve_right (by rw [hI]; exact Option.some_ne_none L)
      simp only [Option.map_some, Function.comp, List.filterMap_filterMap]
      congr 3
      funext iv
      rw [Int.natCast_add, Int.natCast_add]
      exact sliceInterval_bind i j k l (by omega) (by omega) (by omega) iv

theorem Increasing.le {s n : Nat} {ends : List Nat} (h : Increasing s ends n) : s ≤ n := by
  induction ends generalizing s with
  | nil => exact h
  | cons e rest ih => have := ih h.2; have := h.1; omega

theorem Increasing.lastOf_bounds {s n : Nat} {ends : List Nat} (h : Increasing s ends n) :
    s ≤ lastOf s ends ∧ lastOf s ends ≤ n ∧ (ends ≠ [] → s < lastOf s ends) := by
  induction ends generalizing s with
  | nil => exact ⟨Nat.le_refl _, h, fun h => absurd rfl h⟩
  | cons e rest ih =>
    have := ih h.2
    have := h.1
    simp only [lastOf]
    refine ⟨by omega, by omega, fun _ => by omega⟩

theorem pieces_weight (w : Char × List Mod → Rat) (a : Annotation) (s : Nat) (ends : List Nat)
    (hinc : Increasing s ends a.seq.length) :
    ((piecesFrom a s ends).map fun p => weight w (residues p)).sum =
      weight w (((residues a).drop s).take (lastOf s ends - s)) := by
  induction ends generalizing s with
  | nil => simp [piecesFrom, lastOf, weight]
  | cons e rest ih =>
    have hb := hinc.2.lastOf_bounds
    have hse := hinc.1
    simp only [piecesFrom, lastOf, List.map_cons, List.sum_cons]
    rw [ih e hinc.2, residues_slice a s e (by omega) (by omega), ← weight_append,
      drop_take_append _ s e (lastOf e rest) (by omega) hb.1]

theorem times_eq_mul (k : Nat) (h : Rat) : times k h = k * h := by
  induction k with
  | zero => simp [times]
  | succ k ih => simp only [times, ih]; grind

theorem intervalSum_noneIfEmpty (m : Mod → Rat) (x : Option (List Interval)) :
    intervalSum m (noneIfEmpty x) = intervalSum m x := by
  cases x with
  | none => rfl
  | some l => cases l <;> rfl

theorem ivSumIn_some (m : Mod → Rat) (L : List Interval) (lo hi : Int) : ivSumIn m (some L) lo hi =
    ((L.filter fun iv => decide (lo ≤ iv.start ∧ iv.stop ≤ hi)).map fun iv => modSum m iv.mods).sum := rfl

theorem intervalSum_slice (m : Mod → Rat) (a : Annotation) (s e : Nat)
    (hc : CutsOK a.intervals a.seq.length [s, e]) :
    intervalSum m (slice a (s : Int) (e : Int)).intervals = ivSumIn m a.intervals s e := by
  rw [slice_intervals, intervalSum_noneIfEmpty]
  cases hL : a.intervals with
  | none => rfl
  | some L =>
    rw [Option.map_some, hc.filterMap_sliceInterval hL]
    exact congrArg List.sum List.map_map

theorem ivSumIn_split (m : Mod → Rat) (ivs : Option (List Interval)) (lo mid hi : Int) (h1 : lo ≤ mid) (h2 : mid ≤ hi)
    (hwf : ∀ L, ivs = some L → ∀ iv ∈ L, iv.start < iv.stop ∧ ¬ (iv.start < mid ∧ mid < iv.stop)) :
    ivSumIn m ivs lo hi = ivSumIn m ivs lo mid + ivSumIn m ivs mid hi := by
  cases ivs with
  | none => exact (Rat.add_zero 0).symm
  | some L =>
    rw [ivSumIn_some, ivSumIn_some, ivSumIn_some, ← List.sum_append, ← List.map_append]
    refine RatSum.sum_perm ((filter_perm_split _ _ _ L fun iv hiv => ?_).map _)
    have := hwf L rfl iv hiv
    simp only [← Bool.decide_or, ← Bool.decide_and, decide_eq_decide, decide_eq_false_iff_not]
    omega

theorem ivSumIn_self (m : Mod → Rat) (ivs : Option (List Interval)) (s : Int)
    (hwf : ∀ L, ivs = some L → ∀ iv ∈ L, iv.start < iv.stop) : ivSumIn m ivs s s = 0 := by
  cases ivs with
  | none => rfl
  | some L =>
    rw [ivSumIn_some, List.filter_eq_nil_iff.2 fun iv hiv => by
      have := hwf L rfl iv hiv
      rw [decide_eq_true_eq]
      omega]
    rfl

theorem ivSumIn_all (m : Mod → Rat) (ivs : Option (List Interval)) (n : Nat)
    (hwf : ∀ L, ivs = some L → ∀ iv ∈ L, 0 ≤ iv.start ∧ iv.stop ≤ (n : Int)) :
    ivSumIn m ivs 0 n = intervalSum m ivs := by
  cases ivs with
  | none => rfl
  | some L =>
    rw [ivSumIn_some, List.filter_eq_self.2 fun iv hiv => decide_eq_true (hwf L rfl iv hiv)]
    rfl

theorem amass_slice_iv (w : Char × List Mod → Rat) (m : Mod → Rat) (t : Option (List Mod) → Rat) (h : Rat)
    (a : Annotation) (s e : Nat) (hc : CutsOK a.intervals a.seq.length [s, e]) :
    amass w m t h (slice a (s : Int) (e : Int)) =
      weight w (residues (slice a (s : Int) (e : Int))) + (if s = 0 then modSum m a.nterm else 0) +
        (if e < a.seq.length then 0 else modSum m a.cterm) + ivSumIn m a.intervals s e + (h + inherited m t a) := by
  obtain ⟨f1, f2, f3, f4, f5, f6, -⟩ := slice_fields a (s : Int) (e : Int)
  have f7 := intervalSum_slice m a s e hc
  unfold amass inherited
  rw [f1, f2, f4, f5, f6, f7]
  have e1 : modSum m (if (s : Int) > 0 then none else a.nterm) = (if s = 0 then modSum m a.nterm else 0) := by
    split <;> split <;> first | rfl | omega
  have e2 : modSum m (if (e : Int) < (a.seq.length : Int) then none else a.cterm) =
      (if e < a.seq.length then 0 else modSum m a.cterm) := by
    split <;> split <;> first | rfl | omega
  rw [e1, e2]
  -- what is left is a rearrangement of sums in ℚ; the file is Mathlib-free, so `grind` stands in for `ring`
  grind

theorem pieces_amass_iv (w : Char × List Mod → Rat) (m : Mod → Rat) (t : Option (List Mod) → Rat) (h : Rat)
    (a : Annotation) (s : Nat) (ends : List Nat) (hinc : Increasing s ends a.seq.length)
    (hc : CutsOK a.intervals a.seq.length (s :: ends)) :
    ((piecesFrom a s ends).map (amass w m t h)).sum =
      weight w (((residues a).drop s).take (lastOf s ends - s)) +
        (if s = 0 ∧ ends ≠ [] then modSum m a.nterm else 0) +
        (if lastOf s ends = a.seq.length ∧ ends ≠ [] then modSum m a.cterm else 0) +
        ivSumIn m a.intervals s (lastOf s ends) +
        times ends.length (h + inherited m t a) := by
  induction ends generalizing s with
  | nil =>
    rw [lastOf, ivSumIn_self m a.intervals s (fun _ hL _ hiv => hc.wf hL hiv), Nat.sub_self, List.take_zero,
      if_neg (fun h => h.2 rfl), if_neg (fun h => h.2 rfl)]
    simp only [piecesFrom, List.map_nil, List.sum_nil, weight, List.length_nil, times, Rat.add_zero]
  | cons e rest ih =>
    have hb := hinc.2.lastOf_bounds
    have hse := hinc.1
    have hsplit := ivSumIn_split m a.intervals (s : Int) (e : Int) (lastOf e rest : Int) (by omega) (by omega)
      (fun _ hL _ hiv => ⟨hc.wf hL hiv, hc.not_cut hL hiv (by simp)⟩)
    -- the piece `[s,e)` is the only one that can carry the N-terminal modifications; the C-terminal ones sit on the
    -- last piece, which is `[s,e)` exactly when `rest` is empty
    have hN : (if e = 0 ∧ rest ≠ [] then modSum m a.nterm else 0) = 0 := if_neg (by omega)
    have hC : (if lastOf e rest = a.seq.length then modSum m a.cterm else 0) =
        (if e < a.seq.length then 0 else modSum m a.cterm) +
          (if lastOf e rest = a.seq.length ∧ rest ≠ [] then modSum m a.cterm else 0) := by
      have hle := hb.2.1
      cases rest with
      | nil =>
        have h2 : (if lastOf e [] = a.seq.length ∧ ([] : List Nat) ≠ [] then modSum m a.cterm else 0) = 0 :=
          if_neg (fun h => h.2 rfl)
        rw [h2, Rat.add_zero]
        show (if e = a.seq.length then _ else _) = _
        by_cases he : e < a.seq.length
        · rw [if_pos he, if_neg (by omega)]
        · rw [if_neg he, if_pos (by simp only [lastOf] at hle; omega)]
      | cons e' r =>
        have := hb.2.2 (List.cons_ne_nil _ _)
        have h1 : (if e < a.seq.length then (0 : Rat) else modSum m a.cterm) = 0 := if_pos (by omega)
        rw [h1, Rat.zero_add]
        exact ite_congr (propext ⟨fun h => ⟨h, List.cons_ne_nil _ _⟩, fun h => h.1⟩) (fun _ => rfl) fun _ => rfl
    simp only [piecesFrom, lastOf, List.map_cons, List.sum_cons, List.length_cons, times]
    rw [ih e hinc.2 hc.tail, amass_slice_iv w m t h a s e hc.pair,
      residues_slice a s e (by omega) (by omega),
      ← drop_take_append (residues a) s e (lastOf e rest) (by omega) hb.1, weight_append, hsplit, hN]
    simp only [ne_eq, reduceCtorEq, not_false_eq_true, and_true]
    rw [hC]
    -- the goal is linear in nine atoms; they are named so that `grind` sees an equation in ℚ only
    generalize weight w _ = W1
    generalize weight w _ = W2
    generalize ivSumIn m a.intervals s e = I1
    generalize ivSumIn m a.intervals e _ = I2
    generalize times _ _ = T
    generalize h + inherited m t a = K
    generalize (if s = 0 then modSum m a.nterm else 0) = N
    generalize (if e < a.seq.length then 0 else modSum m a.cterm) = C1
    generalize (if lastOf e rest = a.seq.length ∧ rest ≠ [] then modSum m a.cterm else 0) = C2
    grind

theorem pieces_amass (w : Char × List Mod → Rat) (m : Mod → Rat) (t : Option (List Mod) → Rat) (h : Rat)
    (a : Annotation) (s : Nat) (ends : List Nat) (hinc : Increasing s ends a.seq.length)
    (hiv : a.intervals = none) :
    ((piecesFrom a s ends).map (amass w m t h)).sum =
      weight w (((residues a).drop s).take (lastOf s ends - s)) +
        (if s = 0 ∧ ends ≠ [] then modSum m a.nterm else 0) +
        (if lastOf s ends = a.seq.length ∧ ends ≠ [] then modSum m a.cterm else 0) +
        times ends.length (h + inherited m t a) := by
  rw [pieces_amass_iv w m t h a s ends hinc (fun L hL => by rw [hiv] at hL; cases hL), hiv]
  exact congrArg (· + _) (Rat.add_zero _)

theorem reverse_internal (a : Annotation) (sw : Bool) :
    (reverse a sw).internal = rekey (fun k => (a.seq.length : Int) - k - 1) a.internal := by
  unfold reverse rekey
  rcases a.internal with _ | _ | ⟨p, t⟩ <;> rfl

theorem rekeys_reverse (n : Nat) : Rekeys n (fun k => (n : Int) - k - 1) (fun i => n - 1 - i) := by
  intro k h0 hk
  dsimp only
  exact ⟨by omega, by omega, fun j hj => by omega⟩

theorem reverseInterval_involutive (n : Int) (iv : Interval) (h : iv.start ≤ iv.stop) :
    reverseInterval n (reverseInterval n iv) = iv := by
  unfold reverseInterval
  have h1 : ¬ (n - iv.stop > n - iv.start) := by omega
  simp only [h1, if_false]
  have h2 : ¬ (n - (n - iv.start) > n - (n - iv.stop)) := by omega
  simp only [h2, if_false]
  cases iv; simp; omega

theorem reverseKey_involutive (n k : Int) : n - (n - k - 1) - 1 = k := by omega

theorem shiftKey_zero (n k : Int) (hk : 0 ≤ k ∧ k < n) : (k - 0) % n = k := by
  rw [Int.sub_zero, Int.emod_eq_of_lt hk.1 hk.2]

/-- the two shift amounts add up to a multiple of `n` -/
theorem shiftKey_inverse (eff eff' n : Int) (he' : eff' = if eff = 0 then 0 else n - eff) (k : Int)
    (hk : 0 ≤ k ∧ k < n) : ((k - eff) % n - eff') % n = k := by
  rw [Int.emod_sub_emod, Int.sub_sub]
  by_cases h0 : eff = 0
  · rw [he', if_pos h0, h0, Int.add_zero, Int.sub_zero, Int.emod_eq_of_lt hk.1 hk.2]
  · rw [he', if_neg h0, show eff + (n - eff) = n by omega, Int.sub_emod_right, Int.emod_eq_of_lt hk.1 hk.2]

theorem rekeys_shift (n : Nat) (eff : Int) (he0 : 0 ≤ eff) (he : eff < n) :
    Rekeys n (fun k => (k - eff) % (n : Int))
      (fun i => if i + eff.toNat < n then i + eff.toNat else i + eff.toNat - n) := by
  obtain ⟨e, rfl⟩ := Int.eq_ofNat_of_zero_le he0
  intro k h0 hk
  dsimp only
  rw [sub_emod_range k e n h0 hk he0 he, Int.toNat_natCast]
  refine ⟨by split <;> omega, by split <;> omega, fun j hj => ?_⟩
  split <;> split <;> omega

theorem getElem?_rotate {α} (l : List α) (e i : Nat) (he : e < l.length) :
    (l.drop e ++ l.take e)[i]? =
      if i < l.length then l[if i + e < l.length then i + e else i + e - l.length]? else none := by
  rw [List.getElem?_append, List.length_drop, List.getElem?_drop, List.getElem?_take]
  by_cases h1 : i < l.length - e
  · rw [if_pos h1, if_pos (by omega), if_pos (by omega), Nat.add_comm]
  · rw [if_neg h1]
    by_cases h2 : i < l.length
    · rw [if_pos (by omega), if_pos h2, if_neg (by omega)]
      congr 1; omega
    · rw [if_neg (by omega), if_neg h2]

/-- what `shift` returns when the sequence is not empty and the keys are well-formed: no two keys collide, so the dict is
re-keyed entry by entry (`shiftEntry`) -/
def shiftBy (a : Annotation) (eff : Int) : Annotation :=
  { a with
    seq := a.seq.drop eff.toNat ++ a.seq.take eff.toNat
    internal := rekey (fun k => (k - eff) % (a.seq.length : Int)) a.internal
    intervals :=
      match a.intervals with
      | none => none
      | some [] => none
      | some l => some (sortBy (fun (iv : Interval) => iv.start.toNat) (l.map (shiftInterval eff a.seq.length))) }

theorem shift_eq (a : Annotation) (k : Int) (hn : a.seq ≠ []) (hk : KeysOK a) :
    shift a k = .ok (shiftBy a (k % (a.seq.length : Int))) := by
  have hlen : 0 < a.seq.length := List.length_pos_iff.mpr hn
  obtain ⟨he0, he⟩ := emod_range k hlen
  have hn0 : ¬ ((a.seq.length : Int) = 0) := by omega
  unfold shift
  simp only [hn0, if_false]
  congr 1
  refine Annotation.ext_fields rfl rfl rfl rfl rfl rfl rfl ?_ ?_ rfl rfl
  · unfold shiftBy
    cases hd : a.internal with
    | none => rfl
    | some d =>
      obtain ⟨hnd, hr⟩ := hk d hd
      simp only
      rw [buildDict_of_nodup (d.map (shiftEntry _ _)) ((rekeys_shift _ _ he0 he).nodup hnd hr)]
      cases d <;> rfl
  · unfold shiftBy
    cases a.intervals with
    | none => rfl
    | some l =>
      simp only
      rw [sortBy_isEmpty]
      cases l <;> rfl

theorem shiftBy_length (a : Annotation) (eff : Int) : (shiftBy a eff).seq.length = a.seq.length := by
  show (a.seq.drop eff.toNat ++ a.seq.take eff.toNat).length = _
  rw [List.length_append, List.length_drop, List.length_take]
  omega

theorem residues_shiftBy (a : Annotation) (eff : Int) (he0 : 0 ≤ eff) (he : eff < a.seq.length) (hk : KeysOK a) :
    residues (shiftBy a eff) = (residues a).drop eff.toNat ++ (residues a).take eff.toNat :=
  (rekeys_shift _ eff he0 he).residues rfl hk (fun l => l.drop eff.toNat ++ l.take eff.toNat)
    (fun l hl i => by rw [getElem?_rotate l _ i (by omega), hl]) rfl rfl

theorem keysOK_shiftBy (a : Annotation) (eff : Int) (he0 : 0 ≤ eff) (he : eff < a.seq.length) (hk : KeysOK a) :
    KeysOK (shiftBy a eff) :=
  (rekeys_shift _ eff he0 he).keysOK rfl (shiftBy_length a eff) hk rfl

theorem shiftInterval_mods (eff n : Int) (iv : Interval) :
    (shiftInterval eff n iv).mods = iv.mods ∧ (shiftInterval eff n iv).ambiguous = iv.ambiguous := by
  unfold shiftInterval
  dsimp only
  split <;> exact ⟨rfl, rfl⟩

theorem shiftInterval_nowrap (eff n : Int) (iv : Interval) (he0 : 0 ≤ eff) (he : eff < n)
    (hwf : 0 ≤ iv.start ∧ iv.start < iv.stop ∧ iv.stop ≤ n) (hnw : ¬ wraps eff iv) :
    shiftInterval eff n iv =
      { iv with start := if eff ≤ iv.start then iv.start - eff else iv.start - eff + n,
                stop := if eff ≤ iv.start then iv.stop - eff else iv.stop - eff + n } := by
  unfold wraps at hnw
  unfold shiftInterval
  rw [sub_emod_range iv.start eff n (by omega) (by omega) he0 he,
    sub_emod_range (iv.stop - 1) eff n (by omega) (by omega) he0 he]
  by_cases h : eff ≤ iv.start
  · have h2 : eff ≤ iv.stop - 1 := by omega
    simp only [h, h2, if_true]
    have : ¬ (iv.start - eff > iv.stop - 1 - eff + 1) := by omega
    simp only [this, if_false]
    congr 1; omega
  · have h2 : ¬ eff ≤ iv.stop - 1 := by omega
    simp only [h, h2, if_false]
    have : ¬ (iv.start - eff + n > iv.stop - 1 - eff + n + 1) := by omega
    simp only [this, if_false]
    congr 1; omega

theorem shiftInterval_zero (n : Int) (iv : Interval) (hn : 0 < n)
    (hwf : 0 ≤ iv.start ∧ iv.start < iv.stop ∧ iv.stop ≤ n) : shiftInterval 0 n iv = iv := by
  rw [shiftInterval_nowrap 0 n iv (by omega) hn hwf (by unfold wraps; omega)]
  have : (0 : Int) ≤ iv.start := hwf.1
  simp only [this, if_true, Int.sub_zero]

theorem shiftInterval_inverse (eff eff' n : Int) (iv : Interval) (he0 : 0 ≤ eff) (he : eff < n)
    (he' : eff' = if eff = 0 then 0 else n - eff)
    (hwf : 0 ≤ iv.start ∧ iv.start < iv.stop ∧ iv.stop ≤ n) (hnw : ¬ wraps eff iv) :
    shiftInterval eff' n (shiftInterval eff n iv) = iv := by
  rw [shiftInterval_nowrap eff n iv he0 he hwf hnw]
  unfold wraps at hnw
  by_cases h0 : eff = 0
  · subst h0
    simp only [if_true] at he'
    subst he'
    have : (0 : Int) ≤ iv.start := hwf.1
    simp only [this, if_true, Int.sub_zero]
    exact shiftInterval_zero n iv (by omega) hwf
  · simp only [h0, if_false] at he'
    subst he'
    by_cases h : eff ≤ iv.start
    · simp only [h, if_true]
      rw [shiftInterval_nowrap (n - eff) n _ (by omega) (by omega) (by simp only []; omega)
        (by unfold wraps; simp only []; omega)]
      have : ¬ (n - eff ≤ iv.start - eff) := by omega
      simp only [this, if_false]
      cases iv; simp only [Interval.mk.injEq, and_true]; constructor <;> omega
    · simp only [h, if_false]
      rw [shiftInterval_nowrap (n - eff) n _ (by omega) (by omega) (by simp only []; omega)
        (by unfold wraps; simp only []; omega)]
      have : n - eff ≤ iv.start - eff + n := by omega
      simp only [this, if_true]
      cases iv; simp only [Interval.mk.injEq, and_true]; constructor <;> omega

/-- position `i` of the rotated sequence is covered by the shifted interval iff its source position `(i + eff) % n` is
covered by the original one -/
theorem shiftInterval_cover (eff n : Int) (iv : Interval) (he0 : 0 ≤ eff) (he : eff < n)
    (hwf : 0 ≤ iv.start ∧ iv.start < iv.stop ∧ iv.stop ≤ n) (hnw : ¬ wraps eff iv) (i : Int) (hi0 : 0 ≤ i) (hi : i < n) :
    covers (shiftInterval eff n iv) i ↔ covers iv ((i + eff) % n) := by
  rw [shiftInterval_nowrap eff n iv he0 he hwf hnw, add_emod_range i eff n hi0 hi he0 he]
  unfold wraps at hnw
  unfold covers
  by_cases h : eff ≤ iv.start
  · simp only [h, if_true]
    split <;> constructor <;> intro ⟨a, b⟩ <;> constructor <;> omega
  · simp only [h, if_false]
    split <;> constructor <;> intro ⟨a, b⟩ <;> constructor <;> omega

theorem startSorted_of_ok (n : Int) (L : List Interval)
    (h1 : ∀ iv ∈ L, 0 ≤ iv.start ∧ iv.start < iv.stop ∧ iv.stop ≤ n)
    (h2 : L.Pairwise (fun x y => x.stop ≤ y.start)) :
    L.Pairwise (fun x y => x.start.toNat < y.start.toNat) := by
  induction L with
  | nil => exact List.Pairwise.nil
  | cons x t ih =>
    rw [List.pairwise_cons] at h2 ⊢
    refine ⟨?_, ih (fun iv hiv => h1 iv (by simp [hiv])) h2.2⟩
    intro y hy
    have a1 := h1 x (by simp)
    have a2 := h1 y (by simp [hy])
    have a3 := h2.1 y hy
    omega

theorem shiftBy_zero (a : Annotation) (hn : a.seq ≠ []) (hk : KeysOK a) (hint : a.internal ≠ some [])
    (hivne : a.intervals ≠ some []) (hwf : IntervalsOK a) : shiftBy a 0 = a := by
  have hlen : 0 < a.seq.length := List.length_pos_iff.mpr hn
  refine Annotation.ext_fields (List.append_nil _) rfl rfl rfl rfl rfl rfl ?_ ?_ rfl rfl
  · exact rekey_of_fixes (fun k => (k - 0) % (a.seq.length : Int)) _ hint fun d hd q hq =>
      shiftKey_zero _ q.1 ((hk d hd).2 q hq)
  · unfold shiftBy
    cases hL : a.intervals with
    | none => rfl
    | some L =>
      cases L with
      | nil => exact absurd hL hivne
      | cons iv t =>
        have hok := hwf _ hL
        simp only
        rw [map_eq_self _ (iv :: t) (fun q hq => shiftInterval_zero _ q (by omega) (hok.1 q hq)),
          sortBy_of_sorted _ _ ((startSorted_of_ok _ _ hok.1 hok.2).imp Nat.le_of_lt)]

/-- rotating back: exact when no interval has the rotation point strictly inside -/
theorem shiftBy_inverse (a : Annotation) (eff eff' : Int) (he0 : 0 ≤ eff) (he : eff < a.seq.length)
    (he' : eff' = if eff = 0 then 0 else (a.seq.length : Int) - eff) (hk : KeysOK a)
    (hint : a.internal ≠ some []) (hivne : a.intervals ≠ some []) (hwf : IntervalsOK a)
    (hnw : ∀ L, a.intervals = some L → ∀ iv ∈ L, ¬ wraps eff iv) :
    shiftBy (shiftBy a eff) eff' = a := by
  have hbl : (a.seq.drop eff.toNat ++ a.seq.take eff.toNat).length = a.seq.length := shiftBy_length a eff
  refine Annotation.ext_fields ?_ rfl rfl rfl rfl rfl rfl ?_ ?_ rfl rfl
  · obtain ⟨e, rfl⟩ := Int.eq_ofNat_of_zero_le he0
    show (a.seq.drop e ++ a.seq.take e).drop eff'.toNat ++ (a.seq.drop e ++ a.seq.take e).take eff'.toNat = a.seq
    by_cases h0 : (e : Int) = 0
    · have : e = 0 := by omega
      subst this he'
      simp
    · rw [he', if_neg h0, show ((a.seq.length : Int) - (e : Int)).toNat = a.seq.length - e by omega,
        List.drop_left' (by simp), List.take_left' (by simp), List.take_append_drop]
  · simp only [shiftBy]
    rw [hbl, rekey_rekey]
    exact rekey_of_fixes _ _ hint fun d hd q hq =>
      shiftKey_inverse eff _ _ he' q.1 ((hk d hd).2 q hq)
  · simp only [shiftBy]
    rw [hbl]
    cases hL : a.intervals with
    | none => rfl
    | some L =>
      cases L with
      | nil => exact absurd hL hivne
      | cons iv t =>
        have hok := hwf _ hL
        simp only
        -- the sorted list of the shifted intervals is not empty, so the outer `match` takes its third branch
        generalize hS : sortBy (fun (x : Interval) => x.start.toNat) ((iv :: t).map (shiftInterval eff a.seq.length)) = S
        have hp := sortBy_perm (fun (x : Interval) => x.start.toNat) ((iv :: t).map (shiftInterval eff a.seq.length))
        rw [hS] at hp
        cases S with
        | nil => exact absurd hp.length_eq (by simp)
        | cons x xs =>
          simp only
          congr 1
          apply eq_of_perm_of_sorted (fun (x : Interval) => x.start.toNat)
          · refine (sortBy_perm _ _).trans ((hp.map _).trans ?_)
            rw [List.map_map, map_eq_self (shiftInterval eff' _ ∘ shiftInterval eff _) (iv :: t)
              (fun q hq => shiftInterval_inverse eff _ _ q he0 he he' (hok.1 q hq) (hnw _ hL q hq))]
          · exact sortBy_sorted _ _
          · exact startSorted_of_ok _ _ hok.1 hok.2

theorem posOf?_of_mem (perm : List Nat) (n : Nat) (hp : perm.Perm (List.range n)) (k : Int) (h0 : 0 ≤ k) (h1 : k < n) :
    posOf? perm k = some (perm.idxOf k.toNat) := by
  unfold posOf?
  have : k.toNat ∈ perm := (hp.mem_iff).2 (by simp; omega)
  simp [h0, this]

/-- what `shuffle` / `sort_residues` return when every key is a position of the sequence: each entry is re-keyed to the new
position of its residue (`permEntry`), nothing else changes -/
def permuteBy (a : Annotation) (perm : List Nat) (newSeq : List Char) : Annotation :=
  { a with
    seq := newSeq
    internal := rekey (fun k => (((posOf? perm k).getD 0 : Nat) : Int)) a.internal }

theorem permuteWith_eq (a : Annotation) (perm : List Nat) (newSeq : List Char)
    (hp : perm.Perm (List.range a.seq.length)) (hk : KeysOK a) :
    permuteWith a perm newSeq = .ok (permuteBy a perm newSeq) := by
  unfold permuteWith permuteBy
  cases hd : a.internal with
  | none => rfl
  | some d =>
    cases d with
    | nil => rfl
    | cons q t =>
      have hall : (q :: t).all (fun p => (posOf? perm p.1).isSome) = true :=
        List.all_eq_true.2 fun x hx => by
          rw [posOf?_of_mem perm _ hp x.1 ((hk _ hd).2 x hx).1 ((hk _ hd).2 x hx).2]
          rfl
      simp only [permDict, hall, if_true]
      rfl

/-- `idxOf` and `perm[·]` are inverse on a duplicate-free `perm` (`getElem_idxOf`, `Nodup.idxOf_getElem`) -/
theorem rekeys_perm (perm : List Nat) (n : Nat) (hp : perm.Perm (List.range n)) :
    Rekeys n (fun k => (((posOf? perm k).getD 0 : Nat) : Int)) (fun i => perm[i]?.getD 0) := by
  have hnd : perm.Nodup := hp.nodup_iff.2 List.nodup_range
  have hlen : perm.length = n := by rw [hp.length_eq, List.length_range]
  intro k h0 hk
  have hlt := List.idxOf_lt_length_iff.2 (hp.mem_iff.2 (List.mem_range.2 (by omega)) : k.toNat ∈ perm)
  dsimp only
  rw [posOf?_of_mem perm n hp k h0 hk, Option.getD_some]
  refine ⟨by omega, by omega, fun j hj => ?_⟩
  have hj' : j < perm.length := by omega
  rw [List.getElem?_eq_getElem hj', Option.getD_some]
  constructor
  · intro e
    have hij : perm.idxOf k.toNat = j := by omega
    have := List.getElem_idxOf hlt
    simp only [hij] at this
    omega
  · intro e
    rw [show k.toNat = perm[j] by omega, hnd.idxOf_getElem j hj']

/-- the residue at new position `i` is the residue `perm[i]` of the input with its own modifications -/
theorem residues_permuteBy (a : Annotation) (perm : List Nat) (hp : perm.Perm (List.range a.seq.length)) (hk : KeysOK a) :
    residues (permuteBy a perm (perm.filterMap (a.seq[·]?))) = perm.filterMap ((residues a)[·]?) := by
  have hlen : perm.length = a.seq.length := by rw [hp.length_eq, List.length_range]
  have hlt : ∀ x ∈ perm, x < a.seq.length := fun x hx => List.mem_range.1 (hp.mem_iff.1 hx)
  refine (rekeys_perm perm _ hp).residues rfl hk (fun l => perm.filterMap (l[·]?)) (fun l hl i => ?_) rfl rfl
  rw [getElem?_filterMap_of_all _ _ (fun x hx => by simp [hl, hlt x hx])]
  split
  · next hi => rw [List.getElem?_eq_getElem (by omega : i < perm.length)]; rfl
  · next hi => rw [List.getElem?_eq_none (by omega)]; rfl

theorem filterMap_getElem?_perm {α} (l : List α) (perm : List Nat) (hp : perm.Perm (List.range l.length)) :
    (perm.filterMap (l[·]?)).Perm l := by
  have := hp.filterMap (l[·]?)
  rw [range_filterMap_getElem?] at this
  exact this

theorem sortOrder_perm (seq : List Char) : (sortOrder seq).Perm (List.range seq.length) := by
  unfold sortOrder
  have := (sortBy_perm (fun (p : Char × Nat) => p.1.toNat) seq.zipIdx).map (·.2)
  rw [show List.map (fun (x : Char × Nat) => x.2) seq.zipIdx = List.range seq.length by
    rw [List.range_eq_range']; exact List.zipIdx_map_snd 0 seq] at this
  exact this

/-- sorting the letters is sorting the (letter, index) pairs and projecting (`sortBy_map`); every sorted pair `(c, i)` has
`seq[i]? = some c`, so reading `seq` at the sorted indices gives the same letters -/
theorem sortBy_seq_eq (seq : List Char) :
    sortBy (fun (c : Char) => c.toNat) seq = (sortOrder seq).filterMap (seq[·]?) := by
  unfold sortOrder
  rw [List.filterMap_map]
  have h1 : sortBy (fun (c : Char) => c.toNat) seq =
      (sortBy (fun (p : Char × Nat) => p.1.toNat) seq.zipIdx).map (·.1) := by
    rw [sortBy_map (·.1) (fun (p : Char × Nat) => p.1.toNat) (fun (c : Char) => c.toNat) (fun _ => rfl)]
    congr 1
    exact (List.zipIdx_map_fst 0 seq).symm
  rw [h1]
  have hmem : ∀ p ∈ sortBy (fun (p : Char × Nat) => p.1.toNat) seq.zipIdx, seq[p.2]? = some p.1 := by
    intro p hp
    have := (sortBy_perm _ _).mem_iff.1 hp
    exact List.mem_zipIdx_iff_getElem?.1 this
  generalize sortBy (fun (p : Char × Nat) => p.1.toNat) seq.zipIdx = S at hmem
  induction S with
  | nil => rfl
  | cons p t ih =>
    simp only [List.map_cons, List.filterMap_cons, Function.comp, hmem p (by simp)]
    rw [ih (fun q hq => hmem q (by simp [hq]))]

theorem shuffle_eq (a : Annotation) (perm : List Nat) (hn : a.seq ≠ []) :
    shuffle a perm = permuteWith a perm (perm.filterMap (a.seq[·]?)) := by
  rw [shuffle, List.isEmpty_eq_false_iff.2 hn]; rfl

theorem sortResidues_eq (a : Annotation) :
    sortResidues a = permuteWith a (sortOrder a.seq) ((sortOrder a.seq).filterMap (a.seq[·]?)) := by
  rw [sortResidues, sortBy_seq_eq]

theorem permuteWith_residues (a : Annotation) (perm : List Nat) (hp : perm.Perm (List.range a.seq.length)) (hk : KeysOK a) :
    permuteWith a perm (perm.filterMap (a.seq[·]?)) = .ok (permuteBy a perm (perm.filterMap (a.seq[·]?))) ∧
    residues (permuteBy a perm (perm.filterMap (a.seq[·]?))) = perm.filterMap ((residues a)[·]?) ∧
    (residues (permuteBy a perm (perm.filterMap (a.seq[·]?)))).Perm (residues a) := by
  have hr := residues_permuteBy a perm hp hk
  refine ⟨permuteWith_eq a perm _ hp hk, hr, ?_⟩
  rw [hr]
  exact filterMap_getElem?_perm _ perm (by rw [residues_length]; exact hp)

theorem demo_keysOK : KeysOK demo := by
  intro d h
  cases h
  decide

theorem demoNoIv_keysOK : KeysOK demoNoIv := demo_keysOK

theorem demo_intervalsOK : IntervalsOK demo := by
  intro L h
  cases h
  decide

theorem demo_noWrap_3 : NoWrap demo 3 := by
  intro L h
  cases h
  decide

end Pept.Reorder
