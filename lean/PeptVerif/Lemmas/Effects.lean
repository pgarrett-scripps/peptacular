import PeptVerif.Model.EffectsNested
/-! C08: the order on name tables and on summaries.  A statement is a list of updates of two kinds (`Op.add`, `Op.link`) whose arguments
are read from the table (`ops`: `step` folds them, `closedStmt` tests them); an update is monotone, only adds, and is absorbed by a
table that passes its test, and every kind of statement reads the table monotonically (`ops_mono`).  So a table closed under the
statements of a program (three executable checks) bounds every trace of it (`trace_bounded`). -/

namespace Effects

theorem step_call (S : List Summary) (ret f : Nat) (args : List (Option Var)) (P : Pts) :
    step S (.call ret f args) P = callStep (summaryOf S f) ret args P := rfl

theorem targets_call (S : List Summary) (ret f : Nat) (args : List (Option Var)) (P : Pts) :
    targets S (.call ret f args) P = callTargets (summaryOf S f) args P := rfl

theorem summarize_eq (S : List Summary) (p : List Stmt) (A : Pts) (n r : Nat) :
    summarize S p A n r = summarizeFrom A (writeSet S p A) n r := rfl

theorem append_mono {α : Type} {a a' b b' : List α} (ha : a ⊆ a') (hb : b ⊆ b') : a ++ b ⊆ a' ++ b' :=
  List.append_subset.2 ⟨List.subset_append_of_subset_left _ ha, List.subset_append_of_subset_right _ hb⟩

theorem flatMap_mono {α β : Type} {l : List α} {f g : α → List β} (h : ∀ a, f a ⊆ g a) :
    l.flatMap f ⊆ l.flatMap g := by
  intro o ho
  rcases List.mem_flatMap.1 ho with ⟨a, ha, hoa⟩
  exact List.mem_flatMap.2 ⟨a, ha, h a hoa⟩

theorem flatMap_subset {α β : Type} {l l' : List α} (f : α → List β) (h : l ⊆ l') : l.flatMap f ⊆ l'.flatMap f := by
  intro o ho
  rcases List.mem_flatMap.1 ho with ⟨a, ha, hoa⟩
  exact List.mem_flatMap.2 ⟨a, h ha, hoa⟩

theorem foldl_inv {β γ : Type} {I : β → Prop} {g : β → γ → β} (l : List γ) (h : ∀ c ∈ l, ∀ b, I b → I (g b c))
    {b : β} (hb : I b) : I (l.foldl g b) :=
  List.foldlRecOn l g hb fun b hb c hc => h c hc b hb

theorem all_contains_iff_subset {α : Type} [BEq α] [LawfulBEq α] {a b : List α} :
    a.all (fun x => b.contains x) = true ↔ a ⊆ b := by
  simp only [List.all_eq_true, List.contains_iff_mem]
  exact Iff.rfl

theorem mem_dedup {α : Type} [DecidableEq α] {x : α} {l : List α} : x ∈ dedup l ↔ x ∈ l := by
  fun_induction dedup l <;> grind

theorem dedup_eq_nil {α : Type} [DecidableEq α] {l : List α} (h : dedup l = []) : l = [] :=
  List.eq_nil_iff_forall_not_mem.2 fun a ha => by simpa [h] using mem_dedup.2 ha

theorem dedup_mono {α : Type} [DecidableEq α] {a b : List α} (h : a ⊆ b) : dedup a ⊆ dedup b :=
  fun _ hx => mem_dedup.2 (h (mem_dedup.1 hx))

/-- how the `may…In` lists are read: if the list of kinds (`paramOf`, `globOf`, `shareParamOf`) found in `l` is empty,
nothing in `l` is of that kind -/
theorem kind_none_of_dedup_nil {α β : Type} [DecidableEq β] {kind : α → Option β} {l : List α}
    (h : dedup (l.filterMap kind) = []) : ∀ o ∈ l, kind o = none :=
  List.filterMap_eq_nil_iff.1 (dedup_eq_nil h)

/-- in a list of (id, data) pairs whose ids are the positions, looking up position `f` in the data gives the pair `(f, ·)` -/
theorem mem_of_ids_eq_range {α : Type} (l : List (Nat × α)) (h : l.map (·.1) = List.range l.length) (f : Nat) (i : α)
    (hf : (l.map (·.2))[f]? = some i) : (f, i) ∈ l := by
  rw [List.getElem?_map, Option.map_eq_some_iff] at hf
  obtain ⟨⟨a, b⟩, hp, rfl⟩ := hf
  have h1 : (l.map (·.1))[f]? = some a := by rw [List.getElem?_map, hp]; rfl
  rw [h, List.getElem?_range (List.getElem?_eq_some_iff.1 hp).1, Option.some.injEq] at h1
  subst h1
  exact List.mem_of_getElem? hp

theorem mem_union {a b : List Obj} {o : Obj} : o ∈ union a b ↔ o ∈ a ∨ o ∈ b := by
  simp only [union, List.mem_append, List.mem_filter, Bool.not_eq_true', List.contains_eq_mem, decide_eq_false_iff_not]
  by_cases h : o ∈ a <;> simp [h]

theorem mem_cond {t : Bool} {l : List Obj} {o : Obj} : o ∈ cond t l ↔ t = true ∧ o ∈ l := by
  cases t <;> simp [cond]

theorem sub_iff {a b : List Obj} : sub a b = true ↔ a ⊆ b := all_contains_iff_subset

theorem overlaps_iff {a b : List Obj} : overlaps a b = true ↔ ∃ o, o ∈ a ∧ ∃ o', o' ∈ b ∧ norm o = norm o' := by
  unfold overlaps
  simp only [List.any_eq_true, beq_iff_eq]

theorem overlaps_nil (t : List Obj) : overlaps ([] : List Obj) t = false := by
  simp [overlaps]

theorem union_mono {a a' b b' : List Obj} (ha : a ⊆ a') (hb : b ⊆ b') : union a b ⊆ union a' b' := by
  intro o ho
  rcases mem_union.1 ho with ho | ho
  · exact mem_union.2 (Or.inl (ha ho))
  · exact mem_union.2 (Or.inr (hb ho))

theorem cond_mono {t t' : Bool} {l l' : List Obj} (ht : t = true → t' = true) (hl : l ⊆ l') : cond t l ⊆ cond t' l' :=
  fun _ ho => mem_cond.2 ⟨ht (mem_cond.1 ho).1, hl (mem_cond.1 ho).2⟩

theorem overlaps_mono {a a' b b' : List Obj} (ha : a ⊆ a') (hb : b ⊆ b') : overlaps a b = true → overlaps a' b' = true := by
  intro h
  rcases overlaps_iff.1 h with ⟨o, ho, o', ho', hn⟩
  exact overlaps_iff.2 ⟨o, ha ho, o', hb ho', hn⟩

theorem sameSet_sub {a b : List Nat} (h : sameSet a b = true) : a ⊆ b := by
  unfold sameSet at h
  rw [Bool.and_eq_true, List.all_eq_true] at h
  intro x hx
  simpa using h.1 x hx

theorem sameSet_nil {a : List Nat} (h : sameSet a [] = true) : a = [] := List.eq_nil_of_subset_nil (sameSet_sub h)

def CellLe (c d : Cell) : Prop := c.top ⊆ d.top ∧ c.kids ⊆ d.kids ∧ c.deep ⊆ d.deep

theorem CellLe.top {c d : Cell} (h : CellLe c d) : c.top ⊆ d.top := h.1

theorem CellLe.kids {c d : Cell} (h : CellLe c d) : c.kids ⊆ d.kids := h.2.1

theorem CellLe.deep {c d : Cell} (h : CellLe c d) : c.deep ⊆ d.deep := h.2.2

/-- at every name, also beyond the length of either table (`Pts.get` reads an empty cell there) -/
def Le (P A : Pts) : Prop := ∀ z, CellLe (P.get z) (A.get z)

theorem CellLe.refl (c : Cell) : CellLe c c := ⟨fun _ h => h, fun _ h => h, fun _ h => h⟩

theorem CellLe.trans {a b c : Cell} (h1 : CellLe a b) (h2 : CellLe b c) : CellLe a c :=
  ⟨fun _ h => h2.top (h1.top h), fun _ h => h2.kids (h1.kids h), fun _ h => h2.deep (h1.deep h)⟩

theorem Le.refl (P : Pts) : Le P P := fun _ => CellLe.refl _

theorem Le.trans {P Q R : Pts} (h1 : Le P Q) (h2 : Le Q R) : Le P R := fun z => (h1 z).trans (h2 z)

theorem nil_cellLe (c : Cell) : CellLe {} c := ⟨List.nil_subset _, List.nil_subset _, List.nil_subset _⟩

theorem cellSub_sound {c d : Cell} (h : cellSub c d = true) : CellLe c d := by
  unfold cellSub at h
  rw [Bool.and_eq_true, Bool.and_eq_true] at h
  exact ⟨sub_iff.1 h.1.1, sub_iff.1 h.1.2, sub_iff.1 h.2⟩

theorem cellObjs_mono {c d : Cell} (h : CellLe c d) : cellObjs c ⊆ cellObjs d :=
  append_mono h.top (append_mono h.kids h.deep)

theorem cellMap_mono {c d : Cell} (k : Nat) (f : Obj → Obj) (h : CellLe c d) : CellLe (c.mapFrom k f) (d.mapFrom k f) := by
  unfold Cell.mapFrom
  refine ⟨?_, ?_, List.map_subset f h.deep⟩
  · by_cases hk : k = 0 <;> simp only [hk, if_true, if_false]
    · exact List.map_subset f h.1
    · exact h.1
  · by_cases hk : k ≤ 1 <;> simp only [hk, if_true, if_false]
    · exact List.map_subset f h.kids
    · exact h.kids

theorem get_nil (z : Var) : Pts.get [] z = {} := by
  simp [Pts.get]

theorem get_cons_zero (d : Cell) (P : Pts) : Pts.get (d :: P) 0 = d := by
  simp [Pts.get]

theorem get_cons_succ (d : Cell) (P : Pts) (z : Var) : Pts.get (d :: P) (z + 1) = Pts.get P z := by
  simp [Pts.get]

theorem get_of_length_le (P : Pts) (z : Var) (h : P.length ≤ z) : Pts.get P z = {} := by
  simp [Pts.get, List.getD_eq_getElem?_getD, List.getElem?_eq_none h]

theorem get_mem_or_empty (A : Pts) (z : Var) : Pts.get A z ∈ A ∨ Pts.get A z = {} := by
  simp only [Pts.get, List.getD_eq_getElem?_getD]
  cases h : A[z]? with
  | none => exact Or.inr rfl
  | some c => exact Or.inl (List.mem_of_getElem? h)

theorem nil_le (A : Pts) : Le [] A := by
  intro z
  rw [get_nil]
  exact nil_cellLe _

theorem leB_sound {P A : Pts} (h : leB P A = true) : Le P A := by
  intro z
  by_cases hz : z < P.length
  · exact cellSub_sound (List.all_eq_true.1 h z (List.mem_range.2 hz))
  · rw [get_of_length_le P z (Nat.le_of_not_lt hz)]
    exact nil_cellLe _

theorem get_add (P : Pts) (x : Var) (c : Cell) (z : Var) :
    Pts.get (Pts.add P x c) z = if z = x then Cell.join (Pts.get P x) c else Pts.get P z := by
  fun_induction Pts.add P x c generalizing z <;> cases z <;> simp [get_cons_zero, get_cons_succ, get_nil, *]

theorem join_mono {d d' c c' : Cell} (hd : CellLe d d') (hc : CellLe c c') : CellLe (Cell.join d c) (Cell.join d' c') :=
  ⟨union_mono hd.top hc.top, union_mono hd.kids hc.kids, union_mono hd.deep hc.deep⟩

theorem le_join (d c : Cell) : CellLe d (Cell.join d c) :=
  ⟨fun _ h => mem_union.2 (Or.inl h), fun _ h => mem_union.2 (Or.inl h), fun _ h => mem_union.2 (Or.inl h)⟩

theorem add_mono {Q Q' : Pts} {c c' : Cell} (x : Var) (hQ : Le Q Q') (hc : CellLe c c') :
    Le (Pts.add Q x c) (Pts.add Q' x c') := by
  intro z
  rw [get_add, get_add]
  by_cases h : z = x
  · simp only [h, if_true]
    exact join_mono (hQ x) hc
  · simp only [h, if_false]
    exact hQ z

theorem le_add (Q : Pts) (x : Var) (c : Cell) : Le Q (Pts.add Q x c) := by
  intro z
  rw [get_add]
  by_cases h : z = x
  · subst h
    simp only [if_true]
    exact le_join _ _
  · simp only [h, if_false]; exact CellLe.refl _

theorem add_le {Q A : Pts} {c : Cell} (x : Var) (hQ : Le Q A) (hc : CellLe c (Pts.get A x)) : Le (Pts.add Q x c) A := by
  intro z
  rw [get_add]
  by_cases h : z = x
  · subst h
    simp only [if_true]
    have := hQ z
    exact ⟨fun o ho => (mem_union.1 ho).elim (fun h => this.top h) (fun h => hc.top h),
           fun o ho => (mem_union.1 ho).elim (fun h => this.kids h) (fun h => hc.kids h),
           fun o ho => (mem_union.1 ho).elim (fun h => this.deep h) (fun h => hc.deep h)⟩
  · simp only [h, if_false]
    exact hQ z

theorem linkCell_empty (tgt a b : List Obj) : linkCell tgt a b {} = {} := by
  simp [linkCell, overlaps_nil, cond, union]

theorem get_link (P : Pts) (t a b : List Obj) (z : Var) :
    Pts.get (link P t a b) z = linkCell t a b (Pts.get P z) := by
  simp only [Pts.get, link, List.getD_eq_getElem?_getD, List.getElem?_map]
  cases P[z]? with
  | none => exact (linkCell_empty t a b).symm
  | some c => rfl

theorem linkCell_mono {c c' : Cell} {t t' a a' b b' : List Obj} (hc : CellLe c c') (ht : t ⊆ t') (ha : a ⊆ a') (hb : b ⊆ b') :
    CellLe (linkCell t a b c) (linkCell t' a' b' c') := by
  refine ⟨hc.top, ?_, ?_⟩
  · exact union_mono hc.kids (cond_mono (overlaps_mono hc.top ht) ha)
  · exact union_mono (union_mono hc.deep (cond_mono (overlaps_mono hc.top ht) hb))
      (cond_mono (overlaps_mono (append_mono hc.kids hc.deep) ht) (append_mono ha hb))

theorem link_mono {Q Q' : Pts} {t t' a a' b b' : List Obj} (hQ : Le Q Q') (ht : t ⊆ t') (ha : a ⊆ a') (hb : b ⊆ b') :
    Le (link Q t a b) (link Q' t' a' b') := by
  intro z
  rw [get_link, get_link]
  exact linkCell_mono (hQ z) ht ha hb

theorem le_linkCell (t a b : List Obj) (c : Cell) : CellLe c (linkCell t a b c) :=
  ⟨fun _ h => h, fun _ h => mem_union.2 (Or.inl h), fun _ h => mem_union.2 (Or.inl (mem_union.2 (Or.inl h)))⟩

theorem le_link (Q : Pts) (t a b : List Obj) : Le Q (link Q t a b) := by
  intro z
  rw [get_link]
  exact le_linkCell t a b _

theorem linkClosed_sound {A : Pts} {t a b : List Obj} (h : linkClosed A t a b = true) : Le (link A t a b) A := by
  intro z
  rw [get_link]
  rcases get_mem_or_empty A z with hm | he
  · exact cellSub_sound (List.all_eq_true.1 h _ hm)
  · rw [he, linkCell_empty]
    exact CellLe.refl _

structure SumLe (a b : Summary) : Prop where
  writes : a.writes ⊆ b.writes
  globals : a.globals ⊆ b.globals
  retTop : a.retTop ⊆ b.retTop
  retKids : a.retKids ⊆ b.retKids
  retDeep : a.retDeep ⊆ b.retDeep
  links : a.links ⊆ b.links

theorem SumLe.refl (a : Summary) : SumLe a a := ⟨fun _ h => h, fun _ h => h, fun _ h => h, fun _ h => h, fun _ h => h, fun _ h => h⟩

theorem SumLe.trans {a b c : Summary} (h1 : SumLe a b) (h2 : SumLe b c) : SumLe a c :=
  ⟨fun _ h => h2.writes (h1.writes h), fun _ h => h2.globals (h1.globals h), fun _ h => h2.retTop (h1.retTop h),
   fun _ h => h2.retKids (h1.retKids h), fun _ h => h2.retDeep (h1.retDeep h), fun _ h => h2.links (h1.links h)⟩

theorem summarySub_sound {a b : Summary} (h : summarySub a b = true) : SumLe a b := by
  unfold summarySub at h
  simp only [Bool.and_eq_true] at h
  obtain ⟨⟨⟨⟨⟨h1, h2⟩, h3⟩, h4⟩, h5⟩, h6⟩ := h
  exact ⟨all_contains_iff_subset.1 h1, all_contains_iff_subset.1 h2, all_contains_iff_subset.1 h3, all_contains_iff_subset.1 h4,
         all_contains_iff_subset.1 h5, all_contains_iff_subset.1 h6⟩

inductive Op where
  | add (x : Var) (c : Cell)
  | link (t a b : List Obj)

def Op.apply (Q : Pts) : Op → Pts
  | .add x c => Q.add x c
  | .link t a b => Effects.link Q t a b

/-- the test under which `A` absorbs the update (`apply_le`) -/
def Op.closed (A : Pts) : Op → Bool
  | .add x c => cellSub c (A.get x)
  | .link t a b => linkClosed A t a b

def Op.Le : Op → Op → Prop
  | .add x c, .add x' c' => x = x' ∧ CellLe c c'
  | .link t a b, .link t' a' b' => t ⊆ t' ∧ a ⊆ a' ∧ b ⊆ b'
  | _, _ => False

/-- `argCell` and `sel` with the table read through `get`: `entryOKFast` passes a lookup in strides -/
def argCellG (get : Var → Cell) (args : List (Option Var)) (j : Nat) : Cell :=
  match args.getD j none with
  | some v => get v
  | none => {}

def selG (get : Var → Cell) (args : List (Option Var)) (ret : Var) : Src → List Obj
  | .top j => (argCellG get args j).top
  | .below j => (argCellG get args j).kids ++ (argCellG get args j).deep
  | .recs j => ((argCellG get args j).kids ++ (argCellG get args j).deep).map toRec
  | .recTop j => (argCellG get args j).top.map toRec
  | .fresh => [.loc ret]
  | .glob g => [.glob g]

def callLink (get : Var → Cell) (ret : Var) (args : List (Option Var)) (l : Nat × Bool × Src) : Op :=
  .link (argCellG get args l.1).top (cond l.2.1 (selG get args ret l.2.2)) (cond (!l.2.1) (selG get args ret l.2.2))

def callRet (get : Var → Cell) (s : Summary) (ret : Var) (args : List (Option Var)) : Op :=
  .add ret { top := s.retTop.flatMap (selG get args ret), kids := s.retKids.flatMap (selG get args ret),
             deep := s.retDeep.flatMap (selG get args ret) }

def callOps (get : Var → Cell) (s : Summary) (ret : Var) (args : List (Option Var)) : List Op :=
  s.links.map (callLink get ret args) ++ [callRet get s ret args]

def ops (get : Var → Cell) (sum : Nat → Summary) : Stmt → List Op
  | .param x i => [.add x { top := [.root i], kids := [.inner i], deep := [.inner i] }]
  | .global x g => [.add x { top := [.glob g], kids := [.glob g], deep := [.glob g] }]
  | .alias x ys => ys.map (fun y => .add x (get y))
  | .elem x y => [.add x { top := (get y).kids, kids := (get y).deep, deep := (get y).deep }]
  | .asRec x y d => [.add x ((get y).mapFrom d toRec)]
  | .leaf x y => [.add x { top := (get y).top }]
  | .fresh x => [.add x { top := [.loc x] }]
  | .shallow x ys =>
    [.add x { top := [.loc x], kids := ys.flatMap (fun y => (get y).kids), deep := ys.flatMap (fun y => (get y).deep) }]
  | .pack x ys =>
    [.add x { top := [.loc x], kids := ys.flatMap (fun y => (get y).top),
              deep := ys.flatMap (fun y => (get y).kids ++ (get y).deep) }]
  | .store x y => [.link (get x).top (get y).top ((get y).kids ++ (get y).deep)]
  | .write _ => []
  | .gwrite _ => []
  | .call ret f args => callOps get (sum f) ret args

theorem argCellG_get (P : Pts) : argCellG P.get = argCell P := rfl

theorem selG_get (P : Pts) (args : List (Option Var)) (ret : Var) : selG P.get args ret = sel P args ret := by
  funext s; cases s <;> rfl

theorem callStep_eq_ops (s : Summary) (ret : Var) (args : List (Option Var)) (P : Pts) :
    callStep s ret args P = (callOps P.get s ret args).foldl Op.apply P := by
  simp only [callStep, callOps, callLink, callRet, List.foldl_append, List.foldl_map, List.foldl_cons, List.foldl_nil, Op.apply, argCellG_get,
    selG_get]

theorem step_eq_ops (S : List Summary) (s : Stmt) (P : Pts) :
    step S s P = (ops P.get (summaryOf S) s).foldl Op.apply P := by
  cases s with
  | alias x ys => simp only [step, ops, List.foldl_map, Op.apply]
  | call ret f args => rw [step_call, callStep_eq_ops]; rfl
  | _ => rfl

theorem closedStmt_eq_ops (S : List Summary) (s : Stmt) (A : Pts) :
    closedStmt S s A = (ops A.get (summaryOf S) s).all (Op.closed A) := by
  cases s with
  | alias x ys => simp only [closedStmt, ops, List.all_map, Function.comp_def, Op.closed]
  | call ret f args =>
    simp only [closedStmt, ops, callOps, callLink, callRet, List.all_append, List.all_map, Function.comp_def, Op.closed, List.all_cons,
      List.all_nil, Bool.and_true, argCellG_get, selG_get]
  | _ => simp [closedStmt, ops, Op.closed]

theorem le_apply (o : Op) (Q : Pts) : Le Q (o.apply Q) := by
  cases o with
  | add x c => exact le_add Q x c
  | link t a b => exact le_link Q t a b

theorem apply_mono {o o' : Op} {Q Q' : Pts} (ho : o.Le o') (hQ : Le Q Q') : Le (o.apply Q) (o'.apply Q') := by
  cases o <;> cases o' <;> try exact ho.elim
  · obtain ⟨rfl, hc⟩ := ho; exact add_mono _ hQ hc
  · exact link_mono hQ ho.1 ho.2.1 ho.2.2

theorem apply_le {o : Op} {A Q : Pts} (ho : o.closed A = true) (hQ : Le Q A) : Le (o.apply Q) A := by
  cases o with
  | add x c => exact add_le x hQ (cellSub_sound ho)
  | link t a b => exact (link_mono hQ (fun _ h => h) (fun _ h => h) (fun _ h => h)).trans (linkClosed_sound ho)

theorem ops_bounded {L L' : List Op} {A Q : Pts} (hL : ∀ o ∈ L, ∃ o' ∈ L', o.Le o') (hc : L'.all (Op.closed A) = true)
    (hQ : Le Q A) : Le (L.foldl Op.apply Q) A :=
  foldl_inv (I := (Le · A)) L (fun o ho Q hQ => by
    obtain ⟨o', ho', hle⟩ := hL o ho
    exact (apply_mono hle hQ).trans (apply_le (List.all_eq_true.1 hc o' ho') (Le.refl A))) hQ

inductive OpsLe : List Op → List Op → Prop
  | nil : OpsLe [] []
  | cons {o o' : Op} {L L' : List Op} : o.Le o' → OpsLe L L' → OpsLe (o :: L) (o' :: L')

theorem OpsLe.map {α : Type} {f f' : α → Op} (l : List α) (h : ∀ a, (f a).Le (f' a)) : OpsLe (l.map f) (l.map f') := by
  induction l with
  | nil => exact .nil
  | cons a l ih => exact .cons (h a) ih

theorem OpsLe.append {l₁ l₁' l₂ l₂' : List Op} (h₁ : OpsLe l₁ l₁') (h₂ : OpsLe l₂ l₂') : OpsLe (l₁ ++ l₂) (l₁' ++ l₂') := by
  induction h₁ with
  | nil => exact h₂
  | cons h _ ih => exact .cons h ih

theorem OpsLe.exists {l l' : List Op} (h : OpsLe l l') : ∀ o ∈ l, ∃ o' ∈ l', o.Le o' := by
  induction h with
  | nil => exact fun _ ho => nomatch ho
  | cons h _ ih =>
    intro o ho
    rcases List.mem_cons.1 ho with rfl | ho
    · exact ⟨_, List.mem_cons_self, h⟩
    · obtain ⟨o', ho', hr⟩ := ih o ho
      exact ⟨o', List.mem_cons_of_mem _ ho', hr⟩

theorem OpsLe.foldl {L L' : List Op} (h : OpsLe L L') {Q Q' : Pts} (hQ : Le Q Q') :
    Le (L.foldl Op.apply Q) (L'.foldl Op.apply Q') := by
  induction h generalizing Q Q' with
  | nil => exact hQ
  | cons h _ ih => exact ih (apply_mono h hQ)

section
variable {g g' : Var → Cell} (h : ∀ x, CellLe (g x) (g' x))
include h

theorem argCellG_mono (args : List (Option Var)) (j : Nat) : CellLe (argCellG g args j) (argCellG g' args j) := by
  unfold argCellG
  cases args.getD j none with
  | none => exact CellLe.refl _
  | some v => exact h v

theorem selG_mono (args : List (Option Var)) (ret : Var) (s : Src) : selG g args ret s ⊆ selG g' args ret s := by
  cases s with
  | top j => exact (argCellG_mono h args j).top
  | below j => exact append_mono (argCellG_mono h args j).kids (argCellG_mono h args j).deep
  | recs j => exact List.map_subset _ (append_mono (argCellG_mono h args j).kids (argCellG_mono h args j).deep)
  | recTop j => exact List.map_subset _ (argCellG_mono h args j).top
  | fresh => exact fun _ ho => ho
  | glob g => exact fun _ ho => ho

theorem callLink_le (ret : Var) (args : List (Option Var)) (l : Nat × Bool × Src) :
    (callLink g ret args l).Le (callLink g' ret args l) :=
  ⟨(argCellG_mono h args l.1).top, cond_mono id (selG_mono h args ret l.2.2), cond_mono id (selG_mono h args ret l.2.2)⟩

theorem callRet_le {s s' : Summary} (hs : SumLe s s') (ret : Var) (args : List (Option Var)) :
    (callRet g s ret args).Le (callRet g' s' ret args) :=
  have hsel := selG_mono h args ret
  ⟨rfl, fun _ ho => flatMap_subset _ hs.retTop (flatMap_mono hsel ho), fun _ ho => flatMap_subset _ hs.retKids (flatMap_mono hsel ho),
    fun _ ho => flatMap_subset _ hs.retDeep (flatMap_mono hsel ho)⟩

/-- not `OpsLe`: the links of the smaller summary are among those of the larger, so the two lists need not have the same shape -/
theorem callOps_le {s s' : Summary} (hs : SumLe s s') (ret : Var) (args : List (Option Var)) :
    ∀ o ∈ callOps g s ret args, ∃ o' ∈ callOps g' s' ret args, o.Le o' := by
  intro o ho
  rcases List.mem_append.1 ho with ho | ho
  · obtain ⟨l, hl, rfl⟩ := List.mem_map.1 ho
    exact ⟨_, List.mem_append_left _ (List.mem_map_of_mem (hs.links hl)), callLink_le h ret args l⟩
  · rw [List.mem_singleton.1 ho]
    exact ⟨_, List.mem_append_right _ List.mem_cons_self, callRet_le h hs ret args⟩

theorem ops_mono (sum : Nat → Summary) (s : Stmt) : OpsLe (ops g sum s) (ops g' sum s) := by
  have one {x : Var} {c c' : Cell} (hc : CellLe c c') : OpsLe [.add x c] [.add x c'] := .cons ⟨rfl, hc⟩ .nil
  cases s with
  | alias x ys => exact OpsLe.map ys fun y => ⟨rfl, h y⟩
  | elem x y => exact one ⟨(h y).kids, (h y).deep, (h y).deep⟩
  | asRec x y d => exact one (cellMap_mono d _ (h y))
  | leaf x y => exact one ⟨(h y).top, fun _ ho => ho, fun _ ho => ho⟩
  | shallow x ys => exact one ⟨fun _ ho => ho, flatMap_mono (fun y => (h y).kids), flatMap_mono (fun y => (h y).deep)⟩
  | pack x ys =>
    exact one ⟨fun _ ho => ho, flatMap_mono (fun y => (h y).top), flatMap_mono (fun y => append_mono (h y).kids (h y).deep)⟩
  | store x y => exact .cons ⟨(h x).top, (h y).top, append_mono (h y).kids (h y).deep⟩ .nil
  | write x => exact .nil
  | gwrite g => exact .nil
  | call ret f args =>
    exact (OpsLe.map _ (callLink_le h ret args)).append (.cons (callRet_le h (SumLe.refl _) ret args) .nil)
  | _ => exact one (CellLe.refl _)

end

theorem callTargets_le {s s' : Summary} {args : List (Option Var)} {P A : Pts} (hs : SumLe s s') (hP : Le P A) :
    callTargets s args P ⊆ callTargets s' args A := by
  refine append_mono (fun _ ho => flatMap_subset _ hs.writes (flatMap_mono (fun w => ?_) ho)) (List.map_subset _ hs.globals)
  have hw := argCellG_mono hP args w.1
  split
  · exact append_mono hw.kids hw.deep
  · exact hw.top

theorem step_mono (S : List Summary) (s : Stmt) {P A : Pts} (h : Le P A) : Le (step S s P) (step S s A) := by
  rw [step_eq_ops, step_eq_ops]
  exact (ops_mono h (summaryOf S) s).foldl h

theorem step_extensive (S : List Summary) (s : Stmt) (P : Pts) : Le P (step S s P) := by
  rw [step_eq_ops]
  exact foldl_inv (I := Le P) _ (fun o _ Q hQ => hQ.trans (le_apply o Q)) (Le.refl P)

theorem closedStmt_bounds (S : List Summary) (s : Stmt) {P A : Pts} (hc : closedStmt S s A = true) (hP : Le P A) :
    Le (step S s P) A := by
  rw [step_eq_ops]
  exact ops_bounded ((ops_mono hP (summaryOf S) s).exists) (closedStmt_eq_ops S s A ▸ hc) hP

/-- A call with a smaller summary on a smaller table stays within a table that passes the check of the call with the full
summary. -/
theorem callStep_le {S : List Summary} {s : Summary} {ret f : Nat} {args : List (Option Var)} {P A : Pts}
    (hs : SumLe s (summaryOf S f)) (hc : closedStmt S (.call ret f args) A = true) (hP : Le P A) :
    Le (callStep s ret args P) A := by
  rw [callStep_eq_ops]
  exact ops_bounded (callOps_le hP hs ret args) ((closedStmt_eq_ops S (.call ret f args) A).symm.trans hc) hP

theorem closedStmt_sound (S : List Summary) (s : Stmt) (A : Pts) (h : closedStmt S s A = true) : Le (step S s A) A :=
  closedStmt_bounds S s h (Le.refl A)

theorem targets_mono (S : List Summary) (s : Stmt) {P A : Pts} (h : Le P A) : targets S s P ⊆ targets S s A := by
  cases s with
  | store x y => exact (h x).top
  | write x => exact (h x).top
  | call ret f args =>
    rw [targets_call, targets_call]
    exact callTargets_le (SumLe.refl _) h
  | _ => exact fun _ ho => ho

theorem isPost_sound {S : List Summary} {p : List Stmt} {A : Pts} (h : isPost S p A = true) :
    ∀ s, s ∈ p → Le (step S s A) A :=
  fun s hs => leB_sound (List.all_eq_true.1 h s hs)

theorem pass_extensive (S : List Summary) (p : List Stmt) (P : Pts) : Le P (pass S p P) :=
  foldl_inv (I := Le P) p (fun s _ Q hQ => hQ.trans (step_extensive S s Q)) (Le.refl P)

theorem step_le_pass (S : List Summary) (s : Stmt) (p : List Stmt) (hs : s ∈ p) :
    ∀ {A B : Pts}, Le A B → Le (step S s A) (pass S p B) := by
  induction p with
  | nil => cases hs
  | cons t p ih =>
    intro A B hAB
    simp only [pass, List.foldl_cons]
    rcases List.mem_cons.1 hs with h | h
    · subst h
      exact (step_mono S s hAB).trans (pass_extensive S p _)
    · exact ih h (hAB.trans (step_extensive S t B))

theorem passClosed_sound {S : List Summary} {p : List Stmt} {A : Pts} (h : passClosed S p A = true) :
    ∀ s, s ∈ p → Le (step S s A) A :=
  fun s hs => (step_le_pass S s p hs (Le.refl A)).trans (leB_sound h)

theorem closedB_sound {S : List Summary} {p : List Stmt} {A : Pts} (h : closedB S p A = true) :
    ∀ s, s ∈ p → Le (step S s A) A :=
  fun s hs => closedStmt_sound S s A (List.all_eq_true.1 h s hs)

theorem entryOK_iff {S : List Summary} {V : List Verdict} {f : Nat} {i : FnInfo} :
    entryOK S V f i = true ↔
      closedB S i.prog i.table = true ∧ summarySub (summarize S i.prog i.table i.nparams i.ret) (summaryOf S f) = true ∧
      sameSet (mayWriteIn S i.prog i.table) (verdictOf V f).writes = true ∧
      sameSet (mayWriteGlobalIn S i.prog i.table) (verdictOf V f).globals = true ∧
      sameSet (mayShareIn i.table i.ret) (verdictOf V f).share = true ∧
      sameSet (mayShareGlobalIn i.table i.ret) (verdictOf V f).shareGlobals = true := by
  simp only [entryOK, Bool.and_eq_true, and_assoc]

theorem caller_kinds {o : Obj} (h : isCaller o = true) : paramOf o ≠ none ∨ ∃ g, o = .glob g := by
  cases o with
  | glob g => exact Or.inr ⟨g, rfl⟩
  | loc s => cases h
  | _ => exact Or.inl nofun

theorem bump_of_not_mem (ver : Obj → Nat) (os : List Obj) (o : Obj) (h : o ∉ os) : bump ver os o = ver o := by
  unfold bump
  simp [h]

theorem trace_bounded (S : List Summary) (p : List Stmt) (A : Pts) (hpost : ∀ s, s ∈ p → Le (step S s A) A) :
    ∀ (tr : List Nat) (σ : State), Le σ.pts A →
      Le (execTrace S p tr σ).pts A ∧ ∀ o, o ∉ writeSet S p A → (execTrace S p tr σ).ver o = σ.ver o := by
  intro tr
  induction tr with
  | nil => intro σ h; exact ⟨h, fun _ _ => rfl⟩
  | cons k tr ih =>
    intro σ h
    simp only [execTrace]
    cases hk : p[k]? with
    | none => exact ih σ h
    | some s =>
      have hs : s ∈ p := List.mem_of_getElem? hk
      have h1 : Le (execStmt S s σ).pts A := (step_mono S s h).trans (hpost s hs)
      obtain ⟨ih1, ih2⟩ := ih (execStmt S s σ) h1
      refine ⟨ih1, fun o ho => ?_⟩
      rw [ih2 o ho]
      exact bump_of_not_mem _ _ _ fun hmem => ho (List.mem_flatMap.2 ⟨s, hs, targets_mono S s h hmem⟩)

end Effects
