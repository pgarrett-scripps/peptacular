import PeptVerif.Lemmas.ModDbBranch
import Mathlib.Tactic.Ring
/-!
Table-independent lemmas about the resolver (`_parse_mod_mass` / `_parse_mod_comp`) for C10 and the resolver side of C09.
The resolver works in stages — split at `|`, cut the `#tag`, test for a number, choose a branch, run it. The choice of the
branch is `Lemmas/ModDbBranch.lean`; here are the other stages: alternatives (`firstOf`), tags, the multiplier, the readers
behind `glycan:` / `formula:` / `obs:`, the documented forms, and error class and origin of a value as properties of every
branch.
-/
namespace ModDbGeneric
open ModDb Formula

theorem splitBar_cons (a rest : Str) (h : 124 ∉ a) : splitBar (a ++ 124 :: rest) = a :: splitBar rest :=
  splitOn_append_cons h rest

theorem beforeHash_tag (b t : Str) (h : 35 ∉ b) : beforeHash (b ++ 35 :: t) = b := by
  simp [beforeHash, spanP_ne 35 b t h]

theorem contains_tag (b t : Str) : (b ++ 35 :: t).contains 35 = true := by simp

theorem contains_false {c : Nat} {b : Str} (h : c ∉ b) : b.contains c = false := ModDb.contains_false h

theorem startsWith_hash_tag {b : Str} (t : Str) (h : 35 ∉ b) (hne : b ≠ []) :
    startsWith (b ++ 35 :: t) [35] = false := by
  cases b with
  | nil => exact absurd rfl hne
  | cons c b => exact startsWith_head_ne _ _ fun e => h (by simp [e])

theorem startsWith_hash_false {b : Str} (h : 35 ∉ b) : startsWith b [35] = false := by
  cases b with
  | nil => rfl
  | cons c b => exact startsWith_head_ne _ _ fun e => h (by simp [e])

theorem Num_mul_one (v : Num) : Num.mul v (Num.ofInt 1) = v := by
  cases v with
  | mk val isFloat => simp [Num.mul, Num.ofInt]

/-- multiply every count of a composition (what `modCompMult` does) -/
def scaleComp (k : Int) (c : Comp) : Comp := c.map (fun kv => (kv.1, Num.mul kv.2 (Num.ofInt k)))

theorem scaleComp_one (c : Comp) : scaleComp 1 c = c := by
  induction c with
  | nil => rfl
  | cons a c ih =>
    simp only [scaleComp, List.map_cons, Num_mul_one] at ih ⊢
    rw [ih]

theorem scaleComp_keys (k : Int) (c : Comp) : (scaleComp k c).map (·.1) = c.map (·.1) := by
  simp [scaleComp]

theorem scaleComp_vals (k : Int) (c : Comp) :
    (scaleComp k c).map (·.2.val) = c.map (fun kv => kv.2.val * (k : Rat)) := by
  simp [scaleComp, Num.mul, Num.ofInt]

theorem chemMassComp_scale (M : MassTable) (mono : Bool) (k : Int) (c : Comp) :
    chemMassComp M mono (scaleComp k c) = (chemMassComp M mono c).map (· * (k : Rat)) := by
  induction c with
  | nil => simp [scaleComp, chemMassComp, Except.map]
  | cons a c ih =>
    obtain ⟨key, v⟩ := a
    simp only [scaleComp, List.map_cons] at ih ⊢
    simp only [chemMassComp]
    cases elemMass M mono key with
    | error e => rfl
    | ok m =>
      simp only [ih]
      cases chemMassComp M mono c with
      | error e => rfl
      | ok t =>
        simp only [Except.map, Num.mul, Num.ofInt]
        congr 1
        ring

theorem rat_mul_add (m : Rat) (a b : Int) : m * ((a + b : Int) : Rat) = m * (a : Rat) + m * (b : Rat) := by
  push_cast; ring

theorem rat_mul_mul (m : Rat) (a b : Int) : m * ((a * b : Int) : Rat) = m * (a : Rat) * (b : Rat) := by
  push_cast; ring

theorem spanP_colon_prefix {p' q : Str} (t : Str) (hp : lower p' = q ++ [58]) (hq : 58 ∉ q) :
    ∃ q', p' = q' ++ [58] ∧ lower q' = q ∧ spanP (· != 58) (p' ++ t) = (q', 58 :: t) := by
  obtain ⟨q', h1, h2, hq'⟩ := lower_eq_append_colon hp hq
  exact ⟨q', h1, h2, by rw [h1, List.append_assoc]; exact spanP_ne 58 q' t hq'⟩

theorem joinAfterColon_prefix {p' q : Str} (t : Str) (hp : lower p' = q ++ [58]) (hq : 58 ∉ q) :
    joinAfterColon (p' ++ t) = t.filter (· != 58) := by
  obtain ⟨q', _, _, h⟩ := spanP_colon_prefix t hp hq
  simp [joinAfterColon, h]

theorem splitColon1_prefix {p' q : Str} (t : Str) (hp : lower p' = q ++ [58]) (hq : 58 ∉ q) :
    splitColon1 (p' ++ t) = some (spanP (· != 58) t).1 := by
  obtain ⟨q', _, _, h⟩ := spanP_colon_prefix t hp hq
  simp [splitColon1, h]

theorem spanP_noColon {t : Str} (h : 58 ∉ t) : (spanP (· != 58) t).1 = t ∧ t.filter (· != 58) = t :=
  ⟨by rw [spanP_all 58 t h], List.filter_eq_self.2 fun a ha => bne_iff_ne.2 fun e => h (e ▸ ha)⟩

/-- the readers behind `glycan:`, `formula:`, `obs:` test their prefix once more and drop it -/
theorem joinAfterColon_spelled {p' : Str} (t : Str) (hg : goodPrefix (lower p') = true) :
    joinAfterColon (p' ++ t) = t.filter (· != 58) := by
  obtain ⟨q, hq, h58, -, -⟩ := goodPrefix_decomp hg
  exact joinAfterColon_prefix t hq h58

theorem digitRun_all_head {r : Str} {ds : List Nat} (h : digitRun r false [] = (ds, [])) (hne : ds ≠ []) :
    ∃ c r', r = c :: r' ∧ isDigit c = true := by
  cases r with
  | nil => simp [digitRun] at h; exact absurd h hne
  | cons c r' =>
    refine ⟨c, r', rfl, ?_⟩
    by_cases hc : isDigit c = true
    · exact hc
    · simp [digitRun, hc] at h

/-- a text `int()` accepts is a sign and digits to the end, so `float()` goes down its path without dot and exponent over
the same digits -/
theorem parseFloat_of_parseInt {s : Str} {i : Int} (h : parseInt s = some i) : parseFloat s = .val (i : Rat) := by
  rw [parseInt_eq] at h
  dsimp only at h
  split at h
  · cases h
  · rename_i hcond
    simp only [Bool.or_eq_true, Bool.not_eq_true', not_or, Bool.not_eq_false, List.isEmpty_iff] at hcond
    obtain ⟨h1, h2⟩ := hcond
    have h3 : (digitRun (signOf (strip s)).2 false []).1.isEmpty = false := by simpa using h1
    obtain ⟨c, r', hr, hc⟩ := digitRun_all_head (Prod.ext rfl h2 : digitRun (signOf (strip s)).2 false [] = (_, []))
      (by simpa using h1)
    rw [parseFloat_eq]
    simp only [hr ▸ not_special c r' hc, Bool.false_eq_true, if_false, h2, dotSplit]
    simp only [Option.some.injEq] at h
    simp [h3, expPart, ← h]

/-- `convert_type` in terms of `float()` alone (the value; the int/float flag is immaterial for a mass) -/
theorem convertType_of_parseFloat (s : Str) :
    (∀ r, parseFloat s = .val r → ∃ n, convertType s = .num n ∧ n.val = r) ∧
    (parseFloat s = .special → convertType s = .special) ∧
    (parseFloat s = .bad → convertType s = .str) := by
  cases hi : parseInt s with
  | some i =>
    have := parseFloat_of_parseInt hi
    refine ⟨?_, ?_, ?_⟩
    · intro r hr; rw [this] at hr; cases hr
      exact ⟨Num.ofInt i, by simp [convertType, hi], rfl⟩
    · intro hr; rw [this] at hr; cases hr
    · intro hr; rw [this] at hr; cases hr
  | none =>
    refine ⟨?_, ?_, ?_⟩
    · intro r hr; exact ⟨⟨r, true⟩, by simp [convertType, hi, hr], rfl⟩
    · intro hr; simp [convertType, hi, hr]
    · intro hr; simp [convertType, hi, hr]

theorem massBody_number (T : Tables) (s : Str) (mono : Bool) :
    massBody T s mono =
      (match parseFloat s with
       | .val r => .ok (some (some r))
       | .special => .ok (some none)
       | .bad => runMassBranch T s mono (massBranch T s)) := by
  obtain ⟨h1, h2, h3⟩ := convertType_of_parseFloat s
  cases hf : parseFloat s with
  | val r =>
    obtain ⟨n, hn, hv⟩ := h1 r hf
    rw [massBody_num hn, hv]
  | special => rw [massBody_special (h2 hf)]
  | bad => rw [massBody_str (h3 hf)]

/-! ## "documented resolvable form" of one alternative (C09 deferred validation) -/

/-- alternative `a` of a mass string is of a documented resolvable form -/
def massForm (T : Tables) (a : Str) : Bool :=
  if a.contains 35 && startsWith a [35] then true
  else
    let m := if a.contains 35 then beforeHash a else a
    match convertType m with
    | .num _ => true
    | .special => true
    | .str =>
      let lw := lower m
      startsWith lw (str% "glycan:") || hasPrefix pGno m || hasPrefix pXlmod m || hasPrefix pResid m ||
        (!startsWith lw (str% "info:") &&
          (isDbStr pPsi T.psimod m || isDbStr pUnimod T.unimod m || startsWith lw (str% "formula:") ||
            startsWith lw (str% "obs:")))

/-- alternative `a` of a composition string is of a documented resolvable form (numbers, `obs:` and `info:` are not;
`convert_type` is applied before the `#` cut) -/
def compForm (T : Tables) (a : Str) : Bool :=
  match convertType a with
  | .num _ => false
  | .special => false
  | .str =>
    if a.contains 35 && startsWith a [35] then true
    else
      let m := if a.contains 35 then beforeHash a else a
      let lw := lower m
      startsWith lw (str% "glycan:") || hasPrefix pGno m || hasPrefix pXlmod m || hasPrefix pResid m ||
        (!startsWith lw (str% "info:") && !startsWith lw (str% "obs:") &&
          (isDbStr pPsi T.psimod m || isDbStr pUnimod T.unimod m || startsWith lw (str% "formula:")))

/-- the test of `massForm` on a tag-free text that is no number: a branch other than `info:` and the default -/
def massFormStr (T : Tables) (m : Str) : Bool :=
  startsWith (lower m) (str% "glycan:") || hasPrefix pGno m || hasPrefix pXlmod m || hasPrefix pResid m ||
    (!startsWith (lower m) (str% "info:") &&
      (isDbStr pPsi T.psimod m || isDbStr pUnimod T.unimod m || startsWith (lower m) (str% "formula:") ||
        startsWith (lower m) (str% "obs:")))

def compFormStr (T : Tables) (m : Str) : Bool :=
  startsWith (lower m) (str% "glycan:") || hasPrefix pGno m || hasPrefix pXlmod m || hasPrefix pResid m ||
    (!startsWith (lower m) (str% "info:") && !startsWith (lower m) (str% "obs:") &&
      (isDbStr pPsi T.psimod m || isDbStr pUnimod T.unimod m || startsWith (lower m) (str% "formula:")))

theorem massForm_eq (T : Tables) (a : Str) : massForm T a =
    if a.contains 35 && startsWith a [35] then true
    else match convertType (if a.contains 35 then beforeHash a else a) with
      | .num _ => true
      | .special => true
      | .str => massFormStr T (if a.contains 35 then beforeHash a else a) := rfl

theorem compForm_eq (T : Tables) (a : Str) : compForm T a =
    match convertType a with
    | .num _ => false
    | .special => false
    | .str =>
      if a.contains 35 && startsWith a [35] then true
      else compFormStr T (if a.contains 35 then beforeHash a else a) := rfl

theorem runMassBranch_not_form (T : Tables) (m : Str) (mono : Bool) (h : massFormStr T m = false) :
    runMassBranch T m mono (massBranch T m) = .ok none := by
  simp only [massFormStr, Bool.or_eq_false_iff, Bool.and_eq_false_iff, Bool.not_eq_false'] at h
  obtain ⟨⟨⟨⟨h1, h2⟩, h3⟩, h4⟩, h5 | ⟨⟨⟨h6, h7⟩, h8⟩, h9⟩⟩ := h
  · simp [massBranch, runMassBranch, *]
  · cases hi : startsWith (lower m) (str% "info:") <;> simp [massBranch, runMassBranch, *]

theorem runCompBranch_not_form (T : Tables) (m : Str) (h : compFormStr T m = false) :
    runCompBranch T m (compBranch T m) = .ok none := by
  simp only [compFormStr, Bool.or_eq_false_iff, Bool.and_eq_false_iff, Bool.not_eq_false'] at h
  obtain ⟨⟨⟨⟨h1, h2⟩, h3⟩, h4⟩, (h5 | h5) | ⟨⟨h6, h7⟩, h8⟩⟩ := h
  · simp [compBranch, runCompBranch, *]
  · cases hi : startsWith (lower m) (str% "info:") <;> simp [compBranch, runCompBranch, *]
  · cases hi : startsWith (lower m) (str% "info:") <;> cases ho : startsWith (lower m) (str% "obs:") <;>
      simp [compBranch, runCompBranch, *]

/-- what `mod_mass` and `mod_comp` do with the list of alternatives: the value of the first alternative that has one,
an error as soon as one raises, the error `d` if none has a value -/
def firstOf {α : Type} (parse : Str → Except Err (Option α)) (d : Err) : List Str → Except Err α
  | [] => .error d
  | a :: r =>
    match parse a with
    | .error e => .error e
    | .ok (some x) => .ok x
    | .ok none => firstOf parse d r

theorem firstMass_eq (T : Tables) (mono : Bool) :
    ∀ l, firstMass T mono l = firstOf (parseModMass T · mono) .invalidModMass l
  | [] => rfl
  | a :: r => by
    simp only [firstMass, firstOf, firstMass_eq T mono r]
    rcases parseModMass T a mono with _ | _ | _ <;> rfl

theorem firstComp_eq (T : Tables) : ∀ l, firstComp T l = firstOf (parseModComp T) .invalidComp l
  | [] => rfl
  | a :: r => by
    simp only [firstComp, firstOf, firstComp_eq T r]
    rcases parseModComp T a with _ | _ | _ <;> rfl

section
variable {α : Type} {parse : Str → Except Err (Option α)} {d : Err}

theorem firstOf_ok {x : α} : ∀ l, firstOf parse d l = .ok x → ∃ a ∈ l, parse a = .ok (some x)
  | [], h => by cases h
  | a :: r, h => by
    simp only [firstOf] at h
    split at h
    · cases h
    · rename_i y hy
      cases h
      exact ⟨a, List.mem_cons_self, hy⟩
    · obtain ⟨b, hb, hb'⟩ := firstOf_ok r h
      exact ⟨b, List.mem_cons_of_mem _ hb, hb'⟩

theorem firstOf_all_none : ∀ l, (∀ a ∈ l, parse a = .ok none) → firstOf parse d l = .error d
  | [], _ => rfl
  | a :: r, h => by
    simp only [firstOf, h a List.mem_cons_self]
    exact firstOf_all_none r fun b hb => h b (List.mem_cons_of_mem _ hb)

theorem firstOf_err (P : Err → Prop) (hd : P d) (hp : ∀ a e, parse a = .error e → P e) :
    ∀ l e, firstOf parse d l = .error e → P e
  | [], e, h => by cases h; exact hd
  | a :: r, e, h => by
    simp only [firstOf] at h
    split at h
    · rename_i e' he'
      cases h
      exact hp a _ he'
    · cases h
    · exact firstOf_err P hd hp r e h

end

theorem map_some_ok {α : Type} {e : Except Err α} {x : α} : e.map some = .ok (some x) ↔ e = .ok x := by
  cases e with
  | error er => simp [Except.map]
  | ok v => simp [Except.map]

theorem map_some_error {α : Type} {e : Except Err α} {er : Err} : e.map some = .error er ↔ e = .error er := by
  cases e with
  | error er => simp [Except.map]
  | ok v => simp [Except.map]

/-- where a value of a branch comes from: always a reader of the text or a vocabulary, never a default -/
theorem runMassBranch_ok_cases (T : Tables) (m : Str) (mono : Bool) (b : Branch) (x : Mass)
    (h : runMassBranch T m mono b = .ok (some x)) :
    glycanMassProforma T m mono = .ok (some x) ∨
    getMass T T.gno (stripPrefix pGno m) mono = .ok x ∨
    getMass T T.xlmod (stripPrefix pXlmod m) mono = .ok x ∨
    getMass T T.resid (stripPrefix pResid m) mono = .ok x ∨
    getMass T T.psimod (stripPrefix pPsi m) mono = .ok x ∨
    getMass T T.unimod (stripPrefix pUnimod m) mono = .ok x ∨
    chemMassProforma T m mono = .ok x ∨
    obsMassProforma m = .ok x := by
  cases b
  case glycan => exact .inl h
  case skip | none => cases h
  all_goals simp only [runMassBranch, map_some_ok] at h; simp only [h, true_or, or_true]

/-! ## error classes of the resolver (C09: errors are of the `ValueError` family) -/

/-- the Python exception class is `ValueError` or a subclass of it.  Trusted like a specification: which model errors stand
for which exception class is read off the class definitions of the repository, nothing below proves it. -/
def _root_.Formula.Err.isValueErrorFamily : Err → Bool
  | .unknownMod | .unknownModMass | .invalidDeltaMass | .invalidComp | .deltaMassComp | .invalidModMass
  | .invalidChemFormula | .invalidGlycanFormula | .valueError => true
  | .typeError | .keyError | .hang | .special => false

abbrev ValueErr (e : Err) : Prop := e.isValueErrorFamily = true

/-- close a goal `ValueErr e` from `h : Except.error <literal> = Except.error e` -/
macro "err_lit " h:ident : tactic =>
  `(tactic| (simp only [Except.error.injEq] at $h:ident; subst $h:ident; rfl))

theorem splitChem_err (s : Str) (b : Bool) (acc : Str) (e : Err) (h : splitChem b acc s = .error e) : ValueErr e := by
  fun_induction splitChem b acc s
  case case1 | case3 | case7 => cases h
  case case2 | case5 =>
    cases h
    rfl
  case case4 he ih | case8 he ih =>
    cases h
    exact ih he
  case case6 ih | case9 ih => exact ih h

theorem parseCondensed_err (s : Str) (e : Err) (h : parseCondensed s = .error e) : ValueErr e := by
  unfold parseCondensed at h
  simp only at h
  split at h
  · cases h
  split at h
  · err_lit h
  split at h
  · err_lit h
  split at h
  · err_lit h
  · cases h

theorem parseIsotope_err (s : Str) (e : Err) (h : parseIsotope s = .error e) : ValueErr e := by
  unfold parseIsotope at h
  split at h
  · cases h
  · split at h
    · exact parseCondensed_err _ _ h
    · simp only at h
      split at h
      · err_lit h
      split at h
      · err_lit h
      · cases h

theorem parseComponent_err (s : Str) (e : Err) (h : parseComponent s = .error e) : ValueErr e := by
  unfold parseComponent at h
  split at h
  · exact parseIsotope_err _ _ h
  · exact parseCondensed_err _ _ h

theorem parseComponents_err (l : List Str) (e : Err) (h : parseComponents l = .error e) : ValueErr e := by
  fun_induction parseComponents l
  case case1 | case4 => cases h
  case case2 he =>
    cases h
    exact parseComponent_err _ _ he
  case case3 he ih =>
    cases h
    exact ih he

/-- `parse_chem_formula(s)` (no separator): only `ValueError` (unclosed bracket) or `InvalidChemFormulaError` -/
theorem parseChem_err (s : Str) (e : Err) (h : parseChem s [] = .error e) : ValueErr e := by
  unfold parseChem at h
  simp only [bne_self_eq_false, Bool.false_eq_true, if_false] at h
  split at h
  · rename_i e' he'
    cases h
    exact splitChem_err _ _ _ _ he'
  · split at h
    · rename_i e' he'
      cases h
      exact parseComponents_err _ _ he'
    · cases h

/-- table defect 1: an element row (not an isotope key) without an average mass — the only source of `KeyError` -/
def KeyErrSrc (M : MassTable) : Prop := ∃ el ∈ M.elems, el.avg = none ∧ isIsoKey el.sym = false
/-- table defect 2: a monosaccharide entry without mono mass, average mass or composition — the only source of `TypeError` -/
def TypeErrSrc (mono : List Entry) : Prop := ∃ e ∈ mono, e.mono = none ∨ e.avg = none ∨ e.comp = none
/-- table defect 3: an empty monosaccharide name or synonym — the only source of an endless loop -/
def HangSrc (mono : List Entry) : Prop := [] ∈ namesSorted mono

/-- an error of the resolver: of the `ValueError` family, or one of the three table defects, located -/
def ErrOK (T : Tables) (e : Err) : Prop :=
  ValueErr e ∨ (e = .typeError ∧ TypeErrSrc T.mono) ∨ (e = .keyError ∧ KeyErrSrc T.mass) ∨ (e = .hang ∧ HangSrc T.mono)

theorem ErrOK.ve {T : Tables} {e : Err} (h : ValueErr e) : ErrOK T e := .inl h

/-- a `TypeError`, with the incomplete monosaccharide entry it comes from -/
theorem ErrOK.ofType {T : Tables} {en : Entry} (hen : en ∈ T.mono) (hd : en.mono = none ∨ en.avg = none ∨ en.comp = none) :
    ErrOK T .typeError := .inr (.inl ⟨rfl, en, hen, hd⟩)

/-- a `KeyError`, with the element row without average mass it comes from -/
theorem ErrOK.ofKey {T : Tables} {el : Elem} (hel : el ∈ T.mass.elems) (ha : el.avg = none) (hi : isIsoKey el.sym = false) :
    ErrOK T .keyError := .inr (.inr (.inl ⟨rfl, el, hel, ha, hi⟩))

/-- an endless loop, with the empty name it comes from -/
theorem ErrOK.ofHang {T : Tables} (h : [] ∈ namesSorted T.mono) : ErrOK T .hang := .inr (.inr (.inr ⟨rfl, h⟩))

theorem ErrOK.classes {T : Tables} {e : Err} (h : ErrOK T e) : ValueErr e ∨ e = .typeError ∨ e = .keyError ∨ e = .hang :=
  h.imp_right (Or.imp And.left (Or.imp And.left And.left))

theorem ErrOK.typeError {T : Tables} (h : ErrOK T .typeError) : TypeErrSrc T.mono := by
  rcases h with h | ⟨_, h⟩ | ⟨h, _⟩ | ⟨h, _⟩
  exacts [(nomatch h), h, (nomatch h), (nomatch h)]

theorem ErrOK.keyError {T : Tables} (h : ErrOK T .keyError) : KeyErrSrc T.mass := by
  rcases h with h | ⟨h, _⟩ | ⟨_, h⟩ | ⟨h, _⟩
  exacts [(nomatch h), (nomatch h), h, (nomatch h)]

theorem ErrOK.hang {T : Tables} (h : ErrOK T .hang) : HangSrc T.mono := by
  rcases h with h | ⟨h, _⟩ | ⟨h, _⟩ | ⟨_, h⟩
  exacts [(nomatch h), (nomatch h), (nomatch h), h]

theorem ErrOK.not_special {T : Tables} : ¬ ErrOK T .special := by
  rintro (h | ⟨h, _⟩ | ⟨h, _⟩ | ⟨h, _⟩) <;> cases h

theorem ErrOK.ve_of_complete {T : Tables} {e : Err} (h : ErrOK T e)
    (h1 : ∀ en ∈ T.mono, en.mono ≠ none ∧ en.avg ≠ none ∧ en.comp ≠ none) (h2 : [] ∉ namesSorted T.mono)
    (h3 : ∀ el ∈ T.mass.elems, el.avg ≠ none ∨ isIsoKey el.sym = true) : ValueErr e := by
  rcases h with h | ⟨_, en, hen, hd⟩ | ⟨_, el, hel, ha, hi⟩ | ⟨_, hh⟩
  · exact h
  · obtain ⟨hm, ha, hc⟩ := h1 en hen
    rcases hd with hd | hd | hd <;> contradiction
  · rcases h3 el hel with h | h
    · contradiction
    · rw [hi] at h; cases h
  · exact absurd hh h2

theorem elemMass_err (T : Tables) (mono : Bool) (k : Str) (e : Err) (h : elemMass T.mass mono k = .error e) :
    ErrOK T e := by
  unfold elemMass at h
  split at h
  · split at h
    · cases h
    split at h
    · cases h
    split at h
    · cases h
    · exact .ve (by err_lit h)
  · rename_i el hel
    split at h
    · cases h
    · rename_i hcond
      split at h
      · cases h
      · rename_i havg
        cases h
        refine .ofKey (el := el) ?_ havg ?_
        · exact List.mem_of_find?_eq_some hel
        · have := List.find?_some hel
          simp only [beq_iff_eq] at this
          rw [this]
          simp only [Bool.or_eq_true, not_or, Bool.not_eq_true] at hcond
          exact hcond.2

theorem chemMassComp_err (T : Tables) (mono : Bool) (c : Comp) (e : Err)
    (h : chemMassComp T.mass mono c = .error e) : ErrOK T e := by
  fun_induction chemMassComp T.mass mono c
  case case1 | case4 => cases h
  case case2 he =>
    cases h
    exact elemMass_err T mono _ _ he
  case case3 he ih =>
    cases h
    exact ih he

theorem chemMassStr_err (T : Tables) (mono : Bool) (s : Str) (e : Err)
    (h : chemMassStr T.mass mono s [] = .error e) : ErrOK T e := by
  unfold chemMassStr at h
  split at h
  · rename_i e' he'
    cases h
    exact .ve (parseChem_err _ _ he')
  · exact chemMassComp_err T mono _ _ h

theorem monoLookup_mem (mono : List Entry) (k : Str) (e : Entry) (h : monoLookup mono k = some e) : e ∈ mono := by
  unfold monoLookup at h
  split at h
  · next e' he' => cases h; exact (lookupLast_some _ _ _ _ he').1
  · split at h
    · next e' he' => cases h; exact (lookupLast_some _ _ _ _ he').1
    · exact (lookupSyn_some _ _ _ h).1

theorem parseGlycanAux_err (T : Tables) (s : Str) (k : Nat) (d : Comp) (e : Err)
    (h : parseGlycanAux (namesSorted T.mono) k s d = .error e) : ErrOK T e := by
  rcases parseGlycanAux_error h with rfl | ⟨rfl, hm⟩
  · exact .ve rfl
  · exact .ofHang hm

theorem parseGlycan_err (T : Tables) (s : Str) (e : Err) (h : parseGlycan T.mono s [] = .error e) : ErrOK T e := by
  unfold parseGlycan at h
  split at h
  · cases h
  · simp only [bne_self_eq_false, Bool.false_eq_true, if_false] at h
    exact parseGlycanAux_err T _ _ _ _ h

theorem glycanMassDict_err (T : Tables) (isMono : Bool) (g : Comp) (e : Err)
    (h : glycanMassDict T.mono isMono g = .error e) : ErrOK T e := by
  fun_induction glycanMassDict T.mono isMono g
  case case1 | case5 => cases h
  case case2 => exact .ve (by err_lit h)
  case case3 hen hm =>
    cases h
    refine .ofType (monoEntry_some _ _ _ hen).1 ?_
    cases isMono
    · exact .inr (.inl hm)
    · exact .inl hm
  case case4 he ih =>
    cases h
    exact ih he

theorem glycanMassStr_err (T : Tables) (isMono : Bool) (s : Str) (e : Err)
    (h : glycanMassStr T.mono isMono s = .error e) : ErrOK T e := by
  unfold glycanMassStr at h
  split at h
  · rename_i e' he'
    cases h
    exact parseGlycan_err T _ _ he'
  · exact glycanMassDict_err T isMono _ _ h

theorem glycanCompDict_err (T : Tables) (g acc : Comp) (e : Err)
    (h : glycanCompDict T.mono g acc = .error e) : ErrOK T e := by
  fun_induction glycanCompDict T.mono g acc
  case case1 => cases h
  case case2 => exact .ve (by err_lit h)
  case case3 hen hc =>
    cases h
    exact .ofType (monoEntry_some _ _ _ hen).1 (.inr (.inr hc))
  case case4 he =>
    cases h
    exact .ve (parseChem_err _ _ he)
  case case5 ih => exact ih h

theorem glycanCompStr_err (T : Tables) (s : Str) (e : Err)
    (h : glycanCompStr T.mono s = .error e) : ErrOK T e := by
  unfold glycanCompStr at h
  split at h
  · rename_i e' he'
    cases h
    exact parseGlycan_err T _ _ he'
  · exact glycanCompDict_err T _ _ _ h

theorem glycanMassProforma_err (T : Tables) (s : Str) (mono : Bool) (e : Err)
    (h : glycanMassProforma T s mono = .error e) : ErrOK T e := by
  unfold glycanMassProforma at h
  simp only at h
  split at h
  · split at h <;> cases h
  · split at h
    · cases h
    · rename_i e' he'
      cases h
      exact glycanMassStr_err T mono _ _ he'

theorem glycanCompProforma_err (T : Tables) (s : Str) (e : Err)
    (h : glycanCompProforma T s = .error e) : ErrOK T e := by
  unfold glycanCompProforma at h
  simp only at h
  split at h
  · rename_i en hen
    split at h
    · rename_i hc
      cases h
      exact .ofType (monoLookup_mem _ _ _ hen) (.inr (.inr hc))
    · exact .ve (parseChem_err _ _ h)
  · split at h
    · rename_i e' he'
      cases h
      exact glycanCompStr_err T _ _ he'
    · exact .ve (parseChem_err _ _ h)

theorem entryMass_err (T : Tables) (en : Entry) (mono : Bool) (e : Err)
    (h : entryMass T en mono = .error e) : ErrOK T e := by
  unfold entryMass at h
  split at h
  · cases h
  · split at h
    · exact .ve (by err_lit h)
    · split at h
      · cases h
      · rename_i e' he'
        cases h
        exact chemMassStr_err T mono _ _ he'

theorem getMass_err (T : Tables) (db : List Entry) (k : Str) (mono : Bool) (e : Err)
    (h : getMass T db k mono = .error e) : ErrOK T e := by
  cases hs : signed k with
  | true =>
    rw [getMass_signed T db k mono hs] at h
    split at h
    · cases h
    · cases h
    · exact .ve (by err_lit h)
  | false =>
    rw [getMass_unsigned T db k mono hs] at h
    split at h
    · exact .ve (by err_lit h)
    · exact entryMass_err T _ mono _ h

theorem getComp_err (db : List Entry) (k : Str) (e : Err) (h : getComp db k = .error e) : ValueErr e := by
  cases hs : signed k with
  | true =>
    rw [getComp_signed db k hs] at h
    split at h
    · err_lit h
    · err_lit h
  | false =>
    rw [getComp_unsigned db k hs] at h
    split at h
    · err_lit h
    · split at h
      · err_lit h
      · cases h

theorem dbComp_err (db : List Entry) (ps : List Str) (m : Str) (e : Err) (h : dbComp db ps m = .error e) : ValueErr e := by
  unfold dbComp at h
  split at h
  · rename_i e' he'
    cases h
    exact getComp_err _ _ _ he'
  · exact parseChem_err _ _ (map_some_error.1 h)

theorem obsMassProforma_err (s : Str) (e : Err) (h : obsMassProforma s = .error e) : ValueErr e := by
  unfold obsMassProforma at h
  simp only at h
  split at h
  · cases h
  · cases h
  · err_lit h

theorem chemMassProforma_err (T : Tables) (s : Str) (mono : Bool) (e : Err)
    (h : chemMassProforma T s mono = .error e) : ErrOK T e := by
  unfold chemMassProforma at h
  simp only at h
  split at h
  · cases h
  · rename_i e' he'
    cases h
    exact chemMassStr_err T mono _ _ he'

theorem runMassBranch_err (T : Tables) (m : Str) (mono : Bool) (b : Branch) (e : Err)
    (h : runMassBranch T m mono b = .error e) : ErrOK T e := by
  cases b <;> rw [runMassBranch] at h
  case glycan => exact glycanMassProforma_err T _ _ _ h
  case formula => exact chemMassProforma_err T _ _ _ (map_some_error.1 h)
  case obs => exact .ve (obsMassProforma_err _ _ (map_some_error.1 h))
  case skip | none => cases h
  all_goals exact getMass_err T _ _ _ _ (map_some_error.1 h)

theorem parseModMass_err (T : Tables) (a : Str) (mono : Bool) (e : Err)
    (h : parseModMass T a mono = .error e) : ErrOK T e := by
  rw [parseModMass_eq] at h
  split at h
  · cases h
  · cases hs : convertType (if a.contains 35 then beforeHash a else a) with
    | num n => rw [massBody_num hs] at h; cases h
    | special => rw [massBody_special hs] at h; cases h
    | str => rw [massBody_str hs] at h; exact runMassBranch_err T _ _ _ _ h

theorem modMass_err (T : Tables) (s : Str) (mono : Bool) (e : Err) (h : modMass T s mono = .error e) : ErrOK T e := by
  rw [modMass, firstMass_eq] at h
  exact firstOf_err (ErrOK T) (.ve rfl) (fun a e => parseModMass_err T a mono e) _ e h

theorem runCompBranch_err (T : Tables) (m : Str) (b : Branch) (e : Err)
    (h : runCompBranch T m b = .error e) : ErrOK T e := by
  cases b <;> rw [runCompBranch] at h
  case glycan => exact glycanCompProforma_err T _ _ (map_some_error.1 h)
  case formula => exact .ve (parseChem_err _ _ (map_some_error.1 h))
  case skip | obs | none => cases h
  all_goals exact .ve (dbComp_err _ _ _ _ h)

theorem parseModComp_err (T : Tables) (a : Str) (e : Err) (h : parseModComp T a = .error e) : ErrOK T e := by
  rw [parseModComp_eq] at h
  split at h
  · cases h
  · cases h
  · split at h
    · cases h
    · rw [compStrBody_eq] at h; exact runCompBranch_err T _ _ _ h

theorem modComp_err (T : Tables) (s : Str) (e : Err) (h : modComp T s = .error e) : ErrOK T e := by
  rw [modComp, firstComp_eq] at h
  exact firstOf_err (ErrOK T) (.ve rfl) (parseModComp_err T) _ e h

end ModDbGeneric
