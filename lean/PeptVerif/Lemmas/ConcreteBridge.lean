import PeptVerif.Lemmas.Mass
import PeptVerif.Lemmas.ConcreteEnv
import PeptVerif.Lemmas.DecText
import PeptVerif.Model.ConcreteEnv
/-! Bridge between the concrete mass model (`Model/Mass.lean`, C02) and the abstract one (`Model/AbsMass.lean`, C12 / C18)
instantiated at the concrete environment: on the common domain the fast path of `Mass.mass` and `AbsMass.massFast` return
the same number: both are the fast path in parts (`Mass.mass_fast_parts`) with C02's values for the rules and the
modifications. -/
namespace Pept
namespace Concrete
open Chem AbsMass Static Spec

theorem isPrefix_eq (p s : List Char) : Static.isPrefix p s = p.isPrefixOf s := by
  induction p generalizing s with
  | nil => cases s <;> simp [Static.isPrefix]
  | cons a p ih =>
    cases s with
    | nil => simp [Static.isPrefix]
    | cons b s => simp [Static.isPrefix, List.isPrefixOf, ih]

theorem countAux_skip (t : List Char) (s : List Char) (k : ℕ) : countAux t s k = countAux t (s.drop k) 0 := by
  induction s generalizing k with
  | nil => cases k <;> simp [countAux]
  | cons c r ih =>
    cases k with
    | zero => simp
    | succ k => simp only [countAux, List.drop_succ_cons]; exact ih k

theorem countSub_go_eq (t : List Char) (ht : t ≠ []) :
    ∀ (fuel : ℕ) (s : List Char), s.length < fuel → Mass.countSub.go t s fuel = countAux t s 0 := by
  obtain ⟨k, hk⟩ : ∃ k, t.length = k + 1 := ⟨t.length - 1, by have := List.length_pos_iff.mpr ht; omega⟩
  intro fuel
  induction fuel with
  | zero => intro s hf; omega
  | succ f ih =>
    intro s hf
    cases s with
    | nil => simp [Mass.countSub.go, countAux]
    | cons c r =>
      simp only [List.length_cons] at hf
      simp only [Mass.countSub.go, countAux, isPrefix_eq, hk, List.drop_succ_cons, Nat.add_sub_cancel]
      split
      · rw [countAux_skip t r k, ih (r.drop k) (by simp; omega)]
      · exact ih r (by omega)

/-- the two models of `str.count` agree on a non-empty literal: C12's `countAux` counts a skip down after a match, C02's
`Mass.countSub.go` jumps with `drop` under fuel -/
theorem countOcc_eq_countSub (t s : List Char) (ht : t ≠ []) : Static.countOcc t s = Mass.countSub t s := by
  unfold Static.countOcc Mass.countSub
  rw [if_neg ht, if_neg (by simpa using ht)]
  exact (countSub_go_eq t ht (s.length + 1) s (by omega)).symm

theorem sumMods_eq (env : Pept.Env) (E : AbsMass.Env) (mono : Bool) (hmu : E.mu = muOf env mono) (l : List Mod) :
    AbsMass.sumMods E l = modsValue env mono l :=
  sumMods_eq_sum_of E (modValue env mono) (fun m => by unfold AbsMass.modMass modValue; rw [hmu]; rfl) l

theorem plainMass_eq (E : AbsMass.Env) (ion : Key) (hp : E.ionP = (ion == Mass.ionP)) (a : Annotation) :
    AbsMass.plainMass E a = AbsMass.sumRes E a.seq + AbsMass.sumMods E (placedMods a ion) := by
  simp only [AbsMass.plainMass, placedMods, sumMods_append, optSum_eq, optIntervals_eq, optInt_eq, hp, beq_iff_eq,
    apply_ite (AbsMass.sumMods E), AbsMass.sumMods]
  ring

/-- the static-rule block: the abstract one is C02's `staticValue` (targets non-empty, so both count the same) -/
theorem staticMass_eq (env : Pept.Env) (E : AbsMass.Env) (mono : Bool) (hmu : E.mu = muOf env mono) (seq : List Char)
    (m : StaticMap) (hne : ∀ p ∈ m, p.1 ≠ []) :
    AbsMass.staticMass E seq m =
      (match m.lookup Mass.nTerm with | some l => modsValue env mono l | none => 0) +
      (match m.lookup Mass.cTerm with | some l => modsValue env mono l | none => 0) +
      sumR (m.map fun p => if p.1 = Mass.nTerm || p.1 = Mass.cTerm then 0
                             else modsValue env mono p.2 * ((Mass.countSub p.1 seq : ℕ) : ℚ)) := by
  unfold AbsMass.staticMass
  rw [← Static.dictGet_eq, ← Static.dictGet_eq]
  have h1 : Static.nTermKey = Mass.nTerm := rfl
  have h2 : Static.cTermKey = Mass.cTerm := rfl
  rw [h1, h2]
  have hres : ∀ (m : StaticMap), (∀ p ∈ m, p.1 ≠ []) → AbsMass.staticResidueMass E seq m =
      sumR (m.map fun p => if p.1 = Mass.nTerm || p.1 = Mass.cTerm then 0
                             else modsValue env mono p.2 * ((Mass.countSub p.1 seq : ℕ) : ℚ)) := by
    intro m hm
    induction m with
    | nil => rfl
    | cons p m ih =>
      obtain ⟨k, ms⟩ := p
      have hk : k ≠ [] := hm (k, ms) (by simp)
      simp only [AbsMass.staticResidueMass, List.map_cons, sumR_cons, ih (fun q hq => hm q (by simp [hq])),
        sumMods_eq env E mono hmu, countOcc_eq_countSub k seq hk]
      congr 1
      simp only [Static.isTermKey, h1, h2]
      by_cases ha : k = Mass.nTerm <;> by_cases hb : k = Mass.cTerm <;> simp [ha, hb]
  rw [hres m hne]
  cases Static.dictGet m Mass.nTerm <;> cases Static.dictGet m Mass.cTerm <;> simp [sumMods_eq env E mono hmu]

/-- agreement of the resolver's `parse_static_mods` with the model of C12 on this annotation; targets are non-empty -/
def ParseAgrees (env : Pept.Env) (a : Annotation) : Prop :=
  ∀ st, a.static = some st → ∃ m, env.parseStatic st = .ok m ∧ Static.parseStaticMods (some st) = .ok m ∧ ∀ p ∈ m, p.1 ≠ []

theorem massFast_concrete (env : Pept.Env) (a : Annotation) (ion : Key) (mono : Bool) (ch iso : Int) (loss : ℚ)
    (hparse : ParseAgrees env a) :
    AbsMass.massFast (envFor env ion mono ch iso loss) a = .ok (staticValue env mono a +
      (AbsMass.sumRes (envFor env ion mono ch iso loss) a.seq + modsValue env mono (placedMods a ion)) +
      (envFor env ion mono ch iso loss).adj) := by
  have hmu := envFor_mu env ion mono ch iso loss
  unfold AbsMass.massFast staticValue
  cases hs : a.static with
  | none => simp only [plainMass_eq (envFor env ion mono ch iso loss) ion rfl, sumMods_eq env _ mono hmu, zero_add]
  | some st =>
    obtain ⟨m, hm1, hm2, hne⟩ := hparse st hs
    simp only [hm2, hm1, staticMass_eq env _ mono hmu a.seq m hne, plainMass_eq (envFor env ion mono ch iso loss) ion rfl,
      sumMods_eq env _ mono hmu, add_assoc]
    rfl

/-- **bridge (fast path)**: for an annotation without isotope labels and adducts, inside C02's domain, with the two models of
`parse_static_mods` agreeing, `Mass.mass` of the concrete model and `AbsMass.massOf` at the concrete environment return the
same number -/
theorem mass_bridge (env : Pept.Env) (a : Annotation) (o : Mass.Opts)
    (hlab : o.isotopeMods = none) (hlab' : a.isotope = none) (hadd : o.adducts = none) (hadd' : a.adducts = none)
    (hprec : o.precision = none)
    (hdom : inDomain env a o.ion o.mono none = true) (hparse : ParseAgrees env a) :
    ∃ x, Mass.mass env a o = .ok x ∧
      AbsMass.massOf (envFor env o.ion o.mono ((Mass.effCharge a o).getD 0) o.isotope o.loss) a = .ok x := by
  obtain ⟨hres, hoff, hmods, hstat, -⟩ := (Mass.inDomain_iff env a o.ion o.mono none).1 hdom
  obtain ⟨v, hv⟩ := Option.isSome_iff_exists.mp hoff
  obtain ⟨fa, ct, hfa, hct, -⟩ :=
    Mass.defaultCharge_spec Mass.adjust_tables o.mono o.ion ((Mass.effCharge a o).getD 0) v hv
  have hw : ∀ c ∈ a.seq, aaMass o.mono c.toNat = some ((aaMass o.mono c.toNat).getD 0) := fun c hc => by
    rw [Mass.residues_of_known Mass.residue_table o.mono a.seq hres c hc]; rfl
  refine ⟨_, Mass.mass_fast_parts env a o ⟨Mass.effCharge a o, none, none⟩ _ (modValue env o.mono)
    (by unfold Mass.resolveArgs Mass.effLabels; rw [hlab, hlab', hadd, hadd']; rfl) rfl _
    (Mass.staticMass_ok env o.mono a hstat) hw
    (fun m hm => Mass.modMass_ok env o.mono m (List.all_eq_true.mp hmods m hm)) fa hfa ct hct, ?_⟩
  have hsr : AbsMass.sumRes (envFor env o.ion o.mono ((Mass.effCharge a o).getD 0) o.isotope o.loss) a.seq =
      sumR (a.seq.map fun c => (aaMass o.mono c.toNat).getD 0) := sumRes_eq_sum _ _
  have hadj : (envFor env o.ion o.mono ((Mass.effCharge a o).getD 0) o.isotope o.loss).adj =
      ct + fa + ((o.isotope : ℚ) * Gen.neutronMass + o.loss) := by
    rw [envFor_adj, Mass.adjustMass_parts 0 (some ((Mass.effCharge a o).getD 0)) o.ion o.mono o.isotope o.loss none none fa hfa ct hct]
    simp only [okOr0, roundOpt, zero_add]
  rw [massOf_unlabelled _ a hlab', massFast_concrete env a _ _ _ _ _ hparse, hprec, hsr, hadj]
  exact congrArg Except.ok (by show _ = _ + _ + modsValue env o.mono _ + ct + fa + _; ring)

theorem muOf_ok (env : Pept.Env) (v : ModVal) (x : ℚ) (h : (env.res v).mono = .ok x) : muOf env true v = x := by
  unfold muOf; simp only [if_true, h]

theorem placedMods_subset_allMods (b : Annotation) (ion : Key) : ∀ x ∈ placedMods b ion, x ∈ allMods b := by
  intro x hx
  simp only [placedMods, allMods, List.mem_append] at hx ⊢
  grind

/-- for a resolver that weighs a written number by its value, `Mass.mass` of the annotation
`condense_to_mass_mods` writes is the sum of the numbers written (`outMass`) -/
theorem mass_render_concrete (env : Pept.Env) (hint : ∀ i : ℤ, (env.res (.int i)).mono = .ok (i : ℚ))
    (hflt : ∀ t : List Char, (env.res (.flt t)).mono = .ok (CondenseMass.valOfText t)) (c : Annotation)
    (s : CondenseMass.Shifts) (p : ℕ) (hadd : c.adducts = none)
    (hres : c.seq.all (fun x => (lookup x.toNat residueFormula).isSome) = true)
    (hoff : (neutralOffset lib true Mass.ionP).isSome = true) :
    Mass.mass env (CondenseMass.render c s p) {} =
      .ok (CondenseMass.outMass (envFor env Mass.ionP true (c.charge.getD 0) 0 0) c s p) := by
  have hmu : CondenseMass.NumericMu (envFor env Mass.ionP true (c.charge.getD 0) 0 0) p :=
    CondenseMass.numericMu_of_valOfText _ p (fun i => muOf_ok env _ _ (hint i)) fun t => muOf_ok env _ _ (hflt t)
  have hdom : inDomain env (CondenseMass.render c s p) Mass.ionP true none = true := by
    refine (Mass.inDomain_iff env _ Mass.ionP true none).2 ⟨hres, hoff, List.all_eq_true.mpr fun m hm => ?_, rfl, rfl⟩
    obtain ⟨x, rfl⟩ := CondenseMass.allMods_render c s p m (placedMods_subset_allMods _ _ m hm)
    cases x <;> simp only [modResolves, CondenseMass.Num.toVal, if_true, hint, hflt]
  obtain ⟨y, hy1, hy2⟩ := mass_bridge env (CondenseMass.render c s p) {} rfl rfl rfl hadd rfl hdom
    fun st hst => nomatch hst
  rw [hy1]
  exact congrArg Except.ok (Except.ok.inj
    (hy2.symm.trans ((massOf_unlabelled _ _ rfl).trans (CondenseMass.massFast_render _ c s p hmu rfl))))

theorem mem_termRule_mods (m : StaticMap) (cur : Option (List Mod)) (key : List Char) (x : Mod)
    (h : x ∈ (match dictGet m key with | some ms => appendMods cur ms | none => cur).getD []) :
    x ∈ cur.getD [] ∨ ∃ p ∈ m, x ∈ p.2 := by
  cases hd : dictGet m key with
  | none => rw [hd] at h; exact Or.inl h
  | some ms =>
    rw [hd] at h
    have := AssocList.mem_of_lookup ((Static.dictGet_eq m key).symm.trans hd)
    cases cur <;> simp only [appendMods, Option.getD_some, Option.getD_none, List.mem_append] at h ⊢ <;> grind

/-- a placed modification of the condensed form comes from the input or from a rule: the termini are appended to, and the
residue modifications are a permutation of the input's and `residueRuleMods` -/
theorem mem_placedMods_applyMap (a : Annotation) (m : StaticMap) (ion : Key) :
    ∀ x ∈ placedMods (applyMap a m) ion, x ∈ placedMods a ion ∨ ∃ p ∈ m, x ∈ p.2 := by
  intro x hx
  simp only [placedMods, applyMap, List.mem_append] at hx ⊢
  have h1 := mem_termRule_mods m a.nterm nTermKey x
  have h2 := mem_termRule_mods m a.cterm cTermKey x
  have h3 := fun h : x ∈ _ => (List.mem_append.mp ((applyResidueRules_perm a.seq m a.internal).mem_iff.mp h)).imp_right
    mem_residueRuleMods
  unfold intMods at h3
  grind

/-- **condensing keeps the annotation inside C02's domain** -/
theorem inDomain_condense (env : Pept.Env) (a c : Annotation) (ion : Key) (mono : Bool)
    (hdom : inDomain env a ion mono none = true) (hparse : ParseAgrees env a) (hc : condenseStatic a = .ok c) :
    inDomain env c ion mono none = true := by
  rcases condenseStatic_ok a c hc with ⟨hs, rfl⟩ | ⟨st, m', hs, hm', rfl⟩
  · exact hdom
  · obtain ⟨hres, hoff, hmods, hstat, -⟩ := (Mass.inDomain_iff env a ion mono none).1 hdom
    obtain ⟨m, hm1, hm2, _⟩ := hparse st hs
    obtain rfl : m = m' := Except.ok.inj (hm2.symm.trans hm')
    rw [hs] at hstat
    simp only [hm1] at hstat
    refine (Mass.inDomain_iff env _ ion mono none).2 ⟨hres, hoff, ?_, rfl, rfl⟩
    rw [List.all_eq_true]
    intro x hx
    rcases mem_placedMods_applyMap a m ion x hx with h | ⟨p, hp, hxp⟩
    · exact List.all_eq_true.mp hmods x h
    · exact List.all_eq_true.mp (List.all_eq_true.mp hstat p hp) x hxp

/-- **`mass` of the rule form = `mass` of the condensed explicit form, in the concrete model of C02** (no labels, no adducts):
both calls of `Mass.mass` succeed and return the same number -/
theorem mass_condense_concrete (env : Pept.Env) (a c : Annotation) (o : Mass.Opts)
    (hlab : o.isotopeMods = none) (hlab' : a.isotope = none) (hadd : o.adducts = none) (hadd' : a.adducts = none)
    (hprec : o.precision = none)
    (hdom : inDomain env a o.ion o.mono none = true) (hparse : ParseAgrees env a) (hc : condenseStatic a = .ok c) :
    ∃ x, Mass.mass env a o = .ok x ∧ Mass.mass env c o = .ok x := by
  obtain ⟨hci, hca, hcc⟩ := condenseStatic_untouched a c hc
  have hcs := condenseStatic_static a c hc
  have hparse_c : ParseAgrees env c := by intro st hst; rw [hcs] at hst; cases hst
  have hdom_c := inDomain_condense env a c o.ion o.mono hdom hparse hc
  obtain ⟨x, hx1, hx2⟩ := mass_bridge env a o hlab hlab' hadd hadd' hprec hdom hparse
  obtain ⟨y, hy1, hy2⟩ := mass_bridge env c o hlab (hci.trans hlab') hadd (hca.trans hadd') hprec hdom_c hparse_c
  have heff : Mass.effCharge c o = Mass.effCharge a o := by unfold Mass.effCharge; rw [hcc]
  -- the abstract theorem of C12: condensing does not change the fast path, for any weights
  rw [heff, massOf_unlabelled _ c (hci.trans hlab'), massFast_of_condense _ a c hc, ← massOf_unlabelled _ a hlab', hx2] at hy2
  cases hy2
  exact ⟨_, hx1, hy1⟩

end Concrete
end Pept
