import PeptVerif.Props.C15Glycan
#print axioms C15Glycan.names_nonempty
#print axioms C15Glycan.names_synonyms_distinct
#print axioms C15Glycan.synonym_eq_name
#print axioms C15Glycan.entries_complete
#print axioms C15Glycan.compositions_parse
#print axioms C15Glycan.vocabulary_known
#print axioms C15Glycan.names_start_no_count_char
#print axioms C15Glycan.namesSorted_mem
#print axioms C15Glycan.namesSorted_sorted
#print axioms C15Glycan.namesSorted_sorted_gen
#print axioms C15Glycan.longest_first
#print axioms C15Glycan.longest_first_unique
#print axioms C15Glycan.glycan_mass_linear
#print axioms C15Glycan.glycan_mass_linear_gen
#print axioms C15Glycan.glycan_mass_append
#print axioms C15Glycan.glycan_mass_sum_append
#print axioms C15Glycan.glycan_comp_fold
#print axioms C15Glycan.glycan_comp_linear
#print axioms C15Glycan.glycan_comp_linear_gen
#print axioms C15Glycan.glycan_comp_append
#print axioms C15Glycan.glycan_comp_sum_append
#print axioms C15Glycan.synonym_invariant
#print axioms C15Glycan.synonym_invariant_gen
#print axioms C15Glycan.glycan_parse_write_fold
#print axioms C15Glycan.glycan_parse_write
#print axioms C15Glycan.glycan_parse_write_gen
#print axioms C15Glycan.glycan_parse_write_ambiguous_counterexample
#print axioms C15Glycan.glycan_parse_repeated_key_accumulates
#print axioms C15Glycan.glycan_str_eq_dict
#print axioms C15Glycan.unambig_of_no_clash
#print axioms C15Glycan.only_clash_is_Neu5
#print axioms C15Glycan.unambig_gen_iff
#print axioms C15Glycan.glycan_parse_write_gen_exact
#print axioms C15Glycan.glycan_parse_write_gen_all
#print axioms C15Glycan.glycan_sep_same_dict
#print axioms C15Glycan.glycan_parse_write_sep_fold
#print axioms C15Glycan.glycan_parse_write_sep
#print axioms C15Glycan.glycan_parse_sep_repeated_key_accumulates
#print axioms C15Glycan.glycan_formula_property
#print axioms C15Glycan.glycan_parse_total
#print axioms C15Glycan.glycan_parse_concat
#print axioms C15Glycan.glycan_mass_str_tokens
#print axioms C15Glycan.glycan_mass_concat
#print axioms C15Glycan.glycan_comp_str_tokens
#print axioms C15Glycan.glycan_comp_concat
