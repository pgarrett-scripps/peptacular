import PeptVerif.Props.C14
#print axioms C14.sorted_by_mass
#print axioms C14.scale_sum
#print axioms C14.scale_max
#print axioms C14.total_abundance
#print axioms C14.weighted_mean_raw
#print axioms C14.weighted_mean_eq_average
#print axioms C14.lightest_peak_raw
#print axioms C14.lightest_peak
#print axioms C14.conv_comm
#print axioms C14.conv_assoc
#print axioms C14.conv_binned
#print axioms C14.conv_binned_kept
#print axioms C14.conv_pushforward
#print axioms C14.elemental_binned
#print axioms C14.merge_adds
#print axioms C14.abundances_sum_to_one
#print axioms C14.lightest_is_monoisotopic_CHNOSP
#print axioms C14.table_wellformed
#print axioms C14.normalised_elements
#print axioms C14.mean_is_average_mass
#print axioms C14.massOf_mono
#print axioms C14.lightest_mass_is_monoisotopic
#print axioms C14.lightest_peak_is_monoisotopic_mass
#print axioms C14.neutron_view_is_binned_mass_view
#print axioms C14.neutron_view_is_binned_pattern
#print axioms C14.pruned_is_sublist
#print axioms C14.max_isotopes_takes_top_k
#print axioms C14.nfold_conv_eq_multinomial
#print axioms C14.integer_formula_no_shift
#print axioms C14.no_error_after_element_loop
