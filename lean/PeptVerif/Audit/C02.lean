import PeptVerif.Props.C02
#print axioms Pept.C02.residue_table_ok
#print axioms Pept.C02.nuclide_table_ok
#print axioms Pept.C02.average_table_ok
#print axioms Pept.C02.particles_ok
#print axioms Pept.C02.adjust_tables_ok
#print axioms Pept.C02.mass_eq_spec_partial
#print axioms Pept.C02.mz_eq_spec_partial
#print axioms Pept.C02.adjustMz_pos
#print axioms Pept.C02.precision_bound
#print axioms Pept.C02.adductMass_discrepancy
#print axioms Pept.C02.adductMass_count_one
#print axioms Pept.C02.avg_keys_ok
#print axioms Pept.C02.mass_eq_spec_adducts
#print axioms Pept.C02.mass_eq_spec_full_false_on_current_code
#print axioms Pept.C02.adductDefect_counts_one
#print axioms Pept.C02.nuclide_keys_close
#print axioms Pept.C02.reference_closeness
#print axioms Pept.C02.mass_precision_last
#print axioms Pept.C02.mass_precision_bound
#print axioms Pept.C02.mass_eq_spec_concrete
#print axioms Pept.C02.ion_tables_ok
#print axioms Pept.C02.mass_label_eq_spec
#print axioms Pept.C02.label_shift_single
#print axioms Pept.C02.label_count_additive
#print axioms Pept.C02.relabel_mass_shift
#print axioms Pept.C02.mz_double_rounding_bound
