import PeptVerif.Props.C10Generic
#print axioms C10Generic.alternatives_first_resolvable
#print axioms C10Generic.modMass_single
#print axioms C10Generic.alternatives_first_resolvable_comp
#print axioms C10Generic.modComp_single
#print axioms C10Generic.tag_only_zero
#print axioms C10Generic.tag_only_empty_comp
#print axioms C10Generic.tag_neutral
#print axioms C10Generic.tag_neutral_modMass
#print axioms C10Generic.tag_neutral_modMass_alt
#print axioms C10Generic.tag_numeric_comp
#print axioms C10Generic.tag_neutral_comp
#print axioms C10Generic.tag_neutral_modComp
#print axioms C10Generic.multiplier_scales
#print axioms C10Generic.multiplier_finite
#print axioms C10Generic.multiplier_error
#print axioms C10Generic.multiplier_one
#print axioms C10Generic.multiplier_zero
#print axioms C10Generic.multiplier_add
#print axioms C10Generic.multiplier_mul
#print axioms C10Generic.multiplier_scales_comp
#print axioms C10Generic.multiplier_comp_keys_vals
#print axioms C10Generic.multiplier_one_comp
#print axioms C10Generic.multiplier_comp_mass
#print axioms C10Generic.glycan_mass
#print axioms C10Generic.glycan_mass_spelled
#print axioms C10Generic.info_skipped
#print axioms C10Generic.info_skipped_comp
#print axioms C10Generic.obs_mass
#print axioms C10Generic.obs_no_comp
#print axioms C10Generic.formula_mass_proforma
#print axioms C10Generic.formula_mass
#print axioms C10Generic.prefixed_resolves_in_family
#print axioms C10Generic.prefixed_number_is_shift_xlmod
#print axioms C10Generic.prefixed_number_is_shift_psi
#print axioms C10Generic.prefixed_number_is_shift_unimod
#print axioms C10Generic.prefixed_number_is_shift_resid
#print axioms C10Generic.prefixed_number_is_shift_gno
#print axioms C10Generic.number_is_shift
#print axioms C10Generic.int_float_agree
#print axioms C10Generic.prefixed_shift_equals_bare
#print axioms C10Generic.prefixed_number_no_comp
#print axioms C10Generic.glycan_comp
#print axioms C10Generic.formula_comp
#print axioms C10Generic.formula_mass_of_comp
