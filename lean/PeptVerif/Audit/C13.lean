import PeptVerif.Props.C13
#print axioms Pept.ModBuilder.static_spec
#print axioms Pept.ModBuilder.static_unmatched_untouched
#print axioms Pept.ModBuilder.static_matched_unmodified
#print axioms Pept.ModBuilder.static_skip_idempotent
#print axioms Pept.ModBuilder.applyVariable_eq
#print axioms Pept.ModBuilder.variable_skip_exact
#print axioms Pept.ModBuilder.mem_specForms_iff
#print axioms Pept.ModBuilder.mem_eligible_iff
#print axioms Pept.ModBuilder.variable_input_included
#print axioms Pept.ModBuilder.variable_changes_confined
#print axioms Pept.ModBuilder.variable_no_form_twice
#print axioms Pept.ModBuilder.variable_skip_nodup
#print axioms Pept.ModBuilder.siteOK_append_of_nodup
#print axioms Pept.ModBuilder.siteOK_overwrite_of_nodup
#print axioms Pept.ModBuilder.variable_append_no_form_twice
#print axioms Pept.ModBuilder.variable_overwrite_no_form_twice
#print axioms Pept.ModBuilder.pattern_ranges_ok
#print axioms Pept.ModBuilder.pattern_sites_ok
#print axioms Pept.ModBuilder.sitesOK_resolve
#print axioms Pept.ModBuilder.termSitesOK_resolve
#print axioms Pept.ModBuilder.static_spec_patterns
#print axioms Pept.ModBuilder.static_residue_rule
#print axioms Pept.ModBuilder.static_class_rule
#print axioms Pept.ModBuilder.variable_skip_exact_patterns
#print axioms Pept.ModBuilder.variable_no_form_twice_patterns
#print axioms Pept.ModBuilder.variable_changes_confined_patterns
#print axioms Pept.ModBuilder.offered_residue_rule
#print axioms Pept.ModBuilder.variable_skip_nodup_false_before_repair
#print axioms Pept.ModBuilder.variable_skip_exact_false_before_repair
