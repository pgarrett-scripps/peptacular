import PeptVerif.Props.C08
#print axioms C08.postfix_bounds_every_trace
#print axioms C08.closedness_checks_sound
#print axioms C08.mayWriteIn_sound
#print axioms C08.mayWrite_sound
#print axioms C08.mayWriteIn_sound_records
#print axioms C08.mayWrite_flags_alias_and_element_writes
#print axioms C08.mayWriteGlobalIn_sound
#print axioms C08.mayShareIn_sound
#print axioms C08.mayShareGlobalIn_sound
#print axioms C08.result_fresh
#print axioms C08.mayShare_flags_and_accepts
#print axioms C08.pure_call_frame
#print axioms C08.history_independent
#print axioms C08.later_query_same_result
#print axioms C08.nested_calls_bounded
#print axioms C08.nested_pure_call_writes_nothing
#print axioms C08.declared_lists_spelled
#print axioms C08.generated_functions_checked
#print axioms C08.generated_ids_are_positions
#print axioms C08.generated_entry
#print axioms C08.generated_tables_closed
#print axioms C08.summaries_closed
#print axioms C08.generated_verdicts_correct
#print axioms C08.generated_queries_pure
#print axioms C08.generated_editors_write_only_target
#print axioms C08.generated_random_only_rng
#print axioms C08.generated_results_fresh
#print axioms C08.declared_sharing_is_flagged
#print axioms C08.generated_db_untouched
#print axioms C08.db_editors_are_flagged
#print axioms C08.getters_pure
#print axioms C08.api_covered
#print axioms C08.generated_query_is_pure_call
#print axioms C08.generated_query_frame
#print axioms C08.generated_result_frame
#print axioms C08.generated_nested_calls_bounded
